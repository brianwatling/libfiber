/-
  What the fiber-mutex model (property C03) does, in the form its proofs read it: the pc classes
  the invariant speaks of (`Pc.isHold` …, the coarse view `Pc.k`), the accepted steps as a relation
  `Step` (every case analysis on `step` goes through `Step.of_step`), and what a single step does
  to the pcs and to the counted events, without any invariant.  The condition-variable model,
  whose two mutexes are this model, and the abstract-queue correspondence need no more than this.
-/
import LibfiberVerif.Model.Mutex

namespace LibfiberVerif.Mutex

/-- between a successful acquire point and the release `fetch_add` (not counting a waiter that
    was handed the mutex and has not resumed yet: that one is `parked` with `owner = some f`) -/
def Pc.isHold : Pc → Bool
  | .acquired | .held | .tryDone true | .unlockCalled => true
  | _ => false

/-- announced (`fetch_sub` done, saw contention), not yet enqueued (`xchg(&tail)` not done) -/
def Pc.isPre : Pc → Bool
  | .lockDec _ | .waitSaving | .waitGotNode _ | .waitWroteData _ | .waitClearedNode _
  | .pushCleared _ => true
  | _ => false

/-- in the wake loop, before the pop took effect (`head := next` not yet written) -/
def Pc.isWake : Pc → Bool
  | .wakeLoop | .popGotHead _ | .popGotNext _ _ => true
  | _ => false

/-- after the pop took effect, still touching the queue nodes / the woken fiber -/
def Pc.isPost : Pc → Bool
  | .popMoved _ _ | .popGotData _ _ _ | .popWrote _ _ | .wakeGotFiber _ _ | .wakeGaveNode _ _
  | .wakeReadState _ _ => true
  | _ => false

/-- anywhere inside `mpsc_fifo_trypop` / the wake loop: the consumer side of the waiter queue -/
def Pc.isPop (p : Pc) : Bool := p.isWake || p.isPost

/-- enqueued or about to link: `xchg(&tail)` done -/
def Pc.isEnq : Pc → Bool
  | .pushXchgd _ _ _ | .parked => true
  | _ => false

/-- coarse view of a pc: everything the invariant depends on -/
inductive K
  | other | pre | xchgd (m i : Nat) | parked | hold | held | w | wNext | post
  deriving DecidableEq

def Pc.k : Pc → K
  | .lockDec _ | .waitSaving | .waitGotNode _ | .waitWroteData _ | .waitClearedNode _
  | .pushCleared _ => .pre
  | .pushXchgd m _ i => .xchgd m i
  | .parked => .parked
  | .acquired | .tryDone true | .unlockCalled => .hold
  | .held => .held
  | .wakeLoop | .popGotHead _ => .w
  | .popGotNext _ _ => .wNext
  | .popMoved _ _ | .popGotData _ _ _ | .popWrote _ _ | .wakeGotFiber _ _ | .wakeGaveNode _ _
  | .wakeReadState _ _ => .post
  | _ => .other

def K.isHold (k : K) : Prop := k = .hold ∨ k = .held
def K.isWake (k : K) : Prop := k = .w ∨ k = .wNext
def K.isPop (k : K) : Prop := k = .w ∨ k = .wNext ∨ k = .post

theorem k_isHold (p : Pc) : p.k.isHold ↔ p.isHold = true := by
  cases p <;> simp [Pc.k, K.isHold, Pc.isHold]
  next r => cases r <;> simp
theorem k_isWake (p : Pc) : p.k.isWake ↔ p.isWake = true := by
  cases p <;> simp [Pc.k, K.isWake, Pc.isWake]
  next r => cases r <;> simp
theorem k_isPop (p : Pc) : p.k.isPop ↔ p.isPop = true := by
  cases p <;> simp [Pc.k, K.isPop, Pc.isPop, Pc.isWake, Pc.isPost]
  next r => cases r <;> simp
theorem k_post (p : Pc) : p.k = .post ↔ p.isPost = true := by
  cases p <;> simp [Pc.k, Pc.isPost]
  next r => cases r <;> simp
theorem k_pre (p : Pc) : p.k = .pre ↔ p.isPre = true := by
  cases p <;> simp [Pc.k, Pc.isPre]
  next r => cases r <;> simp
theorem k_parked (p : Pc) : p.k = .parked ↔ p = .parked := by
  cases p <;> simp [Pc.k]
  next r => cases r <;> simp
theorem k_held (p : Pc) : p.k = .held ↔ p = .held := by
  cases p <;> simp [Pc.k]
  next r => cases r <;> simp
theorem k_xchgd (p : Pc) (m i : Nat) : p.k = .xchgd m i ↔ ∃ q, p = .pushXchgd m q i := by
  cases p <;> simp [Pc.k]
  next r => cases r <;> simp
theorem k_wNext (p : Pc) : p.k = .wNext ↔ ∃ h x, p = .popGotNext h x := by
  cases p <;> simp [Pc.k]
  next r => cases r <;> simp

theorem k_upd (pc : Nat → Pc) (f0 : Nat) (p : Pc) (f : Nat) :
    (upd pc f0 p f).k = if f = f0 then p.k else (pc f).k := by
  simp only [upd]; split <;> rfl

/-- The accepted steps, one constructor per branch of `step`: the guard, and the successor
    state written out. -/
inductive Step (s : St) : Ev → St → Prop
  | callLock {f} : s.pc f = .idle → Step s (.callLock f) { s with pc := upd s.pc f .lockCalled }
  | fsubAcq {f old} : s.pc f = .lockCalled → old = s.counter → old = 1 →
      Step s (.fsub f old) { s with counter := old - 1, owner := some f, pc := upd s.pc f .acquired }
  | fsubWait {f old} : s.pc f = .lockCalled → old = s.counter → old ≠ 1 →
      Step s (.fsub f old) { s with counter := old - 1, pc := upd s.pc f (.lockDec old) }
  | wStateSelf {f v o} : s.pc f = .lockDec o → v = SAVING →
      Step s (.wState f f v) { s with pc := upd s.pc f .waitSaving }
  | wStateWake {f g v st} : s.pc f = .wakeReadState g st → st = WAITING → v = READY →
      Step s (.wState f g v) { s with waking := false, pc := upd s.pc f .unlockDone }
  | rNode {f n} : s.pc f = .waitSaving → n = s.fnode f → n ≠ 0 →
      Step s (.rNode f f n) { s with pc := upd s.pc f (.waitGotNode n) }
  | wDataSelf {f n} : s.pc f = .waitGotNode n →
      Step s (.wData f n f) { s with ndata := upd s.ndata n f, pc := upd s.pc f (.waitWroteData n) }
  | wDataPop {f h x g} : s.pc f = .popGotData h x g →
      Step s (.wData f h g) { s with ndata := upd s.ndata h g, pc := upd s.pc f (.popWrote h g) }
  | wNodeClear {f m n} : s.pc f = .waitWroteData m → n = 0 →
      Step s (.wNode f f n) { s with fnode := upd s.fnode f 0, pc := upd s.pc f (.waitClearedNode m) }
  | wNodeGive {f h g} : s.pc f = .wakeGotFiber h g →
      Step s (.wNode f g h) { s with fnode := upd s.fnode g h, pc := upd s.pc f (.wakeGaveNode h g) }
  | wNextClear {f m x} : s.pc f = .waitClearedNode m → x = 0 →
      Step s (.wNext f m x) { s with pc := upd s.pc f (.pushCleared m) }
  | wNextLink {f m p i} : s.pc f = .pushXchgd m p i →
      Step s (.wNext f p m) { s with linked := upd s.linked i true, pc := upd s.pc f .parked }
  | xchgTail {f m old} : s.pc f = .pushCleared m → old = tailNode s →
      Step s (.xchgTail f old m)
        { s with order := s.order ++ [(m, f)], pc := upd s.pc f (.pushXchgd m old s.order.length) }
  | retLock {f} : s.pc f = .acquired → Step s (.retLock f) { s with pc := upd s.pc f .held }
  | retLockWoken {f} : s.pc f = .parked → s.owner = some f → s.waking = false →
      Step s (.retLock f) { s with pc := upd s.pc f .held }
  | callTry {f} : s.pc f = .idle → Step s (.callTry f) { s with pc := upd s.pc f .tryCalled }
  | casOk {f found} : s.pc f = .tryCalled → found = s.counter → found = 1 →
      Step s (.casCounter f found true)
        { s with counter := 0, owner := some f, pc := upd s.pc f (.tryDone true) }
  | casFail {f found} : s.pc f = .tryCalled → found = s.counter → found ≠ 1 →
      Step s (.casCounter f found false) { s with pc := upd s.pc f (.tryDone false) }
  | retTryOk {f} : s.pc f = .tryDone true →
      Step s (.retTry f true) { s with pc := upd s.pc f .held }
  | retTryFail {f} : s.pc f = .tryDone false →
      Step s (.retTry f false) { s with pc := upd s.pc f .idle }
  | csEnter {f} : s.pc f = .held → f ∉ s.inCs →
      Step s (.csEnter f) { s with inCs := f :: s.inCs, seen := upd s.seen f s.data }
  | csExit {f v} : s.pc f = .held → f ∈ s.inCs → v = s.seen f + 1 →
      Step s (.csExit f v) { s with inCs := s.inCs.filter (· ≠ f), data := v }
  | callUnlock {f} : s.pc f = .held → s.owner = some f → f ∉ s.inCs →
      Step s (.callUnlock f) { s with pc := upd s.pc f .unlockCalled }
  | faddFree {f old} : s.pc f = .unlockCalled → old = s.counter → old + 1 = 1 →
      Step s (.fadd f old) { s with counter := old + 1, owner := none, pc := upd s.pc f .unlockDone }
  | faddWake {f old} : s.pc f = .unlockCalled → old = s.counter → old + 1 ≠ 1 →
      Step s (.fadd f old) { s with counter := old + 1, owner := none, pc := upd s.pc f .wakeLoop }
  | rHead {f n} : s.pc f = .wakeLoop → n = s.headNode →
      Step s (.rHead f n) { s with pc := upd s.pc f (.popGotHead n) }
  | rNextNone {f h x} : s.pc f = .popGotHead h → x = headNext s → x = 0 →
      Step s (.rNext f h x) { s with pc := upd s.pc f .wakeLoop }
  | rNextSome {f h x} : s.pc f = .popGotHead h → x = headNext s → x ≠ 0 →
      Step s (.rNext f h x) { s with pc := upd s.pc f (.popGotNext h x) }
  | wHead {f h x n g} : s.pc f = .popGotNext h x → s.order[s.hd]? = some (n, g) →
      Step s (.wHead f x)
        { s with headNode := x, hd := s.hd + 1, owner := some g, waking := true,
                 pc := upd s.pc f (.popMoved h x) }
  | rDataNext {f h x g} : s.pc f = .popMoved h x → g = s.ndata x → g ≠ 0 →
      Step s (.rData f x g) { s with pc := upd s.pc f (.popGotData h x g) }
  | rDataOut {f h g} : s.pc f = .popWrote h g →
      Step s (.rData f h g) { s with pc := upd s.pc f (.wakeGotFiber h g) }
  | rStateWaiting {f h g v} : s.pc f = .wakeGaveNode h g → v = WAITING →
      Step s (.rState f g v) { s with pc := upd s.pc f (.wakeReadState g v) }
  | rStateSaving {f h g v} : s.pc f = .wakeGaveNode h g → v = SAVING →
      Step s (.rState f g v) { s with waking := false, pc := upd s.pc f .unlockDone }
  | retUnlock {f} : s.pc f = .unlockDone →
      Step s (.retUnlock f) { s with pc := upd s.pc f .idle }

theorem Step.of_step {s s' : St} {e : Ev} (hs : step s e = some s') : Step s e s' := by
  cases e <;> simp only [step] at hs <;> (repeat' split at hs) <;> cases hs
  -- the accepted branches, in the order of the constructors of `Ev`
  · next h => exact .callLock h
  · next h => exact .retLock h
  · next h hg => exact .retLockWoken h hg.1 hg.2
  · next h => exact .callTry h
  · next h hr ht => subst hr ht; exact .retTryOk h
  · next h hr ht => subst hr; cases Bool.eq_false_iff.2 ht; exact .retTryFail h
  · next h => exact .callUnlock h.1 h.2.1 h.2.2
  · next h => exact .retUnlock h
  · next h => exact .csEnter h.1 h.2
  · next h => exact .csExit h.1 h.2.1 h.2.2
  · next h h1 h2 => exact .fsubAcq h h1 h2
  · next h h1 h2 => exact .fsubWait h h1 h2
  · next h h1 h2 => exact .faddFree h h1 h2
  · next h h1 h2 => exact .faddWake h h1 h2
  · next h hg hok => subst hok; exact .casOk h hg.1 (by simpa using hg.2)
  · next h hg hok => cases Bool.eq_false_iff.2 hok; exact .casFail h hg.1 (by simpa using hg.2)
  · next h hg => obtain ⟨rfl, hv⟩ := hg; exact .wStateSelf h hv
  · next h hg => obtain ⟨rfl, h1, h2⟩ := hg; exact .wStateWake h h1 h2
  · next h hg hv => obtain ⟨rfl, -⟩ := hg; exact .rStateWaiting h hv
  · next h hg hv => obtain ⟨rfl, hv'⟩ := hg; exact .rStateSaving h (hv'.resolve_left hv)
  · next h hg => obtain ⟨rfl, h1, h2⟩ := hg; exact .rNode h h1 h2
  · next h hg => obtain ⟨rfl, h1⟩ := hg; exact .wNodeClear h h1
  · next h hg => obtain ⟨rfl, rfl⟩ := hg; exact .wNodeGive h
  · next h hg => obtain ⟨rfl, rfl⟩ := hg; exact .wDataSelf h
  · next h hg => obtain ⟨rfl, rfl⟩ := hg; exact .wDataPop h
  · next h hg => obtain ⟨rfl, h1, h2⟩ := hg; exact .rDataNext h h1 h2
  · next h hg => obtain ⟨rfl, rfl⟩ := hg; exact .rDataOut h
  · next h hg => obtain ⟨rfl, h1⟩ := hg; exact .wNextClear h h1
  · next h hg => obtain ⟨rfl, rfl⟩ := hg; exact .wNextLink h
  · next h hg => obtain ⟨rfl, h1⟩ := hg; exact .xchgTail h h1
  · next h h1 => exact .rHead h h1
  · next h hg h0 => obtain ⟨rfl, h1⟩ := hg; exact .rNextNone h h1 h0
  · next h hg h0 => obtain ⟨rfl, h1⟩ := hg; exact .rNextSome h h1 h0
  · next h hn _ _ _ hq => subst hn; exact .wHead h hq

theorem headNext_some {s : St} {x : Nat} (h : x = headNext s) (hx : x ≠ 0) :
    (∃ g, s.order[s.hd]? = some (x, g)) ∧ s.hd < s.order.length ∧ s.linked s.hd = true := by
  unfold headNext at h
  split at h
  · next n g heq =>
    split at h
    · next hl => subst h; exact ⟨⟨g, heq⟩, (List.getElem?_eq_some_iff.1 heq).1, hl⟩
    · exact absurd h hx
  · exact absurd h hx

def actor : Ev → Nat
  | .callLock f | .retLock f | .callTry f | .retTry f _ | .callUnlock f | .retUnlock f
  | .csEnter f | .csExit f _ | .fsub f _ | .fadd f _ | .casCounter f _ _ | .wState f _ _
  | .rState f _ _ | .rNode f _ _ | .wNode f _ _ | .wData f _ _ | .rData f _ _ | .wNext f _ _
  | .xchgTail f _ _ | .rHead f _ | .rNext f _ _ | .wHead f _ => f

/-- normalise `hs : step s e = some s'` into an explicit record for `s'` (all branches) -/
local macro "step_cases" hs:ident : tactic =>
  `(tactic| (simp only [step] at $hs:ident <;> (repeat' split at $hs:ident) <;> simp at $hs:ident <;>
     (first | subst $hs:ident | (obtain ⟨_, $hs:ident⟩ := $hs:ident; subst $hs:ident))))

theorem Step.pc_other {s s' : St} {e : Ev} (h : Step s e s') {g : Nat} (hg : g ≠ actor e) :
    s'.pc g = s.pc g := by
  cases h <;> first | rfl | exact upd_other _ _ _ _ hg

theorem Step.unlock_flow {s s' : St} {e : Ev} (h : Step s e s') (w : Nat) :
    ((s'.pc w).isWake = true → (s.pc w).isWake = true ∨ ∃ old, e = .fadd w old ∧ old + 1 ≠ 1) ∧
    ((s'.pc w).isPost = true → (s.pc w).isPost = true ∨ ∃ x, e = .wHead w x) ∧
    (s'.pc w = .unlockDone →
      s.pc w = .unlockDone ∨ (∃ old, e = .fadd w old ∧ old + 1 = 1) ∨ (s.pc w).isPost = true) := by
  by_cases hw : w = actor e
  · cases h <;> simp_all [actor, Pc.isWake, Pc.isPost]
  · rw [h.pc_other hw]; exact ⟨.inl, .inl, .inl⟩

def isContFadd (w : Nat) : Ev → Bool
  | .fadd f old => decide (f = w ∧ old + 1 ≠ 1)
  | _ => false

def isPopBy (w : Nat) : Ev → Bool
  | .wHead f _ => decide (f = w)
  | _ => false

def isPopEv : Ev → Bool
  | .wHead _ _ => true
  | _ => false

def isCsExit : Ev → Bool
  | .csExit _ _ => true
  | _ => false

theorem Step.wake_cnt {s s' : St} {e : Ev} (h : Step s e s') (w : Nat) :
    (if isContFadd w e then 1 else 0) + (if (s.pc w).isWake then 1 else 0) =
      (if isPopBy w e then 1 else 0) + (if (s'.pc w).isWake then 1 else 0) := by
  by_cases hw : w = actor e
  · cases h <;> simp_all [actor, Pc.isWake, isContFadd, isPopBy]
  · have h1 : isContFadd w e = false := by cases e <;> simp_all [actor, isContFadd]; omega
    have h2 : isPopBy w e = false := by cases e <;> simp_all [actor, isPopBy]; omega
    simp [h.pc_other hw, h1, h2]

theorem Step.hd_flow {s s' : St} {e : Ev} (h : Step s e s') :
    s'.hd = s.hd + (if isPopEv e then 1 else 0) := by
  cases h <;> simp [isPopEv]

end LibfiberVerif.Mutex
