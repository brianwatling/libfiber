/-
  Proof/ChanCtl.lean — what holds of a channel whatever its container (ring or queue) and creation
  mode, property C11.

  `Ctl`: the control invariant.  There is one receiver; a fiber's protocol pc follows its channel pc
  (`Link`), so the embedded signal protocol keeps its invariant `Signal.PInv` and only the receiver
  waits; a pc that uses the signal is reached only on a channel that has one, and by the receiver
  only in a blocking receive.  "A try_receive never waits" and "a spinning channel never sleeps" are
  readings of it.

  `GCov`: the coverage property behind "a receiver blocked on an empty channel is resumed by a later
  send" — the sender publishes FIRST and raises SECOND, the receiver clears the signal first and
  re-checks second — stated for a parametric notion of "available / in flight / stale" and preserved
  by every protocol event; ChanWake instantiates it for the queue kinds, ChanBWake for the ring.
-/
import LibfiberVerif.Proof.Chan

namespace LibfiberVerif.Chan

open Signal (PSt PEv PPc Word PInv pinit)

/-- pcs in which a fiber is about to use / is using the ready_signal -/
def Pc.usesSignal : Pc → Bool
  | .rEmpty => true | .rWaiting => true | .sPublished _ => true | .sRaising _ => true
  | .idle => false | .sTop _ => false | .sLdLow _ _ => false | .sLdHigh _ _ _ => false | .sRdBuf _ _ _ _ => false
  | .sClaimed _ _ => false | .qCalled _ => false | .qData _ => false | .qCleared _ => false | .qLdTail _ _ => false
  | .qSwapped _ _ _ => false | .sRaised _ _ => false | .sDone => false
  | .rTop => false | .rLdHigh _ => false | .rLdLow _ _ => false | .rRdBuf _ _ _ => false | .rCleared _ _ => false
  | .rGotHead _ => false | .rGotNext _ _ => false | .rMoved _ _ => false | .rGotData _ _ => false
  | .rWrote _ _ => false | .rDone _ => false | .tEmpty => false

/-- w found the queue empty and is on its way to the CAS that would put it to sleep -/
def committed (s : St) (w : Nat) : Prop :=
  s.pc w = .rEmpty ∨ (s.pc w = .rWaiting ∧ (s.p.pc w = .waitCalled ∨ s.p.pc w = .wCleared))

/-- w is in the word / parked and nobody has woken it yet -/
def asleep (s : St) (w : Nat) : Prop := (s.p.pc w).sleepy ∧ s.p.wakes w + 1 = s.p.parks w

theorem committed_usesSignal {s : St} {w : Nat} (h : committed s w) : (s.pc w).usesSignal = true := by
  rcases h with h | ⟨h, _⟩ <;> rw [h] <;> rfl

theorem committed_isRecv {s : St} {w : Nat} (h : committed s w) : (s.pc w).isRecv = true := by
  rcases h with h | ⟨h, _⟩ <;> rw [h] <;> rfl

theorem Link.idle_of {c : Pc} {q : PPc} (hc : c.usesSignal = false) (h : Link c q) : q = .idle := by
  cases c <;> first | exact h | cases hc

theorem Link.waiting_of_sleepy {c : Pc} {q : PPc} (h : Link c q) (hq : q.sleepy) : c = .rWaiting := by
  cases c <;> first | rfl | (simp only [Link] at h; rcases hq with rfl | rfl | rfl <;> simp [PPc.targets] at h)

theorem SigTrans.link {f : Nat} {c X : Pc} {q q' : PPc} {w w' : Word} {i i' : Option Nat}
    (h : SigTrans f c q w i X q' w' i') (hl : Link c q) : Link X q' := by
  cases h
  case parked => cases c <;> simp_all [Link, PPc.inWait, PPc.targets]
  all_goals simp [Link, PPc.inWait, PPc.targets]

theorem SigTrans.waiter {f : Nat} {c X : Pc} {q q' : PPc} {w w' : Word} {i i' : Option Nat}
    (h : SigTrans f c q w i X q' w' i') : i' = i ∨ (c = .rEmpty ∧ i' = some f) := by
  cases h <;> simp

/-- a protocol event keeps the fiber on its side (send / receive), leads to a pc that uses the signal
    only from one, and is accepted from a fiber outside the protocol only at such a pc -/
theorem SigTrans.side {f : Nat} {c X : Pc} {q q' : PPc} {w w' : Word} {i i' : Option Nat}
    (h : SigTrans f c q w i X q' w' i') :
    X.isRecv = c.isRecv ∧ (X.usesSignal = true → c.usesSignal = true) ∧ (q = .idle → c.usesSignal = true) := by
  cases h <;> simp [Pc.isRecv, Pc.usesSignal]

/-! ### the control invariant -/

/-- what holds of fiber `f` at channel pc `c`: only the receiver is at a receive pc; the protocol pc
    follows the channel pc; the signal is used only on a channel that has one, and by the receiver
    only in a blocking receive -/
def CAt (s : St) (f : Nat) (c : Pc) : Prop :=
  (c.isRecv = true → s.receiver = some f) ∧ Link c (s.p.pc f) ∧
  (c.usesSignal = true → s.spin = false ∧ (c.isRecv = true → s.tryMode = false))

structure Ctl (s : St) : Prop where
  pinv : PInv s.p
  waiter_recv : ∀ w, s.p.waiterId = some w → s.receiver = some w
  quiet : s.spin = true → s.p = pinit
  loc : ∀ f, CAt s f (s.pc f)

theorem Ctl.rid {s : St} (hi : Ctl s) (g : Nat) (h : (s.pc g).isRecv = true) : s.receiver = some g :=
  (hi.loc g).1 h

theorem Ctl.link {s : St} (hi : Ctl s) (f : Nat) : Link (s.pc f) (s.p.pc f) := (hi.loc f).2.1

theorem Ctl.idle {s : St} (hi : Ctl s) {f : Nat} {a : Pc} (hpc : s.pc f = a) (ha : a.usesSignal = false) :
    s.p.pc f = .idle :=
  Link.idle_of ha (hpc ▸ hi.link f)

/-- the receiver is the only fiber in a receive pc -/
theorem Ctl.alone {s : St} (hi : Ctl s) {f g : Nat} (hf : (s.pc f).isRecv = true) (hg : g ≠ f) :
    (s.pc g).isRecv = false := by
  cases h : (s.pc g).isRecv
  · rfl
  · exact absurd (recv_unique hi.rid h hf) hg

theorem ctl_init (spin : Bool) (k : Kind) (cap : Nat) : Ctl (initM spin k cap) :=
  ⟨Signal.pinv_init, fun _ h => (nomatch h), fun _ => rfl, fun _ => ⟨fun h => (nomatch h), rfl, fun h => (nomatch h)⟩⟩

/-- frame: the signal stays, `f` goes to `X`; the ghosts a receive pc speaks of stay for the others -/
theorem Ctl.frame {s t : St} (hi : Ctl s) {f : Nat} {X : Pc} (hp : t.p = s.p) (ht : t.pc = upd s.pc f X)
    (hsp : t.spin = s.spin) (hr : ∀ w, s.receiver = some w → t.receiver = some w)
    (htm : ∀ g, g ≠ f → (s.pc g).isRecv = true → t.tryMode = s.tryMode) (hX : CAt t f X) : Ctl t := by
  refine ⟨hp ▸ hi.pinv, fun w hw => hr w (hi.waiter_recv w (hp ▸ hw)), fun h => hp ▸ hi.quiet (hsp ▸ h), ?_⟩
  rw [ht]
  refine forall_upd hX fun g hg => ?_
  obtain ⟨a, b, c⟩ := hi.loc g
  exact ⟨fun h => hr g (a h), hp ▸ b, fun h => ⟨hsp ▸ (c h).1, fun h' => (htm g hg h') ▸ (c h).2 h'⟩⟩

/-- `f` moves from a pc outside the protocol to one where its protocol pc is still idle: on the same
    side (send / receive), and to a pc that uses the signal only on a channel that has one and outside
    a try_receive -/
theorem Ctl.move {s t : St} (hi : Ctl s) {f : Nat} {a X : Pc} (hpc : s.pc f = a) (hp : t.p = s.p)
    (ht : t.pc = upd s.pc f X) (hsp : t.spin = s.spin) (hr : t.receiver = s.receiver) (htm : t.tryMode = s.tryMode)
    (hs : (X.isRecv && !a.isRecv) = false) (ha : a.usesSignal = false)
    (hX : (X.usesSignal = true → s.spin = false ∧ (X.isRecv = true → s.tryMode = false)) ∧ Link X .idle) : Ctl t := by
  refine hi.frame hp ht hsp (fun _ h => hr ▸ h) (fun _ _ _ => htm) ⟨fun h => ?_, ?_, fun h => ?_⟩
  · rw [hr]; exact hi.rid f (by rw [hpc]; rw [h] at hs; simpa using hs)
  · rw [hp, hi.idle hpc ha]; exact hX.2
  · rw [hsp, htm]; exact hX.1 h

theorem Ctl.proto {s s' : St} {pe : PEv} (hi : Ctl s) (hs : step s (.p pe) = some s') : Ctl s' := by
  have hp' : PInv s'.p := (psteps_of_step s s' _ hs).pinv hi.pinv
  obtain ⟨f, X, q', p', rfl, hpc', ht⟩ := proto_cases hi.link hs
  obtain ⟨h1, h2, h3⟩ := ht.side
  obtain ⟨a, b, c⟩ := hi.loc f
  refine ⟨hp', fun w hw => ?_, fun hsp => ?_, forall_upd ⟨fun h => a (h1 ▸ h), ?_, fun h => ?_⟩ fun g hg => ?_⟩
  · show s.receiver = some w
    rcases ht.waiter with h | ⟨hc, h⟩
    · exact hi.waiter_recv w (h ▸ hw)
    · obtain rfl : w = f := Option.some.inj (hw.symm.trans h)
      exact hi.rid w (by rw [hc]; rfl)
  · -- on a spinning channel nobody is at a pc from which a protocol event is accepted
    have hq : s.p.pc f = .idle := by rw [hi.quiet hsp]; rfl
    exact absurd hsp (by rw [(c (h3 hq)).1]; exact Bool.noConfusion)
  · show Link X (p'.pc f); rw [hpc', upd_same]; exact ht.link b
  · exact ⟨(c (h2 h)).1, fun h' => (c (h2 h)).2 (h1 ▸ h')⟩
  · show CAt { s with p := p', pc := upd s.pc f X } g (s.pc g)
    obtain ⟨a, b, c⟩ := hi.loc g
    exact ⟨a, by show Link _ (p'.pc g); rw [hpc', upd_other _ _ _ _ hg]; exact b, c⟩

theorem emptyPc_ctl (s : St) :
    (emptyPc s).isRecv = true ∧
      ((emptyPc s).usesSignal = true → s.spin = false ∧ ((emptyPc s).isRecv = true → s.tryMode = false)) ∧
      Link (emptyPc s) .idle := by
  unfold emptyPc; split
  · exact ⟨rfl, fun h => (nomatch h), rfl⟩
  · split
    · exact ⟨rfl, fun h => (nomatch h), rfl⟩
    · exact ⟨rfl, fun _ => ⟨by simpa using ‹¬ s.spin = true›, fun _ => by simpa using ‹¬ s.tryMode = true›⟩, rfl⟩

theorem pubPc_ctl (s : St) (v : Nat) :
    (pubPc s v).isRecv = false ∧
      ((pubPc s v).usesSignal = true → s.spin = false ∧ ((pubPc s v).isRecv = true → s.tryMode = false)) ∧
      Link (pubPc s v) .idle := by
  unfold pubPc; split
  · exact ⟨rfl, fun h => (nomatch h), rfl⟩
  · exact ⟨rfl, fun _ => ⟨by simpa using ‹¬ s.spin = true›, fun h => (nomatch h)⟩, rfl⟩

/-- a receive operation begins: the caller is, or becomes, the receiver; nobody else is receiving -/
theorem Ctl.call {s : St} (hi : Ctl s) {f : Nat} (hpc : s.pc f = .idle)
    (hg : s.receiver = none ∨ s.receiver = some f) {tm es : Bool} :
    Ctl { s with receiver := some f, tryMode := tm, emptySeen := es, pc := upd s.pc f .rTop } := by
  have hr : ∀ w, s.receiver = some w → some f = some w := fun w h => by
    rcases hg with h' | h' <;> rw [h'] at h
    · cases h
    · exact h
  refine hi.frame rfl rfl rfl hr (fun g hgf h => ?_)
    ⟨fun _ => rfl, by show Link _ (s.p.pc f); rw [hi.idle hpc rfl]; rfl, fun h => (nomatch h)⟩
  exact absurd (Option.some.inj (hr g (hi.rid g h))) (Ne.symm hgf)

theorem Ctl.step {s s' : St} {e : Ev} (hi : Ctl s) (hs : step s e = some s') : Ctl s' := by
  rcases step_cases hs with ⟨pe, rfl⟩ | h | ⟨_, h⟩ | ⟨_, h⟩
  · exact hi.proto hs
  · cases h with
    | callSend hpc hg =>
      exact hi.move hpc rfl rfl rfl rfl rfl (by split <;> rfl) rfl (by split <;> exact ⟨nofun, rfl⟩)
    | callRecv hpc hg | callTry hpc hg => exact hi.call hpc hg.1
    | _ => have hpc := ‹s.pc _ = _›; exact hi.move hpc rfl rfl rfl rfl rfl rfl rfl ⟨nofun, rfl⟩
  · cases h with
    | rBufEmpty hpc hx =>
      exact hi.move hpc rfl rfl rfl rfl rfl (by rw [(emptyPc_ctl s).1]; rfl) rfl (emptyPc_ctl s).2
    | wBufS hpc => exact hi.move hpc rfl rfl rfl rfl rfl (by rw [(pubPc_ctl s _).1]; rfl) rfl (pubPc_ctl s _).2
    | _ => have hpc := ‹s.pc _ = _›; exact hi.move hpc rfl rfl rfl rfl rfl rfl rfl ⟨nofun, rfl⟩
  · cases h with
    | rNextEmpty hpc h0 =>
      exact hi.move hpc rfl rfl rfl rfl rfl (by rw [(emptyPc_ctl s).1]; rfl) rfl (emptyPc_ctl s).2
    | wNextLink hpc => exact hi.move hpc rfl rfl rfl rfl rfl (by rw [(pubPc_ctl s _).1]; rfl) rfl (pubPc_ctl s _).2
    | _ => have hpc := ‹s.pc _ = _›; exact hi.move hpc rfl rfl rfl rfl rfl rfl rfl ⟨nofun, rfl⟩

theorem ctl_of_run {spin : Bool} {k : Kind} {cap : Nat} {es : List Ev} {s : St}
    (h : (sysM spin k cap).run es = some s) : Ctl s :=
  Sys.inv_of_run (sysM spin k cap) Ctl (ctl_init spin k cap) (fun _ _ _ hi hs => hi.step hs) h

/-- while the operation in progress is a try_receive nobody is on the way into fiber_signal_wait -/
theorem Ctl.nowait {s : St} (hi : Ctl s) (ht : s.tryMode = true) (f : Nat) :
    s.pc f ≠ .rEmpty ∧ s.pc f ≠ .rWaiting := by
  obtain ⟨-, -, c⟩ := hi.loc f
  constructor <;> intro h <;> rw [h] at c <;> exact absurd ((c rfl).2 rfl) (by rw [ht]; exact Bool.noConfusion)

/-- a fiber whose channel pc is outside the protocol is neither asleep nor about to wake anybody -/
theorem Ctl.outside {s : St} (hi : Ctl s) {g : Nat} (hg : (s.pc g).usesSignal = false) :
    ¬ (s.p.pc g).sleepy ∧ ∀ w, ¬ (s.p.pc g).targets w := by
  rw [hi.idle rfl hg]; simp [PPc.sleepy, PPc.targets]

/-! ### channels created with a NULL ready_signal

In spin mode no fiber ever touches a signal: the embedded protocol stays in its initial state, nobody
is ever committed to sleep or asleep. -/

structure SpinInv (s : St) : Prop where
  proto : s.p = pinit
  nosig : ∀ f, (s.pc f).usesSignal = false

theorem Ctl.spinInv {s : St} (hi : Ctl s) (hsp : s.spin = true) : SpinInv s :=
  ⟨hi.quiet hsp, fun f => by
    cases h : (s.pc f).usesSignal
    · rfl
    · exact absurd hsp (by rw [((hi.loc f).2.2 h).1]; exact Bool.noConfusion)⟩

theorem spin_never_sleeps {s : St} (hi : SpinInv s) (w : Nat) : ¬ committed s w ∧ ¬ asleep s w := by
  have hn := hi.nosig w
  constructor
  · intro hc
    rcases hc with hc | ⟨hc, _⟩ <;> simp [hc, Pc.usesSignal] at hn
  · intro ha
    simp [asleep, hi.proto, pinit, PPc.sleepy] at ha

/-! ### coverage, for any kind

Parameters: `av s` — a message is there to be taken; `cls c` — a sender at pc `c` has made its
message visible (or claimed its slot) and not yet exchanged RAISED into the word; `stp hi c` — a
fiber at pc `c` holds a copy of `high` that `hi` has overtaken (never, for the queue kinds). -/

section
variable {av : St → Prop} {cls : Pc → Bool} {stp : Nat → Pc → Prop}

/-- with no sender in flight: a receiver whose copy of `high` is stale will find the word RAISED,
    and so will one that has decided to sleep while a message is available; in that case nobody
    is in the word -/
def GCov (av : St → Prop) (cls : Pc → Bool) (stp : Nat → Pc → Prop) (s : St) : Prop :=
  (∀ g, ¬ cls (s.pc g) = true) →
    (∀ w, stp s.high (s.pc w) → s.p.word = .raised) ∧
    (av s → (∀ w, committed s w → s.p.word = .raised) ∧ ∀ w, s.p.word ≠ .fiber w)

theorem GCov.mono {s t : St} (h : GCov av cls stp s) (hav : av t → av s)
    (hfl : ∀ g, cls (s.pc g) = true → cls (t.pc g) = true) (hcm : ∀ w, committed t w → committed s w)
    (hst : ∀ w, stp t.high (t.pc w) → stp s.high (s.pc w)) (hw : t.p.word = s.p.word) : GCov av cls stp t := by
  intro hf
  obtain ⟨h1, h2⟩ := h (fun g hg => hf g (hfl g hg))
  rw [hw]
  exact ⟨fun w hs => h1 w (hst w hs), fun ha => ⟨fun w hc => (h2 (hav ha)).1 w (hcm w hc), (h2 (hav ha)).2⟩⟩

theorem GCov.raised {t : St} (hw : t.p.word = .raised) : GCov av cls stp t := by
  intro _; rw [hw]; exact ⟨fun _ _ => rfl, fun _ => ⟨fun _ _ => rfl, fun _ => Word.noConfusion⟩⟩

theorem GCov.inflight {t : St} {g : Nat} (h : cls (t.pc g) = true) : GCov av cls stp t :=
  fun hf => absurd h (hf g)

theorem committed_move {s t : St} {f : Nat} {X : Pc} (hp : t.p = s.p) (ht : t.pc = upd s.pc f X)
    (hX : X.usesSignal = false) {w : Nat} (hc : committed t w) : committed s w := by
  have hu := committed_usesSignal hc
  unfold committed at hc; rw [ht, hp] at hc; rw [ht] at hu
  simp only [upd] at hc hu; split at hu
  · rw [hX] at hu; cases hu
  · rename_i hwf; simp only [if_neg hwf] at hc; exact hc

theorem cls_move {s t : St} {f : Nat} {a X : Pc} (hpc : s.pc f = a) (ht : t.pc = upd s.pc f X)
    (ha : cls a = false) {g : Nat} (hg : cls (s.pc g) = true) : cls (t.pc g) = true := by
  rw [ht]; simp only [upd]; split
  · rename_i h; subst h; rw [hpc, ha] at hg; cases hg
  · exact hg

theorem stp_move {s t : St} {f : Nat} {X : Pc} (ht : t.pc = upd s.pc f X) (hhi : t.high = s.high)
    (hX : ¬ stp s.high X) {w : Nat} (hs : stp t.high (t.pc w)) : stp s.high (s.pc w) := by
  rw [ht, hhi] at hs; simp only [upd] at hs; split at hs
  · exact absurd hs hX
  · exact hs

/-- a step that leaves the signal, `high` and availability alone and moves `f` between pcs that
    are not in flight, do not use the signal and hold no copy of `high` -/
theorem GCov.move {s t : St} (h : GCov av cls stp s) {f : Nat} {a X : Pc} (hpc : s.pc f = a) (hp : t.p = s.p)
    (ht : t.pc = upd s.pc f X) (hhi : t.high = s.high) (hav : av t → av s) (ha : cls a = false)
    (hX : X.usesSignal = false) (hXs : ¬ stp s.high X) : GCov av cls stp t :=
  h.mono hav (fun _ => cls_move hpc ht ha) (fun _ => committed_move hp ht hX) (fun _ => stp_move ht hhi hXs)
    (by rw [hp])

/-- while the receiver is inside an operation, neither on its way into the wait nor in it, and its
    copy of `high` is not stale: nobody has decided to sleep, nobody is in the word, nobody is stale -/
theorem GCov.busy {t : St} (hi : Ctl t) (hsr : ∀ hi c, stp hi c → c.isRecv = true) {f : Nat}
    (hf : (t.pc f).isRecv = true) (hns : (t.pc f).usesSignal = false) (hnh : ¬ stp t.high (t.pc f)) :
    GCov av cls stp t := by
  have huniq : ∀ w, (t.pc w).isRecv = true → w = f := fun w hw => recv_unique hi.rid hw hf
  refine fun _ => ⟨fun w hs => ?_, fun _ => ⟨fun w hc => ?_, fun w hw => ?_⟩⟩
  · have := huniq w (hsr _ _ hs); subst this; exact absurd hs hnh
  · have := huniq w (committed_isRecv hc); subst this
    have := committed_usesSignal hc; rw [hns] at this; cases this
  · have hwait := (hi.link w).waiting_of_sleepy (hi.pinv.word_sleepy w hw).1
    have := huniq w (by rw [hwait]; rfl); subst this
    rw [hwait] at hns; cases hns

/-- while a raiser is about to wake `g`, the receiver is `g` and it sleeps in the wait -/
theorem recv_asleep_of_target {s : St} (hi : Ctl s) {f g : Nat} (hg : (s.p.pc f).targets g) {w : Nat}
    (hw : (s.pc w).isRecv = true) : s.pc w = .rWaiting ∧ (s.p.pc w).sleepy := by
  have hwk := hi.pinv.target_waker g f hg
  have hsl := (hi.pinv.waker_sleepy g f hwk).1
  have hrg := hi.waiter_recv g (hi.pinv.waker_id g f hwk)
  have : w = g := Option.some.inj ((hi.rid w hw).symm.trans hrg)
  subst this
  exact ⟨(hi.link w).waiting_of_sleepy hsl, hsl⟩

theorem committed_proto {s : St} {p' : PSt} {f : Nat} {X : Pc} {q' : PPc} (hpc' : p'.pc = upd s.p.pc f q')
    (hf : X = .rEmpty ∨ (X = .rWaiting ∧ (q' = .waitCalled ∨ q' = .wCleared)) → committed s f) {w : Nat}
    (hc : committed { s with p := p', pc := upd s.pc f X } w) : committed s w := by
  unfold committed at hc; simp only [hpc', upd] at hc; split at hc
  · rename_i h; subst h; exact hf hc
  · exact hc

/-- coverage is kept by every protocol event: most leave the word and what the premises speak
    about alone; an exchange leaves RAISED; a successful CAS shows nothing was available; the
    waiter's and the raiser's stores of NO_WAITER happen while nobody can be committed or stale -/
theorem GCov.proto {s s' : St} {pe : PEv} (hi : Ctl s) (hc : GCov av cls stp s)
    (hav : ∀ s p' pc', av { s with p := p', pc := pc' } → av s)
    (hc1 : cls .rEmpty = false) (hc2 : cls .rWaiting = false) (hc3 : ∀ v, cls (.sRaising v) = false)
    (hsr : ∀ hi c, stp hi c → c.isRecv = true) (hsu : ∀ hi c, stp hi c → c.usesSignal = false)
    (hs0 : ∀ hi, ¬ stp hi .rTop)
    (hs : step s (.p pe) = some s') : GCov av cls stp s' := by
  have hi' := hi.proto hs
  obtain ⟨f, X, q', p', rfl, hpc', ht⟩ := proto_cases hi.link hs
  generalize hcf : s.pc f = c at ht
  generalize hq : s.p.pc f = q at ht
  generalize hwd : s.p.word = w at ht
  generalize hwd' : p'.word = w' at ht
  generalize s.p.waiterId = i at ht
  generalize p'.waiterId = i' at ht
  have hword : w' = w → p'.word = s.p.word := fun h => hwd'.trans (h.trans hwd.symm)
  have hnr : ∀ hi c, c.isRecv = false → ¬ stp hi c := fun hi c h hst => by rw [hsr hi c hst] at h; cases h
  have hnu : ∀ hi c, c.usesSignal = true → ¬ stp hi c := fun hi c h hst => by rw [hsu hi c hst] at h; cases h
  cases ht with
  | wait =>
    exact hc.mono (hav _ _ _) (fun _ => cls_move hcf rfl hc1) (fun _ => committed_proto hpc' (fun _ => .inl hcf))
      (fun _ => stp_move (by rfl) (by rfl) (hnu _ _ rfl)) (hword rfl)
  | casFail _ | park | resume =>
    exact hc.mono (hav _ _ _) (fun _ => cls_move hcf rfl hc2) (fun _ => committed_proto hpc' (by simp))
      (fun _ => stp_move (by rfl) (by rfl) (hnu _ _ rfl)) (hword rfl)
  | spin | ready =>
    exact hc.mono (hav _ _ _) (fun _ => cls_move hcf rfl (hc3 _)) (fun _ => committed_proto hpc' (by simp))
      (fun _ => stp_move (by rfl) (by rfl) (hnu _ _ rfl)) (hword rfl)
  | wake =>
    exact hc.mono (hav _ _ _) (fun _ => cls_move hcf rfl (hc3 _)) (fun _ => committed_proto hpc' (by simp))
      (fun _ => stp_move (by rfl) (by rfl) (hnr _ _ rfl)) (hword rfl)
  | parked =>
    refine hc.mono (hav _ _ _) (fun g hg => ?_)
      (fun _ => committed_proto hpc' (fun h => h.elim (fun h => .inl (hcf.trans h)) (by simp))) (fun g hg => ?_)
      (hword rfl)
    · show cls (upd s.pc f _ g) = true
      rw [← hcf, upd_self]; exact hg
    · have : stp s.high (upd s.pc f (s.pc f) g) := by rw [hcf]; exact hg
      rw [upd_self] at this; exact this
  | casOk =>
    -- the CAS found NO_WAITER: the receiver had decided to sleep, so nothing was available
    have huniq : ∀ g, (s.pc g).isRecv = true → g = f := fun g hg =>
      recv_unique hi.rid hg (by rw [hcf]; rfl)
    intro hf
    obtain ⟨h1, h2⟩ := hc (fun g hg => hf g (cls_move hcf rfl hc2 hg))
    refine ⟨fun g hg => ?_, fun ha => ?_⟩
    · have hg' : stp s.high (s.pc g) := stp_move (t := { s with p := p', pc := upd s.pc f .rWaiting }) (by rfl)
        (by rfl) (hnu _ _ rfl) hg
      have := huniq g (hsr _ _ hg'); subst this
      rw [hcf] at hg'; exact absurd hg' (hnu _ _ rfl)
    · have := (h2 (hav _ _ _ ha)).1 f (.inr ⟨hcf, .inr hq⟩)
      rw [hwd] at this; cases this
  | consume _ =>
    exact GCov.busy hi' hsr (f := f) (by show (upd s.pc f .rTop f).isRecv = true; rw [upd_same]; rfl)
      (by show (upd s.pc f .rTop f).usesSignal = false; rw [upd_same]; rfl)
      (by show ¬ stp _ (upd s.pc f .rTop f); rw [upd_same]; exact hs0 _)
  | xchgGot | xchgNone _ => exact GCov.raised hwd'
  | clear =>
    -- the raiser has taken the sleeping receiver out of the word
    have hasleep := fun g => recv_asleep_of_target hi (f := f) (by rw [hq]; exact .inl rfl) (w := g)
    intro _
    refine ⟨fun g hg => ?_, fun _ => ⟨fun g hcg => ?_, fun g => ?_⟩⟩
    · have hg' : stp s.high (s.pc g) := stp_move (t := { s with p := p', pc := upd s.pc f (.sRaising _) }) (by rfl)
        (by rfl) (hnu _ _ rfl) hg
      rw [(hasleep g (hsr _ _ hg')).1] at hg'; exact absurd hg' (hnu _ _ rfl)
    · have hc := committed_proto hpc' (by simp) hcg
      obtain ⟨h1, h2⟩ := hasleep g (committed_isRecv hc)
      rcases hc with hc | ⟨_, hc | hc⟩
      · rw [hc] at h1; cases h1
      all_goals rw [hc] at h2; simp [PPc.sleepy] at h2
    · show p'.word ≠ _; rw [hwd']; exact Word.noConfusion

/-- `receiver_resumed`: a message is available while no sender is in flight ⇒ the receiver's next
    CAS fails (the word is RAISED) if it has decided to sleep, and it is not in the word — so if it
    is asleep at all, a sender has exchanged it out and is on its way to wake it.  On a spinning
    channel nobody decides to sleep or sleeps. -/
theorem Ctl.resumed {s : St} (hi : Ctl s) (hc : s.spin = false → GCov av cls stp s) (ha : av s)
    (hq : ∀ g, ¬ cls (s.pc g) = true) (w : Nat) :
    (committed s w → s.p.word = .raised) ∧
    (asleep s w → ∃ g, s.p.waker w = some g ∧ (s.p.pc g).targets w) := by
  cases hsp : s.spin
  · obtain ⟨h1, h2⟩ := (hc hsp hq).2 ha
    refine ⟨h1 w, fun hsl => ?_⟩
    rcases hi.pinv.owed w hsl.1 hsl.2 with h | ⟨g, hg⟩
    · exact absurd h (h2 w)
    · exact ⟨g, hg, hi.pinv.waker_target w g hg⟩
  · obtain ⟨a, b⟩ := spin_never_sleeps (hi.spinInv hsp) w
    exact ⟨fun h => absurd h a, fun h => absurd h b⟩

/-- with every other fiber outside any operation and a message available, the receiver is not
    asleep, and if it has just decided to sleep the word is RAISED -/
theorem Ctl.not_stranded {s : St} (hi : Ctl s) (hc : s.spin = false → GCov av cls stp s) (ha : av s) (w : Nat)
    (hidle : ∀ g, g ≠ w → s.pc g = .idle) (h0 : cls .idle = false)
    (hcl : ∀ c q, cls c = true → Link c q → q = .idle ∧ c ≠ .rEmpty ∧ c ≠ .rWaiting) :
    ¬ asleep s w ∧ (committed s w → s.p.word = .raised) := by
  by_cases hfw : cls (s.pc w) = true
  · -- w itself is a sender in flight: it is neither asleep nor committed
    obtain ⟨hq, h1, h2⟩ := hcl _ _ hfw (hi.link w)
    constructor
    · intro hsl; simp [asleep, PPc.sleepy, hq] at hsl
    · rintro (hc | ⟨hc, _⟩)
      · exact absurd hc h1
      · exact absurd hc h2
  · have hnf : ∀ g, ¬ cls (s.pc g) = true := by
      intro g hg
      by_cases hgw : g = w
      · subst hgw; exact hfw hg
      · rw [hidle g hgw, h0] at hg; cases hg
    obtain ⟨h1, h2⟩ := hi.resumed hc ha hnf w
    refine ⟨fun hsl => ?_, h1⟩
    obtain ⟨g, hg, ht⟩ := h2 hsl
    by_cases hgw : g = w
    · subst hgw
      simp only [asleep, PPc.sleepy, PPc.targets] at hsl ht
      rcases hsl.1 with h' | h' | h' <;> simp [h'] at ht
    · exact (hi.outside (by rw [hidle g hgw]; rfl)).2 w ht

end

end LibfiberVerif.Chan
