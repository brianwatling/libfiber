/-
  Proof/Chan.lean — the signal protocol embedded in the channel model keeps its invariant
  (`Signal.PInv`): everything proved about fiber_signal_t (single wake-up, wake after the
  hand-shake marker) holds verbatim for the ready_signal of a channel.  Property C11.

  Also what every other Chan* file builds on: the accepted steps listed event by event
  (`step_cases`; for protocol events `proto_shape` and, with both program counters and the word,
  `proto_cases`), and the ghosts and classifiers shared by the three kinds.
-/
import LibfiberVerif.Model.Chan
import LibfiberVerif.Proof.SignalProto

namespace LibfiberVerif.Chan

open Signal (PSt PEv PPc Word pstep PInv pinv_step)

inductive PSteps : PSt → PSt → Prop
  | refl (p : PSt) : PSteps p p
  | step {p q r : PSt} (e : PEv) : pstep p e = some q → PSteps q r → PSteps p r

theorem PSteps.pinv {p q : PSt} (h : PSteps p q) (hi : PInv p) : PInv q := by
  induction h with
  | refl => exact hi
  | step e he _ ih => exact ih (pinv_step _ _ e hi he)

theorem PSteps.one {p q : PSt} (e : PEv) (h : pstep p e = some q) : PSteps p q :=
  .step e h (.refl q)

theorem PSteps.trans {p q r : PSt} (h1 : PSteps p q) (h2 : PSteps q r) : PSteps p r := by
  induction h1 with
  | refl => exact h2
  | step e he _ ih => exact .step e he (ih h2)

/-- the channel-level pc transitions a protocol event can cause -/
inductive PcTrans : Pc → Pc → Prop
  | wait : PcTrans .rEmpty .rWaiting
  | waiting : PcTrans .rWaiting .rWaiting
  | waited : PcTrans .rWaiting .rTop
  | raise (v : Nat) : PcTrans (.sPublished v) (.sRaising v)
  | raise1 (v : Nat) (r : Bool) : PcTrans (.sPublished v) (.sRaised v r)
  | raising (v : Nat) : PcTrans (.sRaising v) (.sRaising v)
  | raised (v : Nat) (r : Bool) : PcTrans (.sRaising v) (.sRaised v r)

/-- the four ways a protocol event is embedded in a channel operation, with the protocol
    steps it stands for spelled out -/
theorem embedded_cases (s s' : St) (e : PEv) (hs : pEmbedded s e = some s') :
    (s.pc (pactor e) = .rEmpty ∧ ∃ p1 p2, pstep s.p (.callWait (pactor e)) = some p1 ∧ pstep p1 e = some p2 ∧
        s' = { s with p := p2, pc := upd s.pc (pactor e) .rWaiting }) ∨
    (s.pc (pactor e) = .rWaiting ∧ ∃ p2, pstep s.p e = some p2 ∧
        ((p2.pc (pactor e) = .waitDone ∧ ∃ p3, pstep p2 (.retWait (pactor e)) = some p3 ∧
            s' = { s with p := p3, pc := upd s.pc (pactor e) .rTop }) ∨
         (p2.pc (pactor e) ≠ .waitDone ∧ s' = { s with p := p2 }))) ∨
    (∃ v, s.pc (pactor e) = .sPublished v ∧ ∃ p1 p2, pstep s.p (.callRaise (pactor e)) = some p1 ∧
        pstep p1 e = some p2 ∧
        ((∃ r p3, p2.pc (pactor e) = .raiseDone r ∧ pstep p2 (.retRaise (pactor e) r) = some p3 ∧
            s' = { s with p := p3, pc := upd s.pc (pactor e) (.sRaised v r) }) ∨
         ((∀ r, p2.pc (pactor e) ≠ .raiseDone r) ∧
            s' = { s with p := p2, pc := upd s.pc (pactor e) (.sRaising v) }))) ∨
    (∃ v, s.pc (pactor e) = .sRaising v ∧ ∃ p2, pstep s.p e = some p2 ∧
        ((∃ r p3, p2.pc (pactor e) = .raiseDone r ∧ pstep p2 (.retRaise (pactor e) r) = some p3 ∧
            s' = { s with p := p3, pc := upd s.pc (pactor e) (.sRaised v r) }) ∨
         ((∀ r, p2.pc (pactor e) ≠ .raiseDone r) ∧ s' = { s with p := p2 }))) := by
  simp only [pEmbedded, Option.bind_eq_bind] at hs
  split at hs
  · rename_i hpc
    obtain ⟨p1, h1, p2, h2, hs⟩ : ∃ p1, _ ∧ ∃ p2, _ ∧ _ := by simpa only [Option.bind_eq_some_iff] using hs
    cases hs
    exact .inl ⟨hpc, p1, p2, h1, h2, rfl⟩
  · rename_i hpc
    obtain ⟨p2, h2, hs⟩ : ∃ p2, _ ∧ _ := by simpa only [Option.bind_eq_some_iff] using hs
    split at hs
    · rename_i hd
      obtain ⟨p3, h3, hs⟩ : ∃ p3, _ ∧ _ := by simpa only [Option.bind_eq_some_iff] using hs
      cases hs
      exact .inr (.inl ⟨hpc, p2, h2, .inl ⟨hd, p3, h3, rfl⟩⟩)
    · rename_i hd
      cases hs
      exact .inr (.inl ⟨hpc, p2, h2, .inr ⟨hd, rfl⟩⟩)
  · rename_i v hpc
    obtain ⟨p1, h1, p2, h2, hs⟩ : ∃ p1, _ ∧ ∃ p2, _ ∧ _ := by simpa only [Option.bind_eq_some_iff] using hs
    split at hs
    · rename_i r hr
      obtain ⟨p3, h3, hs⟩ : ∃ p3, _ ∧ _ := by simpa only [Option.bind_eq_some_iff] using hs
      cases hs
      exact .inr (.inr (.inl ⟨v, hpc, p1, p2, h1, h2, .inl ⟨r, p3, hr, h3, rfl⟩⟩))
    · rename_i hnr
      cases hs
      exact .inr (.inr (.inl ⟨v, hpc, p1, p2, h1, h2, .inr ⟨fun r hr => hnr r hr, rfl⟩⟩))
  · rename_i v hpc
    obtain ⟨p2, h2, hs⟩ : ∃ p2, _ ∧ _ := by simpa only [Option.bind_eq_some_iff] using hs
    split at hs
    · rename_i r hr
      obtain ⟨p3, h3, hs⟩ : ∃ p3, _ ∧ _ := by simpa only [Option.bind_eq_some_iff] using hs
      cases hs
      exact .inr (.inr (.inr ⟨v, hpc, p2, h2, .inl ⟨r, p3, hr, h3, rfl⟩⟩))
    · rename_i hnr
      cases hs
      exact .inr (.inr (.inr ⟨v, hpc, p2, h2, .inr ⟨fun r hr => hnr r hr, rfl⟩⟩))
  · cases hs

theorem psteps_of_embedded (s s' : St) (e : PEv) (hs : pEmbedded s e = some s') : PSteps s.p s'.p := by
  rcases embedded_cases s s' e hs with ⟨_, p1, p2, h1, h2, rfl⟩ | ⟨_, p2, h2, (⟨_, p3, h3, rfl⟩ | ⟨_, rfl⟩)⟩ |
    ⟨v, _, p1, p2, h1, h2, (⟨r, p3, _, h3, rfl⟩ | ⟨_, rfl⟩)⟩ | ⟨v, _, p2, h2, (⟨r, p3, _, h3, rfl⟩ | ⟨_, rfl⟩)⟩
  · exact .step _ h1 (.one _ h2)
  · exact .step _ h2 (.one _ h3)
  · exact .one _ h2
  · exact .step _ h1 (.step _ h2 (.one _ h3))
  · exact .step _ h1 (.one _ h2)
  · exact .step _ h2 (.one _ h3)
  · exact .one _ h2

theorem embedded_shape (s s' : St) (e : PEv) (hs : pEmbedded s e = some s') :
    ∃ p' X, s' = { s with p := p', pc := upd s.pc (pactor e) X } ∧ PcTrans (s.pc (pactor e)) X := by
  rcases embedded_cases s s' e hs with ⟨hpc, _, p2, _, _, rfl⟩ | ⟨hpc, p2, _, (⟨_, p3, _, rfl⟩ | ⟨_, rfl⟩)⟩ |
    ⟨v, hpc, _, p2, _, _, (⟨r, p3, _, _, rfl⟩ | ⟨_, rfl⟩)⟩ | ⟨v, hpc, p2, _, (⟨r, p3, _, _, rfl⟩ | ⟨_, rfl⟩)⟩
  · exact ⟨p2, .rWaiting, rfl, by rw [hpc]; exact .wait⟩
  · exact ⟨p3, .rTop, rfl, by rw [hpc]; exact .waited⟩
  · exact ⟨p2, .rWaiting, by rw [← hpc, upd_self], by rw [hpc]; exact .waiting⟩
  · exact ⟨p3, .sRaised v r, rfl, by rw [hpc]; exact .raise1 v r⟩
  · exact ⟨p2, .sRaising v, rfl, by rw [hpc]; exact .raise v⟩
  · exact ⟨p3, .sRaised v r, rfl, by rw [hpc]; exact .raised v r⟩
  · exact ⟨p2, .sRaising v, by rw [← hpc, upd_self], by rw [hpc]; exact .raising v⟩

/-- an accepted protocol event is the successor's deferred write, taken as it is, or one of the
    events a fiber performs inside a channel operation -/
theorem proto_step {s s' : St} {pe : PEv} (hs : step s (.p pe) = some s') :
    (∃ p' g f, pe = .setWait g f ∧ pstep s.p pe = some p' ∧ s' = { s with p := p' }) ∨
    (pEmbedded s pe = some s' ∧ ∀ g f, pe ≠ .setWait g f) := by
  cases pe with
  | setWait g f =>
    simp only [step, Option.map_eq_some_iff] at hs
    obtain ⟨p', hp, rfl⟩ := hs
    exact .inl ⟨p', g, f, rfl, hp, rfl⟩
  | callWait f | retWait f | callRaise f | retRaise f r => simp [step] at hs
  | _ => exact .inr ⟨by simpa [step] using hs, fun _ _ => PEv.noConfusion⟩

theorem proto_shape (s s' : St) (pe : PEv) (hs : step s (.p pe) = some s') :
    (∃ p', s' = { s with p := p' }) ∨
    (∃ p' X, s' = { s with p := p', pc := upd s.pc (pactor pe) X } ∧ PcTrans (s.pc (pactor pe)) X) := by
  rcases proto_step hs with ⟨p', _, _, _, _, rfl⟩ | ⟨h, _⟩
  · exact .inl ⟨p', rfl⟩
  · exact .inr (embedded_shape s s' pe h)

/-! ### the accepted steps, event by event

`step` is one `match` on the event, then on the actor's pc, then on a guard.  The three relations
below list its accepting branches with the successor state written out; the invariant proofs take
a step apart through `step_cases` (protocol events: `proto_shape` / `proto_cases`) and do not unfold `step`. -/

/-- the harness's notes: calls and returns of send, receive and try_receive -/
inductive ApiStep (s : St) : Ev → St → Prop
  | callSend {f v : Nat} (hpc : s.pc f = .idle)
      (hg : v ≠ 0 ∧ v ∉ s.used ∧ s.receiver ≠ some f ∧ (s.kind = .sp → (s.spSender = none ∨ s.spSender = some f))) :
      ApiStep s (.callSend f v)
        { s with calls := upd s.calls f (s.calls f ++ [v]), used := v :: s.used,
                 spSender := if s.kind = .sp then some f else s.spSender,
                 pc := upd s.pc f (if s.kind = .bounded then .sTop v else .qCalled v) }
  | woke {f v : Nat} {r : Bool} (hpc : s.pc f = .sRaised v r) :
      ApiStep s (.woke f r) { s with pc := upd s.pc f .sDone }
  | retSend {f : Nat} (hpc : s.pc f = .sDone) : ApiStep s (.retSend f) { s with pc := upd s.pc f .idle }
  | callRecv {f : Nat} (hpc : s.pc f = .idle) (hg : (s.receiver = none ∨ s.receiver = some f) ∧ s.spSender ≠ some f) :
      ApiStep s (.callRecv f)
        { s with receiver := some f, tryMode := false, emptySeen := false, pc := upd s.pc f .rTop }
  | callTry {f : Nat} (hpc : s.pc f = .idle) (hg : (s.receiver = none ∨ s.receiver = some f) ∧ s.spSender ≠ some f) :
      ApiStep s (.callTry f)
        { s with receiver := some f, tryMode := true, emptySeen := false, pc := upd s.pc f .rTop }
  | retRecv {f v : Nat} (hpc : s.pc f = .rDone v) : ApiStep s (.retRecv f v) { s with pc := upd s.pc f .idle }
  | retEmpty {f : Nat} (hpc : s.pc f = .tEmpty) :
      ApiStep s (.retRecv f 0) { s with tryEmpty := s.tryEmpty + 1, pc := upd s.pc f .idle }

/-- the memory accesses of the bounded channel -/
inductive BStep (s : St) : Ev → St → Prop
  | ldLowS {f v : Nat} (hpc : s.pc f = .sTop v) :
      BStep s (.ldLow f s.low) { s with pc := upd s.pc f (.sLdLow v s.low) }
  | ldLowRetry {f v l h x : Nat} (hpc : s.pc f = .sRdBuf v l h x) (hfull : ¬ (x = 0 ∧ h - l < s.cap)) :
      BStep s (.ldLow f s.low) { s with pc := upd s.pc f (.sLdLow v s.low) }
  | ldLowR {f h : Nat} (hpc : s.pc f = .rLdHigh h) :
      BStep s (.ldLow f s.low) { s with pc := upd s.pc f (.rLdLow h s.low) }
  | ldHighS {f v l : Nat} (hpc : s.pc f = .sLdLow v l) :
      BStep s (.ldHigh f s.high) { s with pc := upd s.pc f (.sLdHigh v l s.high) }
  | ldHighR {f : Nat} (hpc : s.pc f = .rTop) :
      BStep s (.ldHigh f s.high)
        { s with emptySeen := decide (s.high = s.low), pc := upd s.pc f (.rLdHigh s.high) }
  | rBufS {f v l h : Nat} (hpc : s.pc f = .sLdHigh v l h) :
      BStep s (.rBuf f (h % s.cap) (s.buf (h % s.cap)))
        { s with pc := upd s.pc f (.sRdBuf v l h (s.buf (h % s.cap))) }
  | rBufTake {f h l : Nat} (hpc : s.pc f = .rLdLow h l) (hx : s.buf (l % s.cap) ≠ 0 ∧ h > l) :
      BStep s (.rBuf f (l % s.cap) (s.buf (l % s.cap)))
        { s with pc := upd s.pc f (.rRdBuf h l (s.buf (l % s.cap))) }
  | rBufEmpty {f h l : Nat} (hpc : s.pc f = .rLdLow h l) (hx : ¬ (s.buf (l % s.cap) ≠ 0 ∧ h > l)) :
      BStep s (.rBuf f (l % s.cap) (s.buf (l % s.cap))) { s with pc := upd s.pc f (emptyPc s) }
  | casOk {f v l x : Nat} (hpc : s.pc f = .sRdBuf v l s.high x) (hx : x = 0) (hroom : s.high - l < s.cap) :
      BStep s (.casHigh f s.high s.high (s.high + 1) true)
        { s with high := s.high + 1, sent := s.sent ++ [(f, v)], pc := upd s.pc f (.sClaimed v s.high) }
  | casFail {f v l h x : Nat} (hpc : s.pc f = .sRdBuf v l h x) (hx : x = 0) (hroom : h - l < s.cap) :
      BStep s (.casHigh f s.high h (h + 1) false) { s with pc := upd s.pc f (.sTop v) }
  | wBufS {f v h : Nat} (hpc : s.pc f = .sClaimed v h) :
      BStep s (.wBuf f (h % s.cap) v)
        { s with buf := upd s.buf (h % s.cap) v, pc := upd s.pc f (pubPc s v) }
  | wBufR {f h l m : Nat} (hpc : s.pc f = .rRdBuf h l m) :
      BStep s (.wBuf f (l % s.cap) 0)
        { s with buf := upd s.buf (l % s.cap) 0, pc := upd s.pc f (.rCleared l m) }
  | stLow {f l m : Nat} (hpc : s.pc f = .rCleared l m) :
      BStep s (.stLow f (l + 1))
        { s with low := l + 1, recvd := s.recvd ++ [m], pc := upd s.pc f (.rDone m) }

/-- the memory accesses of the unbounded and sp channels -/
inductive QStep (s : St) : Ev → St → Prop
  | wDataS {f v : Nat} (hpc : s.pc f = .qCalled v) :
      QStep s (.wData f (v + 1) v) { s with ndata := upd s.ndata (v + 1) v, pc := upd s.pc f (.qData v) }
  | wDataR {f h d : Nat} (hpc : s.pc f = .rGotData h d) :
      QStep s (.wData f h d) { s with ndata := upd s.ndata h d, pc := upd s.pc f (.rWrote h d) }
  | wNextClear {f v : Nat} (hpc : s.pc f = .qData v) :
      QStep s (.wNext f (v + 1) 0) { s with pc := upd s.pc f (.qCleared v) }
  | wNextLink {f v prev i : Nat} (hpc : s.pc f = .qSwapped v prev i) :
      QStep s (.wNext f prev (v + 1))
        { s with linked := upd s.linked i true, pc := upd s.pc f (pubPc s v) }
  | xchgTail {f v : Nat} (hk : s.kind = .unbounded) (hpc : s.pc f = .qCleared v) :
      QStep s (.xchgTail f (tailNode s) (v + 1))
        { s with order := s.order ++ [v + 1], sent := s.sent ++ [(f, v)],
                 pc := upd s.pc f (.qSwapped v (tailNode s) s.order.length) }
  | ldTail {f v : Nat} (hk : s.kind = .sp) (hpc : s.pc f = .qCleared v) :
      QStep s (.ldTail f (tailNode s)) { s with pc := upd s.pc f (.qLdTail v (tailNode s)) }
  | stTail {f v : Nat} (hk : s.kind = .sp) (hpc : s.pc f = .qLdTail v (tailNode s)) :
      QStep s (.stTail f (v + 1))
        { s with order := s.order ++ [v + 1], sent := s.sent ++ [(f, v)],
                 pc := upd s.pc f (.qSwapped v (tailNode s) s.order.length) }
  | rHead {f : Nat} (hpc : s.pc f = .rTop) :
      QStep s (.rHead f s.headNode) { s with pc := upd s.pc f (.rGotHead s.headNode) }
  | rNextEmpty {f h : Nat} (hpc : s.pc f = .rGotHead h) (h0 : headNext s = 0) :
      QStep s (.rNext f h 0) { s with pc := upd s.pc f (emptyPc s) }
  | rNext {f h : Nat} (hpc : s.pc f = .rGotHead h) (hne : headNext s ≠ 0) :
      QStep s (.rNext f h (headNext s)) { s with pc := upd s.pc f (.rGotNext h (headNext s)) }
  | wHead {f h x : Nat} (hpc : s.pc f = .rGotNext h x) :
      QStep s (.wHead f x)
        { s with headNode := x, hd := s.hd + 1, recvd := s.recvd ++ [s.ndata x], pc := upd s.pc f (.rMoved h x) }
  | rDataNew {f h x : Nat} (hpc : s.pc f = .rMoved h x) :
      QStep s (.rData f x (s.ndata x)) { s with pc := upd s.pc f (.rGotData h (s.ndata x)) }
  | rDataOld {f h : Nat} (hpc : s.pc f = .rWrote h (s.ndata h)) :
      QStep s (.rData f h (s.ndata h)) { s with pc := upd s.pc f (.rDone (s.ndata h)) }

theorem step_cases {s s' : St} {e : Ev} (hs : step s e = some s') :
    (∃ pe, e = .p pe) ∨ ApiStep s e s' ∨ (s.kind = .bounded ∧ BStep s e s') ∨
    (s.kind ≠ .bounded ∧ QStep s e s') := by
  cases e with
  | p pe => exact .inl ⟨pe, rfl⟩
  | callSend f v =>
    simp only [step] at hs; split at hs <;> simp at hs
    subst hs; rename_i hg; exact .inr (.inl (.callSend hg.1 hg.2))
  | woke f r =>
    simp only [step] at hs; split at hs <;> simp at hs
    obtain ⟨rfl, rfl⟩ := hs; rename_i hpc; exact .inr (.inl (.woke hpc))
  | retSend f =>
    simp only [step] at hs; split at hs <;> simp at hs
    subst hs; rename_i hpc; exact .inr (.inl (.retSend hpc))
  | callRecv f =>
    simp only [step] at hs; split at hs <;> simp at hs
    subst hs; rename_i hg; exact .inr (.inl (.callRecv hg.1 hg.2))
  | callTry f =>
    simp only [step] at hs; split at hs <;> simp at hs
    subst hs; rename_i hg; exact .inr (.inl (.callTry hg.1 hg.2))
  | retRecv f v =>
    simp only [step] at hs; split at hs <;> simp at hs
    · obtain ⟨rfl, rfl⟩ := hs; rename_i hpc; exact .inr (.inl (.retRecv hpc))
    · obtain ⟨rfl, rfl⟩ := hs; rename_i hpc; exact .inr (.inl (.retEmpty hpc))
  | ldLow f l =>
    simp only [step] at hs; split at hs; · simp at hs
    rename_i hg; simp only [not_or, Decidable.not_not] at hg; obtain ⟨hk, rfl⟩ := hg
    refine .inr (.inr (.inl ⟨hk, ?_⟩))
    split at hs
    · simp at hs; subst hs; rename_i hpc; exact .ldLowS hpc
    · split at hs <;> simp at hs
      subst hs; rename_i hpc hfull; exact .ldLowRetry hpc hfull
    · simp at hs; subst hs; rename_i hpc; exact .ldLowR hpc
    · simp at hs
  | ldHigh f h =>
    simp only [step] at hs; split at hs; · simp at hs
    rename_i hg; simp only [not_or, Decidable.not_not] at hg; obtain ⟨hk, rfl⟩ := hg
    refine .inr (.inr (.inl ⟨hk, ?_⟩))
    split at hs <;> simp at hs
    · subst hs; rename_i hpc; exact .ldHighS hpc
    · subst hs; rename_i hpc; exact .ldHighR hpc
  | rBuf f i x =>
    simp only [step] at hs; split at hs; · simp at hs
    rename_i hg; simp only [not_or, Decidable.not_not] at hg; obtain ⟨hk, rfl⟩ := hg
    refine .inr (.inr (.inl ⟨hk, ?_⟩))
    split at hs
    · split at hs <;> simp at hs
      subst hs; rename_i hpc hi; subst hi; exact .rBufS hpc
    · split at hs
      · rename_i hpc hi; subst hi
        split at hs <;> simp at hs <;> subst hs
        · rename_i hx; exact .rBufTake hpc hx
        · rename_i hx; exact .rBufEmpty hpc hx
      · simp at hs
    · simp at hs
  | casHigh f found exp new ok =>
    simp only [step] at hs; split at hs; · simp at hs
    rename_i hk; simp only [Decidable.not_not] at hk
    refine .inr (.inr (.inl ⟨hk, ?_⟩))
    split at hs
    · rename_i hpc
      split at hs
      · rename_i hg; obtain ⟨hx, hroom, rfl, rfl, rfl, hok⟩ := hg
        split at hs <;> simp at hs <;> subst hs
        · rename_i hokt; subst hokt; have := hok rfl; subst this; exact .casOk hpc hx hroom
        · rename_i hokf; simp only [Bool.not_eq_true] at hokf; subst hokf; exact .casFail hpc hx hroom
      · simp at hs
    · simp at hs
  | wBuf f i x =>
    simp only [step] at hs; split at hs; · simp at hs
    rename_i hk; simp only [Decidable.not_not] at hk
    refine .inr (.inr (.inl ⟨hk, ?_⟩))
    split at hs
    · split at hs <;> simp at hs
      subst hs; rename_i hpc hg; obtain ⟨rfl, rfl⟩ := hg; exact .wBufS hpc
    · split at hs <;> simp at hs
      subst hs; rename_i hpc hg; obtain ⟨rfl, rfl⟩ := hg; exact .wBufR hpc
    · simp at hs
  | stLow f l =>
    simp only [step] at hs; split at hs; · simp at hs
    rename_i hk; simp only [Decidable.not_not] at hk
    refine .inr (.inr (.inl ⟨hk, ?_⟩))
    split at hs
    · split at hs <;> simp at hs
      subst hs; rename_i hpc hl; subst hl; exact .stLow hpc
    · simp at hs
  | wData f n d =>
    simp only [step] at hs; split at hs; · simp at hs
    rename_i hk
    refine .inr (.inr (.inr ⟨hk, ?_⟩))
    split at hs
    · split at hs <;> simp at hs
      subst hs; rename_i hpc hg; obtain ⟨rfl, rfl⟩ := hg; exact .wDataS hpc
    · split at hs <;> simp at hs
      subst hs; rename_i hpc hg; obtain ⟨rfl, rfl⟩ := hg; exact .wDataR hpc
    · simp at hs
  | wNext f n x =>
    simp only [step] at hs; split at hs; · simp at hs
    rename_i hk
    refine .inr (.inr (.inr ⟨hk, ?_⟩))
    split at hs
    · split at hs <;> simp at hs
      subst hs; rename_i hpc hg; obtain ⟨rfl, rfl⟩ := hg; exact .wNextClear hpc
    · split at hs <;> simp at hs
      subst hs; rename_i hpc hg; obtain ⟨rfl, rfl⟩ := hg; exact .wNextLink hpc
    · simp at hs
  | xchgTail f old new =>
    simp only [step] at hs; split at hs; · simp at hs
    rename_i hk; simp only [Decidable.not_not] at hk
    refine .inr (.inr (.inr ⟨by simp [hk], ?_⟩))
    split at hs
    · split at hs <;> simp at hs
      subst hs; rename_i hpc hg; obtain ⟨rfl, rfl⟩ := hg; exact .xchgTail hk hpc
    · simp at hs
  | ldTail f t =>
    simp only [step] at hs; split at hs; · simp at hs
    rename_i hk; simp only [Decidable.not_not] at hk
    refine .inr (.inr (.inr ⟨by simp [hk], ?_⟩))
    split at hs
    · split at hs <;> simp at hs
      subst hs; rename_i hpc ht; subst ht; exact .ldTail hk hpc
    · simp at hs
  | stTail f n =>
    simp only [step] at hs; split at hs; · simp at hs
    rename_i hk; simp only [Decidable.not_not] at hk
    refine .inr (.inr (.inr ⟨by simp [hk], ?_⟩))
    split at hs
    · split at hs <;> simp at hs
      subst hs; rename_i hpc hg; obtain ⟨rfl, rfl⟩ := hg; exact .stTail hk hpc
    · simp at hs
  | rHead f h =>
    simp only [step] at hs; split at hs; · simp at hs
    rename_i hk
    refine .inr (.inr (.inr ⟨hk, ?_⟩))
    split at hs
    · split at hs <;> simp at hs
      subst hs; rename_i hpc hh; subst hh; exact .rHead hpc
    · simp at hs
  | rNext f n x =>
    simp only [step] at hs; split at hs; · simp at hs
    rename_i hk
    refine .inr (.inr (.inr ⟨hk, ?_⟩))
    split at hs
    · rename_i hpc
      split at hs
      · rename_i hg; obtain ⟨rfl, rfl⟩ := hg
        split at hs <;> simp at hs <;> subst hs
        · rename_i h0; rw [h0]; exact .rNextEmpty hpc h0
        · rename_i hne; exact .rNext hpc hne
      · simp at hs
    · simp at hs
  | wHead f x =>
    simp only [step] at hs; split at hs; · simp at hs
    rename_i hk
    refine .inr (.inr (.inr ⟨hk, ?_⟩))
    split at hs
    · split at hs <;> simp at hs
      subst hs; rename_i hpc hx; subst hx; exact .wHead hpc
    · simp at hs
  | rData f n d =>
    simp only [step] at hs; split at hs; · simp at hs
    rename_i hk
    refine .inr (.inr (.inr ⟨hk, ?_⟩))
    split at hs
    · split at hs <;> simp at hs
      subst hs; rename_i hpc hg; obtain ⟨rfl, rfl⟩ := hg; exact .rDataNew hpc
    · split at hs <;> simp at hs
      subst hs; rename_i hpc hg; obtain ⟨rfl, rfl, hd⟩ := hg; subst hd; exact .rDataOld hpc
    · simp at hs

theorem psteps_of_step (s s' : St) (e : Ev) (hs : step s e = some s') : PSteps s.p s'.p := by
  rcases step_cases hs with ⟨pe, rfl⟩ | h | ⟨_, h⟩ | ⟨_, h⟩
  · rcases proto_step hs with ⟨p', _, _, _, hp, rfl⟩ | ⟨h, _⟩
    · exact .one _ hp
    · exact psteps_of_embedded s s' pe h
  all_goals cases h <;> exact .refl _

theorem pinv_of_run {spin : Bool} {k : Kind} {cap : Nat} {es : List Ev} {s : St}
    (h : (sysM spin k cap).run es = some s) : PInv s.p :=
  Sys.inv_of_run (sysM spin k cap) (fun s => PInv s.p) Signal.pinv_init
    (fun s e s' hi hs => (psteps_of_step s s' e hs).pinv hi) h

/-- explode a hypothesis `pstep p e = some q` into the concrete successor and substitute it -/
macro "pstep_cases" h:ident : tactic =>
  `(tactic| (simp only [pstep] at $h:ident; (repeat' (split at $h:ident)); all_goals (try simp at $h:ident);
             all_goals (try contradiction);
             all_goals (first | subst $h:ident | (obtain ⟨_, $h:ident⟩ := $h:ident; subst $h:ident) | skip)))

/-- explode a hypothesis `pstep p e = some q` into the concrete successor and substitute it -/
macro "pstep_cases'" h:ident : tactic =>
  `(tactic| (simp only [pstep] at $h:ident; (repeat' (split at $h:ident)); all_goals (try simp at $h:ident);
             all_goals (try contradiction);
             all_goals (first | subst $h:ident | (obtain ⟨_, $h:ident⟩ := $h:ident; subst $h:ident) | skip)))

/-- one protocol step seen from the fiber `f` it acts on (`setWait g f`: the parking fiber, not
    the successor `g` that executes it): `f`'s protocol pc and the signal word, before and after -/
inductive PTrans (f : Nat) : PEv → PPc → Word → Option Nat → PPc → Word → Option Nat → Prop
  | callWait {w i} : PTrans f (.callWait f) .idle w i .waitCalled w (some f)
  | clr {w i} : PTrans f (.clrScratch f) .waitCalled w i .wCleared w i
  | resume {w i} : PTrans f (.clrScratch f) .parked w i .resumed w i
  | casOk {i} : PTrans f (.casWaiter f .none true) .wCleared .none i .casOk (.fiber f) i
  | casFail {w i} (hw : w ≠ .none) : PTrans f (.casWaiter f w false) .wCleared w i .casFailed w i
  | park {w i} : PTrans f (.wStateWaiting f) .casOk w i .parking w i
  | parked {g w i} : PTrans f (.setWait g f) .parking w i .parked w i
  | consumeF {w i} : PTrans f (.stNone f) .casFailed w i .waitDone .none i
  | consumeR {w i} : PTrans f (.stNone f) .resumed w i .waitDone .none i
  | clear {g w i} : PTrans f (.stNone f) (.raiseGot g) w i (.raiseCleared g) .none i
  | retWait {w i} : PTrans f (.retWait f) .waitDone w i .idle w i
  | callRaise {w i} : PTrans f (.callRaise f) .idle w i .raiseCalled w i
  | xchgGot {g i} : PTrans f (.xchg f (.fiber g)) .raiseCalled (.fiber g) i (.raiseGot g) .raised i
  | xchgNone {w i} (hw : ∀ g, w ≠ .fiber g) : PTrans f (.xchg f w) .raiseCalled w i (.raiseDone false) .raised i
  | spin {g w i} : PTrans f (.rScratch f g false) (.raiseCleared g) w i (.raiseCleared g) w i
  | ready {g w i} : PTrans f (.rScratch f g true) (.raiseCleared g) w i (.raiseReady g) w i
  | wake {g w i} : PTrans f (.wStateReady f g) (.raiseReady g) w i (.raiseDone true) w i
  | retRaise {r w i} : PTrans f (.retRaise f r) (.raiseDone r) w i .idle w i

/-- a protocol step seen through `PTrans` -/
theorem pstep_trans {p p' : PSt} {e : PEv} (h : pstep p e = some p') :
    ∃ f q w i q' w' i', p.pc f = q ∧ p.word = w ∧ p.waiterId = i ∧ p'.pc = upd p.pc f q' ∧ p'.word = w' ∧
      p'.waiterId = i' ∧ PTrans f e q w i q' w' i' := by
  suffices ∃ f q', p'.pc = upd p.pc f q' ∧ PTrans f e (p.pc f) p.word p.waiterId q' p'.word p'.waiterId by
    obtain ⟨f, q', h1, h2⟩ := this
    exact ⟨f, _, _, _, q', _, _, rfl, rfl, rfl, h1, rfl, rfl, h2⟩
  cases Signal.PStep.of_pstep h with
  | consume hpc => rcases hpc with h | h <;> exact ⟨_, _, rfl, by rw [h]; constructor⟩
  | @spin f g hpc hr => exact ⟨f, _, (upd_self _ _).symm, by rw [hpc]; constructor⟩
  | xchgGot hpc hw => exact ⟨_, _, rfl, by rw [hpc, hw]; constructor⟩
  | casOk hpc hw => exact ⟨_, _, rfl, by rw [hpc, hw]; constructor⟩
  | casFail hpc hw => exact ⟨_, _, rfl, by rw [hpc]; exact .casFail hw⟩
  | xchgNone hpc hw => exact ⟨_, _, rfl, by rw [hpc]; exact .xchgNone hw⟩
  | callWait hpc | clr hpc | resume hpc | park hpc | parked hpc | clear hpc | retWait hpc | callRaise hpc
  | ready hpc | wake hpc | retRaise hpc => exact ⟨_, _, rfl, by rw [hpc]; constructor⟩

/-- how a fiber's protocol pc follows its channel pc: it is inside `fiber_signal_wait` exactly
    while at `rWaiting`, inside `fiber_signal_raise` with a fiber to wake exactly while at
    `sRaising`, and outside the protocol otherwise -/
def Link : Pc → PPc → Prop
  | .rWaiting, q => q.inWait ∧ q ≠ .waitCalled ∧ q ≠ .waitDone
  | .sRaising _, q => ∃ g, q.targets g
  | _, q => q = .idle

/-- what an accepted protocol event does to the fiber it acts on: channel pc, protocol pc and
    signal word, before and after (an embedded event stands for up to three protocol steps) -/
inductive SigTrans (f : Nat) : Pc → PPc → Word → Option Nat → Pc → PPc → Word → Option Nat → Prop
  | wait {w i} : SigTrans f .rEmpty .idle w i .rWaiting .wCleared w (some f)
  | casFail {w i} (hw : w ≠ .none) : SigTrans f .rWaiting .wCleared w i .rWaiting .casFailed w i
  | casOk {i} : SigTrans f .rWaiting .wCleared .none i .rWaiting .casOk (.fiber f) i
  | park {w i} : SigTrans f .rWaiting .casOk w i .rWaiting .parking w i
  | parked {c w i} : SigTrans f c .parking w i c .parked w i
  | resume {w i} : SigTrans f .rWaiting .parked w i .rWaiting .resumed w i
  | consume {q w i} (hq : q = .casFailed ∨ q = .resumed) : SigTrans f .rWaiting q w i .rTop .idle .none i
  | xchgGot {v g i} : SigTrans f (.sPublished v) .idle (.fiber g) i (.sRaising v) (.raiseGot g) .raised i
  | xchgNone {v w i} (hw : ∀ g, w ≠ .fiber g) :
      SigTrans f (.sPublished v) .idle w i (.sRaised v false) .idle .raised i
  | clear {v g w i} : SigTrans f (.sRaising v) (.raiseGot g) w i (.sRaising v) (.raiseCleared g) .none i
  | spin {v g w i} : SigTrans f (.sRaising v) (.raiseCleared g) w i (.sRaising v) (.raiseCleared g) w i
  | ready {v g w i} : SigTrans f (.sRaising v) (.raiseCleared g) w i (.sRaising v) (.raiseReady g) w i
  | wake {v g w i} : SigTrans f (.sRaising v) (.raiseReady g) w i (.sRaised v true) .idle w i

theorem embedded_trans {s s' : St} {e : PEv} (he : ∀ g f', e ≠ .setWait g f')
    (hl : Link (s.pc (pactor e)) (s.p.pc (pactor e))) (hs : pEmbedded s e = some s') :
    ∃ X q' p', s' = { s with p := p', pc := upd s.pc (pactor e) X } ∧ p'.pc = upd s.p.pc (pactor e) q' ∧
      SigTrans (pactor e) (s.pc (pactor e)) (s.p.pc (pactor e)) s.p.word s.p.waiterId X q' p'.word p'.waiterId := by
  rcases embedded_cases s s' e hs with ⟨hpc, p1, p2, h1, h2, rfl⟩ | ⟨hpc, p2, h2, (⟨hd, p3, h3, rfl⟩ | ⟨hd, rfl⟩)⟩ |
    ⟨v, hpc, p1, p2, h1, h2, (⟨r', p3, hr, h3, rfl⟩ | ⟨hnr, rfl⟩)⟩ | ⟨v, hpc, p2, h2, (⟨r', p3, hr, h3, rfl⟩ | ⟨hnr, rfl⟩)⟩
  all_goals rw [hpc] at hl ⊢; simp only [Link] at hl
  all_goals generalize hf : pactor e = f at *
  · obtain ⟨f1, a1, w1, i1, b1, w1', i1', ha1, hw1, hi1, e1, hw1', hi1', t1⟩ := pstep_trans h1
    obtain ⟨f2, a2, w2, i2, b2, w2', i2', ha2, hw2, hi2, e2, hw2', hi2', t2⟩ := pstep_trans h2
    obtain rfl := hw1'.symm.trans hw2; obtain rfl := hi1'.symm.trans hi2
    cases t1
    cases t2 <;> simp only [pactor] at hf <;> (try exact absurd rfl (he _ _)) <;> subst hf <;> simp [e1, upd_same] at ha2
    exact ⟨_, _, p2, rfl, by rw [e2, e1, upd_upd], by rw [hl, hw1, hi1, hw2', hi2']; exact .wait⟩
  · obtain ⟨f2, a2, w2, i2, b2, w2', i2', ha2, hw2, hi2, e2, hw2', hi2', t2⟩ := pstep_trans h2
    obtain ⟨f3, a3, w3, i3, b3, w3', i3', ha3, hw3, hi3, e3, hw3', hi3', t3⟩ := pstep_trans h3
    obtain rfl := hw2'.symm.trans hw3; obtain rfl := hi2'.symm.trans hi3
    cases t3
    cases t2 <;> simp only [pactor] at hf <;> (try exact absurd rfl (he _ _)) <;> subst hf <;> simp [e2, upd_same] at hd
    · exact ⟨_, _, p3, rfl, by rw [e3, e2, upd_upd], by rw [ha2, hw2, hi2, hw3', hi3']; exact .consume (.inl rfl)⟩
    · exact ⟨_, _, p3, rfl, by rw [e3, e2, upd_upd], by rw [ha2, hw2, hi2, hw3', hi3']; exact .consume (.inr rfl)⟩
  · obtain ⟨f2, a2, w2, i2, b2, w2', i2', ha2, hw2, hi2, e2, hw2', hi2', t2⟩ := pstep_trans h2
    cases t2 <;> simp only [pactor] at hf <;> (try exact absurd rfl (he _ _)) <;> subst hf <;> simp [ha2, PPc.inWait] at hl <;> simp [e2, upd_same] at hd
    all_goals refine ⟨.rWaiting, _, p2, by rw [← hpc, upd_self], e2, ?_⟩
    all_goals rw [ha2, hw2, hi2, hw2', hi2']
    · exact .resume
    · exact .casOk
    · rename_i hw; exact .casFail hw
    · exact .park
  · obtain ⟨f1, a1, w1, i1, b1, w1', i1', ha1, hw1, hi1, e1, hw1', hi1', t1⟩ := pstep_trans h1
    obtain ⟨f2, a2, w2, i2, b2, w2', i2', ha2, hw2, hi2, e2, hw2', hi2', t2⟩ := pstep_trans h2
    obtain ⟨f3, a3, w3, i3, b3, w3', i3', ha3, hw3, hi3, e3, hw3', hi3', t3⟩ := pstep_trans h3
    obtain rfl := hw1'.symm.trans hw2; obtain rfl := hi1'.symm.trans hi2
    obtain rfl := hw2'.symm.trans hw3; obtain rfl := hi2'.symm.trans hi3
    cases t1; cases t3
    cases t2 <;> simp only [pactor] at hf <;> (try exact absurd rfl (he _ _)) <;> subst hf <;> simp [e1, upd_same] at ha2 <;> simp [e2, upd_same] at hr
    rename_i hw
    exact ⟨_, _, p3, by rw [hr], by rw [e3, e2, e1, upd_upd, upd_upd],
      by rw [hl, hw1, hi1, hw3', hi3']; exact .xchgNone hw⟩
  · obtain ⟨f1, a1, w1, i1, b1, w1', i1', ha1, hw1, hi1, e1, hw1', hi1', t1⟩ := pstep_trans h1
    obtain ⟨f2, a2, w2, i2, b2, w2', i2', ha2, hw2, hi2, e2, hw2', hi2', t2⟩ := pstep_trans h2
    obtain rfl := hw1'.symm.trans hw2; obtain rfl := hi1'.symm.trans hi2
    cases t1
    cases t2 <;> simp only [pactor] at hf <;> (try exact absurd rfl (he _ _)) <;> subst hf <;> simp [e1, upd_same] at ha2
    · exact ⟨_, _, p2, rfl, by rw [e2, e1, upd_upd], by rw [hl, hw1, hi1, hw2', hi2']; exact .xchgGot⟩
    · exact absurd (by rw [e2, upd_same]) (hnr false)
  · obtain ⟨f2, a2, w2, i2, b2, w2', i2', ha2, hw2, hi2, e2, hw2', hi2', t2⟩ := pstep_trans h2
    obtain ⟨f3, a3, w3, i3, b3, w3', i3', ha3, hw3, hi3, e3, hw3', hi3', t3⟩ := pstep_trans h3
    obtain rfl := hw2'.symm.trans hw3; obtain rfl := hi2'.symm.trans hi3
    obtain ⟨g, hg⟩ := hl
    cases t3
    cases t2 <;> simp only [pactor] at hf <;> (try exact absurd rfl (he _ _)) <;> subst hf <;> simp [e2, upd_same] at hr <;> simp [ha2, PPc.targets] at hg
    subst hr
    exact ⟨_, _, p3, rfl, by rw [e3, e2, upd_upd], by rw [ha2, hw2, hi2, hw3', hi3']; exact .wake⟩
  · obtain ⟨f2, a2, w2, i2, b2, w2', i2', ha2, hw2, hi2, e2, hw2', hi2', t2⟩ := pstep_trans h2
    obtain ⟨g, hg⟩ := hl
    cases t2 <;> simp only [pactor] at hf <;> (try exact absurd rfl (he _ _)) <;> subst hf <;> simp [ha2, PPc.targets] at hg
    case wake => exact absurd (by rw [e2, upd_same]) (hnr true)
    all_goals refine ⟨.sRaising v, _, p2, by rw [← hpc, upd_self], e2, ?_⟩
    all_goals rw [ha2, hw2, hi2, hw2', hi2']
    · exact .clear
    · exact .spin
    · exact .ready

theorem proto_cases {s s' : St} {pe : PEv} (hl : ∀ f, Link (s.pc f) (s.p.pc f))
    (hs : step s (.p pe) = some s') :
    ∃ f X q' p', s' = { s with p := p', pc := upd s.pc f X } ∧ p'.pc = upd s.p.pc f q' ∧
      SigTrans f (s.pc f) (s.p.pc f) s.p.word s.p.waiterId X q' p'.word p'.waiterId := by
  rcases proto_step hs with ⟨p', g, f, rfl, hp, rfl⟩ | ⟨h, he⟩
  · obtain ⟨f2, a2, w2, i2, b2, w2', i2', ha2, hw2, hi2, e2, hw2', hi2', t2⟩ := pstep_trans hp
    cases t2
    exact ⟨f, s.pc f, _, p', by rw [upd_self], e2, by rw [ha2, hw2, hi2, hw2', hi2']; exact .parked⟩
  · exact ⟨_, embedded_trans he (hl _) h⟩

def qval (s : St) (i : Nat) : Nat := ((s.sent[i]?).map Prod.snd).getD 0

def sentBy (s : St) (f : Nat) : List Nat := (s.sent.filter (fun p => p.1 = f)).map Prod.snd

/-- the message a sender has been given and not yet linearised (claim / tail swap) -/
def Pc.pending : Pc → List Nat
  | .sTop v => [v] | .sLdLow v _ => [v] | .sLdHigh v _ _ => [v] | .sRdBuf v _ _ _ => [v]
  | .qCalled v => [v] | .qData v => [v] | .qCleared v => [v] | .qLdTail v _ => [v]
  | .idle => [] | .sClaimed _ _ => [] | .qSwapped _ _ _ => [] | .sPublished _ => [] | .sRaising _ => []
  | .sRaised _ _ => [] | .sDone => [] | .rTop => [] | .rLdHigh _ => [] | .rLdLow _ _ => []
  | .rRdBuf _ _ _ => [] | .rCleared _ _ => [] | .rGotHead _ => [] | .rGotNext _ _ => []
  | .rMoved _ _ => [] | .rGotData _ _ => [] | .rWrote _ _ => [] | .rEmpty => [] | .rWaiting => []
  | .rDone _ => [] | .tEmpty => []

def Pc.isRecv : Pc → Bool
  | .rTop => true | .rLdHigh _ => true | .rLdLow _ _ => true | .rRdBuf _ _ _ => true | .rCleared _ _ => true
  | .rGotHead _ => true | .rGotNext _ _ => true | .rMoved _ _ => true | .rGotData _ _ => true
  | .rWrote _ _ => true | .rEmpty => true | .rWaiting => true | .rDone _ => true | .tEmpty => true
  | .idle => false | .sTop _ => false | .sLdLow _ _ => false | .sLdHigh _ _ _ => false | .sRdBuf _ _ _ _ => false
  | .sClaimed _ _ => false | .qCalled _ => false | .qData _ => false | .qCleared _ => false | .qLdTail _ _ => false
  | .qSwapped _ _ _ => false | .sPublished _ => false | .sRaising _ => false | .sRaised _ _ => false | .sDone => false

theorem PcTrans.pending {a b : Pc} (h : PcTrans a b) : a.pending = [] ∧ b.pending = [] := by
  cases h <;> simp [Pc.pending]

/-- the fiber that claimed sequence number i (0 if none yet) -/
def qown (s : St) (i : Nat) : Nat := ((s.sent[i]?).map Prod.fst).getD 0

def lval (l : List (Nat × Nat)) (i : Nat) : Nat := ((l[i]?).map Prod.snd).getD 0

theorem qval_eq_lval (s : St) (i : Nat) : qval s i = lval s.sent i := rfl

theorem lval_append_lt (l : List (Nat × Nat)) (p : Nat × Nat) (i : Nat) (h : i < l.length) :
    lval (l ++ [p]) i = lval l i := by
  simp [lval, List.getElem?_append_left h]

theorem lval_append_len (l : List (Nat × Nat)) (p : Nat × Nat) : lval (l ++ [p]) l.length = p.2 := by
  simp [lval]

theorem qval_lt (s : St) (i : Nat) (h : i < s.sent.length) : qval s i = (s.sent[i]).2 := by
  simp [qval, List.getElem?_eq_getElem h]

theorem qval_mem (s : St) (i : Nat) (h : i < s.sent.length) : ∃ p, p ∈ s.sent ∧ p.2 = qval s i :=
  ⟨s.sent[i], List.getElem_mem h, (qval_lt s i h).symm⟩

theorem qval_ne_zero {s : St} (hv : ∀ p, p ∈ s.sent → p.2 ≠ 0) {i : Nat} (hi : i < s.sent.length) :
    qval s i ≠ 0 := by
  obtain ⟨p, hp, he⟩ := qval_mem s i hi
  rw [← he]; exact hv p hp

/-- the receiver is the only fiber in a receive pc -/
theorem recv_unique {s : St} (h : ∀ g, (s.pc g).isRecv = true → s.receiver = some g) {f g : Nat}
    (hf : (s.pc f).isRecv = true) (hg : (s.pc g).isRecv = true) : f = g :=
  Option.some.inj ((h f hf).symm.trans (h g hg))

theorem qown_lt (s : St) (i : Nat) (h : i < s.sent.length) : qown s i = (s.sent[i]).1 := by
  simp [qown, List.getElem?_eq_getElem h]

theorem lown_append_lt (l : List (Nat × Nat)) (p : Nat × Nat) (i : Nat) (h : i < l.length) :
    ((((l ++ [p])[i]?).map Prod.fst).getD 0) = (((l[i]?).map Prod.fst).getD 0) := by
  simp [List.getElem?_append_left h]

theorem sentBy_append (s : St) (f g v : Nat) :
    ((s.sent ++ [(f, v)]).filter (fun p => p.1 = g)).map Prod.snd = sentBy s g ++ if f = g then [v] else [] := by
  simp only [sentBy, List.filter_append, List.map_append]
  split <;> simp [List.filter, *]

theorem pending_emptyPc (s : St) : (emptyPc s).pending = [] := by
  unfold emptyPc; split
  · rfl
  · split <;> rfl

theorem pending_pubPc (s : St) (v : Nat) : (pubPc s v).pending = [] := by
  unfold pubPc; split <;> rfl

/-- the creation parameters never change -/
theorem params_step (s s' : St) (e : Ev) (hs : step s e = some s') :
    s'.kind = s.kind ∧ s'.cap = s.cap ∧ s'.spin = s.spin := by
  rcases step_cases hs with ⟨pe, rfl⟩ | h | ⟨_, h⟩ | ⟨_, h⟩
  · rcases proto_shape s s' pe hs with ⟨p', rfl⟩ | ⟨p', X, rfl, _⟩ <;> exact ⟨rfl, rfl, rfl⟩
  all_goals cases h <;> exact ⟨rfl, rfl, rfl⟩

theorem params_of_run {spin : Bool} {k : Kind} {cap : Nat} {es : List Ev} {s : St}
    (h : (sysM spin k cap).run es = some s) : s.kind = k ∧ s.cap = cap ∧ s.spin = spin :=
  Sys.inv_of_run (sysM spin k cap) (fun s => s.kind = k ∧ s.cap = cap ∧ s.spin = spin) ⟨rfl, rfl, rfl⟩
    (fun s e s' hi hs => by
      obtain ⟨a, b, c⟩ := params_step s s' e hs
      exact ⟨a.trans hi.1, b.trans hi.2.1, c.trans hi.2.2⟩) h

/-- a run goes on from its last state; the creation parameters are that state's -/
theorem run_append {spin : Bool} {k : Kind} {cap : Nat} {es l : List Ev} {s s' : St}
    (h : (sysM spin k cap).run es = some s) (h1 : (sysM s.spin s.kind s.cap).runFrom s l = some s') :
    (sysM spin k cap).run (es ++ l) = some s' := by
  obtain ⟨hk, hc, hsp⟩ := params_of_run h
  rw [hsp, hk, hc] at h1
  simp only [Sys.run] at h ⊢
  rw [Sys.runFrom_append, h]; exact h1

end LibfiberVerif.Chan
