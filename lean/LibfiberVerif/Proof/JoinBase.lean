/-
  Proof/JoinBase.lean — the program-counter predicates, the accepted steps as a relation, and the
  invariants (statements) of the join / tryjoin / detach / completion protocol model
  (Model/Join.lean), property C04; preservation is in Proof/Join.lean.

  Layers, all by induction over accepted events (`Sys.inv_of_run`), for an unbounded number of
  fibers, targets and calls:
    Inv0  simple unconditional facts about detach_state and the ghost fields
    Inv1  the mailbox discipline (a parked fiber is in at most one place: its mailbox, or in the
          hands of exactly one holder) and the value facts that follow from it
    Inv2  the protocol proper, for every target on which none of the three windows
          (tDetach / tThird / tOver, see Model/Join.lean) has been opened
    Inv3  no post-exchange access to a destroyed fiber (same hypothesis)
-/
import LibfiberVerif.Model.Join

namespace LibfiberVerif.Join

/-- the fiber is past the exchange (or the DETACHED short-cut) of its own completion -/
@[simp, grind] def finX : Pc → Bool
  | .fPark0 | .fParking | .fParked | .fWoken | .fTake | .fGot _ | .fGotRes _ _ | .fGave _ | .fMark | .fDone => true
  | _ => false

@[simp, grind] def stored : Pc → Bool
  | .fStored | .fLoaded => true
  | .fPark0 | .fParking | .fParked | .fWoken | .fTake | .fGot _ | .fGotRes _ _ | .fGave _ | .fMark | .fDone => true
  | _ => false

/-- the finished fiber is on its way into its own mailbox, or in it -/
@[simp, grind] def parkF : Pc → Bool
  | .fPark0 | .fParking | .fParked => true
  | _ => false

/-- a joiner on its way into g's mailbox, or in it -/
@[simp, grind] def joinerPark (c : Pc) (g : Nat) : Bool :=
  match c with
  | .jPark0 t | .jParking t | .jParked t => t == g
  | _ => false

@[simp, grind] def joinerPath (c : Pc) (g : Nat) : Bool :=
  match c with
  | .jPark0 t | .jParking t | .jParked t | .jWoken t | .jGotRes t _ => t == g
  | _ => false

/-- a client that claimed the finished fiber and has not woken it yet -/
@[simp, grind] def takePh (c : Pc) (g : Nat) : Bool :=
  match c with
  | .take0 _ t | .take _ t _ | .wake _ t _ _ => t == g
  | _ => false

/-- every program point from which a client still acts on g's mailbox / will report SUCCESS -/
@[simp, grind] def claimPath (c : Pc) (g : Nat) : Bool :=
  match c with
  | .jPark0 t | .jParking t | .jParked t | .jWoken t | .jGotRes t _ => t == g
  | .take0 _ t | .take _ t _ | .wake _ t _ _ => t == g
  | .retn op t ok _ => t == g && ok && op != .detach
  | _ => false

/-- a detach that takes the finished fiber out of its mailbox -/
@[simp, grind] def detTake (c : Pc) (g : Nat) : Bool :=
  match c with
  | .take .detach t _ | .wake .detach t _ _ => t == g
  | _ => false

/-- a holds p: it took p out of a mailbox and is about to wake it -/
@[simp, grind] def holds (c : Pc) (p : Nat) : Bool :=
  match c with
  | .wake _ _ _ q | .fGot q | .fGotRes q _ | .fGave q => q == p
  | _ => false

/-- the finishing fiber holds its joiner p -/
@[simp, grind] def holdsF (c : Pc) (p : Nat) : Bool :=
  match c with
  | .fGot q | .fGotRes q _ | .fGave q => q == p
  | _ => false

@[simp, grind] def holdsFAny : Pc → Bool
  | .fGot _ | .fGotRes _ _ | .fGave _ => true
  | _ => false

/-- q is parked in g's mailbox protocol-wise -/
@[simp, grind] def parkedIn (c : Pc) (q g : Nat) : Bool :=
  match c with
  | .jParked t => t == g
  | .fParked => q == g
  | _ => false

/-- the finishing fiber is busy delivering to its joiner p -/
@[simp, grind] def delivering (c : Pc) (p : Nat) : Bool :=
  match c with
  | .fTake => true
  | .fGot q | .fGotRes q _ | .fGave q => q == p
  | _ => false

/-- program points of a fiber that makes calls at which its own hand-over slot (`result`) is
    clear: everywhere except between the hand-over by the finishing fiber (the earliest moment
    is the deferred store that parks the joiner) and the joiner's own clearing store -/
@[simp, grind] def slotFree : Pc → Bool
  | .idle | .called _ _ | .tLoaded1 _ | .loaded _ _ | .jPark0 _ | .jParking _
  | .take0 _ _ | .take _ _ _ | .wake _ _ _ _ | .retn _ _ _ _ => true
  | _ => false

@[grind →] theorem jpk_jp {c g} (h : joinerPark c g = true) : joinerPath c g = true := by
  cases c <;> simp_all
@[grind →] theorem jp_cp {c g} (h : joinerPath c g = true) : claimPath c g = true := by
  cases c <;> simp_all
@[grind →] theorem tp_cp {c g} (h : takePh c g = true) : claimPath c g = true := by
  cases c <;> simp_all
@[grind →] theorem hf_h {c p} (h : holdsF c p = true) : holds c p = true := by
  cases c <;> simp_all
@[grind →] theorem hf_hfa {c p} (h : holdsF c p = true) : holdsFAny c = true := by
  cases c <;> simp_all
@[grind →] theorem parkedIn_inv {c q g} (h : parkedIn c q g = true) : c = .jParked g ∨ (c = .fParked ∧ q = g) := by
  cases c <;> simp_all
@[grind →] theorem holds_inv {c p} (h : holds c p = true) :
    (∃ op g v, c = .wake op g v p) ∨ c = .fGot p ∨ (∃ v, c = .fGotRes p v) ∨ c = .fGave p := by
  cases c <;> simp_all
@[grind →] theorem detTake_inv {c g} (h : detTake c g = true) :
    (∃ v, c = .take .detach g v) ∨ (∃ v p, c = .wake .detach g v p) := by
  cases c with
  | take op t v => cases op <;> simp_all
  | wake op t v p => cases op <;> simp_all
  | _ => simp_all
@[grind →] theorem fx_st {c} (h : finX c = true) : stored c = true := by
  cases c <;> simp_all
@[grind →] theorem pf_fx {c} (h : parkF c = true) : finX c = true := by
  cases c <;> simp_all

theorem step_some {s : St} {e : Ev} {s' : St} (h : step s e = some s') :
    ∃ s1, stepCore s e = some s1 ∧
      s' = { s1 with late := if e.counted ∧ s1.destroyed e.cellOf then upd s1.late e.cellOf (s1.late e.cellOf + 1) else s1.late } := by
  unfold step at h
  cases hc : stepCore s e with
  | none => simp [hc] at h
  | some s1 => simp [hc] at h; exact ⟨s1, rfl, h.symm⟩

/-- The accepted steps of `stepCore` that change the state, each with the successor state as the
    model writes it.  The guards keep what the invariants need: the acting fiber's program counter
    and what it found in `detach_state`.  Where the model chooses the next program counter or a
    window flag by what was read, the choice stays inside the successor state, and a conditional
    write is written as the write of a conditional value (`upd_ite`), the form in which `upd`
    unfolds to a pointwise `if`. -/
inductive Trans (s : St) : Ev → St → Prop
  | call a op g (hp : s.pc a = .idle) :
      Trans s (.call a op g) { s with pc := upd s.pc a (.called op g), nul := upd s.nul a false }
  | callN a op g (hp : s.pc a = .idle) (ho : op ≠ .detach) :
      Trans s (.callN a op g) { s with pc := upd s.pc a (.called op g), nul := upd s.nul a true }
  | retN a op g ok v (hp : s.pc a = .retn op g ok v) (ho : op ≠ .detach) (hn : s.nul a = true) :
      Trans s (.retN a op g ok)
        { s with pc := upd s.pc a .idle, succ := upd s.succ g (if ok then v :: s.succ g else s.succ g) }
  | retDetach a g ok v (hp : s.pc a = .retn .detach g ok v) (hn : s.nul a = false) :
      Trans s (.ret a .detach g ok v)
        { s with pc := upd s.pc a .idle, detRet := upd s.detRet g (if ok then true else s.detRet g) }
  | ret a op g ok v (hp : s.pc a = .retn op g ok v) (ho : op ≠ .detach) (hn : s.nul a = false) :
      Trans s (.ret a op g ok v)
        { s with pc := upd s.pc a .idle, succ := upd s.succ g (if ok then v :: s.succ g else s.succ g) }
  | fnRet f v (hp : s.pc f = .idle) (hr : s.retval f = none) :
      Trans s (.fnRet f v) { s with pc := upd s.pc f (.fRet v), retval := upd s.retval f (some v) }
  | ldCalled a g v op (hp : s.pc a = .called op g) (ho : op ≠ .detach) (hv : v = s.det g) :
      Trans s (.ldDet a g v)
        { s with pc := upd s.pc a (if v = DET then .retn op g false 0 else if op = .join then .loaded .join g else .tLoaded1 g),
                 tThird := upd s.tThird g (if v = WFJ ∧ s.finTook g = true then true else s.tThird g) }
  | ldTry a g v (hp : s.pc a = .tLoaded1 g) (hv : v = s.det g) :
      Trans s (.ldDet a g v)
        { s with pc := upd s.pc a (if v = WFJ then .loaded .tryjoin g else .retn .tryjoin g false 0),
                 tThird := upd s.tThird g (if v = WFJ ∧ s.finTook g = true then true else s.tThird g) }
  | ldFin a g v (hp : s.pc a = .fStored) (hg : g = a) (hv : v = s.det g) :
      Trans s (.ldDet a g v) { s with pc := upd s.pc a (if v = DET then .fMark else .fLoaded) }
  -- the exchange of fiber_join / fiber_tryjoin
  | xJoinPark a g old new (hp : s.pc a = .loaded .join g) (ho : old = s.det g) (hn : new = WTJ) (hd : old = NONE) :
      Trans s (.xchgDet a g old new)
        { s with det := upd s.det g new, pc := upd s.pc a (.jPark0 g), first := upd s.first g (some a) }
  | xTake a g old new op (hp : s.pc a = .loaded op g) (hop : op ≠ .detach) (ho : old = s.det g) (hn : new = WTJ)
      (hd : old = WFJ) :
      Trans s (.xchgDet a g old new)
        { s with det := upd s.det g new,
                 pc := upd s.pc a (if s.nul a = true then .take op g (s.res g) else .take0 op g),
                 claimed := upd s.claimed g true, taker := upd s.taker g (some a),
                 tThird := upd s.tThird g (if s.finTook g then true else s.tThird g) }
  | xFail a g old new op (hp : s.pc a = .loaded op g) (hop : op ≠ .detach) (ho : old = s.det g) (hn : new = WTJ)
      (hd : ¬(old = NONE ∧ op = .join)) (hw : old ≠ WFJ) :
      Trans s (.xchgDet a g old new)
        { s with det := upd s.det g new, pc := upd s.pc a (.retn op g false 0),
                 tOver := upd s.tOver g (if old = DET then true else s.tOver g) }
  -- the exchange of fiber_detach
  | dTake a g old new (hp : s.pc a = .called .detach g) (ho : old = s.det g) (hn : new = DET) (hd : old = WFJ) :
      Trans s (.xchgDet a g old new)
        { s with det := upd s.det g new, pc := upd s.pc a (.take .detach g 0), detX := upd s.detX g true,
                 taker := upd s.taker g (some a),
                 tThird := upd s.tThird g (if s.finTook g then true else s.tThird g) }
  | dTaint a g old new (hp : s.pc a = .called .detach g) (ho : old = s.det g) (hn : new = DET) (hd : old = WTJ) :
      Trans s (.xchgDet a g old new)
        { s with det := upd s.det g new, pc := upd s.pc a (.take .detach g 0), detX := upd s.detX g true,
                 tDetach := upd s.tDetach g true }
  | dFail a g old new (hp : s.pc a = .called .detach g) (ho : old = s.det g) (hn : new = DET) (hd : old = DET) :
      Trans s (.xchgDet a g old new) { s with det := upd s.det g new, pc := upd s.pc a (.retn .detach g false 0) }
  | dDone a g old new (hp : s.pc a = .called .detach g) (ho : old = s.det g) (hn : new = DET)
      (hd : old ≠ WFJ ∧ old ≠ WTJ ∧ old ≠ DET) :
      Trans s (.xchgDet a g old new)
        { s with det := upd s.det g new, pc := upd s.pc a (.retn .detach g true 0), detX := upd s.detX g true }
  -- the exchange of fiber_mark_completed
  | fPark a g old new (hp : s.pc a = .fLoaded) (hg : g = a) (ho : old = s.det g) (hn : new = WFJ) (hd : old = NONE) :
      Trans s (.xchgDet a g old new)
        { s with det := upd s.det g new, pc := upd s.pc a .fPark0, first := upd s.first g (some a) }
  | fTake a g old new (hp : s.pc a = .fLoaded) (hg : g = a) (ho : old = s.det g) (hn : new = WFJ) (hd : old = WTJ) :
      Trans s (.xchgDet a g old new)
        { s with det := upd s.det g new, pc := upd s.pc a .fTake, finTook := upd s.finTook a true }
  | fOver a g old new (hp : s.pc a = .fLoaded) (hg : g = a) (ho : old = s.det g) (hn : new = WFJ)
      (hd : old ≠ NONE ∧ old ≠ WTJ) :
      Trans s (.xchgDet a g old new)
        { s with det := upd s.det g new, pc := upd s.pc a .fMark,
                 tOver := upd s.tOver a (if old = DET then true else s.tOver a) }
  | jParking a g v t (hp : s.pc a = .jPark0 t) (hg : g = a ∧ v = WAITING) :
      Trans s (.wState a g v) { s with pc := upd s.pc a (.jParking t) }
  | fParking a g v (hp : s.pc a = .fPark0) (hg : g = a ∧ v = WAITING) :
      Trans s (.wState a g v) { s with pc := upd s.pc a .fParking }
  | wakeJ a g v op t val p t' (hp : s.pc a = .wake op t val p) (hg : g = p ∧ v = READY ∧ p ≠ a) (hq : s.pc p = .jParked t') :
      Trans s (.wState a g v)
        { s with pc := upd (upd s.pc p (.jWoken t')) a (.retn op t true val), holder := upd s.holder p none }
  | wakeFin a g v op t val p (hp : s.pc a = .wake op t val p) (hg : g = p ∧ v = READY ∧ p ≠ a) (hq : s.pc p = .fParked) :
      Trans s (.wState a g v)
        { s with pc := upd (upd s.pc p .fWoken) a (.retn op t true val), holder := upd s.holder p none }
  | wakeJoiner a g v p t (hp : s.pc a = .fGave p) (hg : g = p ∧ v = READY ∧ p ≠ a) (hq : s.pc p = .jParked t) :
      Trans s (.wState a g v)
        { s with pc := upd (upd s.pc p (.jWoken t)) a .fMark, holder := upd s.holder p none }
  | fDone a g v (hp : s.pc a = .fMark ∨ s.pc a = .fWoken) (hg : g = a ∧ v = DONE) :
      Trans s (.wState a g v) { s with pc := upd s.pc a .fDone }
  -- the deferred store into the mailbox, done by the next fiber `a` on behalf of `v`
  | postJoiner a g v (hp : s.pc v = .jParking g) (hv : ¬(v = 0 ∨ a = v)) :
      Trans s (.wJi a g v) { s with ji := upd s.ji g v, pc := upd s.pc v (.jParked g) }
  | postFin a g v (hp : s.pc v = .fParking) (hg : v = g) (hv : ¬(v = 0 ∨ a = v)) :
      Trans s (.wJi a g v) { s with ji := upd s.ji g v, pc := upd s.pc v .fParked }
  | xchgTake a g old op t v (hp : s.pc a = .take op t v) (hg : g = t) (ho : old = s.ji g) (hj : old ≠ 0) :
      Trans s (.xchgJi a g old)
        { s with ji := upd s.ji g 0, pc := upd s.pc a (.wake op t v old), holder := upd s.holder old (some a) }
  | xchgFin a g old (hp : s.pc a = .fTake) (hg : g = a) (ho : old = s.ji g) (hj : old ≠ 0) :
      Trans s (.xchgJi a g old)
        { s with ji := upd s.ji g 0, pc := upd s.pc a (.fGot old), claimed := upd s.claimed a true,
                 holder := upd s.holder old (some a) }
  | resTake a g v op t (hp : s.pc a = .take0 op t) (hg : g = t) (hv : v = s.res g) :
      Trans s (.ldRes a g v) { s with pc := upd s.pc a (.take op t v) }
  | resFin a g v p (hp : s.pc a = .fGot p) (hg : g = a) (hv : v = s.res g) :
      Trans s (.ldRes a g v) { s with pc := upd s.pc a (.fGotRes p v) }
  | resJoiner a g v t (hp : s.pc a = .jWoken t) (hg : g = a ∧ s.nul a = false) (hv : v = s.res g) :
      Trans s (.ldRes a g v) { s with pc := upd s.pc a (.jGotRes t v) }
  | stFin a g v (hp : s.pc a = .fRet v) (hg : g = a) :
      Trans s (.stRes a g v) { s with res := upd s.res g v, pc := upd s.pc a .fStored }
  | stGive a g v p (hp : s.pc a = .fGotRes p v) (hg : g = p) :
      Trans s (.stRes a g v) { s with res := upd s.res g v, pc := upd s.pc a (.fGave p) }
  | stJoinerN a g v t (hp : s.pc a = .jWoken t) (hg : g = a ∧ v = 0 ∧ s.nul a = true) :
      Trans s (.stRes a g v) { s with res := upd s.res g 0, pc := upd s.pc a (.retn .join t true (s.res a)) }
  | stJoiner a g v t w (hp : s.pc a = .jGotRes t w) (hg : g = a ∧ v = 0) :
      Trans s (.stRes a g v) { s with res := upd s.res g 0, pc := upd s.pc a (.retn .join t true w) }
  | destroy a g (hp : s.pc g = .fDone) (hd : s.destroyed g = false) (hn : a ≠ g) :
      Trans s (.destroy a g) { s with destroyed := upd s.destroyed g true }

/-- The accepted steps that leave the state as it is: a switch to another fiber, and an exchange
    that finds the mailbox still empty (the deferred store has not been made yet). -/
inductive Stay (s : St) : Ev → Prop
  | touch a g : Stay s (.touch a g)
  | xchgNone a g (hp : (∃ op v, s.pc a = .take op g v) ∨ (s.pc a = .fTake ∧ g = a)) (hj : s.ji g = 0) :
      Stay s (.xchgJi a g 0)

variable {s s1 s2 : St} {e : Ev}

theorem Trans.of_eq (h : Trans s e s2) (he : s2 = s1) : Trans s e s1 := he ▸ h

theorem upd_ite {α : Type} (c : Prop) [Decidable c] (f : Nat → α) (i : Nat) (v : α) :
    (if c then upd f i v else f) = upd f i (if c then v else f i) := by
  funext j
  by_cases hc : c <;> by_cases hj : j = i <;> simp [upd, hc, hj]

theorem stepCore_trans (hc : stepCore s e = some s1) : Trans s e s1 ∨ (Stay s e ∧ s1 = s) := by
  cases e
  case touch a g => cases hc; exact .inr ⟨.touch a g, rfl⟩
  case xchgJi a g old =>
    simp only [stepCore] at hc
    split at hc
    · cases hc
    rename_i ho
    replace ho := Decidable.not_not.mp ho
    split at hc <;> try split at hc
    all_goals first | cases hc | skip
    all_goals
      rename_i hp hg
      obtain rfl := Decidable.not_not.mp hg
      split at hc <;> cases hc <;> rename_i h0
    · subst h0; exact .inr ⟨.xchgNone a g (.inl ⟨_, _, hp⟩) ho.symm, rfl⟩
    · exact .inl (.xchgTake a g old _ _ _ hp rfl ho h0)
    · subst h0; exact .inr ⟨.xchgNone _ _ (.inr ⟨hp, rfl⟩) ho.symm, rfl⟩
    · exact .inl (.xchgFin _ _ old hp rfl ho h0)
  case ldDet a g v =>
    left
    simp only [stepCore] at hc
    split at hc
    · cases hc
    rename_i hv
    replace hv := Decidable.not_not.mp hv
    split at hc
    · rename_i op g' hp
      by_cases hg : g ≠ g' ∨ op = .detach
      · rw [if_pos hg] at hc; cases hc
      rw [if_neg hg] at hc
      obtain ⟨hgg, ho⟩ := not_or.mp hg
      obtain rfl := Decidable.not_not.mp hgg
      refine (Trans.ldCalled a g v op hp ho hv).of_eq (Option.some.inj ?_)
      rw [← hc]
      repeat' split
      all_goals simp [upd_self]
    · rename_i g' hp
      by_cases hg : g ≠ g'
      · rw [if_pos hg] at hc; cases hc
      rw [if_neg hg] at hc
      obtain rfl := Decidable.not_not.mp hg
      refine (Trans.ldTry a g v hp hv).of_eq (Option.some.inj ?_)
      rw [← hc]
      repeat' split
      all_goals simp [upd_self]
    · rename_i hp
      by_cases hg : g ≠ a
      · rw [if_pos hg] at hc; cases hc
      rw [if_neg hg] at hc
      refine (Trans.ldFin a g v hp (Decidable.not_not.mp hg) hv).of_eq (Option.some.inj ?_)
      rw [← hc]
      repeat' split
      all_goals simp
    · cases hc
  case xchgDet a g old new =>
    left
    simp only [stepCore] at hc
    split at hc
    · cases hc
    rename_i ho
    replace ho := Decidable.not_not.mp ho
    split at hc
    · rename_i op g' hp
      by_cases hg : g ≠ g' ∨ new ≠ WTJ ∨ op = .detach
      · rw [if_pos hg] at hc; cases hc
      rw [if_neg hg] at hc
      simp only [not_or, ne_eq, Decidable.not_not] at hg
      obtain ⟨rfl, hn, hop⟩ := hg
      by_cases h1 : old = NONE ∧ op = .join
      · rw [if_pos h1] at hc; cases hc; exact .xJoinPark a g old new (h1.2 ▸ hp) ho hn h1.1
      rw [if_neg h1] at hc
      by_cases h2 : old = WFJ
      · rw [if_pos h2] at hc
        refine (Trans.xTake a g old new op hp hop ho hn h2).of_eq (Option.some.inj ?_)
        rw [← hc]; split <;> simp only [upd_ite]
      rw [if_neg h2] at hc
      refine (Trans.xFail a g old new op hp hop ho hn h1 h2).of_eq (Option.some.inj ?_)
      rw [← hc]; split <;> simp [upd_self]
    · rename_i g' hp
      by_cases hg : g ≠ g' ∨ new ≠ DET
      · rw [if_pos hg] at hc; cases hc
      rw [if_neg hg] at hc
      simp only [not_or, ne_eq, Decidable.not_not] at hg
      obtain ⟨rfl, hn⟩ := hg
      by_cases h1 : old = WFJ
      · rw [if_pos h1] at hc; cases hc; exact (Trans.dTake a g old new hp ho hn h1).of_eq (by simp only [upd_ite])
      rw [if_neg h1] at hc
      by_cases h2 : old = WTJ
      · rw [if_pos h2] at hc; cases hc; exact .dTaint a g old new hp ho hn h2
      rw [if_neg h2] at hc
      by_cases h3 : old = DET
      · rw [if_pos h3] at hc; cases hc; exact .dFail a g old new hp ho hn h3
      rw [if_neg h3] at hc; cases hc; exact .dDone a g old new hp ho hn ⟨h1, h2, h3⟩
    · rename_i hp
      by_cases hg : g ≠ a ∨ new ≠ WFJ
      · rw [if_pos hg] at hc; cases hc
      rw [if_neg hg] at hc
      simp only [not_or, ne_eq, Decidable.not_not] at hg
      obtain ⟨hga, hn⟩ := hg
      by_cases h1 : old = NONE
      · rw [if_pos h1] at hc; cases hc; exact .fPark a g old new hp hga ho hn h1
      rw [if_neg h1] at hc
      by_cases h2 : old = WTJ
      · rw [if_pos h2] at hc; cases hc; exact .fTake a g old new hp hga ho hn h2
      rw [if_neg h2] at hc
      refine (Trans.fOver a g old new hp hga ho hn ⟨h1, h2⟩).of_eq (Option.some.inj ?_)
      rw [← hc]; split <;> simp [upd_self]
    · cases hc
  case ret a op g ok v =>
    left
    simp only [stepCore] at hc
    by_cases hg : s.pc a = .retn op g ok v ∧ s.nul a = false
    · rw [if_pos hg] at hc
      by_cases ho : op = .detach
      · rw [if_pos ho] at hc; cases hc; subst ho; exact (Trans.retDetach a g ok v hg.1 hg.2).of_eq (by simp only [upd_ite])
      · rw [if_neg ho] at hc; cases hc; exact (Trans.ret a op g ok v hg.1 ho hg.2).of_eq (by simp only [upd_ite])
    · rw [if_neg hg] at hc; cases hc
  case retN a op g ok =>
    left
    simp only [stepCore] at hc
    split at hc
    · rename_i op' g' ok' v hp
      by_cases hg : op' = op ∧ g' = g ∧ ok' = ok ∧ op ≠ .detach ∧ s.nul a = true
      · rw [if_pos hg] at hc; cases hc
        obtain ⟨rfl, rfl, rfl, ho, hn⟩ := hg
        exact (Trans.retN a _ _ _ v hp ho hn).of_eq (by simp only [upd_ite])
      · rw [if_neg hg] at hc; cases hc
    · cases hc
  all_goals
    left
    simp only [stepCore] at hc
    repeat' split at hc
    all_goals try simp at hc
    all_goals try subst hc
    all_goals (constructor <;> simp_all)

structure Inv0 (s : St) : Prop where
  dr : ∀ g, s.det g ≤ 3
  wfj : ∀ g, s.det g = WFJ → finX (s.pc g) = true
  detx : ∀ g, s.det g = DET → s.detX g = true
  fret : ∀ g v, s.pc g = .fRet v → s.retval g = some v
  tl : ∀ a op g, s.pc a = .loaded op g → op ≠ .join → s.det g ≠ NONE
  cpn : ∀ a g, claimPath (s.pc a) g = true → s.det g ≠ NONE
  scn : ∀ g, s.succ g ≠ [] → s.det g ≠ NONE
  fxn : ∀ g, finX (s.pc g) = true → s.det g ≠ NONE
  dst : ∀ g, s.destroyed g = true → s.pc g = .fDone
  fj : ∀ p g, joinerPath (s.pc p) g = true → s.first g = some p
  ff : ∀ g, (parkF (s.pc g) = true ∨ s.pc g = .fWoken) → s.first g = some g
  tcl : ∀ b g, takePh (s.pc b) g = true → (s.claimed g = true ∨ s.detX g = true)
  fc : ∀ g, holdsFAny (s.pc g) = true → s.claimed g = true

structure Inv1 (s : St) : Prop where
  mb : ∀ g, s.ji g ≠ 0 → parkedIn (s.pc (s.ji g)) (s.ji g) g = true ∧ s.holder (s.ji g) = none
  hw : ∀ a op g v p, s.pc a = .wake op g v p → s.holder p = some a ∧ parkedIn (s.pc p) p g = true
  hf : (∀ a p, s.pc a = .fGot p → s.holder p = some a ∧ s.pc p = .jParked a) ∧ (∀ a p v, s.pc a = .fGotRes p v → s.holder p = some a ∧ s.pc p = .jParked a) ∧ (∀ a p, s.pc a = .fGave p → s.holder p = some a ∧ s.pc p = .jParked a)
  hh : ∀ p, s.holder p = none ∨ ∃ a, s.holder p = some a ∧ holds (s.pc a) p = true
  st : ∀ g, stored (s.pc g) = true → s.retval g = some (s.res g)
  t0 : ∀ a op g, s.pc a = .take0 op g → finX (s.pc g) = true
  tv : ∀ a op g v, s.pc a = .take op g v → op ≠ .detach → s.retval g = some v
  wv : ∀ a op g v p, s.pc a = .wake op g v p → op ≠ .detach → s.retval g = some v
  gr : ∀ g p v, s.pc g = .fGotRes p v → s.retval g = some v
  gv : ∀ g p, s.pc g = .fGave p → s.retval g = some (s.res p)
  dj : ∀ g, (s.pc g = .fWoken ∨ s.pc g = .fMark ∨ s.pc g = .fDone) → (s.claimed g = true ∨ s.detX g = true)
  sc : ∀ a, slotFree (s.pc a) = true → s.res a = 0
  jo1 : ∀ p t, s.pc p = .jParked t → (s.res p = 0 ∨ s.retval t = some (s.res p))
  jo2 : ∀ p t, s.pc p = .jWoken t → (s.res p = 0 ∨ s.retval t = some (s.res p))
  jo3 : ∀ p t v, s.pc p = .jGotRes t v → (v = 0 ∨ s.retval t = some v)
  jo4 : ∀ a op t v, s.pc a = .retn op t true v → op ≠ .detach → (v = 0 ∨ s.retval t = some v)
  jo5 : ∀ t v, v ∈ s.succ t → (v = 0 ∨ s.retval t = some v)

structure Inv2 (s : St) : Prop where
  k3 : ∀ g a, untainted s g → claimPath (s.pc a) g = true → (s.det g ≠ WFJ ∨ s.finTook g = true)
  k4 : ∀ g, untainted s g → s.succ g ≠ [] → (s.det g ≠ WFJ ∨ s.finTook g = true)
  k5 : ∀ g p, untainted s g → joinerPark (s.pc p) g = true → (s.det g = WTJ ∨ (s.det g = WFJ ∧ s.finTook g = true))
  uq : ∀ g a a', untainted s g → claimPath (s.pc a) g = true → claimPath (s.pc a') g = true → a = a'
  sq : ∀ g a, untainted s g → s.succ g ≠ [] → claimPath (s.pc a) g = false
  sl : ∀ g, untainted s g → (s.succ g).length ≤ 1
  cv1 : ∀ g p, untainted s g → s.pc p = .jWoken g → s.retval g = some (s.res p)
  cv2 : ∀ g p v, untainted s g → s.pc p = .jGotRes g v → s.retval g = some v
  cv3 : ∀ g a op v, untainted s g → s.pc a = .retn op g true v → op ≠ .detach → s.retval g = some v
  sv : ∀ g v, untainted s g → v ∈ s.succ g → s.retval g = some v
  c1 : ∀ g b, untainted s g → takePh (s.pc b) g = true → parkF (s.pc g) = true
  c4 : ∀ g, untainted s g → s.det g = WFJ → (s.finTook g = true ∨ parkF (s.pc g) = true)
  c9 : ∀ g, untainted s g → s.det g = WTJ → finX (s.pc g) = false → (s.first g ≠ none ∧ ∀ p, s.first g = some p → joinerPark (s.pc p) g = true)
  ii : ∀ g, untainted s g → s.pc g = .fTake → (s.first g ≠ none ∧ ∀ p, s.first g = some p → joinerPark (s.pc p) g = true)
  iii : ∀ g p, untainted s g → joinerPark (s.pc p) g = true → finX (s.pc g) = true → delivering (s.pc g) p = true
  iv : ∀ g, untainted s g → parkF (s.pc g) = true → s.det g ≠ WFJ → (s.taker g ≠ none ∧ ∀ b, s.taker g = some b → takePh (s.pc b) g = true)
  t4 : ∀ g, untainted s g → s.detX g = true → s.det g = DET
  dx1 : ∀ g, untainted s g → s.detX g = true → s.succ g = []
  dx2 : ∀ g a, untainted s g → s.detX g = true → claimPath (s.pc a) g = true → detTake (s.pc a) g = true

def Inv3 (s : St) : Prop := ∀ g, untainted s g → s.late g = 0

structure Inv (s : St) : Prop where
  i0 : Inv0 s
  i1 : Inv1 s
  i2 : Inv2 s
  i3 : Inv3 s

end LibfiberVerif.Join
