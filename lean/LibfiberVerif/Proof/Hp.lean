/-
  Proof/Hp.lean — helper lemmas and the inductive invariants of the hazard-pointer model
  (property C14).  The property statements themselves are in Props/C14.lean.
-/
import LibfiberVerif.Model.Hp

namespace LibfiberVerif.Hp

/-! ## `binary_search` and the sort -/

def Sorted (l : List Nat) : Prop := l.Pairwise (· ≤ ·)

theorem insertSorted_perm (x : Nat) (l : List Nat) : (insertSorted x l).Perm (x :: l) := by
  induction l with
  | nil => exact .refl _
  | cons a l ih =>
    simp only [insertSorted]; split
    · exact .refl _
    · exact (ih.cons a).trans (.swap x a l)

theorem isort_perm (l : List Nat) : (isort l).Perm l := by
  induction l with
  | nil => exact .refl _
  | cons a l ih => exact (insertSorted_perm a _).trans (ih.cons a)

theorem mem_insertSorted {x y : Nat} {l : List Nat} : y ∈ insertSorted x l ↔ y = x ∨ y ∈ l :=
  (insertSorted_perm x l).mem_iff.trans List.mem_cons

theorem mem_isort {y : Nat} {l : List Nat} : y ∈ isort l ↔ y ∈ l := (isort_perm l).mem_iff

theorem length_isort (l : List Nat) : (isort l).length = l.length := (isort_perm l).length_eq

theorem sorted_insertSorted {x : Nat} {l : List Nat} (h : Sorted l) : Sorted (insertSorted x l) := by
  induction l with
  | nil => simp [insertSorted, Sorted]
  | cons a l ih =>
    simp only [insertSorted]
    simp only [Sorted, List.pairwise_cons] at h
    split
    · next hxa =>
      simp only [Sorted, List.pairwise_cons]
      refine ⟨?_, h.1, h.2⟩
      intro b hb
      simp at hb
      rcases hb with rfl | hb
      · exact hxa
      · exact Nat.le_trans hxa (h.1 b hb)
    · next hxa =>
      simp only [Sorted, List.pairwise_cons]
      refine ⟨?_, ih h.2⟩
      intro b hb
      rcases mem_insertSorted.mp hb with rfl | hb
      · omega
      · exact h.1 b hb

theorem sorted_isort (l : List Nat) : Sorted (isort l) := by
  induction l with
  | nil => simp [isort, Sorted]
  | cons a l ih => exact sorted_insertSorted ih

theorem getD_eq {l : List Nat} {i : Nat} (h : i < l.length) : l.getD i 0 = l[i] := by
  simp [List.getD_eq_getElem?_getD, h]

theorem sorted_getD {l : List Nat} (h : Sorted l) {i j : Nat} (hij : i ≤ j) (hj : j < l.length) :
    l.getD i 0 ≤ l.getD j 0 := by
  have hi : i < l.length := by omega
  rw [getD_eq hi, getD_eq hj]
  rcases Nat.lt_or_eq_of_le hij with h' | rfl
  · exact (List.pairwise_iff_getElem.mp h) i j hi hj h'
  · exact Nat.le_refl _

theorem bsLoop_fuel (hay : List Nat) (needle : Nat) (f f' : Nat) (start end_ : Int)
    (h : (end_ - start + 1).toNat < f) (h' : (end_ - start + 1).toNat < f') :
    bsLoop hay needle f start end_ = bsLoop hay needle f' start end_ := by
  induction f generalizing f' start end_ with
  | zero => omega
  | succ f ih =>
    cases f' with
    | zero => omega
    | succ f' =>
      simp only [bsLoop]
      by_cases hle : start ≤ end_
      · simp only [hle, if_true]
        have hm : (start + end_).tdiv 2 = (start + end_) / 2 ∨ (start + end_).tdiv 2 = -((-(start + end_)) / 2) := by
          rw [tdiv_two]; split <;> simp
        generalize (start + end_).tdiv 2 = middle at hm
        split
        · exact ih f' start (middle - 1) (by omega) (by omega)
        · split
          · exact ih f' (middle + 1) end_ (by omega) (by omega)
          · rfl
      · simp [hle]

theorem bsLoop_iff (hay : List Nat) (needle : Nat) (hs : Sorted hay) (fuel : Nat) (start end_ : Int)
    (hf : (end_ - start + 1).toNat < fuel)
    (h0 : 0 ≤ start) (h1 : end_ < hay.length)
    (hlo : ∀ i : Nat, (i : Int) < start → i < hay.length → hay.getD i 0 < needle)
    (hhi : ∀ i : Nat, end_ < (i : Int) → i < hay.length → needle < hay.getD i 0) :
    bsLoop hay needle fuel start end_ = true ↔ needle ∈ hay := by
  induction fuel generalizing start end_ with
  | zero => omega
  | succ fuel ih =>
    simp only [bsLoop]
    by_cases hle : start ≤ end_
    · rw [if_pos hle]
      have hm : (start + end_).tdiv 2 = (start + end_) / 2 := by rw [tdiv_two]; split <;> omega
      simp only [hm]
      generalize hmid : (start + end_) / 2 = middle
      have h3 : middle.toNat < hay.length := by omega
      by_cases hgt : hay.getD middle.toNat 0 > needle
      · rw [if_pos hgt]
        apply ih start (middle - 1) (by omega) h0 (by omega) hlo _
        intro i hi hil
        by_cases hie : end_ < (i : Int)
        · exact hhi i hie hil
        · have h2 : middle.toNat ≤ i := by omega
          have := sorted_getD hs h2 hil
          omega
      · rw [if_neg hgt]
        by_cases hlt : hay.getD middle.toNat 0 < needle
        · rw [if_pos hlt]
          apply ih (middle + 1) end_ (by omega) (by omega) h1 _ hhi
          intro i hi hil
          by_cases his : (i : Int) < start
          · exact hlo i his hil
          · have h2 : i ≤ middle.toNat := by omega
            have := sorted_getD hs h2 h3
            omega
        · rw [if_neg hlt]
          simp only [true_iff]
          have : hay.getD middle.toNat 0 = needle := by omega
          rw [← this, getD_eq h3]
          exact List.getElem_mem h3
    · rw [if_neg hle]
      simp only [Bool.false_eq_true, false_iff]
      intro hmem
      obtain ⟨i, hi, rfl⟩ := List.mem_iff_getElem.mp hmem
      by_cases his : (i : Int) < start
      · have := hlo i his hi
        rw [getD_eq hi] at this; omega
      · have := hhi i (by omega) hi
        rw [getD_eq hi] at this; omega

theorem binarySearch_iff {hay : List Nat} (hs : Sorted hay) (needle : Nat) :
    binarySearch hay needle = true ↔ needle ∈ hay := by
  unfold binarySearch
  split
  · next h => simp [List.eq_nil_of_length_eq_zero h]
  · next h =>
    apply bsLoop_iff hay needle hs _ 0 _ (by omega) (by omega) (by omega)
    · intro i hi; omega
    · intro i hi hil; omega

theorem binarySearch_isort (pl : List Nat) (n : Nat) :
    binarySearch (isort pl) n = true ↔ n ∈ pl := by
  rw [binarySearch_iff (sorted_isort pl), mem_isort]

/-! ## The accepted steps

  `step` read off once: which (program counter, event) pairs are accepted and what the successor
  state is.  The invariant proofs below work by cases on `Step`, not on `step`. -/

macro "step_cases" h:ident : tactic =>
  `(tactic| ((repeat' (split at $h:ident)) <;>
      (try (simp only [Option.some.injEq, reduceCtorEq] at $h:ident)) <;> (try subst $h:ident)))

/-- the steps that only move the program counter of thread `t`: from `p`, by event `e`, to `p'` -/
inductive PcMove (s : St) (t : Nat) : Pc → Ev → Pc → Prop
  | callJoin : PcMove s t .fresh (.callJoin t) .joinCalled
  | retJoin : PcMove s t (.joinBump 0) (.retJoin t) .idle
  | ldHead_join : PcMove s t .joinCalled (.ldHead t s.head) (.joinHead s.head)
  | ldHead_scan (c : Bool) (h0 : s.head ≠ 0) : PcMove s t (.scanStart c) (.ldHead t s.head) (.scanHead c s.head)
  | rdNext_count (ch cur cnt : Nat) (hc0 : cur ≠ 0) :
      PcMove s t (.joinCount ch cur cnt) (.rdNext t (cur - 1) (s.next (cur - 1)))
        (.joinCount ch (s.next (cur - 1)) (cnt + 1))
  | rdNext_pushed : PcMove s t .joinPushed (.rdNext t t (s.next t)) (.joinBump (s.next t))
  | rdNext_bumped (cur : Nat) (hc0 : cur ≠ 0) :
      PcMove s t (.joinBumped cur) (.rdNext t (cur - 1) (s.next (cur - 1))) (.joinBump (s.next (cur - 1)))
  | rdNext_walk (c : Bool) (h cap cur : Nat) (pl walked : List Nat) (hc0 : cur ≠ 0) :
      PcMove s t (.scanWalk c h cap cur s.k pl walked) (.rdNext t (cur - 1) (s.next (cur - 1)))
        (.scanWalk c h cap (s.next (cur - 1)) 0 pl ((cur - 1) :: walked))
  | casHead_fail (ch : Nat) (hne : ¬decide (s.head = ch) = true) :
      PcMove s t (.joinThr ch) (.casHead t s.head ch (t + 1) (decide (s.head = ch))) (.joinHead s.head)
  | ldThr_scan (hle : s.thr t ≤ s.rc t) : PcMove s t .freeInc (.ldThr t t (s.thr t)) (.scanStart true)
  | ldThr_done (hle : ¬s.thr t ≤ s.rc t) : PcMove s t .freeInc (.ldThr t t (s.thr t)) .freeDone
  | ldThr_cap (c : Bool) (h : Nat) :
      PcMove s t (.scanHead c h) (.ldThr t (h - 1) (s.thr (h - 1))) (.scanWalk c h (s.thr (h - 1) / 2) h 0 [] [])
  | rdRc_free : PcMove s t .freeCalled (.rdRc t t (s.rc t)) (.freeRc (s.rc t))
  | rdRc_keep (c : Bool) (sp : List Nat) (n : Nat) (todo : List Nat) (hbs : binarySearch sp n = true) :
      PcMove s t (.scanDecide c sp (n :: todo)) (.rdRc t t (s.rc t)) (.scanKeep c sp n todo (s.rc t))
  | rdHp (c : Bool) (h cap cur j : Nat) (pl walked : List Nat) (hc0 : cur ≠ 0) (hjk : j < s.k) :
      PcMove s t (.scanWalk c h cap cur j pl walked) (.rdHp t (cur - 1) j (s.hp (cur - 1) j))
        (.scanWalk c h cap cur (j + 1)
          (if s.hp (cur - 1) j = 0 then pl else pl ++ [s.hp (cur - 1) j]) walked)
  | fence (g sl p : Nat) : PcMove s t (.acqPublished g sl p) (.fence t) (.acqFenced g sl p)
  | ldG_null (g sl : Nat) (h0 : 0 = s.g g) : PcMove s t (.acqCalled g sl) (.ldG t g 0) (.acqRet 0)
  | ldG_load (g sl : Nat) (h0 : ¬s.g g = 0) :
      PcMove s t (.acqCalled g sl) (.ldG t g (s.g g)) (.acqLoaded g sl (s.g g))
  | ldG_retry (g sl p : Nat) (hvp : ¬s.g g = p) : PcMove s t (.acqFenced g sl p) (.ldG t g (s.g g)) (.acqCalled g sl)
  | validated (sl p : Nat) : PcMove s t (.acqValidated sl p) (.validated t sl p) (.acqUse sl p)
  | use (sl p : Nat) : PcMove s t (.acqUse sl p) (.use t sl p) (.acqRet p)
  | retAcq (p : Nat) : PcMove s t (.acqRet p) (.retAcq t p) .idle
  | callAcq (g sl : Nat) (hsl : sl < s.k) : PcMove s t .idle (.callAcq t g sl) (.acqCalled g sl)
  | callRel (sl : Nat) (hsl : sl < s.k) : PcMove s t .idle (.callRel t sl) (.relCalled sl)
  | retRel : PcMove s t .relDone (.retRel t) .idle
  | callX (g : Nat) : PcMove s t .idle (.callX t g) (.xCalled g)
  | alloc_null (g : Nat) : PcMove s t (.xCalled g) (.alloc t 0) (.xAlloc g 0)
  | retRetire_free : PcMove s t .freeDone (.retRetire t) .xNote
  | retRetire_scan (sp : List Nat) : PcMove s t (.scanDecide true sp []) (.retRetire t) .xNote
  | rcNote_x : PcMove s t .xNote (.rcNote t t (s.rc t)) .xRet
  | rcNote_scan : PcMove s t .scanNote (.rcNote t t (s.rc t)) .idle
  | retX_null : PcMove s t (.xDone 0) (.retX t) .idle
  | retX : PcMove s t .xRet (.retX t) .idle
  | callScan : PcMove s t .idle (.callScan t) (.scanStart false)
  | retScan (sp : List Nat) : PcMove s t (.scanDecide false sp []) (.retScan t) .scanNote

inductive Step (s : St) : Ev → St → Prop
  | move (t : Nat) (p p' : Pc) (e : Ev) (hpc : s.pc t = p) (hm : PcMove s t p e p') : Step s e (setPc s t p')
  | wrNext (t ch : Nat) (hpc : s.pc t = .joinHead ch) :
      Step s (.wrNext t t ch) { s with next := upd s.next t ch, pc := upd s.pc t (.joinCount ch ch 1) }
  | stThr (t ch cnt : Nat) (hpc : s.pc t = .joinCount ch 0 cnt) :
      Step s (.stThr t t (2 * cnt * s.k))
        { s with thr := upd s.thr t (2 * cnt * s.k), pc := upd s.pc t (.joinThr ch) }
  | casHead (t ch : Nat) (hpc : s.pc t = .joinThr ch) (heq : true = decide (s.head = ch)) :
      Step s (.casHead t s.head ch (t + 1) true)
        { s with head := t + 1, recs := t :: s.recs, older := upd s.older t s.recs, pc := upd s.pc t .joinPushed }
  | faddThr (t cur : Nat) (hpc : s.pc t = .joinBump cur) (hc0 : cur ≠ 0) :
      Step s (.faddThr t (cur - 1) (s.thr (cur - 1)) (2 * s.k))
        { s with thr := upd s.thr (cur - 1) (s.thr (cur - 1) + 2 * s.k),
                 bumpedBy := upd s.bumpedBy (cur - 1) (t :: s.bumpedBy (cur - 1)),
                 pc := upd s.pc t (.joinBumped cur) }
  | wrRc_free (t v0 : Nat) (hpc : s.pc t = .freeRc v0) :
      Step s (.wrRc t t (v0 + 1)) { s with rc := upd s.rc t (v0 + 1), pc := upd s.pc t .freeInc }
  | wrRc_sort (t : Nat) (c : Bool) (h cap i : Nat) (pl walked : List Nat)
      (hpc : s.pc t = .scanWalk c h cap 0 i pl walked) :
      Step s (.wrRc t t 0)
        { s with rc := upd s.rc t 0, rlist := upd s.rlist t [],
                 pc := upd s.pc t (.scanDecide c (isort pl) (s.rlist t)) }
  | wrRc_keep (t : Nat) (c : Bool) (sp : List Nat) (n : Nat) (todo : List Nat) (v0 : Nat)
      (hpc : s.pc t = .scanKeep c sp n todo v0) :
      Step s (.wrRc t t (v0 + 1))
        { s with rc := upd s.rc t (v0 + 1), rlist := upd s.rlist t (n :: s.rlist t),
                 pc := upd s.pc t (.scanDecide c sp todo) }
  | reclaim (t : Nat) (c : Bool) (sp : List Nat) (n : Nat) (todo : List Nat)
      (hpc : s.pc t = .scanDecide c sp (n :: todo)) (hbs : binarySearch sp n = false) :
      Step s (.reclaim t n) { s with ns := upd s.ns n .free, pc := upd s.pc t (.scanDecide c sp todo) }
  | wrHp_acq (t g sl p : Nat) (hpc : s.pc t = .acqLoaded g sl p) :
      Step s (.wrHp t t sl p)
        { s with hp := upd2 s.hp t sl p, prot := upd2 s.prot t sl 0, pc := upd s.pc t (.acqPublished g sl p) }
  | wrHp_rel (t sl : Nat) (hpc : s.pc t = .relCalled sl) :
      Step s (.wrHp t t sl 0)
        { s with hp := upd2 s.hp t sl 0, prot := upd2 s.prot t sl 0, pc := upd s.pc t .relDone }
  | ldG_valid (t g sl : Nat) (hpc : s.pc t = .acqFenced g sl (s.g g)) :
      Step s (.ldG t g (s.g g))
        { s with prot := upd2 s.prot t sl (s.g g), pc := upd s.pc t (.acqValidated sl (s.g g)) }
  | use_idle (t sl : Nat) (hpc : s.pc t = .idle) (hn : s.prot t sl ≠ 0) : Step s (.use t sl (s.prot t sl)) s
  | alloc (t g n : Nat) (hpc : s.pc t = .xCalled g) (h0 : ¬n = 0) (hfree : s.ns n = .free) :
      Step s (.alloc t n) { s with ns := upd s.ns n (.priv t), pc := upd s.pc t (.xAlloc g n) }
  | xchgG (t g new : Nat) (hpc : s.pc t = .xAlloc g new) :
      Step s (.xchgG t g (s.g g) new)
        { s with g := upd s.g g new,
                 ns := if s.g g = 0 then (if new = 0 then s.ns else upd s.ns new .inG)
                       else upd (if new = 0 then s.ns else upd s.ns new .inG) (s.g g) (.unl t),
                 pc := upd s.pc t (.xDone (s.g g)) }
  | callRetire (t n : Nat) (hpc : s.pc t = .xDone n) (h0 : n ≠ 0) :
      Step s (.callRetire t n)
        { s with rlist := upd s.rlist t (n :: s.rlist t), ns := upd s.ns n (.retired t),
                 pc := upd s.pc t .freeCalled }

theorem step_sound {s s' : St} {e : Ev} (h : step s e = some s') : Step s e s' := by
  -- for a constructor `e`, `whnf` turns `step s e` into the guarded `match` on `s.pc t` that the event's
  -- step function is; `step_cases` then leaves one goal per accepting branch
  cases e with
  -- the successor of these two contains an `if` that is to stay
  | xchgG t g old new =>
    conv at h => lhs; whnf
    split at h
    · split at h
      · next hpc hv => cases h; obtain ⟨rfl, rfl, rfl⟩ := hv; exact .xchgG _ _ _ hpc
      · cases h
    · cases h
  | rdHp t r i v =>
    conv at h => lhs; whnf
    split at h
    · split at h
      · next hpc hv =>
        cases h; obtain ⟨hc0, hjk, rfl, rfl, rfl⟩ := hv
        exact .move _ _ _ _ hpc (.rdHp _ _ _ _ _ _ _ hc0 hjk)
      · cases h
    · cases h
  | _ =>
    conv at h => lhs; whnf
    step_cases h
    all_goals (repeat (cases ‹_ ∧ _›))
    all_goals subst_vars
    all_goals first | (refine .move _ _ _ _ ‹_› ?_; constructor <;> assumption) | (constructor <;> assumption)

theorem PcMove.tid {s : St} {t : Nat} {p p' : Pc} {e : Ev} (h : PcMove s t p e p') : e.tid = t := by
  cases h <;> rfl

theorem PcMove.joined {s : St} {t : Nat} {p p' : Pc} {e : Ev} (h : PcMove s t p e p')
    (hj : p.joined = true) : p'.joined = true := by
  cases h <;> first | rfl | cases hj

/-! ## The push-only record list and the thresholds (invariant `Inv1`) -/

/-- records reachable from the record pointer `p` (through the immutable `next` fields) -/
def chain (s : St) (p : Nat) : List Nat := if p = 0 then [] else (p - 1) :: s.older (p - 1)

def ptrOk (s : St) (p : Nat) : Prop := p = 0 ∨ p - 1 ∈ s.recs

theorem chain_congr {s s' : St} {q : Nat} (h : ∀ w ∈ s.recs, s'.older w = s.older w) (hq : ptrOk s q) :
    chain s' q = chain s q := by
  unfold chain
  split
  · rfl
  · next h0 => rw [h _ (Or.resolve_left hq h0)]

/-- the CAS on `*head` has succeeded -/
def Pc.pushed : Pc → Bool
  | .fresh | .joinCalled | .joinHead _ | .joinCount _ _ _ | .joinThr _ => false
  | _ => true

/-- `r` is still to be bumped by a joiner whose program counter is `p` -/
def pend (s : St) (p : Pc) (r : Nat) : Prop :=
  match p with
  | .joinPushed => True
  | .joinBump cur => r ∈ chain s cur
  | .joinBumped cur => r ∈ s.older (cur - 1)
  | _ => False

structure Inv1 (s : St) : Prop where
  hd : s.recs = chain s s.head
  nd : s.recs.Nodup
  old_sub : ∀ t ∈ s.recs, ∀ u ∈ s.older t, u ∈ s.recs
  old_nd : ∀ t ∈ s.recs, (s.older t).Nodup
  nxt : ∀ t ∈ s.recs, chain s (s.next t) = s.older t
  rank1 : ∀ t ∈ s.recs, (s.older t).length < s.recs.length
  rank2 : ∀ t ∈ s.recs, ∀ u ∈ s.older t, (s.older u).length < (s.older t).length
  tri : ∀ a ∈ s.recs, ∀ b ∈ s.recs, a = b ∨ a ∈ s.older b ∨ b ∈ s.older a
  pushed : ∀ t, t ∈ s.recs ↔ (s.pc t).pushed = true
  jhead : ∀ t ch, s.pc t = .joinHead ch → ptrOk s ch
  jcount : ∀ t ch cur cnt, s.pc t = .joinCount ch cur cnt →
    s.next t = ch ∧ ptrOk s ch ∧ ptrOk s cur ∧ cnt + (chain s cur).length = 1 + (chain s ch).length
  jthr : ∀ t ch, s.pc t = .joinThr ch →
    s.next t = ch ∧ ptrOk s ch ∧ s.thr t = 2 * (1 + (chain s ch).length) * s.k
  jbump : ∀ t cur, s.pc t = .joinBump cur → ptrOk s cur ∧ ∀ r ∈ chain s cur, r ∈ s.older t
  jbumped : ∀ t cur, s.pc t = .joinBumped cur →
    cur ≠ 0 ∧ cur - 1 ∈ s.recs ∧ cur - 1 ∈ s.older t ∧ ∀ r ∈ s.older (cur - 1), r ∈ s.older t
  thr_eq : ∀ t ∈ s.recs, s.thr t = 2 * (1 + (s.older t).length + (s.bumpedBy t).length) * s.k
  b1 : ∀ j ∈ s.recs, ∀ r ∈ s.older j, j ∈ s.bumpedBy r ∨ pend s (s.pc j) r
  b2 : ∀ r, ∀ j ∈ s.bumpedBy r, j ∈ s.recs ∧ r ∈ s.older j
  b3 : ∀ r, (s.bumpedBy r).Nodup
  b4 : ∀ j r, pend s (s.pc j) r → j ∉ s.bumpedBy r

theorem joined_pushed {p : Pc} (h : p.joined = true) : p.pushed = true := by
  cases p <;> simp_all [Pc.joined, Pc.pushed]

theorem pend_joined {s : St} {p : Pc} {r : Nat} (h : p.joined = true) : ¬ pend s p r := by
  cases p <;> simp_all [Pc.joined, pend]

@[simp] theorem chain_setPc (s : St) (t : Nat) (p : Pc) (q : Nat) : chain (setPc s t p) q = chain s q := rfl
@[simp] theorem ptrOk_setPc (s : St) (t : Nat) (p : Pc) (q : Nat) : ptrOk (setPc s t p) q = ptrOk s q := rfl
@[simp] theorem pend_setPc (s : St) (t : Nat) (p q : Pc) (r : Nat) : pend (setPc s t p) q r = pend s q r := by
  cases q <;> rfl


theorem Inv1.head_ok {s : St} (h : Inv1 s) : ptrOk s s.head := by
  unfold ptrOk
  by_cases h0 : s.head = 0
  · exact Or.inl h0
  · right; rw [h.hd]; simp [chain, h0]

theorem Inv1.ptrOk_next {s : St} (h : Inv1 s) {u : Nat} (hu : u ∈ s.recs) : ptrOk s (s.next u) := by
  unfold ptrOk
  by_cases h0 : s.next u = 0
  · exact Or.inl h0
  · right
    apply h.old_sub u hu
    rw [← h.nxt u hu]; simp [chain, h0]

theorem Inv1.not_mem_older_self {s : St} (h : Inv1 s) {u : Nat} (hu : u ∈ s.recs) : u ∉ s.older u := by
  intro hm; have := h.rank2 u hu u hm; omega

theorem Inv1.bumpedBy_nil {s : St} (h : Inv1 s) {t : Nat} (ht : t ∉ s.recs) : s.bumpedBy t = [] := by
  apply List.eq_nil_iff_forall_not_mem.mpr
  intro j hj
  have := h.b2 t j hj
  exact ht (h.old_sub j this.1 t this.2)

/-- what is known of a thread inside `create_and_push`, by program counter -/
def JoinOk (s : St) (t : Nat) : Pc → Prop
  | .joinHead ch => ptrOk s ch
  | .joinCount ch cur cnt =>
    s.next t = ch ∧ ptrOk s ch ∧ ptrOk s cur ∧ cnt + (chain s cur).length = 1 + (chain s ch).length
  | .joinThr ch => s.next t = ch ∧ ptrOk s ch ∧ s.thr t = 2 * (1 + (chain s ch).length) * s.k
  | .joinBump cur => ptrOk s cur ∧ ∀ r ∈ chain s cur, r ∈ s.older t
  | .joinBumped cur =>
    cur ≠ 0 ∧ cur - 1 ∈ s.recs ∧ cur - 1 ∈ s.older t ∧ ∀ r ∈ s.older (cur - 1), r ∈ s.older t
  | _ => True

/-- The inductive invariant behind `Inv1`.  Everything `Inv1` says about the shape of the list follows
    from `suf` and `nd`, everything it says about who has bumped whom from `bmem` (`Core.inv1`). -/
structure Core (s : St) : Prop where
  hd : s.recs = chain s s.head
  nd : s.recs.Nodup
  /-- `older t` is the part of the list below `t` -/
  suf : ∀ t ∈ s.recs, (t :: s.older t) <:+ s.recs
  nxt : ∀ t ∈ s.recs, chain s (s.next t) = s.older t
  pushed : ∀ t, t ∈ s.recs ↔ (s.pc t).pushed = true
  join : ∀ t, JoinOk s t (s.pc t)
  thr_eq : ∀ t ∈ s.recs, s.thr t = 2 * (1 + (s.older t).length + (s.bumpedBy t).length) * s.k
  /-- the joiners that have bumped `r` are the records above `r` that no longer have `r` ahead of them in
      their bump loop -/
  bmem : ∀ j r, j ∈ s.bumpedBy r ↔ j ∈ s.recs ∧ r ∈ s.older j ∧ ¬pend s (s.pc j) r
  b3 : ∀ r, (s.bumpedBy r).Nodup

/-- in a duplicate-free list, the suffix that starts at `u` lies inside every suffix that contains `u` -/
theorem suffix_of_mem {l A B : List Nat} {u : Nat} (hl : l.Nodup) (hA : (u :: A) <:+ l) (hB : B <:+ l)
    (hu : u ∈ B) : (u :: A) <:+ B := by
  rcases List.suffix_or_suffix_of_suffix hA hB with h | h
  · exact h
  · rcases List.suffix_cons_iff.mp h with rfl | h
    · exact List.suffix_refl _
    · exact absurd (h.subset hu) (List.nodup_cons.mp (hl.sublist hA.sublist)).1

theorem Core.below {s : St} (h : Core s) {t u : Nat} (ht : t ∈ s.recs) (hu : u ∈ s.older t) :
    (u :: s.older u) <:+ s.older t :=
  have hs := h.suf t ht
  suffix_of_mem h.nd (h.suf u (hs.subset (List.mem_cons_of_mem _ hu)))
    ((List.suffix_cons _ _).trans hs) hu

theorem Core.inv1 {s : St} (h : Core s) : Inv1 s where
  hd := h.hd
  nd := h.nd
  old_sub t ht u hu := (h.suf t ht).subset (List.mem_cons_of_mem _ hu)
  old_nd t ht := (List.nodup_cons.mp (h.nd.sublist (h.suf t ht).sublist)).2
  nxt := h.nxt
  rank1 t ht := (h.suf t ht).length_le
  rank2 t ht u hu := (h.below ht hu).length_le
  tri a ha b hb := by
    rcases List.suffix_or_suffix_of_suffix (h.suf a ha) (h.suf b hb) with hs | hs <;>
      rcases List.suffix_cons_iff.mp hs with e | hs
    · exact Or.inl (List.cons.inj e).1
    · exact Or.inr (Or.inl (hs.subset List.mem_cons_self))
    · exact Or.inl (List.cons.inj e).1.symm
    · exact Or.inr (Or.inr (hs.subset List.mem_cons_self))
  pushed := h.pushed
  jhead t ch e := by have := h.join t; rwa [e] at this
  jcount t ch cur cnt e := by have := h.join t; rwa [e] at this
  jthr t ch e := by have := h.join t; rwa [e] at this
  jbump t cur e := by have := h.join t; rwa [e] at this
  jbumped t cur e := by have := h.join t; rwa [e] at this
  thr_eq := h.thr_eq
  b1 j hj r hr := by
    by_cases hp : pend s (s.pc j) r
    · exact Or.inr hp
    · exact Or.inl ((h.bmem j r).mpr ⟨hj, hr, hp⟩)
  b2 r j hj := ⟨((h.bmem j r).mp hj).1, ((h.bmem j r).mp hj).2.1⟩
  b3 := h.b3
  b4 j r hp hj := ((h.bmem j r).mp hj).2.2 hp

/-- what a thread inside `create_and_push` knows survives a step that leaves its own cells alone,
    keeps the records and the lists below them -/
theorem JoinOk.stable {s s' : St} {u : Nat} {p : Pc} (h : JoinOk s u p) (hk : s'.k = s.k)
    (hnext : s'.next u = s.next u) (hthr : ∀ ch, p = .joinThr ch → s'.thr u = s.thr u)
    (hou : s'.older u = s.older u)
    (hrecs : ∀ w ∈ s.recs, w ∈ s'.recs) (hold : ∀ w ∈ s.recs, s'.older w = s.older w) :
    JoinOk s' u p := by
  have hch : ∀ q, ptrOk s q → chain s' q = chain s q := fun q hq => chain_congr hold hq
  have hok : ∀ q, ptrOk s q → ptrOk s' q := fun q hq => hq.imp_right (hrecs _)
  cases p <;> simp only [JoinOk, hk, hnext, hou] at h ⊢
  · exact hok _ h
  · exact ⟨h.1, hok _ h.2.1, hok _ h.2.2.1, by rw [hch _ h.2.1, hch _ h.2.2.1]; exact h.2.2.2⟩
  · exact ⟨h.1, hok _ h.2.1, by rw [hthr _ rfl, hch _ h.2.1]; exact h.2.2⟩
  · exact ⟨hok _ h.1, by rw [hch _ h.1]; exact h.2⟩
  · exact ⟨h.1, hrecs _ h.2.1, h.2.2.1, by rw [hold _ h.2.1]; exact h.2.2.2⟩

theorem JoinOk.pend {s s' : St} {u r : Nat} {p : Pc} (h : JoinOk s u p)
    (hold : ∀ w ∈ s.recs, s'.older w = s.older w) : pend s' p r ↔ pend s p r := by
  cases p <;> simp only [Hp.pend]
  · rw [chain_congr hold h.1]
  · rw [hold _ h.2.1]

theorem Core.casHead {s S : St} {t exp : Nat} (h : Core s) (hpc : s.pc t = .joinThr exp)
    (hfe : s.head = exp)
    (hS_head : S.head = t + 1) (hS_recs : S.recs = t :: s.recs)
    (hS_older : ∀ u, S.older u = if u = t then s.recs else s.older u)
    (hS_pc : ∀ u, S.pc u = if u = t then Pc.joinPushed else s.pc u)
    (hS_next : S.next = s.next) (hS_thr : S.thr = s.thr) (hS_k : S.k = s.k)
    (hS_b : S.bumpedBy = s.bumpedBy) : Core S := by
  have hj := h.join t
  rw [hpc] at hj
  obtain ⟨hn, hexp, hthr⟩ := hj
  have ht : t ∉ s.recs := by rw [h.pushed, hpc]; simp [Pc.pushed]
  have hrecs : chain s exp = s.recs := by rw [← hfe]; exact h.hd.symm
  have hSo : ∀ u, u ≠ t → S.older u = s.older u := fun u e => by rw [hS_older, if_neg e]
  have hSt : S.older t = s.recs := by rw [hS_older, if_pos rfl]
  have hold : ∀ u ∈ s.recs, S.older u = s.older u := fun u hu => hSo u fun e => ht (e ▸ hu)
  have hsub : ∀ w ∈ s.recs, w ∈ S.recs := fun w hw => by rw [hS_recs]; exact List.mem_cons_of_mem _ hw
  constructor
  case hd => rw [hS_recs, hS_head]; simp [chain, hS_older]
  case nd => rw [hS_recs]; exact List.nodup_cons.mpr ⟨ht, h.nd⟩
  case suf =>
    rw [hS_recs, List.forall_mem_cons]
    exact ⟨by rw [hSt]; exact List.suffix_refl _,
      fun u hu => by rw [hold u hu]; exact (h.suf u hu).trans (List.suffix_cons _ _)⟩
  case nxt =>
    rw [hS_recs, List.forall_mem_cons, hS_next]
    exact ⟨by rw [hn, chain_congr hold hexp, hrecs, hSt],
      fun u hu => by rw [chain_congr hold (h.inv1.ptrOk_next hu), hold u hu]; exact h.nxt u hu⟩
  case pushed =>
    intro u
    rw [hS_recs, hS_pc]; split
    · next e => simp [e, Pc.pushed]
    · next e => simp [e, h.pushed u]
  case join =>
    intro u
    rw [hS_pc]; split
    · trivial
    · next e => exact (h.join u).stable hS_k (by rw [hS_next]) (fun _ _ => by rw [hS_thr]) (hSo u e) hsub hold
  case thr_eq =>
    rw [hS_recs, List.forall_mem_cons, hS_thr, hS_k, hS_b]
    refine ⟨?_, fun u hu => by rw [hold u hu]; exact h.thr_eq u hu⟩
    rw [hSt, hthr, hrecs, h.inv1.bumpedBy_nil ht]; simp
  case bmem =>
    intro j r
    rw [hS_b, hS_pc, hS_recs, h.bmem]; split
    · next e => subst e; simp [ht, pend]
    · next e => rw [hSo j e, (h.join j).pend hold, List.mem_cons, or_iff_right e]
  case b3 => rw [hS_b]; exact h.b3

theorem Core.faddThr {s : St} {t cur : Nat} (h : Core s) (hpc : s.pc t = .joinBump cur) (hc0 : cur ≠ 0) :
    Core { s with thr := upd s.thr (cur - 1) (s.thr (cur - 1) + 2 * s.k),
                  bumpedBy := upd s.bumpedBy (cur - 1) (t :: s.bumpedBy (cur - 1)),
                  pc := upd s.pc t (.joinBumped cur) } := by
  have hj := h.join t
  rw [hpc] at hj
  obtain ⟨hok, hsub⟩ := hj
  have hr0 : cur - 1 ∈ s.recs := hok.resolve_left hc0
  have hchain : chain s cur = (cur - 1) :: s.older (cur - 1) := by simp [chain, hc0]
  have ht : t ∈ s.recs := by rw [h.pushed, hpc]; rfl
  have hto : cur - 1 ∈ s.older t := hsub _ (by simp [hchain])
  have hmem : ∀ j r, j ∈ upd s.bumpedBy (cur - 1) (t :: s.bumpedBy (cur - 1)) r ↔
      j ∈ s.bumpedBy r ∨ (j = t ∧ r = cur - 1) := by
    intro j r
    by_cases e : r = cur - 1
    · subst e; simp [or_comm]
    · simp [e]
  refine { h with pushed := ?_, join := ?_, thr_eq := ?_, bmem := ?_, b3 := ?_ }
  · intro u; show _ ↔ (upd s.pc t _ u).pushed = true
    by_cases e : u = t
    · subst e; simp [Pc.pushed, ht]
    · rw [upd_other _ _ _ _ e]; exact h.pushed u
  · intro u; show JoinOk _ u (upd s.pc t _ u)
    by_cases e : u = t
    · subst e; rw [upd_same]
      exact ⟨hc0, hr0, hto, fun r hr => hsub r (by simp [hchain, hr])⟩
    · rw [upd_other _ _ _ _ e]
      refine (h.join u).stable rfl rfl (fun ch hp => upd_other _ _ _ _ ?_) rfl (fun _ hw => hw) (fun _ _ => rfl)
      -- a thread about to CAS is not in the list yet, so it is not the record being bumped
      intro e'; subst e'
      have := (h.pushed _).mp hr0
      rw [hp] at this; cases this
  · intro u hu
    show upd s.thr _ _ u = 2 * (1 + _ + (upd s.bumpedBy _ _ u).length) * s.k
    by_cases e : u = cur - 1
    · subst e; simp only [upd_same, List.length_cons]
      have := h.thr_eq _ hr0
      grind
    · rw [upd_other _ _ _ _ e, upd_other _ _ _ _ e]; exact h.thr_eq u hu
  · intro j r
    show j ∈ upd s.bumpedBy _ _ r ↔ _ ∧ _ ∧ ¬pend s (upd s.pc t _ j) r
    rw [hmem, h.bmem]
    by_cases e : j = t
    · subst e
      rw [upd_same, hpc]
      simp only [pend, hchain, List.mem_cons]
      by_cases er : r = cur - 1
      · subst er; simp [ht, hto, h.inv1.not_mem_older_self hr0]
      · simp [er]
    · rw [upd_other _ _ _ _ e]; simp [e]
  · intro r
    show (upd s.bumpedBy _ _ r).Nodup
    by_cases e : r = cur - 1
    · subst e; simp only [upd_same, List.nodup_cons]
      refine ⟨fun hm => ((h.bmem _ _).mp hm).2.2 ?_, h.b3 _⟩
      simp [hpc, pend, hchain]
    · rw [upd_other _ _ _ _ e]; exact h.b3 r

@[simp] theorem JoinOk_setPc (s : St) (t : Nat) (p : Pc) (u : Nat) (q : Pc) :
    JoinOk (setPc s t p) u q = JoinOk s u q := by
  cases q <;> rfl

theorem JoinOk.of_joined {s : St} {t : Nat} {p : Pc} (h : p.joined = true) : JoinOk s t p := by
  cases p <;> first | trivial | cases h

/-- A step of `t` that writes, of what `Core` reads, its program counter and — while its record is
    not in the list — its own `next` and `retire_threshold`: `p'` is on the same side of the CAS, what
    is known at `p'` holds, and the same records are still ahead of the joiner. -/
theorem Core.own {s s' : St} (h : Core s) (t : Nat) (p' : Pc) (hk : s'.k = s.k) (hhead : s'.head = s.head)
    (hrecs : s'.recs = s.recs) (holder : s'.older = s.older) (hb : s'.bumpedBy = s.bumpedBy)
    (hpc : s'.pc = upd s.pc t p') (hnext : ∀ u, u ≠ t ∨ u ∈ s.recs → s'.next u = s.next u)
    (hthr : ∀ u, u ≠ t ∨ u ∈ s.recs → s'.thr u = s.thr u) (hpushed : p'.pushed = (s.pc t).pushed)
    (hj : JoinOk s' t p') (hpend : ∀ r ∈ s.older t, pend s p' r ↔ pend s (s.pc t) r) : Core s' := by
  have hch : ∀ q, chain s' q = chain s q := fun q => by simp only [chain, holder]
  have hpd : ∀ q r, pend s' q r = pend s q r := fun q r => by cases q <;> simp only [pend, hch, holder]
  constructor
  case hd => rw [hrecs, hhead, hch]; exact h.hd
  case nd => rw [hrecs]; exact h.nd
  case suf => rw [hrecs, holder]; exact h.suf
  case nxt => rw [hrecs, holder]; intro u hu; rw [hnext u (.inr hu), hch]; exact h.nxt u hu
  case pushed =>
    intro u; rw [hrecs, hpc]
    by_cases e : u = t
    · subst e; rw [upd_same, hpushed]; exact h.pushed u
    · rw [upd_other _ _ _ _ e]; exact h.pushed u
  case join =>
    intro u; rw [hpc]
    by_cases e : u = t
    · subst e; rw [upd_same]; exact hj
    · rw [upd_other _ _ _ _ e]
      exact (h.join u).stable hk (hnext u (.inl e)) (fun _ _ => hthr u (.inl e)) (by rw [holder])
        (fun _ hw => hrecs ▸ hw) (fun _ _ => by rw [holder])
  case thr_eq =>
    rw [hrecs, holder, hb, hk]; intro u hu; rw [hthr u (.inr hu)]; exact h.thr_eq u hu
  case bmem =>
    intro j r; rw [hb, hrecs, holder, hpd, hpc, h.bmem]
    by_cases e : j = t
    · subst e; rw [upd_same]
      exact and_congr_right fun _ => and_congr_right fun hr => not_congr (hpend r hr).symm
    · rw [upd_other _ _ _ _ e]
  case b3 => rw [hb]; exact h.b3

theorem Core.setPc {s : St} (h : Core s) (t : Nat) (p' : Pc) (hpushed : p'.pushed = (s.pc t).pushed)
    (hjoin : JoinOk s t p') (hpend : ∀ r ∈ s.older t, pend s p' r ↔ pend s (s.pc t) r) :
    Core (Hp.setPc s t p') :=
  h.own t p' rfl rfl rfl rfl rfl rfl (fun _ _ => rfl) (fun _ _ => rfl) hpushed
    ((JoinOk_setPc ..).mpr hjoin) hpend

theorem Core.move {s : St} {t : Nat} {p p' : Pc} {e : Ev} (h : Core s) (hpc : s.pc t = p)
    (hm : PcMove s t p e p') : Core (Hp.setPc s t p') := by
  have hj := h.join t
  rw [hpc] at hj
  by_cases hjd : p.joined = true
  · have hjd' := hm.joined hjd
    exact h.setPc t p' (by rw [hpc, joined_pushed hjd, joined_pushed hjd']) (.of_joined hjd')
      (fun _ _ => iff_of_false (pend_joined hjd') (hpc ▸ pend_joined hjd))
  -- otherwise it is one of the moves of `create_and_push`
  cases hm with
  | callJoin => exact h.setPc t _ (by rw [hpc]; rfl) (by trivial) (fun r _ => by rw [hpc]; rfl)
  | retJoin => exact h.setPc t _ (by rw [hpc]; rfl) (by trivial) (fun r _ => by simp [hpc, pend, chain])
  | ldHead_join => exact h.setPc t _ (by rw [hpc]; rfl) (by exact h.inv1.head_ok) (fun r _ => by rw [hpc]; rfl)
  | casHead_fail ch hne => exact h.setPc t _ (by rw [hpc]; rfl) (by exact h.inv1.head_ok) (fun r _ => by rw [hpc]; rfl)
  | rdNext_count ch cur cnt hc0 =>
    obtain ⟨hn, hok, hcur, hcnt⟩ := hj
    have hr : cur - 1 ∈ s.recs := hcur.resolve_left hc0
    refine h.setPc t _ (by rw [hpc]; rfl) ?_ (fun r _ => by rw [hpc]; rfl)
    refine ⟨hn, hok, h.inv1.ptrOk_next hr, ?_⟩
    rw [h.nxt _ hr]
    have hl : (chain s cur).length = 1 + (s.older (cur - 1)).length := by simp [chain, hc0]; omega
    omega
  | rdNext_pushed =>
    have hr : t ∈ s.recs := by rw [h.pushed, hpc]; rfl
    exact h.setPc t _ (by rw [hpc]; rfl) (by exact ⟨h.inv1.ptrOk_next hr, by rw [h.nxt _ hr]; exact fun r hr => hr⟩)
      (fun r hr' => by simp [hpc, pend, h.nxt _ hr, hr'])
  | rdNext_bumped cur hc0 =>
    obtain ⟨_, hr, _, hsub⟩ := hj
    exact h.setPc t _ (by rw [hpc]; rfl) (by exact ⟨h.inv1.ptrOk_next hr, by rw [h.nxt _ hr]; exact hsub⟩)
      (fun r _ => by simp [hpc, pend, h.nxt _ hr])
  | _ => exact absurd rfl hjd

theorem core_init (k : Nat) : Core (init k) := by
  constructor <;> simp [init, chain, JoinOk, pend, Pc.pushed]

theorem Core.step {s s' : St} {e : Ev} (h : Core s) (hs : step s e = some s') : Core s' := by
  cases step_sound hs with
  | move t p p' e hpc hm => exact h.move hpc hm
  | wrNext r v hpc =>
    have ht : r ∉ s.recs := by rw [h.pushed, hpc]; simp [Pc.pushed]
    have hok : ptrOk s v := by have := h.join r; rwa [hpc] at this
    exact h.own r _ rfl rfl rfl rfl rfl rfl (fun u hu => upd_other _ _ _ _ (hu.elim id fun hr e => ht (e ▸ hr)))
      (fun _ _ => rfl) (by rw [hpc]; rfl) ⟨upd_same _ _ _, hok, hok, rfl⟩ (fun _ _ => by rw [hpc]; rfl)
  | stThr r ch cnt hpc =>
    have ht : r ∉ s.recs := by rw [h.pushed, hpc]; simp [Pc.pushed]
    obtain ⟨hn, hok, _, hcnt⟩ : JoinOk s r (.joinCount ch 0 cnt) := by have := h.join r; rwa [hpc] at this
    refine h.own r _ rfl rfl rfl rfl rfl rfl (fun _ _ => rfl)
      (fun u hu => upd_other _ _ _ _ (hu.elim id fun hr e => ht (e ▸ hr))) (by rw [hpc]; rfl) ⟨hn, hok, ?_⟩
      (fun _ _ => by rw [hpc]; rfl)
    have : cnt = 1 + (chain s ch).length := by simpa [chain] using hcnt
    show upd s.thr r (2 * cnt * s.k) r = _
    rw [upd_same, this]; rfl
  | casHead t ch hpc heq =>
    apply h.casHead hpc (of_decide_eq_true heq.symm) rfl rfl
    · intro u; simp [upd]
    · intro u; simp [upd]
    all_goals rfl
  | faddThr t cur hpc hc0 => exact h.faddThr hpc hc0
  | use_idle => exact h
  -- the other steps are of a thread that has joined and write nothing that `Core` reads
  | _ =>
    exact h.own _ _ rfl rfl rfl rfl rfl rfl (fun _ _ => rfl) (fun _ _ => rfl) (by rw [‹s.pc _ = _›]; rfl)
      (.of_joined rfl) (fun _ _ => iff_of_false (pend_joined rfl) (by rw [‹s.pc _ = _›]; exact pend_joined rfl))

theorem core_of_run {k : Nat} {es : List Ev} {s : St} (h : (sys k).run es = some s) : Core s :=
  Sys.inv_of_run (sys k) Core (core_init k) (fun _ _ _ hi hs => hi.step hs) h

theorem inv1_of_run {k : Nat} {es : List Ev} {s : St} (h : (sys k).run es = some s) : Inv1 s :=
  (core_of_run h).inv1

/-! ## The client protocol, the retired lists and the coverage of a scan (invariant `Inv2`) -/

/-- the part of the old retired list a scanning thread still has to decide -/
def Pc.todo : Pc → List Nat
  | .scanDecide _ _ todo => todo
  | .scanKeep _ _ n todo _ => n :: todo
  | _ => []

def NSt.live : NSt → Bool
  | .inG | .unl _ | .retired _ => true
  | _ => false

theorem PcMove.todo {s : St} {t : Nat} {p p' : Pc} {e : Ev} (h : PcMove s t p e p') : p'.todo = p.todo := by
  cases h <;> rfl

/-- every validated protection of a node of `l` is accounted for by `P` -/
def Covered (s : St) (l : List Nat) (P : Nat → Nat → Nat → Prop) : Prop :=
  ∀ u j n, s.prot u j = n → n ≠ 0 → n ∈ l → P u j n

def PcOk (s : St) (t : Nat) : Pc → Prop
  | .xAlloc _ n => n ≠ 0 → s.ns n = .priv t
  | .xDone old => old ≠ 0 → s.ns old = .unl t
  | .acqCalled _ sl => sl < s.k
  | .acqLoaded _ sl q => sl < s.k ∧ q ≠ 0
  | .acqPublished _ sl q => sl < s.k ∧ q ≠ 0 ∧ s.hp t sl = q ∧ s.prot t sl = 0
  | .acqFenced _ sl q => sl < s.k ∧ q ≠ 0 ∧ s.hp t sl = q ∧ s.prot t sl = 0
  | .acqValidated sl q => q ≠ 0 ∧ s.prot t sl = q
  | .acqUse sl q => q ≠ 0 ∧ s.prot t sl = q
  | .relCalled sl => sl < s.k
  | .scanHead _ h => h ≠ 0 ∧ h - 1 ∈ s.recs ∧ Covered s (s.rlist t) (fun u _ _ => u ∈ chain s h)
  | .scanWalk _ _ _ cur i pl _ => ptrOk s cur ∧ i ≤ s.k ∧
      Covered s (s.rlist t) (fun u j n => n ∈ pl ∨ (cur ≠ 0 ∧ (u ∈ s.older (cur - 1) ∨ (u = cur - 1 ∧ i ≤ j))))
  | .scanDecide _ sp todo => Covered s todo (fun _ _ n => binarySearch sp n = true)
  | .scanKeep _ sp _ todo _ => Covered s todo (fun _ _ n => binarySearch sp n = true)
  | _ => True

structure Loc (s : St) (t : Nat) (p : Pc) : Prop where
  pcok : PcOk s t p
  rl : ∀ n ∈ s.rlist t ++ p.todo, n ≠ 0 ∧ s.ns n = .retired t
  rl_nd : (s.rlist t ++ p.todo).Nodup
  prot_ok : ∀ j n, s.prot t j = n → n ≠ 0 →
    s.hp t j = n ∧ j < s.k ∧ p.joined = true ∧ (s.ns n).live = true
  hp0 : p.joined = false → ∀ j, s.hp t j = 0

structure Inv2 (s : St) : Prop where
  g_in : ∀ i, s.g i ≠ 0 → s.ns (s.g i) = .inG
  g_inj : ∀ i j, s.g i = s.g j → s.g i ≠ 0 → i = j
  loc : ∀ t, Loc s t (s.pc t)

theorem inv2_init (k : Nat) : Inv2 (init k) := by
  constructor
  · simp [init]
  · simp [init]
  · intro t; constructor <;> simp [init, PcOk, Pc.todo, Pc.joined]

theorem Inv2.loc_at {s : St} (h2 : Inv2 s) {t : Nat} {p : Pc} (hpc : s.pc t = p) : Loc s t p :=
  hpc ▸ h2.loc t

theorem Inv2.pcok_at {s : St} (h2 : Inv2 s) {t : Nat} {p : Pc} (hpc : s.pc t = p) : PcOk s t p :=
  (h2.loc_at hpc).pcok

theorem Inv2.pending_ns {s : St} (h : Inv2 s) {u n : Nat} (hn : n ∈ s.rlist u ++ (s.pc u).todo) :
    s.ns n = .retired u := ((h.loc u).rl n hn).2

theorem Covered.mono_prot {s s' : St} {l : List Nat} {P : Nat → Nat → Nat → Prop}
    (h : Covered s l P) (hp : ∀ u j, s'.prot u j = s.prot u j ∨ s'.prot u j = 0) : Covered s' l P := by
  intro u j n h1 h2 h3
  rcases hp u j with e | e
  · exact h u j n (by rw [← e]; exact h1) h2 h3
  · rw [e] at h1; exact absurd h1.symm h2

theorem upd2_apply (f : Nat → Nat → Nat) (t i v a b : Nat) :
    upd2 f t i v a b = if a = t ∧ b = i then v else f a b := by
  simp only [upd2, upd]
  by_cases h1 : a = t <;> by_cases h2 : b = i <;> simp [h1, h2]

/-- the `ns` of the successor of an `xchgG` step, pointwise -/
theorem xchg_ns (ns : Nat → NSt) (old new t m : Nat) :
    (if old = 0 then (if new = 0 then ns else upd ns new .inG)
      else upd (if new = 0 then ns else upd ns new .inG) old (.unl t)) m
    = if old ≠ 0 ∧ m = old then .unl t else if new ≠ 0 ∧ m = new then .inG else ns m := by
  by_cases e1 : old = 0 <;> by_cases e2 : new = 0 <;> simp [upd, e1, e2]

/-! ### What a step leaves to the other threads -/

/-- what a step of thread `t` may do to the things `Loc3` of another thread reads -/
structure Frame3 (s s' : St) (t : Nat) : Prop where
  k : s'.k = s.k
  rc : ∀ u, u ≠ t → s'.rc u = s.rc u
  rlist : ∀ u, u ≠ t → s'.rlist u = s.rlist u
  thr : ∀ u, u ≠ t → s.thr u ≤ s'.thr u
  chain : ∀ q, ptrOk s q → chain s' q = chain s q
  recs : ∀ w ∈ s.recs, w ∈ s'.recs
  joined : ∀ w, (s.pc w).joined = true → (s'.pc w).joined = true

/-- what a step of thread `t` may do to the things the assertions about another thread `u` read:
    besides `Frame3`, the cells `u` owns, the nodes `u` owns or protects, and the lists below the records -/
structure Frame (s s' : St) (t : Nat) : Prop extends Frame3 s s' t where
  next : ∀ u, u ≠ t → s'.next u = s.next u
  /-- the threshold of a record is bumped only once it is in the list -/
  thr0 : ∀ u, u ≠ t → (s.pc u).pushed = false → s'.thr u = s.thr u
  older : ∀ w ∈ s.recs, s'.older w = s.older w
  hp : ∀ u, u ≠ t → s'.hp u = s.hp u
  protu : ∀ u, u ≠ t → s'.prot u = s.prot u
  /-- a protection that is new, of any thread, is of a node still in a global cell -/
  prot : ∀ w j n, s'.prot w j = n → n ≠ 0 → s.prot w j = n ∨ s.ns n = .inG
  /-- the nodes `u` has allocated, unlinked or retired stay as they are -/
  own : ∀ u, u ≠ t → ∀ m, (s.ns m = .priv u ∨ s.ns m = .unl u ∨ s.ns m = .retired u) → s'.ns m = s.ns m
  /-- a node under a validated protection of `u` is not reclaimed -/
  live : ∀ u, u ≠ t → ∀ j m, s.prot u j = m → m ≠ 0 → (s.ns m).live = true → (s'.ns m).live = true

theorem Frame.refl (s : St) (t : Nat) : Frame s s t :=
  { k := rfl, rc := fun _ _ => rfl, rlist := fun _ _ => rfl, thr := fun _ _ => Nat.le_refl _,
    chain := fun _ _ => rfl, recs := fun _ h => h, joined := fun _ h => h, next := fun _ _ => rfl,
    thr0 := fun _ _ _ => rfl, older := fun _ _ => rfl, hp := fun _ _ => rfl, protu := fun _ _ => rfl,
    prot := fun _ _ _ h _ => .inl h, own := fun _ _ _ _ => rfl, live := fun _ _ _ _ _ _ h => h }

theorem joined_upd {s : St} {t : Nat} {p' : Pc} (hj : (s.pc t).joined = true → p'.joined = true) :
    ∀ w, (s.pc w).joined = true → (upd s.pc t p' w).joined = true := by
  intro w hw
  by_cases e : w = t
  · subst e; rw [upd_same]; exact hj hw
  · rw [upd_other _ _ _ _ e]; exact hw

/-- A `Covered` clause of `u` survives because a new protection is of a node in a global cell, which
    is in nobody's retired list; the lists it mentions survive because records are only pushed. -/
theorem Loc.stable {s s' : St} {t u : Nat} {p : Pc} (h : Loc s u p) (f : Frame s s' t) (hu : u ≠ t) :
    Loc s' u p := by
  have hcov : ∀ (l : List Nat) (P : Nat → Nat → Nat → Prop), (∀ n ∈ l, n ∈ s.rlist u ++ p.todo) →
      Covered s l P → Covered s' l P := by
    intro l P hl hc w j n h1 h2 h3
    rcases f.prot w j n h1 h2 with e | e
    · exact hc w j n e h2 h3
    · have := (h.rl _ (hl _ h3)).2
      rw [e] at this; cases this
  have e2 := f.rlist u hu
  have e3 := f.protu u hu
  have e4 := f.hp u hu
  refine ⟨?_, fun m hm => ?_, by rw [e2]; exact h.rl_nd, fun j m h1 h2 => ?_, by rw [e4]; exact h.hp0⟩
  rotate_left
  · rw [e2] at hm
    obtain ⟨a, b⟩ := h.rl m hm
    exact ⟨a, by rw [f.own u hu m (.inr (.inr b))]; exact b⟩
  · rw [e3] at h1
    obtain ⟨a, b, c, d⟩ := h.prot_ok j m h1 h2
    exact ⟨by rw [e4]; exact a, by rw [f.k]; exact b, c, f.live u hu j m h1 h2 d⟩
  have := h.pcok
  cases p <;> simp only [PcOk, e2, e3, e4, f.k] at this ⊢ <;> try exact this
  · next g m => intro h0; rw [f.own u hu _ (Or.inl (this h0))]; exact this h0
  · next m => intro h0; rw [f.own u hu _ (Or.inr (Or.inl (this h0)))]; exact this h0
  · next c hh =>
    obtain ⟨a, b, c⟩ := this
    refine ⟨a, f.recs _ b, ?_⟩
    rw [f.chain _ (Or.inr b)]
    exact hcov _ _ (by intro n hn; simp [hn]) c
  · next c h0 cap cur i pl w =>
    obtain ⟨a, b, c⟩ := this
    refine ⟨a.imp id (f.recs _), b, ?_⟩
    intro w j n h1 h2 h3
    rcases hcov _ _ (by intro n hn; simp [hn]) c w j n h1 h2 h3 with c | ⟨c0, c⟩
    · exact Or.inl c
    · right; refine ⟨c0, ?_⟩
      rw [f.older _ (Or.resolve_left a c0)]; exact c
  · next c sp todo => exact hcov _ _ (by intro n hn; simp [Pc.todo, hn]) this
  · next c sp n0 todo v0 => exact hcov _ _ (by intro n hn; simp [Pc.todo, hn]) this

/-- Every step of thread `e.tid` satisfies `Frame`.  The fields of `Frame.refl` that a case does not
    name hold by unfolding the successor state. -/
theorem frame_step {s s' : St} {e : Ev} (h1 : Inv1 s) (h2 : Inv2 s) (hs : Step s e s') :
    Frame s s' e.tid := by
  cases hs with
  | move t p p' e hpc hm =>
    rw [hm.tid]; exact { Frame.refl s t with joined := joined_upd (hpc ▸ hm.joined) }
  | use_idle => exact Frame.refl s _
  | wrNext t ch hpc =>
    exact { Frame.refl s t with joined := joined_upd (by rw [hpc]; exact id),
                                next := fun u hu => upd_other _ _ _ _ hu }
  | stThr t ch cnt hpc =>
    exact { Frame.refl s t with joined := joined_upd (by rw [hpc]; exact id),
                                thr := fun u hu => Nat.le_of_eq (upd_other _ _ _ _ hu).symm,
                                thr0 := fun u hu _ => upd_other _ _ _ _ hu }
  | casHead t ch hpc heq =>
    have hold : ∀ w ∈ s.recs, upd s.older t s.recs w = s.older w := fun w hw =>
      upd_other _ _ _ _ (by rintro rfl; rw [h1.pushed, hpc] at hw; cases hw)
    exact { Frame.refl s t with joined := joined_upd (by rw [hpc]; exact id),
                                chain := fun q hq => chain_congr hold hq,
                                recs := fun w hw => List.mem_cons_of_mem _ hw, older := hold }
  | faddThr t cur hpc hc0 =>
    have hr : cur - 1 ∈ s.recs := (h1.jbump t cur hpc).1.resolve_left hc0
    refine { Frame.refl s t with joined := joined_upd (by rw [hpc]; exact id),
                                 thr := fun u hu => ?_, thr0 := fun u hu hp => upd_other _ _ _ _ ?_ }
    · show s.thr u ≤ upd s.thr (cur - 1) _ u
      by_cases e : u = cur - 1
      · subst e; rw [upd_same]; omega
      · rw [upd_other _ _ _ _ e]; exact Nat.le_refl _
    · rintro rfl; rw [(h1.pushed _).mp hr] at hp; cases hp
  | wrRc_free t v0 hpc | wrRc_sort t _ _ _ _ _ _ hpc | wrRc_keep t _ _ _ _ _ hpc =>
    exact { Frame.refl s t with joined := joined_upd (fun _ => rfl),
                                rc := fun u hu => upd_other _ _ _ _ hu,
                                rlist := fun u hu => by first | rfl | exact upd_other _ _ _ _ hu }
  | reclaim t c sp n todo hpc hbs =>
    have hl := h2.loc_at hpc
    obtain ⟨hn0, hnr⟩ := hl.rl n (by simp [Pc.todo])
    refine { Frame.refl s t with joined := joined_upd (fun _ => rfl),
                                 own := fun u hu m hm => upd_other _ _ _ _ ?_,
                                 live := fun u hu j m hp hm d => ?_ }
    · rintro rfl; rw [hnr] at hm; simp at hm; exact hu hm.symm
    · -- the coverage invariant: nobody holds a validated protection of `n`
      have : m ≠ n := by
        rintro rfl
        have : binarySearch sp m = true := hl.pcok u j m hp hm (by simp)
        rw [hbs] at this; cases this
      exact (congrArg NSt.live (upd_other _ _ _ _ this)).trans d
  | alloc t g n hpc h0 hfree =>
    refine { Frame.refl s t with joined := joined_upd (fun _ => rfl),
                                 own := fun u hu m hm => upd_other _ _ _ _ ?_,
                                 live := fun u hu j m _ _ d => ?_ }
    · rintro rfl; rw [hfree] at hm; simp at hm
    · have : m ≠ n := by rintro rfl; rw [hfree] at d; cases d
      exact (congrArg NSt.live (upd_other _ _ _ _ this)).trans d
  | xchgG t g new hpc =>
    have hpriv : new ≠ 0 → s.ns new = .priv t := h2.pcok_at hpc
    refine { Frame.refl s t with joined := joined_upd (fun _ => rfl), own := fun u hu m hm => ?_,
                                 live := fun u hu j m _ _ d => ?_ } <;> dsimp only <;> rw [xchg_ns]
    · rw [if_neg, if_neg]
      · rintro ⟨h0, rfl⟩; rw [hpriv h0] at hm; simp at hm; exact hu hm.symm
      · rintro ⟨h0, rfl⟩; rw [h2.g_in g h0] at hm; simp at hm
    · split
      · rfl
      · split
        · rfl
        · exact d
  | callRetire t n hpc h0 =>
    have hunl : s.ns n = .unl t := h2.pcok_at hpc h0
    refine { Frame.refl s t with joined := joined_upd (fun _ => rfl),
                                 rlist := fun u hu => upd_other _ _ _ _ hu,
                                 own := fun u hu m hm => upd_other _ _ _ _ ?_,
                                 live := fun u hu j m _ _ d => ?_ }
    · rintro rfl; rw [hunl] at hm; simp at hm; exact hu hm.symm
    · show (upd s.ns n (.retired t) m).live = true
      by_cases e : m = n
      · subst e; rw [upd_same]; rfl
      · rw [upd_other _ _ _ _ e]; exact d
  | ldG_valid t g sl hpc =>
    obtain ⟨_, b, _, _⟩ := h2.pcok_at hpc
    refine { Frame.refl s t with joined := joined_upd (fun _ => rfl),
                                 protu := fun u hu => upd_other _ _ _ _ hu,
                                 prot := fun w j n h1 h0 => ?_ }
    change upd2 s.prot t sl (s.g g) w j = n at h1
    rw [upd2_apply] at h1
    split at h1
    · subst h1; exact .inr (h2.g_in g b)
    · exact .inl h1
  | wrHp_acq t _ sl _ hpc | wrHp_rel t sl hpc =>
    refine { Frame.refl s t with joined := joined_upd (fun _ => rfl),
                                 hp := fun u hu => upd_other _ _ _ _ hu,
                                 protu := fun u hu => upd_other _ _ _ _ hu,
                                 prot := fun w j n h1 h0 => ?_ }
    change upd2 s.prot t sl 0 w j = n at h1
    rw [upd2_apply] at h1
    split at h1
    · exact absurd h1.symm h0
    · exact .inl h1

/-- the other threads by the frame of the step, the stepping thread `t` by hand -/
theorem Inv2.of_frame {s s' : St} {t : Nat} {p' : Pc} (h2 : Inv2 s) (hpc : s'.pc = upd s.pc t p')
    (f : Frame s s' t) (hg1 : ∀ i, s'.g i ≠ 0 → s'.ns (s'.g i) = .inG)
    (hg2 : ∀ i j, s'.g i = s'.g j → s'.g i ≠ 0 → i = j) (ht : Loc s' t p') : Inv2 s' := by
  refine ⟨hg1, hg2, fun u => ?_⟩
  rw [hpc]
  by_cases e : u = t
  · subst e; rw [upd_same]; exact ht
  · rw [upd_other _ _ _ _ e]; exact (h2.loc u).stable f e

/-! ### The stepping thread -/

macro "pc_only" h2:ident "," t:term "," hpc:ident "," hl:ident : tactic => `(tactic| (
  have $hl := ($h2).loc $t
  rw [$hpc:ident] at $hl:ident
  refine Inv2.step_pc $h2 $t _ rfl rfl rfl rfl rfl rfl rfl rfl rfl
    (Loc.move $hl ?_ (by simp [Pc.todo]) (by simp [Pc.joined]) (by simp [Pc.joined]))))

theorem Inv2.prot_recs {s : St} (h1 : Inv1 s) (h2 : Inv2 s) {u j n : Nat} (hp : s.prot u j = n)
    (hn : n ≠ 0) : u ∈ s.recs := by
  have := ((h2.loc u).prot_ok j n hp hn).2.2.1
  rw [h1.pushed]; exact joined_pushed this

theorem PcMove.pcok {s : St} {t : Nat} {p p' : Pc} {e : Ev} (h1 : Inv1 s) (h2 : Inv2 s) (hl : Loc s t p)
    (hm : PcMove s t p e p') : PcOk s t p' := by
  cases hm with
  | ldHead_scan c h0 =>
    refine ⟨h0, Or.resolve_left h1.head_ok h0, ?_⟩
    intro u j n hp hn _
    rw [← h1.hd]; exact h2.prot_recs h1 hp hn
  | rdNext_walk c h0 cap cur pl walked hc0 =>
    obtain ⟨hok, _, hcov⟩ := hl.pcok
    have hr : cur - 1 ∈ s.recs := Or.resolve_left hok hc0
    have hch := h1.nxt _ hr
    refine ⟨h1.ptrOk_next hr, Nat.zero_le _, ?_⟩
    intro u j n hp hn hm
    rcases hcov u j n hp hn hm with e | ⟨_, e | ⟨_, e⟩⟩
    · exact Or.inl e
    · right
      rw [← hch] at e
      unfold chain at e
      split at e
      · simp at e
      · next h0 =>
        refine ⟨h0, ?_⟩
        simp only [List.mem_cons] at e
        rcases e with e | e
        · exact Or.inr ⟨e, Nat.zero_le _⟩
        · exact Or.inl e
    · have := ((h2.loc u).prot_ok j n hp hn).2.1
      omega
  | ldThr_cap c h =>
    obtain ⟨h0, hr, hcov⟩ := hl.pcok
    refine ⟨Or.inr hr, Nat.zero_le _, ?_⟩
    intro u j n hp hn hm
    have := hcov u j n hp hn hm
    simp only [chain, h0, if_false, List.mem_cons] at this
    right; refine ⟨h0, ?_⟩
    rcases this with e | e
    · exact Or.inr ⟨e, Nat.zero_le _⟩
    · exact Or.inl e
  | rdRc_keep c sp n todo hbs =>
    intro u j m hp hn hm
    exact hl.pcok u j m hp hn (by simp [hm])
  | rdHp c h0 cap cur i pl walked hc0 hjk =>
    obtain ⟨hok, _, hcov⟩ := hl.pcok
    refine ⟨hok, hjk, ?_⟩
    intro u j' n hp hn hm
    rcases hcov u j' n hp hn hm with e | ⟨_, e | ⟨e1, e2⟩⟩
    · left; split <;> simp [e]
    · exact Or.inr ⟨hc0, Or.inl e⟩
    · by_cases ej : j' = i
      · subst ej; subst e1
        have := ((h2.loc _).prot_ok _ n hp hn).1
        left; simp_all
      · exact Or.inr ⟨hc0, Or.inr ⟨e1, by omega⟩⟩
  | fence g sl p => exact hl.pcok
  | ldG_load g sl h0 => exact ⟨hl.pcok, h0⟩
  | ldG_retry g sl p hvp => exact hl.pcok.1
  | validated sl p => exact hl.pcok
  | callAcq g sl hv => exact hv
  | callRel sl hv => exact hv
  | alloc_null g => exact fun h => absurd rfl h
  | _ => trivial

theorem Inv2.g_in_upd {s : St} (h2 : Inv2 s) {n : Nat} (X : NSt) (hn : s.ns n ≠ .inG) :
    ∀ i, s.g i ≠ 0 → upd s.ns n X (s.g i) = .inG := by
  intro i hi
  have := h2.g_in i hi
  have hne : s.g i ≠ n := by intro e; rw [e] at this; exact hn this
  rw [upd_other _ _ _ _ hne]; exact this

/-- thread `t` moves nodes between its retired list and its todo list -/
theorem Inv2.shuffle {s s' : St} (h2 : Inv2 s) (t : Nat) (rc' : Nat → Nat) (l : List Nat) (p' : Pc)
    (hs' : s' = { s with rc := rc', rlist := upd s.rlist t l, pc := upd s.pc t p' }) (f : Frame s s' t)
    (hperm : (l ++ p'.todo).Perm (s.rlist t ++ (s.pc t).todo)) (hpc : PcOk s' t p')
    (hj : p'.joined = true) : Inv2 s' := by
  subst hs'
  have hl := h2.loc t
  refine h2.of_frame rfl f h2.g_in h2.g_inj ⟨hpc, ?_, ?_, ?_, by simp [hj]⟩
  · intro n hn
    simp only [upd_same] at hn
    exact hl.rl n (hperm.mem_iff.mp hn)
  · simp only [upd_same]
    exact hperm.nodup_iff.mpr hl.rl_nd
  · intro j n hp hn
    obtain ⟨a, b, _, d⟩ := hl.prot_ok j n hp hn
    exact ⟨a, b, hj, d⟩

theorem inv2_reclaim {s s' : St} {t n : Nat} {c : Bool} {sp todo : List Nat} (h2 : Inv2 s)
    (hpc : s.pc t = .scanDecide c sp (n :: todo)) (hbs : binarySearch sp n = false)
    (hs' : s' = { s with ns := upd s.ns n .free, pc := upd s.pc t (.scanDecide c sp todo) })
    (f : Frame s s' t) : Inv2 s' := by
  subst hs'
  have hl := h2.loc_at hpc
  obtain ⟨hn0, hnr⟩ := hl.rl n (by simp [Pc.todo])
  have hnd := hl.rl_nd
  simp only [Pc.todo] at hnd
  have hnd' : (n :: (s.rlist t ++ todo)).Nodup := (List.perm_middle.nodup_iff).mp hnd
  rw [List.nodup_cons] at hnd'
  refine h2.of_frame (p' := .scanDecide c sp todo) rfl f (h2.g_in_upd _ (by simp [hnr])) h2.g_inj
    ⟨?_, ?_, ?_, ?_, by simp [Pc.joined]⟩
  · intro u j m hp hm hmt
    exact hl.pcok u j m hp hm (by simp [hmt])
  · intro m hm
    have hne : m ≠ n := by intro e; subst e; exact hnd'.1 (by simpa [Pc.todo] using hm)
    obtain ⟨a, b⟩ := hl.rl m (by
      simp only [Pc.todo, List.mem_append, List.mem_cons] at hm ⊢
      rcases hm with hm | hm <;> simp [hm])
    refine ⟨a, ?_⟩
    show upd s.ns n .free m = _
    rw [upd_other _ _ _ _ hne]; exact b
  · simpa [Pc.todo] using hnd'.2
  · intro j m hp hm
    obtain ⟨a, b, _, d⟩ := hl.prot_ok j m hp hm
    refine ⟨a, b, by simp [Pc.joined], ?_⟩
    -- the coverage invariant: `t` itself holds no validated protection of `n`
    have hne : m ≠ n := by
      intro e; subst e
      have : binarySearch sp m = true := hl.pcok t j m hp hm (by simp)
      rw [hbs] at this; cases this
    show (upd s.ns n .free m).live = true
    rw [upd_other _ _ _ _ hne]; exact d

/-- thread `t` overwrites its slot `sl` (which ends the validated protection held there) and
    moves to `p'` -/
theorem Inv2.wrSlot {s s' : St} (h2 : Inv2 s) (t sl v : Nat) (p' : Pc)
    (hs' : s' = { s with hp := upd2 s.hp t sl v, prot := upd2 s.prot t sl 0, pc := upd s.pc t p' })
    (f : Frame s s' t) (hpc : PcOk s' t p') (htodo : p'.todo = (s.pc t).todo) (hj : p'.joined = true) :
    Inv2 s' := by
  subst hs'
  have hl := h2.loc t
  refine h2.of_frame rfl f h2.g_in h2.g_inj ⟨hpc, ?_, ?_, ?_, ?_⟩
  · rw [htodo]; exact hl.rl
  · rw [htodo]; exact hl.rl_nd
  · intro j n hp hn
    change upd2 s.prot t sl 0 t j = n at hp
    rw [upd2_apply] at hp
    split at hp
    · exact absurd hp.symm hn
    · next e =>
      obtain ⟨a, b, _, d⟩ := hl.prot_ok j n hp hn
      refine ⟨?_, b, hj, d⟩
      show upd2 s.hp t sl v t j = n
      rw [upd2_apply, if_neg e]; exact a
  · simp [hj]

theorem inv2_ldG_valid {s s' : St} {t g sl : Nat} (h2 : Inv2 s) (hpc : s.pc t = .acqFenced g sl (s.g g))
    (hs' : s' = { s with prot := upd2 s.prot t sl (s.g g), pc := upd s.pc t (.acqValidated sl (s.g g)) })
    (f : Frame s s' t) : Inv2 s' := by
  subst hs'
  have hl := h2.loc_at hpc
  obtain ⟨a, b, c, _⟩ := hl.pcok
  refine h2.of_frame (p' := .acqValidated sl (s.g g)) rfl f h2.g_in h2.g_inj
    ⟨⟨b, by simp [upd2_apply]⟩, hl.rl, hl.rl_nd, ?_, by simp [Pc.joined]⟩
  intro j n hp hn
  change upd2 s.prot t sl (s.g g) t j = n at hp
  rw [upd2_apply] at hp
  split at hp
  · next e =>
    obtain ⟨_, rfl⟩ := e
    subst hp
    exact ⟨c, a, by simp [Pc.joined], by rw [h2.g_in g b]; rfl⟩
  · obtain ⟨a', b', c', d'⟩ := hl.prot_ok j n hp hn
    exact ⟨a', b', by simp [Pc.joined], d'⟩

theorem inv2_callRetire {s s' : St} {t n : Nat} (h2 : Inv2 s) (hpc : s.pc t = .xDone n) (h0 : n ≠ 0)
    (hs' : s' = { s with rlist := upd s.rlist t (n :: s.rlist t), ns := upd s.ns n (.retired t),
                         pc := upd s.pc t .freeCalled })
    (f : Frame s s' t) : Inv2 s' := by
  subst hs'
  have hl := h2.loc_at hpc
  have hunl : s.ns n = .unl t := hl.pcok h0
  have hnot : n ∉ s.rlist t := by
    intro hm
    have := (hl.rl n (by simp [hm])).2
    rw [hunl] at this; cases this
  refine h2.of_frame (p' := .freeCalled) rfl f (h2.g_in_upd _ (by simp [hunl])) h2.g_inj
    ⟨by simp [PcOk], ?_, ?_, ?_, by simp [Pc.joined]⟩
  · intro m hm
    simp only [upd_same, Pc.todo, List.append_nil, List.mem_cons] at hm
    show m ≠ 0 ∧ upd s.ns n _ m = _
    rcases hm with rfl | hm
    · exact ⟨h0, by simp⟩
    · have hne : m ≠ n := by intro e; subst e; exact hnot hm
      rw [upd_other _ _ _ _ hne]
      exact hl.rl m (by simp [hm])
  · have := hl.rl_nd
    simp only [upd_same, Pc.todo, List.append_nil] at this ⊢
    exact List.nodup_cons.mpr ⟨hnot, this⟩
  · intro j m hp hm
    obtain ⟨a, b, _, d⟩ := hl.prot_ok j m hp hm
    refine ⟨a, b, by simp [Pc.joined], ?_⟩
    show (upd s.ns n _ m).live = true
    by_cases e : m = n
    · subst e; simp [NSt.live]
    · rw [upd_other _ _ _ _ e]; exact d

theorem inv2_xchgG {s s' : St} {t g new : Nat} (h2 : Inv2 s) (hpc : s.pc t = .xAlloc g new)
    (hs' : s' = { s with g := upd s.g g new,
                         ns := if s.g g = 0 then (if new = 0 then s.ns else upd s.ns new .inG)
                               else upd (if new = 0 then s.ns else upd s.ns new .inG) (s.g g) (.unl t),
                         pc := upd s.pc t (.xDone (s.g g)) })
    (f : Frame s s' t) : Inv2 s' := by
  subst hs'
  have hl := h2.loc_at hpc
  have hpriv : new ≠ 0 → s.ns new = .priv t := hl.pcok
  have hold : s.g g ≠ 0 → s.ns (s.g g) = .inG := h2.g_in g
  -- a node in a global cell is not `new`
  have hno : ∀ i, s.g i ≠ 0 → s.g i ≠ new := by
    intro i hi e
    have a := h2.g_in i hi
    rw [e, hpriv (e ▸ hi)] at a; cases a
  refine h2.of_frame (p' := .xDone (s.g g)) rfl f (fun i hi => ?_) (fun i j hij hi => ?_)
    ⟨fun h0 => ?_, fun m hm => ?_, hl.rl_nd, fun j m hp hm => ?_, fun h => nomatch h⟩
  · change upd s.g g new i ≠ 0 at hi
    dsimp only
    rw [xchg_ns]
    by_cases e : i = g
    · subst e; rw [upd_same] at hi ⊢
      rw [if_neg (fun h => hno i h.1 h.2.symm), if_pos ⟨hi, rfl⟩]
    · rw [upd_other _ _ _ _ e] at hi ⊢
      rw [if_neg (fun h => e (h2.g_inj i g h.2 hi))]
      split
      · rfl
      · exact h2.g_in i hi
  · change upd s.g g new i = upd s.g g new j at hij
    change upd s.g g new i ≠ 0 at hi
    by_cases ei : i = g <;> by_cases ej : j = g
    · rw [ei, ej]
    · subst ei; rw [upd_same] at hij hi; rw [upd_other _ _ _ _ ej] at hij
      exact absurd hij.symm (hno j (hij ▸ hi))
    · subst ej; rw [upd_same] at hij; rw [upd_other _ _ _ _ ei] at hij hi
      exact absurd hij (hno i hi)
    · rw [upd_other _ _ _ _ ei] at hij hi; rw [upd_other _ _ _ _ ej] at hij
      exact h2.g_inj i j hij hi
  · dsimp only
    rw [xchg_ns, if_pos ⟨h0, rfl⟩]
  · obtain ⟨a, b⟩ := hl.rl m hm
    refine ⟨a, ?_⟩
    dsimp only
    rw [xchg_ns, if_neg, if_neg, b]
    · rintro ⟨h0, rfl⟩; rw [hpriv h0] at b; cases b
    · rintro ⟨h0, rfl⟩; rw [hold h0] at b; cases b
  · obtain ⟨a, b, _, d⟩ := hl.prot_ok j m hp hm
    refine ⟨a, b, rfl, ?_⟩
    dsimp only
    rw [xchg_ns]
    split
    · rfl
    · split
      · rfl
      · exact d

theorem inv2_step {s s' : St} {e : Ev} (h1 : Inv1 s) (h2 : Inv2 s) (hs : step s e = some s') : Inv2 s' := by
  have hs := step_sound hs
  have f := frame_step h1 h2 hs
  cases hs with
  | move t p p' e hpc hm =>
    have hl := h2.loc_at hpc
    refine h2.of_frame rfl (hm.tid ▸ f) h2.g_in h2.g_inj
      ⟨(hm.pcok h1 h2 hl : PcOk s t p'), hm.todo ▸ hl.rl, hm.todo ▸ hl.rl_nd, fun j n a b => ?_, fun hj' => hl.hp0 ?_⟩
    · obtain ⟨a, b, c, d⟩ := hl.prot_ok j n a b
      exact ⟨a, b, hm.joined c, d⟩
    · cases hj : p.joined
      · rfl
      · rw [hm.joined hj] at hj'; cases hj'
  | use_idle => exact h2
  | wrNext t _ hpc | stThr t _ _ hpc | faddThr t _ hpc _ | wrRc_free t _ hpc | casHead t _ hpc _ =>
    have hl := h2.loc_at hpc
    exact h2.of_frame (t := t) rfl f h2.g_in h2.g_inj ⟨trivial, hl.rl, hl.rl_nd, hl.prot_ok, hl.hp0⟩
  | wrRc_sort r c h0 cap i pl walked hpc =>
    obtain ⟨_, _, hcov⟩ := h2.pcok_at hpc
    refine h2.shuffle r _ [] _ rfl f (by simp [hpc, Pc.todo]) ?_ rfl
    intro u j n hp hn hm
    rcases hcov u j n hp hn hm with e | ⟨e, _⟩
    · exact (binarySearch_isort pl n).mpr e
    · exact absurd rfl e
  | wrRc_keep r c sp n todo v0 hpc =>
    exact h2.shuffle r _ (n :: s.rlist r) _ rfl f (by simpa [hpc, Pc.todo] using List.perm_middle.symm)
      (h2.pcok_at hpc) rfl
  | reclaim t c sp n todo hpc hbs => exact inv2_reclaim h2 hpc hbs rfl f
  | wrHp_acq r g i v hpc =>
    obtain ⟨a, b⟩ := h2.pcok_at hpc
    exact h2.wrSlot r i v _ rfl f ⟨a, b, by simp [upd2_apply], by simp [upd2_apply]⟩ (by simp [hpc, Pc.todo]) rfl
  | wrHp_rel r i hpc =>
    exact h2.wrSlot r i 0 _ rfl f (by simp [PcOk]) (by simp [hpc, Pc.todo]) rfl
  | ldG_valid t g sl hpc => exact inv2_ldG_valid h2 hpc rfl f
  | alloc t g n hpc h0 hfree =>
    have hl := h2.loc_at hpc
    have hne : ∀ m, s.ns m ≠ .free → upd s.ns n (.priv t) m = s.ns m :=
      fun m hm => upd_other _ _ _ _ (by rintro rfl; exact hm hfree)
    refine h2.of_frame (t := t) (p' := .xAlloc g n) rfl f (h2.g_in_upd _ (by simp [hfree])) h2.g_inj
      ⟨fun _ => upd_same .., fun m hm => ?_, hl.rl_nd, fun j m hp hm => ?_, fun h => nomatch h⟩
    · obtain ⟨a, b⟩ := hl.rl m hm
      exact ⟨a, (hne m (by rw [b]; simp)).trans b⟩
    · obtain ⟨a, b, _, d⟩ := hl.prot_ok j m hp hm
      exact ⟨a, b, rfl, (congrArg NSt.live (hne m (by intro e; rw [e] at d; cases d))).trans d⟩
  | xchgG t g new hpc => exact inv2_xchgG h2 hpc rfl f
  | callRetire t n hpc h0 => exact inv2_callRetire h2 hpc h0 rfl f

theorem inv12_of_run {k : Nat} {es : List Ev} {s : St} (h : (sys k).run es = some s) : Inv1 s ∧ Inv2 s :=
  ⟨inv1_of_run h, (Sys.inv_of_run (sys k) (fun s => Core s ∧ Inv2 s) ⟨core_init k, inv2_init k⟩
    (fun _ _ _ hi hs => ⟨hi.1.step hs, inv2_step hi.1.inv1 hi.2 hs⟩) h).2⟩

/-! ## Thresholds versus the number of participating records -/

theorem Inv1.chain_nodup {s : St} (h : Inv1 s) {q : Nat} (hq : ptrOk s q) : (chain s q).Nodup := by
  unfold chain
  split
  · simp
  · next h0 =>
    have hr : q - 1 ∈ s.recs := Or.resolve_left hq h0
    exact List.nodup_cons.mpr ⟨h.not_mem_older_self hr, h.old_nd _ hr⟩

theorem Inv1.chain_sub {s : St} (h : Inv1 s) {q : Nat} (hq : ptrOk s q) : ∀ u ∈ chain s q, u ∈ s.recs := by
  unfold chain
  split
  · simp
  · next h0 =>
    have hr : q - 1 ∈ s.recs := Or.resolve_left hq h0
    intro u hu
    simp only [List.mem_cons] at hu
    rcases hu with rfl | hu
    · exact hr
    · exact h.old_sub _ hr u hu

theorem Inv1.thr_ge {s : St} (h : Inv1 s) {t : Nat} (ht : t ∈ s.recs) {L : List Nat} (hL : L.Nodup)
    (hLj : ∀ j ∈ L, j ∈ s.recs ∧ (s.pc j).joined = true) : 2 * L.length * s.k ≤ s.thr t := by
  have hsub : ∀ j ∈ L, j ∈ (t :: s.older t) ++ s.bumpedBy t := by
    intro j hj
    obtain ⟨hjr, hjj⟩ := hLj j hj
    simp only [List.mem_append, List.mem_cons]
    rcases h.tri j hjr t ht with e | e | e
    · exact Or.inl (Or.inl e)
    · exact Or.inl (Or.inr e)
    · right
      rcases h.b1 j hjr t e with hb | hb
      · exact hb
      · exact absurd hb (pend_joined hjj)
  have := hL.length_le_of_subset hsub
  simp only [List.length_append, List.length_cons] at this
  rw [h.thr_eq t ht]
  apply Nat.mul_le_mul_right
  omega

theorem Inv1.thr_le {s : St} (h : Inv1 s) {t : Nat} (ht : t ∈ s.recs) : s.thr t ≤ 2 * s.recs.length * s.k := by
  have hnd : ((t :: s.older t) ++ s.bumpedBy t).Nodup := by
    rw [List.nodup_append]
    refine ⟨List.nodup_cons.mpr ⟨h.not_mem_older_self ht, h.old_nd t ht⟩, h.b3 t, ?_⟩
    intro a ha b hb e
    subst e
    obtain ⟨har, hta⟩ := h.b2 t a hb
    simp only [List.mem_cons] at ha
    rcases ha with rfl | ha
    · exact h.not_mem_older_self har hta
    · have := h.rank2 a har t hta
      have := h.rank2 t ht a ha
      omega
  have hsub : ∀ x ∈ (t :: s.older t) ++ s.bumpedBy t, x ∈ s.recs := by
    intro x hx
    simp only [List.mem_append, List.mem_cons] at hx
    rcases hx with (rfl | hx) | hx
    · exact ht
    · exact h.old_sub t ht x hx
    · exact (h.b2 t x hx).1
  have := hnd.length_le_of_subset hsub
  simp only [List.length_append, List.length_cons] at this
  rw [h.thr_eq t ht]
  apply Nat.mul_le_mul_right
  omega

theorem Inv1.thr_exact {s : St} (h : Inv1 s) (hall : ∀ j ∈ s.recs, (s.pc j).joined = true) {t : Nat}
    (ht : t ∈ s.recs) : s.thr t = 2 * s.recs.length * s.k :=
  Nat.le_antisymm (h.thr_le ht) (h.thr_ge ht h.nd (fun j hj => ⟨hj, hall j hj⟩))

/-! ## The order of the publish / fence / validate handshake -/

theorem upd_pc_ne {s : St} {t u : Nat} {p' q : Pc} (hq : upd s.pc t p' u = q) (hne : s.pc u ≠ q) :
    u = t ∧ p' = q := by
  by_cases e : u = t
  · subst e; rw [upd_same] at hq; exact ⟨rfl, hq⟩
  · rw [upd_other _ _ _ _ e] at hq; exact absurd hq hne

theorem handshake_order {s s' : St} {e : Ev} {t : Nat} (h : step s e = some s') :
    (∀ g sl p, s'.pc t = .acqFenced g sl p → s.pc t ≠ .acqFenced g sl p →
      e = .fence t ∧ s.pc t = .acqPublished g sl p) ∧
    (∀ sl p, s'.pc t = .acqValidated sl p → s.pc t ≠ .acqValidated sl p →
      ∃ g, e = .ldG t g p ∧ s.pc t = .acqFenced g sl p) := by
  refine ⟨fun g sl p hpc' hpc => ?_, fun sl p hpc' hpc => ?_⟩
  · cases step_sound h with
    | move u q q' e hq hm =>
      obtain ⟨rfl, rfl⟩ := upd_pc_ne hpc' hpc
      cases hm
      exact ⟨rfl, hq⟩
    | use_idle => exact absurd hpc' hpc
    | _ => obtain ⟨_, h⟩ := upd_pc_ne hpc' hpc; cases h
  · cases step_sound h with
    | move u q q' e hq hm =>
      obtain ⟨rfl, rfl⟩ := upd_pc_ne hpc' hpc
      cases hm
    | ldG_valid u g sl' hq =>
      obtain ⟨rfl, hp⟩ := upd_pc_ne hpc' hpc
      cases hp
      exact ⟨g, rfl, hq⟩
    | use_idle => exact absurd hpc' hpc
    | _ => obtain ⟨_, h⟩ := upd_pc_ne hpc' hpc; cases h

end LibfiberVerif.Hp
