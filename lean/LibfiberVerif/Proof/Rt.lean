/-
  Proof/Rt.lean — the inductive invariant of the runtime model `Rt` (properties C01 and the
  runtime half of C02).
-/
import LibfiberVerif.Model.Rt

namespace LibfiberVerif.Rt

/-- the fiber a kernel thread has in its hand (popped / stolen, not yet pushed back or run) -/
def TPc.fib : TPc → Option Nat
  | .run => none
  | .held g => some g
  | .requeue g => some g
  | .checked g => some g
  | .armed g => some g
  | .stolen g => some g

def Ctx.isRunning : Ctx → Bool
  | .running _ => true
  | _ => false

/-- what is known of a fiber that sits in a run queue or in a thread's hand -/
def Q (s : St) (g : Nat) : Prop :=
  s.tracked g = true ∧ s.fst g ≠ DONE ∧
  (s.ctx g = .saved ∨ s.ctx g = .fresh ∨ (s.fst g = SAVING ∧ (s.ctx g).isRunning = true))

structure Inv (s : St) : Prop where
  live : ∀ k, k < 16 → s.ctx (s.cur k) = .running k
  liveU : ∀ g k, s.ctx g = .running k → k < 16 ∧ s.cur k = g
  rngT : ∀ k, 16 ≤ k → s.tpc k = .run
  rngQ : ∀ q, 32 ≤ q → s.bag q = []
  bagQ : ∀ q g, g ∈ s.bag q → Q s g
  handQ : ∀ k g, (s.tpc k).fib = some g → Q s g
  chk : ∀ k g, s.tpc k = .checked g → (s.ctx g = .saved ∨ s.ctx g = .fresh) ∧ s.fst g ≠ SAVING
  arm : ∀ k g, s.tpc k = .armed g → (s.ctx g = .saved ∨ s.ctx g = .fresh) ∧ s.fst g = RUNNING
  winC : ∀ k, s.mst k ≠ .idle → s.ctx (s.old k) = .saved
  winF : ∀ k, s.mst k = .flip → s.fst (s.old k) = SAVING
  winP : ∀ k, s.mst k = .push → s.fst (s.old k) = READY
  winD : ∀ k, s.mst k = .destroy → s.fst (s.old k) = DONE
  winPub : ∀ k, s.mst k ≠ .idle → s.fst (s.old k) ≠ SAVING → s.pub (s.old k) = false
  winBag : ∀ k q, s.mst k ≠ .idle → s.fst (s.old k) ≠ SAVING → s.old k ∉ s.bag q
  winHand : ∀ k k', s.mst k ≠ .idle → s.fst (s.old k) ≠ SAVING → (s.tpc k').fib ≠ some (s.old k)
  winU : ∀ k k', s.mst k ≠ .idle → s.mst k' ≠ .idle → s.old k = s.old k' → k = k'
  winM : ∀ k, s.mst k ≠ .idle → s.tracked (s.old k) = false → s.maintOf (s.old k) = k
  pubS : ∀ g, s.pub g = true → s.ctx g = .saved ∨ (s.fst g = SAVING ∧ (s.ctx g).isRunning = true)
  nodup : ∀ q, (s.bag q).Nodup
  bagbag : ∀ q q' g, g ∈ s.bag q → g ∈ s.bag q' → q = q'
  baghand : ∀ q k g, g ∈ s.bag q → (s.tpc k).fib ≠ some g
  handhand : ∀ k k' g, (s.tpc k).fib = some g → (s.tpc k').fib = some g → k = k'
  untr : ∀ g k, s.tracked g = false → s.ctx g = .running k → s.maintOf g = k
  cnone : ∀ g, s.ctx g = .none → 16 ≤ g ∧ s.maintOf g = g ∧ s.tracked g = false
  cdead : ∀ g, s.ctx g = .dead → s.tracked g = true

theorem inv_init : Inv init := by
  constructor <;> simp [init, Q, TPc.fib] <;> grind

/-- `Q` in the words of C01: saved, fresh or still marked SAVING; not destroyed, not finished -/
theorem Q.saved_or_saving {s : St} {g : Nat} (h : Q s g) :
    (s.ctx g = .saved ∨ s.ctx g = .fresh ∨ s.fst g = SAVING) ∧ s.ctx g ≠ .dead ∧ s.fst g ≠ DONE
    ∧ s.tracked g = true := by
  obtain ⟨htr, hd, hc | hc | hc⟩ := h
  · exact ⟨Or.inl hc, by simp [hc], hd, htr⟩
  · exact ⟨Or.inr (Or.inl hc), by simp [hc], hd, htr⟩
  · exact ⟨Or.inr (Or.inr hc.1), fun hd' => by simp [hd', Ctx.isRunning] at hc, hd, htr⟩

/-- a queued or held fiber that is still executing is inside the P-saving window -/
theorem Q.saving_of_running {s : St} {g k : Nat} (h : Q s g) (hr : s.ctx g = .running k) :
    s.fst g = SAVING := by
  rcases h.2.2 with hc | hc | hc
  · simp [hr] at hc
  · simp [hr] at hc
  · exact hc.1

theorem heldBy_iff (s : St) (g : Nat) :
    heldBy s g = true ↔ ∃ k, k < 16 ∧ (s.tpc k).fib = some g := by
  simp only [heldBy, List.any_eq_true, List.mem_range]
  constructor
  · rintro ⟨k, hk, h⟩
    refine ⟨k, hk, ?_⟩
    cases hp : s.tpc k <;> simp [hp, TPc.fib] at h ⊢ <;> exact h
  · rintro ⟨k, hk, h⟩
    refine ⟨k, hk, ?_⟩
    cases hp : s.tpc k <;> simp [hp, TPc.fib] at h ⊢ <;> exact h

theorem inSomeBag_iff (s : St) (g : Nat) (n : Nat) :
    inSomeBag s g n = true ↔ ∃ q, q < n ∧ g ∈ s.bag q := by
  simp [inSomeBag]

theorem step_core {s s' : St} {e : Ev} (h : step s e = some s') : e.wf = true ∧ core s e = some s' := by
  simp only [step] at h
  split at h
  · exact ⟨by assumption, h⟩
  · simp at h

/-- the guard of `switch k g` in propositional form -/
def SwitchOk (s : St) (k g : Nat) : Prop :=
  g ≠ s.cur k ∧
  ((s.tracked g = true ∧ s.tpc k = .armed g) ∨
   (s.tracked g = false ∧ s.tpc k = .run ∧ s.maintOf g = k))

/-- The accepted steps with the successor state written out, one constructor per kind of
    transition of `core`. -/
inductive Step (s : St) : Ev → St → Prop
  | tick : Step s .tick s
  | popNone {k q : Nat} : Step s (.rqpop k q none) s
  | stealNone {k q : Nat} : Step s (.rqsteal k q none) s
  | rObs {k g v : Nat} {fn : Fn} (hd : s.ctx g ≠ .dead) : Step s (.rState k g v fn) s
  | touch {k g : Nat} (hd : s.ctx g ≠ .dead) : Step s (.touch k g) s
  | spawn : Step s .spawn { s with spawned := true }
  | create {k g : Nat} (hn : s.ctx g = .none) :
      Step s (.create k g)
        { s with ctx := upd s.ctx g .fresh, fst := upd s.fst g READY,
                 tracked := upd s.tracked g (!s.spawned), maintOf := upd s.maintOf g k }
  | pushHand {k q g : Nat} {fn : Fn} (htr : s.tracked g = true)
      (hb : ¬ inSomeBag s g NQ = true)
      (hpc : fn = .next ∧ s.tpc k = .requeue g ∨ fn = .other ∧ s.tpc k = .stolen g) :
      Step s (.rqpush k q g fn) { s with bag := upd s.bag q (g :: s.bag q), tpc := upd s.tpc k .run }
  | pushFresh {k q g : Nat} (htr : s.tracked g = true)
      (hb : ¬ inSomeBag s g NQ = true) (hh : ¬ heldBy s g = true) (hc : s.ctx g = .fresh)
      (hf : s.fst g = READY) :
      Step s (.rqpush k q g .wake) { s with bag := upd s.bag q (g :: s.bag q) }
  | pushOld {k q g : Nat} (htr : s.tracked g = true)
      (hb : ¬ inSomeBag s g NQ = true) (hh : ¬ heldBy s g = true) (hg : g = s.old k)
      (hf : s.fst g = READY) (hc : s.ctx g = .saved) (hm : s.mst k = .push) :
      Step s (.rqpush k q g .wake)
        { s with bag := upd s.bag q (g :: s.bag q), mst := upd s.mst k .idle }
  | pushPub {k q g : Nat} (htr : s.tracked g = true)
      (hb : ¬ inSomeBag s g NQ = true) (hh : ¬ heldBy s g = true) (hp : s.pub g = true)
      (hf : s.fst g = READY ∨ s.fst g = SAVING ∨ s.fst g = WAITING) :
      Step s (.rqpush k q g .wake)
        { s with bag := upd s.bag q (g :: s.bag q), pub := upd s.pub g false }
  | pop {k q g : Nat} (hpc : s.tpc k = .run) (hg : g ∈ s.bag q) :
      Step s (.rqpop k q (some g))
        { s with bag := upd s.bag q ((s.bag q).erase g), tpc := upd s.tpc k (.held g) }
  | steal {k q g : Nat} (hpc : s.tpc k = .run) (hg : g ∈ s.bag q) :
      Step s (.rqsteal k q (some g))
        { s with bag := upd s.bag q ((s.bag q).erase g), tpc := upd s.tpc k (.stolen g) }
  | rNext {k g v : Nat} (hd : s.ctx g ≠ .dead) (hv : v = s.fst g) (hpc : s.tpc k = .held g) :
      Step s (.rState k g v .next)
        { s with tpc := upd s.tpc k (if v = SAVING then .requeue g else .checked g) }
  | rMaint {k g v : Nat} (hd : s.ctx g ≠ .dead) (hv : v = s.fst g) (hg : g = s.old k) (hm : s.mst k = .read) :
      Step s (.rState k g v .maint)
        { s with pub := if v = WAITING then upd s.pub g true else s.pub,
                 mst := upd s.mst k (if v = SAVING then .flip else if v = READY then .push
                                     else if v = DONE then .destroy else .idle) }
  | wCur {k g v : Nat} {fn : Fn} (hd : s.ctx g ≠ .dead) (hg : g = s.cur k)
      (hf : s.fst g = RUNNING) :
      Step s (.wState k g v fn) { s with fst := upd s.fst g v }
  | wSaving {k g : Nat} (hd : s.ctx g ≠ .dead) (hg : g = s.cur k) (hf : s.fst g = RUNNING) :
      Step s (.wState k g SAVING .waitSaving)
        { s with fst := upd s.fst g SAVING, pub := upd s.pub g true }
  | wArm {k g : Nat} (hd : s.ctx g ≠ .dead) (hpc : s.tpc k = .checked g) :
      Step s (.wState k g RUNNING .switchTo)
        { s with fst := upd s.fst g RUNNING, tpc := upd s.tpc k (.armed g) }
  | wFlip {k g : Nat} (hd : s.ctx g ≠ .dead) (hg : g = s.old k) (hm : s.mst k = .flip) :
      Step s (.wState k g WAITING .maint)
        { s with fst := upd s.fst g WAITING, mst := upd s.mst k .idle }
  | wWake {k g : Nat} {fn : Fn} (hd : s.ctx g ≠ .dead) (hfn : fn = .wake ∨ fn = .done)
      (hf : s.fst g = WAITING) (hp : s.pub g = true) :
      Step s (.wState k g READY fn) { s with fst := upd s.fst g READY }
  | switch {k g : Nat} (hk : k < 16) (hok : SwitchOk s k g) :
      Step s (.switch k g)
        { s with ctx := upd (upd s.ctx (s.cur k) .saved) g (.running k), cur := upd s.cur k g,
                 old := upd s.old k (s.cur k), tpc := upd s.tpc k .run, pub := upd s.pub g false,
                 mst := upd s.mst k .read }
  | destroy {k g : Nat} (hg : g = s.old k) (hf : s.fst g = DONE) (htr : s.tracked g = true)
      (hm : s.mst k = .destroy) :
      Step s (.destroy k g) { s with ctx := upd s.ctx g .dead, mst := upd s.mst k .idle }

theorem Step.of_step {s s' : St} {e : Ev} (h : step s e = some s') : Step s e s' := by
  obtain ⟨hw, h⟩ := step_core h
  cases e with
  | spawn => simp [core] at h; subst h; exact .spawn
  | tick => simp [core] at h; subst h; exact .tick
  | create k g =>
    simp only [core] at h; split at h <;> simp at h
    subst h; exact .create ‹_›
  | switch k g =>
    have hk : k < 16 := by simpa [Ev.wf] using hw
    simp only [core] at h
    by_cases htr : s.tracked g = true
    · simp only [htr, if_true] at h
      split at h <;> simp at h
      next hc => subst h; exact .switch hk ⟨hc.2, Or.inl ⟨htr, by simpa using hc.1⟩⟩
    · rw [if_neg htr] at h
      split at h <;> simp at h
      next hc =>
        subst h; simp at hc
        exact .switch hk ⟨hc.2, Or.inr ⟨by simpa using htr, hc.1.1, hc.1.2⟩⟩
  | destroy k g =>
    simp only [core] at h; split at h <;> simp at h
    next hc => subst h; exact .destroy hc.1 hc.2.1 hc.2.2.2.1 hc.2.2.2.2.2.2
  | touch k g => simp only [core] at h; split at h <;> simp at h; subst h; exact .touch ‹_›
  | rqpush k q g fn =>
    simp only [core] at h
    split at h
    · simp at h
    next hg =>
      simp only [not_or, Bool.not_eq_true, Bool.not_eq_eq_eq_not] at hg
      obtain ⟨-, hb, htr⟩ := hg
      have hb : ¬ inSomeBag s g NQ = true := by simpa using hb
      have htr : s.tracked g = true := by simpa using htr
      split at h
      · split at h <;> simp at h
        subst_vars
        exact .pushHand htr hb (Or.inl ⟨rfl, ‹_›⟩)
      · split at h <;> simp at h
        subst_vars
        exact .pushHand htr hb (Or.inr ⟨rfl, ‹_›⟩)
      next hpc =>
        split at h
        · simp at h
        next hh =>
          split at h
          next hc => simp at h; subst h; exact .pushFresh htr hb hh hc.1 hc.2
          next =>
            split at h
            next hc =>
              simp at h; subst h
              exact .pushOld htr hb hh hc.1 hc.2.1 hc.2.2.1 hc.2.2.2.2
            next =>
              split at h
              next hc => simp at h; subst h; exact .pushPub htr hb hh hc.1 hc.2
              · simp at h
      · simp at h
  | rqpop k q r =>
    simp only [core] at h
    split at h
    · simp at h
    next hg =>
      simp only [not_or, Decidable.not_not] at hg
      split at h
      · simp at h; subst h; exact .popNone
      · split at h <;> simp at h
        next hc => subst h; exact .pop hg.2 (by simpa using hc)
  | rqsteal k q r =>
    simp only [core] at h
    split at h
    · simp at h
    next hg =>
      simp only [not_or, Decidable.not_not] at hg
      split at h
      · simp at h; subst h; exact .stealNone
      · split at h <;> simp at h
        next hc => subst h; exact .steal hg.2 (by simpa using hc)
  | rState k g v fn =>
    simp only [core] at h
    split at h
    · simp at h
    next hg =>
      simp only [not_or, Decidable.not_not] at hg
      obtain ⟨hv, hd⟩ := hg
      split at h
      · split at h
        next h' hpc =>
          split at h <;> simp at h
          subst h h'
          exact .rNext hd hv hpc
        · simp at h
      · split at h
        next hc => simp at h; subst h; exact .rMaint hd hv hc.1 hc.2.2
        · split at h <;> simp at h
          subst h; exact .rObs hd
      -- `.yield`, `.switchTo`, `.wake` carry a guard; the remaining functions are accepted as they are
      iterate 3 (split at h <;> simp at h <;> subst h <;> exact .rObs hd)
      all_goals (simp at h; subst h; exact .rObs hd)
  | wState k g v fn =>
    simp only [core] at h
    split at h
    · simp at h
    next hd =>
      split at h
      · split at h
        next hc => simp at h; subst h; obtain ⟨hg, rfl, hf⟩ := hc; exact .wCur hd hg hf
        · split at h
          next h' hpc =>
            split at h <;> simp at h
            next hc => subst h; obtain ⟨rfl, rfl⟩ := hc; exact .wArm hd hpc
          · simp at h
      · split at h <;> simp at h
        next hc => subst h; obtain ⟨hg, rfl, -, -, hm⟩ := hc; exact .wFlip hd hg hm
      · split at h <;> simp at h
        next hc => subst h; obtain ⟨hg, rfl, hf, -⟩ := hc; exact .wSaving hd hg hf
      · split at h <;> simp at h
        next hc => subst h; obtain ⟨hg, rfl, hf, -⟩ := hc; exact .wCur hd hg hf
      · split at h <;> simp at h
        next hc => subst h; obtain ⟨rfl, hf, hp, -⟩ := hc; exact .wWake hd (Or.inl rfl) hf hp
      · split at h
        next hc => simp at h; subst h; obtain ⟨hg, rfl, hf, -⟩ := hc; exact .wCur hd hg hf
        · split at h <;> simp at h
          next hc => subst h; obtain ⟨rfl, hf, hp, -⟩ := hc; exact .wWake hd (Or.inr rfl) hf hp
      · simp at h

/-! ### preservation

  Each lemma below is about one kind of state update and names, conjunct by conjunct, the
  conjuncts of `Inv s` the new one rests on; a conjunct that reads none of the written fields is
  inherited as it stands (`{ hI with … }`). -/

attribute [local grind] upd Q Ctx.isRunning TPc.fib RUNNING READY WAITING DONE SAVING

theorem fib_of_checked {s : St} {k g : Nat} (h : s.tpc k = .checked g) : (s.tpc k).fib = some g := by
  simp [h, TPc.fib]

theorem fib_of_armed {s : St} {k g : Nat} (h : s.tpc k = .armed g) : (s.tpc k).fib = some g := by
  simp [h, TPc.fib]

attribute [local grind →] fib_of_checked fib_of_armed

/-- `g` did not exist: it is untracked (`cnone`), so in no queue and no hand, and nobody's `old` -/
theorem inv_create {s : St} {k g : Nat} (hI : Inv s) (hn : s.ctx g = .none) :
    Inv { s with ctx := upd s.ctx g .fresh, fst := upd s.fst g READY,
                 tracked := upd s.tracked g (!s.spawned), maintOf := upd s.maintOf g k } :=
  { hI with
    live := by grind [hI.live]
    liveU := by grind [→ hI.liveU]
    bagQ := by grind [→ hI.bagQ, → hI.cnone]
    handQ := by grind [→ hI.handQ, → hI.cnone]
    chk := by grind [→ hI.chk]
    arm := by grind [→ hI.arm]
    winC := by grind [→ hI.winC]
    winF := by grind [→ hI.winF, → hI.winC]
    winP := by grind [→ hI.winP, → hI.winC]
    winD := by grind [→ hI.winD, → hI.winC]
    winPub := by grind [→ hI.winPub, → hI.winC]
    winBag := by grind [hI.winBag, → hI.winC]
    winHand := by grind [hI.winHand, → hI.winC]
    winM := by grind [→ hI.winM, → hI.winC]
    pubS := by grind [→ hI.pubS]
    untr := by grind [→ hI.untr]
    cnone := by grind [→ hI.cnone]
    cdead := by grind [→ hI.cdead] }

/-- a maintenance duty is dropped: every `win*` conjunct only gets weaker -/
theorem inv_mst_idle {s : St} (hI : Inv s) (k : Nat) : Inv { s with mst := upd s.mst k .idle } :=
  { hI with
    winC := by grind [→ hI.winC]
    winF := by grind [→ hI.winF]
    winP := by grind [→ hI.winP]
    winD := by grind [→ hI.winD]
    winPub := by grind [→ hI.winPub]
    winBag := by grind [hI.winBag]
    winHand := by grind [hI.winHand]
    winU := by grind [→ hI.winU]
    winM := by grind [→ hI.winM] }

/-- a fiber stops being findable: `pub` occurs as a hypothesis (`pubS`) or negated (`winPub`) -/
theorem inv_pub_false {s : St} (hI : Inv s) (g : Nat) : Inv { s with pub := upd s.pub g false } :=
  { hI with
    winPub := by grind [→ hI.winPub]
    pubS := by grind [→ hI.pubS] }

/-- a hand is emptied: every conjunct about hands speaks of the hands that hold something -/
theorem inv_release {s : St} (hI : Inv s) (k : Nat) : Inv { s with tpc := upd s.tpc k .run } :=
  { hI with
    rngT := by grind [hI.rngT]
    handQ := by grind [→ hI.handQ]
    chk := by grind [→ hI.chk]
    arm := by grind [→ hI.arm]
    winHand := by grind [hI.winHand]
    baghand := by grind [hI.baghand]
    handhand := by grind [→ hI.handhand] }

/-- a fiber that is nowhere enters a run queue -/
theorem inv_add {s : St} {q g : Nat} (hI : Inv s) (hq : q < 32) (hnb : ∀ q, g ∉ s.bag q)
    (hnh : ∀ k, (s.tpc k).fib ≠ some g) (hQ : Q s g)
    (hw : ∀ k, s.mst k ≠ .idle → s.fst (s.old k) ≠ SAVING → s.old k ≠ g) :
    Inv { s with bag := upd s.bag q (g :: s.bag q) } :=
  { hI with
    rngQ := by grind [hI.rngQ]
    bagQ := by grind [→ hI.bagQ]
    winBag := by grind [hI.winBag]
    nodup := by grind [hI.nodup]
    bagbag := by grind [→ hI.bagbag]
    baghand := by grind [hI.baghand] }

/-- nothing is ever in a queue or a hand beyond the ranges `inSomeBag`, `heldBy` and `places` scan -/
theorem Inv.bag_lt {s : St} (hI : Inv s) {q g : Nat} (h : g ∈ s.bag q) : q < 32 :=
  Nat.lt_of_not_le fun hq => by simp [hI.rngQ q hq] at h

theorem Inv.hand_lt {s : St} (hI : Inv s) {k g : Nat} (h : (s.tpc k).fib = some g) : k < 16 :=
  Nat.lt_of_not_le fun hk => by simp [hI.rngT k hk, TPc.fib] at h

theorem not_in_bags {s : St} (hI : Inv s) {g : Nat} (hb : ¬ inSomeBag s g NQ = true) (q : Nat) :
    g ∉ s.bag q :=
  fun hq => hb ((inSomeBag_iff s g NQ).mpr ⟨q, hI.bag_lt hq, hq⟩)

theorem nowhere_of_guards {s : St} (hI : Inv s) {g : Nat}
    (hb : ¬ inSomeBag s g NQ = true) (hh : ¬ heldBy s g = true) :
    (∀ q, g ∉ s.bag q) ∧ (∀ k, (s.tpc k).fib ≠ some g) :=
  ⟨not_in_bags hI hb, fun k hk => hh ((heldBy_iff s g).mpr ⟨k, hI.hand_lt hk, hk⟩)⟩

theorem inv_take {s : St} {k q g : Nat} {p : TPc} (hI : Inv s) (hk : k < 16)
    (hpc : s.tpc k = .run) (hg : g ∈ s.bag q) (hp : p = .held g ∨ p = .stolen g) :
    Inv { s with bag := upd s.bag q ((s.bag q).erase g), tpc := upd s.tpc k p } := by
  have hnd := hI.nodup q
  have hne : g ∉ (s.bag q).erase g := fun hm => ((List.Nodup.mem_erase_iff hnd).mp hm).1 rfl
  have hsub : ∀ x, x ∈ (s.bag q).erase g → x ∈ s.bag q := fun x hx => List.mem_of_mem_erase hx
  have hnd' : ((s.bag q).erase g).Nodup := hnd.erase g
  generalize (s.bag q).erase g = l at hne hsub hnd' ⊢
  exact { hI with
    rngT := by grind [hI.rngT]
    rngQ := by grind [hI.rngQ]
    bagQ := by grind [→ hI.bagQ]
    handQ := by grind [→ hI.handQ, → hI.bagQ]
    chk := by grind [→ hI.chk]
    arm := by grind [→ hI.arm]
    winBag := by grind [hI.winBag]
    winHand := by grind [hI.winHand, hI.winBag]
    nodup := by grind [hI.nodup]
    bagbag := by grind [→ hI.bagbag]
    baghand := by grind [hI.baghand, → hI.bagbag]
    handhand := by grind [→ hI.handhand, hI.baghand] }

/-- `fiber_scheduler_next` has looked at the state word of the fiber it popped -/
theorem inv_rnext {s : St} {k g : Nat} (hI : Inv s) (hpc : s.tpc k = .held g) :
    Inv { s with tpc := upd s.tpc k (if s.fst g = SAVING then .requeue g else .checked g) } :=
  have hfib : (s.tpc k).fib = some g := by simp [hpc, TPc.fib]
  { hI with
    rngT := by grind [hI.rngT]
    handQ := by grind [→ hI.handQ]
    chk := by grind [→ hI.chk, → hI.handQ]
    arm := by grind [→ hI.arm]
    winHand := by grind [hI.winHand]
    baghand := by grind [hI.baghand]
    handhand := by grind [→ hI.handhand] }

/-- the first step of maintenance: the state word of `old k` decides what is owed -/
theorem inv_rmaint {s : St} {k v : Nat} (hI : Inv s) (hm : s.mst k = .read)
    (hv : v = s.fst (s.old k)) :
    Inv { s with pub := if v = WAITING then upd s.pub (s.old k) true else s.pub,
                 mst := upd s.mst k (if v = SAVING then .flip else if v = READY then .push
                                     else if v = DONE then .destroy else .idle) } :=
  { hI with
    winC := by grind [→ hI.winC]
    winF := by grind [→ hI.winF]
    winP := by grind [→ hI.winP]
    winD := by grind [→ hI.winD]
    winPub := by grind [→ hI.winPub, → hI.winU]
    winBag := by grind [hI.winBag]
    winHand := by grind [hI.winHand]
    winU := by grind [→ hI.winU]
    winM := by grind [→ hI.winM]
    pubS := by grind [→ hI.pubS, → hI.winC] }

/-- the running fiber of thread k rewrites its own state word from RUNNING (yield's READY,
    P-defer's WAITING, completion's DONE, P-saving's SAVING): being live it is in no queue, no hand,
    nobody's `old`, and not findable -/
theorem inv_wcur {s : St} {k : Nat} (hI : Inv s) (hk : k < 16)
    (hf : s.fst (s.cur k) = RUNNING) (v : Nat) :
    Inv { s with fst := upd s.fst (s.cur k) v } :=
  have hrun := hI.live k hk
  { hI with
    bagQ := by grind [→ hI.bagQ]
    handQ := by grind [→ hI.handQ]
    chk := by grind [→ hI.chk]
    arm := by grind [→ hI.arm]
    winF := by grind [→ hI.winF, → hI.winC]
    winP := by grind [→ hI.winP, → hI.winC]
    winD := by grind [→ hI.winD, → hI.winC]
    winPub := by grind [→ hI.winPub, → hI.winC]
    winBag := by grind [hI.winBag, → hI.winC]
    winHand := by grind [hI.winHand, → hI.winC]
    pubS := by grind [→ hI.pubS] }

/-- a fiber becomes findable: its context is saved or it is marked SAVING, and it is nobody's
    pending `old` -/
theorem inv_pub_true {s : St} {g : Nat} (hI : Inv s)
    (hg : s.ctx g = .saved ∨ (s.fst g = SAVING ∧ (s.ctx g).isRunning = true))
    (hw : ∀ k, s.mst k ≠ .idle → s.fst (s.old k) ≠ SAVING → s.old k ≠ g) :
    Inv { s with pub := upd s.pub g true } :=
  { hI with
    winPub := by grind [→ hI.winPub]
    pubS := by grind [→ hI.pubS] }

/-- `g.state := RUNNING` by the thread that checked `g`: it alone holds `g`, whose state word is
    not SAVING, so `g` is nobody's pending `old` (`winHand`) -/
theorem inv_warm {s : St} {k g : Nat} (hI : Inv s) (hpc : s.tpc k = .checked g) :
    Inv { s with fst := upd s.fst g RUNNING, tpc := upd s.tpc k (.armed g) } :=
  have hc := hI.chk k g hpc
  { hI with
    rngT := by grind [hI.rngT]
    bagQ := by grind [→ hI.bagQ, hI.baghand]
    handQ := by grind [→ hI.handQ]
    chk := by grind [→ hI.chk, → hI.handhand]
    arm := by grind [→ hI.arm, → hI.handhand]
    winF := by grind [→ hI.winF, hI.winHand]
    winP := by grind [→ hI.winP, hI.winHand]
    winD := by grind [→ hI.winD, hI.winHand]
    winPub := by grind [→ hI.winPub, hI.winHand]
    winBag := by grind [hI.winBag, hI.winHand]
    winHand := by grind [hI.winHand]
    pubS := by grind [→ hI.pubS]
    baghand := by grind [hI.baghand]
    handhand := by grind [→ hI.handhand] }

/-- maintenance completes a P-saving suspension: SAVING → WAITING, context saved -/
theorem inv_wflip {s : St} {k : Nat} (hI : Inv s) (hm : s.mst k = .flip) :
    Inv { s with fst := upd s.fst (s.old k) WAITING, mst := upd s.mst k .idle } :=
  have hc := hI.winC k (by simp [hm])
  have hf := hI.winF k hm
  { hI with
    bagQ := by grind [→ hI.bagQ]
    handQ := by grind [→ hI.handQ]
    chk := by grind [→ hI.chk]
    arm := by grind [→ hI.arm]
    winC := by grind [→ hI.winC]
    winF := by grind [→ hI.winF, → hI.winU]
    winP := by grind [→ hI.winP, → hI.winU]
    winD := by grind [→ hI.winD, → hI.winU]
    winPub := by grind [→ hI.winPub, → hI.winU]
    winBag := by grind [hI.winBag, → hI.winU]
    winHand := by grind [hI.winHand, → hI.winU]
    winU := by grind [→ hI.winU]
    winM := by grind [→ hI.winM]
    pubS := by grind [→ hI.pubS] }

/-- a waker makes a published WAITING fiber READY; being published it is nobody's pending `old`
    (`winPub`) -/
theorem inv_wwake {s : St} {g : Nat} (hI : Inv s) (hf : s.fst g = WAITING) (hp : s.pub g = true) :
    Inv { s with fst := upd s.fst g READY } :=
  { hI with
    bagQ := by grind [→ hI.bagQ]
    handQ := by grind [→ hI.handQ]
    chk := by grind [→ hI.chk]
    arm := by grind [→ hI.arm]
    winF := by grind [→ hI.winF, → hI.winPub]
    winP := by grind [→ hI.winP]
    winD := by grind [→ hI.winD, → hI.winPub]
    winPub := by grind [→ hI.winPub]
    winBag := by grind [hI.winBag, → hI.winPub]
    winHand := by grind [hI.winHand, → hI.winPub]
    pubS := by grind [→ hI.pubS] }

/-- THE property: the target of an accepted context switch has a saved (or fresh) context -/
theorem switch_target {s : St} {k g : Nat} (hI : Inv s) (hk : k < 16) (hok : SwitchOk s k g) :
    s.ctx g = .saved ∨ s.ctx g = .fresh := by
  obtain ⟨hne, hok⟩ := hok
  rcases hok with ⟨-, hpc⟩ | ⟨htr, -, hm⟩
  · exact (hI.arm k g hpc).1
  · cases hc : s.ctx g with
    | saved => simp
    | fresh => simp
    | none => have := hI.cnone g hc; omega
    | dead => have := hI.cdead g hc; simp [htr] at this
    | running k' =>
      have h1 := hI.untr g k' htr hc
      have h2 := (hI.liveU g k' hc).2
      rw [h1] at hm; subst hm
      exact absurd h2.symm hne

theorem inv_switch_ok {s : St} {k g : Nat} (hI : Inv s) (hk : k < 16) (hok : SwitchOk s k g) :
    Inv { s with ctx := upd (upd s.ctx (s.cur k) .saved) g (.running k), cur := upd s.cur k g,
                 old := upd s.old k (s.cur k), tpc := upd s.tpc k .run, pub := upd s.pub g false,
                 mst := upd s.mst k .read } := by
  have htg := switch_target hI hk hok
  obtain ⟨hne, hpc⟩ := hok
  have hrun := hI.live k hk
  -- `g` is nobody else's pending `old`: a tracked `g` is armed, so not SAVING, and sits in
  -- `k`'s hand (`winHand`); a maintenance fiber belongs to `k` alone (`winM`)
  have hold : ∀ k', k' ≠ k → s.mst k' ≠ .idle → s.old k' ≠ g := by
    grind [hI.winHand, → hI.arm, → hI.winM]
  exact { hI with
    live := by grind [hI.live]
    liveU := by grind [→ hI.liveU]
    rngT := by grind [hI.rngT]
    bagQ := by grind [→ hI.bagQ, hI.baghand]
    handQ := by grind [→ hI.handQ, → hI.handhand]
    chk := by grind [→ hI.chk, → hI.handhand, → hI.handQ]
    arm := by grind [→ hI.arm, → hI.handhand, → hI.handQ]
    winC := by grind [→ hI.winC]
    winF := by grind [→ hI.winF]
    winP := by grind [→ hI.winP]
    winD := by grind [→ hI.winD]
    winPub := by grind [→ hI.winPub, → hI.pubS]
    winBag := by grind [hI.winBag, → hI.bagQ]
    winHand := by grind [hI.winHand, → hI.handQ]
    winU := by grind [→ hI.winU, → hI.winC]
    winM := by grind [→ hI.winM, → hI.untr]
    pubS := by grind [→ hI.pubS]
    baghand := by grind [hI.baghand]
    handhand := by grind [→ hI.handhand]
    untr := by grind [→ hI.untr]
    cnone := by grind [→ hI.cnone]
    cdead := by grind [→ hI.cdead] }

/-- `old k` is DONE, so in no queue, in no hand and not findable (`winBag`, `winHand`, `winPub`) -/
theorem inv_destroy {s : St} {k : Nat} (hI : Inv s) (hf : s.fst (s.old k) = DONE)
    (htr : s.tracked (s.old k) = true) (hm : s.mst k = .destroy) :
    Inv { s with ctx := upd s.ctx (s.old k) .dead, mst := upd s.mst k .idle } :=
  have hsv := hI.winC k (by simp [hm])
  { hI with
    live := by grind [hI.live]
    liveU := by grind [→ hI.liveU]
    bagQ := by grind [→ hI.bagQ, hI.winBag]
    handQ := by grind [→ hI.handQ, hI.winHand]
    chk := by grind [→ hI.chk, hI.winHand]
    arm := by grind [→ hI.arm, hI.winHand]
    winC := by grind [→ hI.winC, → hI.winU]
    winF := by grind [→ hI.winF]
    winP := by grind [→ hI.winP]
    winD := by grind [→ hI.winD]
    winPub := by grind [→ hI.winPub]
    winBag := by grind [hI.winBag]
    winHand := by grind [hI.winHand]
    winU := by grind [→ hI.winU]
    winM := by grind [→ hI.winM]
    pubS := by grind [→ hI.pubS, → hI.winPub]
    untr := by grind [→ hI.untr]
    cnone := by grind [→ hI.cnone]
    cdead := by grind [→ hI.cdead] }

theorem inv_Step {s s' : St} {e : Ev} (hI : Inv s) (hw : e.wf = true) (hS : Step s e s') :
    Inv s' := by
  -- `hw` becomes `k < 16` (and `q < 32` for the run-queue events)
  cases hS <;> simp [Ev.wf] at hw
  case tick | popNone | stealNone | rObs | touch => exact hI
  case spawn => exact { hI with }
  case create hn => exact inv_create hI hn
  case pushHand k q g fn htr hb hpc =>
    -- the fiber in thread `k`'s hand goes back into a queue (SAVING re-queue, load balancing)
    have hfib : (s.tpc k).fib = some g := by rcases hpc with ⟨-, h⟩ | ⟨-, h⟩ <;> simp [h, TPc.fib]
    exact inv_add (inv_release hI k) hw.2 (not_in_bags hI hb) (by grind [→ hI.handhand])
      (hI.handQ k g hfib) (by grind [hI.winHand])
  case pushFresh htr hb hh hc hf =>
    obtain ⟨hnb, hnh⟩ := nowhere_of_guards hI hb hh
    exact inv_add hI hw.2 hnb hnh (by grind) (by grind [→ hI.winC])
  case pushOld k q g htr hb hh hg hf hc hm =>
    -- `to_schedule`: the last maintenance duty of thread `k`
    obtain ⟨hnb, hnh⟩ := nowhere_of_guards hI hb hh
    exact inv_add (inv_mst_idle hI k) hw.2 hnb hnh (by grind) (by grind [→ hI.winU])
  case pushPub k q g htr hb hh hp hf =>
    -- a waker's push of a published fiber
    obtain ⟨hnb, hnh⟩ := nowhere_of_guards hI hb hh
    exact inv_pub_false (inv_add hI hw.2 hnb hnh (by grind [→ hI.pubS]) (by grind [→ hI.winPub])) g
  case pop hpc hg => exact inv_take hI hw.1 hpc hg (Or.inl rfl)
  case steal hpc hg => exact inv_take hI hw.1 hpc hg (Or.inr rfl)
  case rNext hv hpc => subst hv; exact inv_rnext hI hpc
  case rMaint hv hg hm => subst hg; exact inv_rmaint hI hm hv
  case wCur hg hf => subst hg; exact inv_wcur hI hw hf _
  case wSaving hg hf =>
    -- P-saving: the running fiber marks itself SAVING and is findable from then on
    subst hg
    exact inv_pub_true (inv_wcur hI hw hf SAVING) (by grind [hI.live]) (by grind)
  case wArm hpc => exact inv_warm hI hpc
  case wFlip hg hm => subst hg; exact inv_wflip hI hm
  case wWake hf hp => exact inv_wwake hI hf hp
  case switch hk hok => exact inv_switch_ok hI hk hok
  case destroy hg hf htr hm => subst hg; exact inv_destroy hI hf htr hm

theorem inv_step {s s' : St} {e : Ev} (hI : Inv s) (h : step s e = some s') : Inv s' :=
  inv_Step hI (step_core h).1 (Step.of_step h)

theorem inv_of_run {es : List Ev} {s : St} (h : sys.run es = some s) : Inv s :=
  Sys.inv_of_run sys Inv inv_init (fun _ _ _ hI hs => inv_step hI hs) h

theorem not_cur {s : St} {g : Nat} (hI : Inv s) (h : ∀ k, s.ctx g ≠ .running k) (k : Nat)
    (hk : k < 16) : s.cur k ≠ g :=
  fun hc => h k (hc ▸ hI.live k hk)

theorem runFrom_split {s0 s : St} {pre post : List Ev} {e : Ev}
    (h : sys.runFrom s0 (pre ++ e :: post) = some s) :
    ∃ s1 s2, sys.runFrom s0 pre = some s1 ∧ step s1 e = some s2 ∧ sys.runFrom s2 post = some s :=
  let ⟨s1, h1, h⟩ := Sys.runFrom_append_some h
  let ⟨s2, h2, h3⟩ := Sys.runFrom_cons_some.mp h
  ⟨s1, s2, h1, h2, h3⟩

theorem inv_runFrom {s s' : St} {es : List Ev} (hI : Inv s) (h : sys.runFrom s es = some s') :
    Inv s' :=
  Sys.runFrom_inv Inv (fun _ => True) (fun _ _ _ hI _ hs => inv_step hI hs) es s s' hI h
    (fun _ _ => trivial)

/-- Σ_{j<n} c (f j) -/
def sumTo {α : Type} (n : Nat) (f : Nat → α) (c : α → Nat) : Nat :=
  ((List.range n).map (fun j => c (f j))).sum

theorem sumTo_succ {α : Type} (n : Nat) (f : Nat → α) (c : α → Nat) :
    sumTo (n + 1) f c = sumTo n f c + c (f n) := by
  simp [sumTo, List.range_succ]

theorem sumTo_upd {α : Type} (n : Nat) (f : Nat → α) (c : α → Nat) (i : Nat) (v : α) (hi : i < n) :
    sumTo n (upd f i v) c + c (f i) = sumTo n f c + c v := by
  induction n with
  | zero => omega
  | succ n ih =>
    rw [sumTo_succ, sumTo_succ]
    by_cases h : i = n
    · subst h
      have : sumTo i (upd f i v) c = sumTo i f c := by
        clear ih hi
        simp only [sumTo]
        congr 1
        apply List.map_congr_left
        intro j hj
        simp at hj
        have : j ≠ i := by omega
        simp [upd, this]
      simp [this]; omega
    · have := ih (by omega)
      simp [upd_other _ _ _ _ (Ne.symm h)]
      omega

theorem sumTo_zero {α : Type} (n : Nat) (f : Nat → α) (c : α → Nat) (h : ∀ j, j < n → c (f j) = 0) :
    sumTo n f c = 0 := by
  induction n with
  | zero => rfl
  | succ n ih => rw [sumTo_succ, ih (fun j hj => h j (by omega)), h n (by omega)]

theorem sumTo_pos_iff {α : Type} (n : Nat) (f : Nat → α) (c : α → Nat) :
    0 < sumTo n f c ↔ ∃ j, j < n ∧ 0 < c (f j) := by
  induction n with
  | zero => simp [sumTo]
  | succ n ih =>
    rw [sumTo_succ, Nat.add_pos_iff_pos_or_pos, ih]
    constructor
    · rintro (⟨j, hj, hc⟩ | hn)
      · exact ⟨j, by omega, hc⟩
      · exact ⟨n, by omega, hn⟩
    · rintro ⟨j, hj, hc⟩
      by_cases h : j = n
      · exact Or.inr (h ▸ hc)
      · exact Or.inl ⟨j, by omega, hc⟩

/-- number of run-queue entries holding g (over all 32 queues, with multiplicity) -/
def bagCnt (b : Nat → List Nat) (g : Nat) : Nat := sumTo NQ b (fun l => l.count g)

/-- 1 if the hand holds g -/
def hc (g : Nat) (p : TPc) : Nat := if p.fib = some g then 1 else 0

/-- number of kernel threads holding g in their hand -/
def handCnt (t : Nat → TPc) (g : Nat) : Nat := sumTo 16 t (hc g)

/-- number of places g is in -/
def places (s : St) (g : Nat) : Nat := bagCnt s.bag g + handCnt s.tpc g

theorem bagCnt_cons (b : Nat → List Nat) (q x g : Nat) (hq : q < NQ) :
    bagCnt (upd b q (x :: b q)) g = bagCnt b g + (if x = g then 1 else 0) := by
  have := sumTo_upd NQ b (fun l => l.count g) q (x :: b q) hq
  simp only [bagCnt]
  simp only [List.count_cons] at this
  by_cases h : x = g <;> simp [h] at this ⊢ <;> omega

theorem bagCnt_erase (b : Nat → List Nat) (q x g : Nat) (hq : q < NQ) (hx : x ∈ b q) :
    bagCnt (upd b q ((b q).erase x)) g + (if x = g then 1 else 0) = bagCnt b g := by
  have := sumTo_upd NQ b (fun l => l.count g) q ((b q).erase x) hq
  simp only [bagCnt]
  simp only [List.count_erase] at this
  by_cases h : x = g
  · subst h
    have hpos : 0 < (b q).count x := List.count_pos_iff.mpr hx
    simp at this ⊢; omega
  · simp [h] at this ⊢; omega

theorem handCnt_upd (t : Nat → TPc) (k g : Nat) (p : TPc) (hk : k < 16) :
    handCnt (upd t k p) g + hc g (t k) = handCnt t g + hc g p :=
  sumTo_upd 16 t (hc g) k p hk

theorem bagCnt_pos (b : Nat → List Nat) (g : Nat) : 0 < bagCnt b g ↔ ∃ q, q < 32 ∧ g ∈ b q := by
  simp [bagCnt, sumTo_pos_iff, List.count_pos_iff, NQ]

theorem handCnt_pos (t : Nat → TPc) (g : Nat) :
    0 < handCnt t g ↔ ∃ k, k < 16 ∧ (t k).fib = some g := by
  have (p : TPc) : 0 < hc g p ↔ p.fib = some g := by simp only [hc]; split <;> simp [*]
  simp [handCnt, sumTo_pos_iff, this]

theorem places_pos_iff {s : St} (hI : Inv s) (g : Nat) :
    0 < places s g ↔ (∃ q, g ∈ s.bag q) ∨ (∃ k, (s.tpc k).fib = some g) := by
  rw [places, Nat.add_pos_iff_pos_or_pos, bagCnt_pos, handCnt_pos]
  exact or_congr ⟨fun ⟨q, _, h⟩ => ⟨q, h⟩, fun ⟨q, h⟩ => ⟨q, hI.bag_lt h, h⟩⟩
    ⟨fun ⟨k, _, h⟩ => ⟨k, h⟩, fun ⟨k, h⟩ => ⟨k, hI.hand_lt h, h⟩⟩

theorem places_pos {s : St} {g : Nat} (hI : Inv s) (h : 0 < places s g) : Q s g := by
  rcases (places_pos_iff hI g).mp h with ⟨q, hq⟩ | ⟨k, hk⟩
  · exact hI.bagQ q g hq
  · exact hI.handQ k g hk

theorem bagCnt_zero {s : St} {g : Nat} (h : ∀ q, g ∉ s.bag q) : bagCnt s.bag g = 0 :=
  sumTo_zero _ _ _ (fun q _ => List.count_eq_zero.mpr (h q))

theorem handCnt_zero {s : St} {g : Nat} (h : ∀ k, (s.tpc k).fib ≠ some g) : handCnt s.tpc g = 0 :=
  sumTo_zero _ _ _ (fun k _ => by simp [hc, h k])

def cnt (p : Ev → Bool) (es : List Ev) : Nat := es.countP p

theorem cnt_snoc (p : Ev → Bool) (es : List Ev) (e : Ev) :
    cnt p (es ++ [e]) = cnt p es + (if p e then 1 else 0) := by
  simp [cnt, List.countP_append, List.countP_cons]

/-- a wake-up: `fiber_scheduler_schedule` of g by a creator, a waker or maintenance -/
def isWake (g : Nat) : Ev → Bool
  | .rqpush _ _ x .wake => x == g
  | _ => false
/-- any push of g (wake-up, SAVING re-queue, load-balance re-push) -/
def isPush (g : Nat) : Ev → Bool
  | .rqpush _ _ x _ => x == g
  | _ => false
/-- a pop or steal returning g -/
def isTake (g : Nat) : Ev → Bool
  | .rqpop _ _ (some x) => x == g
  | .rqsteal _ _ (some x) => x == g
  | _ => false
/-- a context switch to g -/
def isSwitch (g : Nat) : Ev → Bool
  | .switch _ x => x == g
  | _ => false
def isPopBy (k g : Nat) : Ev → Bool
  | .rqpop k' _ (some x) => k' == k && x == g
  | _ => false
def isSwitchBy (k g : Nat) : Ev → Bool
  | .switch k' x => k' == k && x == g
  | _ => false
def isRequeueBy (k g : Nat) : Ev → Bool
  | .rqpush k' _ x .next => k' == k && x == g
  | _ => false
/-- any run-queue or switch event about g -/
def isAbout (g : Nat) : Ev → Bool
  | .rqpush _ _ x _ => x == g
  | .rqpop _ _ (some x) => x == g
  | .rqsteal _ _ (some x) => x == g
  | .switch _ x => x == g
  | _ => false

/-- 1 if the hand holds g as the result of a POP (not of a steal) -/
def popHand (g : Nat) : TPc → Nat
  | .held h => if h = g then 1 else 0
  | .requeue h => if h = g then 1 else 0
  | .checked h => if h = g then 1 else 0
  | .armed h => if h = g then 1 else 0
  | _ => 0

/-- only `create` (of a fiber that did not exist), `switch` and `destroy` write `ctx` -/
theorem ctx_none_back {s s' : St} {e : Ev} (h : step s e = some s') (g : Nat)
    (hn : s'.ctx g = .none) : s.ctx g = .none := by
  cases Step.of_step h with
  | create | switch | destroy => grind [upd]
  | _ => exact hn

/-- the events that name fiber g (`touch` = any access to another field of its control block) -/
def mentions (g : Nat) : Ev → Bool
  | .create _ x => x == g
  | .rqpush _ _ x _ => x == g
  | .rqpop _ _ (some x) => x == g
  | .rqsteal _ _ (some x) => x == g
  | .rState _ x _ _ => x == g
  | .wState _ x _ _ => x == g
  | .switch _ x => x == g
  | .destroy _ x => x == g
  | .touch _ x => x == g
  | _ => false

theorem wake_about (g : Nat) (e : Ev) (h : isWake g e = true) : isAbout g e = true := by
  cases e <;> simp [isWake, isAbout] at h ⊢
  next k q x fn => cases fn <;> simp at h <;> exact h
theorem switch_about (g : Nat) (e : Ev) (h : isSwitch g e = true) : isAbout g e = true := by
  cases e <;> simp [isSwitch, isAbout] at h ⊢; exact h
theorem popBy_about (k g : Nat) (e : Ev) (h : isPopBy k g e = true) : isAbout g e = true := by
  cases e <;> simp [isPopBy, isAbout] at h ⊢
  next k q r => cases r <;> simp at h ⊢; exact h.2
theorem switchBy_about (k g : Nat) (e : Ev) (h : isSwitchBy k g e = true) : isAbout g e = true := by
  cases e <;> simp [isSwitchBy, isAbout] at h ⊢; exact h.2
theorem requeueBy_about (k g : Nat) (e : Ev) (h : isRequeueBy k g e = true) : isAbout g e = true := by
  cases e <;> simp [isRequeueBy, isAbout] at h ⊢
  next k q x fn => cases fn <;> simp at h <;> exact h.2

theorem about_mentions {g : Nat} {e : Ev} (h : isAbout g e = true) : mentions g e = true := by
  cases e with
  | rqpop _ _ r | rqsteal _ _ r => cases r <;> simp_all [isAbout, mentions]
  | _ => simp_all [isAbout, mentions]

/-- a fiber in a queue or a hand exists and is not destroyed -/
theorem Q.exists {s : St} {g : Nat} (hI : Inv s) (h : Q s g) : s.ctx g ≠ .none ∧ s.ctx g ≠ .dead :=
  ⟨fun hn => by simpa [(hI.cnone g hn).2.2] using h.1, h.saved_or_saving.2.1⟩

/-- what an accepted event finds of a fiber it names: never a destroyed one, and a run-queue or
    switch event one that exists -/
theorem named_ctx {s s' : St} {e : Ev} (hI : Inv s) (h : step s e = some s') (g : Nat)
    (hm : mentions g e = true) : s.ctx g ≠ .dead ∧ (isAbout g e = true → s.ctx g ≠ .none) := by
  have hI' := inv_step hI h
  cases Step.of_step h with
  | create hn => simp [mentions] at hm; subst hm; simp [hn, isAbout]
  | @pushHand _ q x | @pushFresh _ q x | @pushOld _ q x | @pushPub _ q x =>
    -- the pushed fiber is queued afterwards, and its context is what it was
    simp [mentions] at hm; subst hm
    have := Q.exists hI' (hI'.bagQ q x (by simp [upd]))
    exact ⟨this.2, fun _ => this.1⟩
  | pop _ hg | steal _ hg =>
    simp [mentions] at hm; subst hm
    have := Q.exists hI (hI.bagQ _ _ hg)
    exact ⟨this.2, fun _ => this.1⟩
  | rObs hl | rNext hl | rMaint hl | touch hl | wCur hl | wSaving hl | wArm hl | wFlip hl
  | wWake hl =>
    simp [mentions] at hm; subst hm; exact ⟨hl, by simp [isAbout]⟩
  | switch hk hok =>
    simp [mentions] at hm; subst hm
    rcases switch_target hI hk hok with h | h <;> simp [h]
  | @destroy k _ hg _ _ hm' =>
    simp [mentions] at hm; subst hm hg
    simp [hI.winC k (by simp [hm']), isAbout]
  | _ => simp [mentions] at hm

/-- `g` is a script fiber or the main fiber, or does not exist yet: not a maintenance fiber -/
def Script (s : St) (g : Nat) : Prop := s.tracked g = true ∨ s.ctx g = .none

/-- the history invariant: token conservation -/
structure Hist (s : St) (es : List Ev) : Prop where
  one : ∀ g, places s g ≤ 1
  token : ∀ g, cnt (isPush g) es = cnt (isTake g) es + bagCnt s.bag g
  fresh : ∀ g, s.ctx g = .none → cnt (isAbout g) es = 0
  wake : ∀ g, Script s g → cnt (isWake g) es = cnt (isSwitch g) es + places s g
  pops : ∀ g k, Script s g →
    cnt (isPopBy k g) es = cnt (isSwitchBy k g) es + cnt (isRequeueBy k g) es + popHand g (s.tpc k)

theorem hist_init : Hist init [] := by
  have h0 (g : Nat) : places init g = 0 := by
    rw [places, bagCnt_zero (s := init) (by intro q; simp [init]),
      handCnt_zero (s := init) (by intro k; simp [init, TPc.fib])]
  refine ⟨fun g => by rw [h0 g]; omega, fun g => ?_, fun g _ => by simp [cnt],
    fun g _ => by rw [h0 g]; simp [cnt], fun g k _ => by simp [cnt, init, popHand]⟩
  have := h0 g; simp only [places] at this
  simp [cnt]; omega

/-! One step of each counting identity.  `Step` says how the event moves entries between queues
    and hands; `bagCnt_cons`, `bagCnt_erase` and `handCnt_upd` turn that into the change of the counts;
    the classifiers evaluate on the event; the rest is linear arithmetic.  A `create` of `g` is the
    one case where `tracked g` changes: until then nothing has named `g` (`Hist.fresh`). -/

theorem hist_token {s s' : St} {es : List Ev} {e : Ev} (hH : Hist s es)
    (hw : e.wf = true) (hS : Step s e s') (g : Nat) :
    cnt (isPush g) (es ++ [e]) = cnt (isTake g) (es ++ [e]) + bagCnt s'.bag g := by
  rw [cnt_snoc, cnt_snoc]
  have h0 := hH.token g
  cases hS <;> simp [Ev.wf] at hw <;> simp only [isPush, isTake, bagCnt_cons, *] <;>
    grind [bagCnt_erase]

theorem hist_fresh {s s' : St} {es : List Ev} {e : Ev} (hI : Inv s) (hH : Hist s es)
    (hs : step s e = some s') (g : Nat) (hn : s'.ctx g = .none) :
    cnt (isAbout g) (es ++ [e]) = 0 := by
  have hn0 := ctx_none_back hs g hn
  rw [cnt_snoc, hH.fresh g hn0]
  by_cases ha : isAbout g e = true
  · exact absurd hn0 ((named_ctx hI hs g (about_mentions ha)).2 ha)
  · simp [ha]

/-- a fiber that is `Script` after a step was so before (`create` makes an untracked fiber tracked
    only if it did not exist), and a context switch to it is one to a tracked fiber -/
theorem Script.back {s s' : St} {e : Ev} {g : Nat} (hS : Step s e s') (h : Script s' g) :
    Script s g ∧ (isSwitch g e = true → s.tracked g = true) := by
  cases hS <;> simp only [isSwitch] <;> grind [Script, upd]

/-- one step of `run_once_per_wake`, for every fiber: a wake-up adds a place, a context switch to
    a tracked fiber consumes one, everything else moves the entry or leaves it alone -/
theorem places_step {s s' : St} {e : Ev} (hw : e.wf = true) (hS : Step s e s') (g : Nat) :
    places s' g + (if isSwitch g e = true ∧ s.tracked g = true then 1 else 0)
      = places s g + (if isWake g e then 1 else 0) := by
  cases hS <;> simp [Ev.wf] at hw <;> simp only [places, isWake, isSwitch, bagCnt_cons, *] <;>
    grind [SwitchOk, hc, TPc.fib, bagCnt_erase, handCnt_upd]

/-- the two guards of a wake-up push are the two summands of `places` -/
theorem guards_iff_places (s : St) (g : Nat) :
    (¬ inSomeBag s g NQ = true ∧ ¬ heldBy s g = true) ↔ places s g = 0 := by
  rw [inSomeBag_iff, heldBy_iff, NQ, ← bagCnt_pos, ← handCnt_pos, places]; omega

/-- a wake-up is accepted only for a fiber that is in no place -/
theorem wake_nowhere {s s' : St} {e : Ev} (hS : Step s e s') (g : Nat) (h : isWake g e = true) :
    places s g = 0 := by
  cases hS with
  | pushFresh _ hb hh | pushOld _ hb hh | pushPub _ hb hh =>
    simp [isWake] at h; subst h; exact (guards_iff_places _ _).mp ⟨hb, hh⟩
  | pushHand _ _ hpc => rcases hpc with ⟨rfl, -⟩ | ⟨rfl, -⟩ <;> simp [isWake] at h
  | _ => simp [isWake] at h

theorem hist_one {s s' : St} {e : Ev} (hw : e.wf = true) (hS : Step s e s') (g : Nat)
    (h : places s g ≤ 1) : places s' g ≤ 1 := by
  have h1 := places_step hw hS g
  by_cases ha : isWake g e = true
  · have := wake_nowhere hS g ha; simp [ha] at h1; omega
  · simp [ha] at h1; omega

theorem hist_wake {s s' : St} {es : List Ev} {e : Ev} (hH : Hist s es)
    (hw : e.wf = true) (hS : Step s e s') (g : Nat) (hA : Script s' g) :
    cnt (isWake g) (es ++ [e]) = cnt (isSwitch g) (es ++ [e]) + places s' g := by
  rw [cnt_snoc, cnt_snoc]
  obtain ⟨hA0, hsw⟩ := hA.back hS
  have hp := places_step hw hS g
  have h0 := hH.wake g hA0
  grind

theorem hist_pops {s s' : St} {es : List Ev} {e : Ev} (hH : Hist s es)
    (hS : Step s e s') (g k : Nat) (hA : Script s' g) :
    cnt (isPopBy k g) (es ++ [e]) =
      cnt (isSwitchBy k g) (es ++ [e]) + cnt (isRequeueBy k g) (es ++ [e]) + popHand g (s'.tpc k) := by
  rw [cnt_snoc, cnt_snoc, cnt_snoc]
  obtain ⟨hA0, hsw⟩ := hA.back hS
  have h0 := hH.pops g k hA0
  cases hS <;> simp only [isPopBy, isSwitchBy, isRequeueBy, isSwitch] at hsw ⊢ <;>
    grind [SwitchOk, popHand, upd]

theorem hist_step {s s' : St} {es : List Ev} {e : Ev} (hI : Inv s) (hH : Hist s es)
    (hs : step s e = some s') : Hist s' (es ++ [e]) := by
  have hS := Step.of_step hs
  have hw := (step_core hs).1
  exact ⟨fun g => hist_one hw hS g (hH.one g), hist_token hH hw hS, hist_fresh hI hH hs, hist_wake hH hw hS,
    fun g k => hist_pops hH hS g k⟩

theorem inv_hist_of_run {es : List Ev} {s : St} (h : sys.run es = some s) : Inv s ∧ Hist s es :=
  Sys.hist_inv_of_run sys (fun s es => Inv s ∧ Hist s es) ⟨inv_init, hist_init⟩
    (fun _ _ _ _ hI hs => ⟨inv_step hI.1 hs, hist_step hI.1 hI.2 hs⟩) h

theorem cur_step {s s' : St} {e : Ev} {k : Nat} (h : step s e = some s')
    (hne : ∀ x, e ≠ .switch k x) : s'.cur k = s.cur k := by
  cases Step.of_step h with
  | @switch k' x =>
    have : k ≠ k' := fun hk => hne x (hk ▸ rfl)
    simp [upd, this]
  | _ => rfl

theorem cur_runFrom {s s2 : St} {mid : List Ev} {k : Nat} (h : sys.runFrom s mid = some s2)
    (hno : ∀ x, Ev.switch k x ∉ mid) : s2.cur k = s.cur k :=
  Sys.runFrom_inv (fun t => t.cur k = s.cur k) (fun e => ∀ x, e ≠ .switch k x)
    (fun _ _ _ hI hP hs => (cur_step hs hP).trans hI) mid s s2 rfl h
    (fun _ he x hx => hno x (hx ▸ he))

/-- the fiber kernel thread `k` is executing stays live on `k`, and no switch to it is accepted
    on any thread, until `k` itself switches -/
theorem no_switch_to_cur {s s2 : St} {mid : List Ev} {k k' : Nat} (hI : Inv s) (hk : k < 16)
    (h : sys.runFrom s mid = some s2) (hno : ∀ x, Ev.switch k x ∉ mid) :
    step s2 (.switch k' (s.cur k)) = none := by
  have hI2 := inv_runFrom hI h
  have hrun := hI2.live k hk
  rw [cur_runFrom h hno] at hrun
  cases hs : step s2 (.switch k' (s.cur k)) with
  | none => rfl
  | some s3 =>
    cases Step.of_step hs with
    | switch hk' hok => rcases switch_target hI2 hk' hok with h | h <;> simp [hrun] at h

theorem ctx_step {s s' : St} {e : Ev} (h : step s e = some s') (g : Nat)
    (hm : mentions g e = false) (hc : ∀ k, k < 16 → s.cur k ≠ g) : s'.ctx g = s.ctx g := by
  cases Step.of_step h with
  | create | destroy => simp [mentions] at hm; simp [upd, Ne.symm hm]
  | @switch k _ hk =>
    simp [mentions] at hm; simp [upd, Ne.symm hm, Ne.symm (hc k hk)]
  | _ => rfl

theorem dead_step {s s' : St} {e : Ev} {g : Nat} (hI : Inv s) (hd : s.ctx g = .dead)
    (h : step s e = some s') : s'.ctx g = .dead ∧ mentions g e = false := by
  have hm : mentions g e = false :=
    Bool.eq_false_iff.mpr fun hm => (named_ctx hI h g hm).1 hd
  refine ⟨?_, hm⟩
  rw [ctx_step h g hm, hd]
  exact not_cur hI (by simp [hd])

theorem dead_runFrom {s s' : St} {fs : List Ev} {g : Nat} (hI : Inv s) (hd : s.ctx g = .dead)
    (hf : sys.runFrom s fs = some s') : s'.ctx g = .dead ∧ ∀ e ∈ fs, mentions g e = false := by
  induction fs generalizing s with
  | nil => simp [Sys.runFrom] at hf; subst hf; exact ⟨hd, by simp⟩
  | cons e fs ih =>
    obtain ⟨_, s1, h1, hst, hf⟩ := runFrom_split (pre := []) hf
    simp [Sys.runFrom] at h1; subst h1
    obtain ⟨hd1, hm⟩ := dead_step hI hd hst
    obtain ⟨hd', hms⟩ := ih (inv_step hI hst) hd1 hf
    exact ⟨hd', by simpa [hm] using hms⟩

end LibfiberVerif.Rt
