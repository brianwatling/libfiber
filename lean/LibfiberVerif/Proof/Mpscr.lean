/-
  The relaxed MPSC queue reduces to its SPSC sub-queues (property C15).

  `Mpscr.step` changes sub-queue states only through `Mpsc.step .spsc`; hence every
  sub-queue state reached in a run of the relaxed queue is a reachable state of the SPSC
  model (`sub_reachable`) and inherits its invariants and theorems.  On top of that: the
  round-robin bookkeeping (`LInv`: a trypop that returns NULL has examined every sub-queue)
  and the disjointness of the payloads of different sub-queues (`DInv`).
-/
import LibfiberVerif.Model.Mpscr
import LibfiberVerif.Proof.Mpsc

namespace LibfiberVerif.Mpscr

/-- The stub only enters `init`, which `runFrom` does not use (`runFrom_stub`): any number will do. -/
abbrev SubSys : Sys Mpsc.St Mpsc.Ev := Mpsc.sys .spsc 0

theorem runFrom_stub (a b : Nat) (q : Mpsc.St) (l : List Mpsc.Ev) :
    (Mpsc.sys .spsc a).runFrom q l = (Mpsc.sys .spsc b).runFrom q l := by
  induction l generalizing q with
  | nil => rfl
  | cons e l ih =>
    simp only [Sys.runFrom]
    have : (Mpsc.sys .spsc a).step q e = (Mpsc.sys .spsc b).step q e := rfl
    rw [this]
    cases (Mpsc.sys .spsc b).step q e with
    | none => rfl
    | some q' => exact ih q'

theorem run_nil (a : Mpsc.St) : SubSys.runFrom a [] = some a := rfl

theorem run_one {a b : Mpsc.St} {e : Mpsc.Ev} (h : Mpsc.step .spsc a e = some b) :
    SubSys.runFrom a [e] = some b := by
  simp [Sys.runFrom, SubSys, Mpsc.sys, h]

theorem run_two {a b c : Mpsc.St} {e1 e2 : Mpsc.Ev} (h1 : Mpsc.step .spsc a e1 = some b)
    (h2 : Mpsc.step .spsc b e2 = some c) : SubSys.runFrom a [e1, e2] = some c := by
  simp [Sys.runFrom, SubSys, Mpsc.sys, h1, h2]

abbrev Sub (a : Mpsc.St) (e : Mpsc.Ev) (b : Mpsc.St) : Prop := Mpsc.step .spsc a e = some b

/-- The accepted steps of the relaxed queue, one constructor per branch of `step`. -/
inductive Step (s : St) : Ev → St → Prop
  | producer {t p : Nat} : Step s (.producer t p) { s with tq := upd s.tq t p }
  | callPop {t : Nat} (hcp : s.cpc = .idle) :
      Step s (.callPop t) { s with cpc := .loop 0 s.counter, ct := t, seen := [] }
  | rdCounter {t i c0 : Nat} (hcp : s.cpc = .loop i c0) (hi : i < s.np) :
      Step s (.rdCounter t s.counter) { s with cpc := .gotC i c0 s.counter }
  | wrCounter {t i c0 c : Nat} {q' : Mpsc.St} (hcp : s.cpc = .gotC i c0 c)
      (hq : Sub (s.sub (c % s.np)) (.callPop t) q') :
      Step s (.wrCounter t (c + 1))
        { s with counter := c + 1, sub := upd s.sub (c % s.np) q', cpc := .inSub i c0 (c % s.np) }
  | retEmpty {t c0 : Nat} (hcp : s.cpc = .loop s.np c0) : Step s (.retPop t 0) { s with cpc := .idle }
  | retPop {t v i c0 idx : Nat} {q' : Mpsc.St} (hcp : s.cpc = .inSub i c0 idx) (hv : v ≠ 0)
      (hq : Sub (s.sub idx) (.retPop t v) q') :
      Step s (.retPop t v) { s with sub := upd s.sub idx q', cpc := .idle }
  | push {qi : Option Nat} {e : Mpsc.Ev} {t : Nat} {q' : Mpsc.St} (hside : side e = some (t, true))
      (hok : clientOk s e = true) (hq : Sub (s.sub (s.tq t)) e q') :
      Step s (.sub qi e) { s with sub := upd s.sub (s.tq t) q', called := calledAfter s e }
  | popNull {qi : Option Nat} {t n i c0 idx : Nat} {q' q'' : Mpsc.St} (hcp : s.cpc = .inSub i c0 idx)
      (hq : Sub (s.sub idx) (.rdNext t n 0) q') (hq2 : Sub q' (.retPop s.ct 0) q'') :
      Step s (.sub qi (.rdNext t n 0))
        { s with sub := upd s.sub idx q'', cpc := .loop (i + 1) c0, seen := s.seen ++ [idx] }
  | pop {qi : Option Nat} {e : Mpsc.Ev} {t i c0 idx : Nat} {q' : Mpsc.St}
      (hside : side e = some (t, false)) (hne : ∀ t n, e = .rdNext t n 0 → False)
      (hcp : s.cpc = .inSub i c0 idx) (hq : Sub (s.sub idx) e q') :
      Step s (.sub qi e) { s with sub := upd s.sub idx q' }

theorem Step.of_step {s s' : St} {e : Ev} (hs : step s e = some s') : Step s e s' := by
  cases e <;> simp only [step] at hs <;> (repeat' split at hs) <;>
    simp only [Option.some.injEq, reduceCtorEq] at hs <;> subst hs <;>
    (repeat cases ‹_ ∧ _›) <;> subst_vars <;> constructor <;> assumption

theorem upd_run {f : Nat → Mpsc.St} {idx j : Nat} {q' : Mpsc.St} {l : List Mpsc.Ev}
    (h : SubSys.runFrom (f idx) l = some q') :
    ∃ l, SubSys.runFrom (f j) l = some (upd f idx q' j) := by
  by_cases hj : j = idx
  · exact ⟨l, by rw [hj, upd_same]; exact h⟩
  · exact ⟨[], by rw [upd_other _ _ _ _ hj]; rfl⟩

/-- a step of the relaxed queue leaves every sub-queue alone, but for at most one, which makes one
    or two SPSC steps -/
theorem sub_runFrom_of_step {s s' : St} {e : Ev} (hs : step s e = some s') (j : Nat) :
    ∃ l, SubSys.runFrom (s.sub j) l = some (s'.sub j) := by
  cases Step.of_step hs with
  | producer | callPop | rdCounter | retEmpty => exact ⟨[], rfl⟩
  | wrCounter _ hq | retPop _ _ hq | push _ _ hq | pop _ _ _ hq => exact upd_run (run_one hq)
  | popNull _ hq hq2 => exact upd_run (run_two hq hq2)

/-- The reduction: along a run of the relaxed queue every sub-queue makes a run of the SPSC model.
    What the SPSC model keeps along its runs, each sub-queue keeps. -/
theorem sub_runFrom {np : Nat} {s s' : St} {es : List Ev} (h : (sys np).runFrom s es = some s')
    (j : Nat) : ∃ l, SubSys.runFrom (s.sub j) l = some (s'.sub j) :=
  Mpsc.runFrom_induct (sys np) (fun x => ∃ l, SubSys.runFrom (s.sub j) l = some (x.sub j))
    (fun _ _ _ ⟨l, hl⟩ hs =>
      let ⟨l2, hl2⟩ := sub_runFrom_of_step hs j
      ⟨l ++ l2, by rw [Sys.runFrom_append, hl]; exact hl2⟩) ⟨[], rfl⟩ h

def SubOk (q : Mpsc.St) : Prop := Mpsc.Inv .spsc q ∧ Mpsc.VInv q

theorem subOk_of_runFrom {np : Nat} {s s' : St} {es : List Ev} (hi : ∀ j, SubOk (s.sub j))
    (h : (sys np).runFrom s es = some s') (j : Nat) : SubOk (s'.sub j) :=
  let ⟨_, hl⟩ := sub_runFrom h j
  Mpsc.invs_of_runFrom (k := .spsc) (stub := 0) (hi j) hl

theorem subOk_of_run {np : Nat} {es : List Ev} {s : St} (h : (sys np).run es = some s) :
    ∀ j, SubOk (s.sub j) :=
  subOk_of_runFrom
    (fun j => ⟨Mpsc.inv_init .spsc (j + 1) (by omega), Mpsc.vinv_init (j + 1)⟩) h

/-- Every sub-queue state of a reachable state of the relaxed queue is a reachable state of the
    SPSC model started with that sub-queue's stub. -/
theorem sub_reachable {np : Nat} {es : List Ev} {s : St} (h : (sys np).run es = some s) (j : Nat) :
    ∃ l, (Mpsc.sys .spsc (j + 1)).run l = some (s.sub j) :=
  let ⟨l, hl⟩ := sub_runFrom h j
  ⟨l, (runFrom_stub (j + 1) 0 _ l).trans hl⟩

theorem sub_pushed_prefix_runFrom {np : Nat} {s s' : St} {es : List Ev}
    (h : (sys np).runFrom s es = some s') (j : Nat) : (s.sub j).pushed <+: (s'.sub j).pushed :=
  let ⟨_, hl⟩ := sub_runFrom h j
  Mpsc.pushed_prefix_of_runFrom (k := .spsc) (stub := 0) hl

theorem residues_cover {np : Nat} (hnp : 0 < np) (c j : Nat) (hj : j < np) :
    ∃ k, k < np ∧ (c + k) % np = j := by
  have hr : c % np < np := Nat.mod_lt _ hnp
  have hc : c = np * (c / np) + c % np := (Nat.div_add_mod c np).symm
  by_cases h : c % np ≤ j
  · refine ⟨j - c % np, by omega, ?_⟩
    have : c + (j - c % np) = np * (c / np) + j := by omega
    rw [this, Nat.mul_add_mod]
    exact Nat.mod_eq_of_lt hj
  · refine ⟨np - c % np + j, by omega, ?_⟩
    have : c + (np - c % np + j) = np * (c / np + 1) + j := by
      rw [Nat.mul_add, Nat.mul_one]; omega
    rw [this, Nat.mul_add_mod]
    exact Nat.mod_eq_of_lt hj

/-- sub-queues examined (and found empty) by the first `i` loop iterations of a trypop that
    started with `counter = c0` -/
def examined (np c0 i : Nat) : List Nat := (List.range i).map (fun k => (c0 + k) % np)

theorem examined_succ (np c0 i : Nat) : examined np c0 (i + 1) = examined np c0 i ++ [(c0 + i) % np] := by
  simp [examined, List.range_succ]

structure LInv (np : Nat) (s : St) : Prop where
  npEq : s.np = np
  loop : ∀ i c0, s.cpc = .loop i c0 → s.counter = c0 + i ∧ i ≤ np ∧ s.seen = examined np c0 i
  gotC : ∀ i c0 c, s.cpc = .gotC i c0 c →
    c = c0 + i ∧ s.counter = c ∧ i < np ∧ s.seen = examined np c0 i
  inSub : ∀ i c0 idx, s.cpc = .inSub i c0 idx →
    s.counter = c0 + i + 1 ∧ i < np ∧ idx = (c0 + i) % np ∧ s.seen = examined np c0 i

theorem linv_init (np : Nat) : LInv np (init np) := by
  constructor <;> simp [init]

theorem linv_step {np : Nat} {s s' : St} {e : Ev} (h : LInv np s) (hs : step s e = some s') :
    LInv np s' := by
  have hnp := h.npEq
  cases Step.of_step hs with
  | producer | push | pop => exact ⟨h.npEq, h.loop, h.gotC, h.inSub⟩
  | callPop => constructor <;> simp [hnp, examined]
  | rdCounter hcp =>
    have := h.loop _ _ hcp
    constructor <;> simp [hnp]
    grind
  | wrCounter hcp =>
    have := h.gotC _ _ _ hcp
    constructor <;> simp [hnp]
    grind
  | retEmpty | retPop => constructor <;> simp [hnp]
  | popNull hcp =>
    have := h.inSub _ _ _ hcp
    constructor <;> simp [hnp]
    rw [examined_succ]
    grind

theorem linv_of_run {np : Nat} {es : List Ev} {s : St} (h : (sys np).run es = some s) : LInv np s :=
  Sys.inv_of_run (sys np) (LInv np) (linv_init np) (fun _ _ _ hi hs => linv_step hi hs) h

theorem examined_all {np c0 : Nat} (hnp : 0 < np) (j : Nat) (hj : j < np) :
    j ∈ examined np c0 np := by
  obtain ⟨k, hk, hkj⟩ := residues_cover hnp c0 j hj
  simp only [examined, List.mem_map, List.mem_range]
  exact ⟨k, hk, hkj⟩

structure DInv (s : St) : Prop where
  sub : ∀ j v, v ∈ (s.sub j).called → v ∈ s.called
  disj : ∀ i j v, i ≠ j → v ∈ (s.sub i).called → v ∉ (s.sub j).called

theorem dinv_init (np : Nat) : DInv (init np) := by
  constructor <;> simp [init, Mpsc.init]

theorem called_of_step {a b : Mpsc.St} {e : Mpsc.Ev} (h : Sub a e b) :
    b.called = a.called ∨ ∃ t v, e = .callPush t v ∧ b.called = a.called ++ [v] := by
  cases Mpsc.Step.of_step h with
  | callPush => exact .inr ⟨_, _, rfl, rfl⟩
  | _ => exact .inl rfl

theorem called_eq {a b : Mpsc.St} {e : Mpsc.Ev} (h : Sub a e b) (hne : ∀ t v, e ≠ .callPush t v) :
    b.called = a.called :=
  (called_of_step h).elim id fun ⟨t, v, he, _⟩ => absurd he (hne t v)

theorem DInv.replace {s s' : St} (h : DInv s) {idx : Nat} {q' : Mpsc.St}
    (hsub : s'.sub = upd s.sub idx q') (hcl : q'.called = (s.sub idx).called)
    (hc : s'.called = s.called) : DInv s' := by
  obtain ⟨h1, h2⟩ := h
  constructor
  · rw [hsub, hc]; simp only [upd_apply]; grind
  · rw [hsub]; simp only [upd_apply]; grind

theorem dinv_step {s s' : St} {e : Ev} (h : DInv s) (hs : step s e = some s') : DInv s' := by
  cases Step.of_step hs with
  | producer | callPop | rdCounter | retEmpty => exact ⟨h.sub, h.disj⟩
  | wrCounter _ hq | retPop _ _ hq => exact h.replace rfl (called_eq hq nofun) rfl
  | popNull _ hq hq2 => exact h.replace rfl ((called_eq hq2 nofun).trans (called_eq hq nofun)) rfl
  | pop hside _ _ hq =>
    exact h.replace rfl (called_eq hq fun _ _ he => by subst he; cases hside) rfl
  | @push qi e _ _ _ hok hq =>
    have hsub := h.sub
    have hdisj := h.disj
    rcases called_of_step hq with hcl | ⟨t', v, he, hcl⟩
    · have : calledAfter s e = s.called ∨ ∃ v, calledAfter s e = s.called ++ [v] := by
        cases e <;> simp [calledAfter]
      constructor <;> simp only [upd_apply] <;> grind
    · subst he
      simp only [clientOk, decide_eq_true_eq] at hok
      constructor <;> simp only [upd_apply, calledAfter] <;> grind

theorem dinv_of_run {np : Nat} {es : List Ev} {s : St} (h : (sys np).run es = some s) : DInv s :=
  Sys.inv_of_run (sys np) DInv (dinv_init np) (fun _ _ _ hi hs => dinv_step hi hs) h

end LibfiberVerif.Mpscr
