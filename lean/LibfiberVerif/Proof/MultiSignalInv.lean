/-
  Proof/MultiSignalInv.lean — the invariant of the multi-waiter signal model
  (fiber_multi_signal_t, include/fiber_signal.h), proved inductive in Proof/MultiSignal.lean.
  Multi-signal clause of property C20.

  Core of the ABA argument: `counter` is incremented by EVERY successful CAS2
  (`counter = updates`), a snapshot reads the counter FIRST, so a CAS2 that succeeds from a
  snapshot (c, h) proves that nothing changed since c was read: `head` is still h, and — for
  a raise — the node h is still the top of the list and its `next` is still what was read.
-/
import LibfiberVerif.Model.MultiSignal

namespace LibfiberVerif.MultiSignal

def headOf : List Nat → H
  | [] => .nil
  | n :: _ => .node n

/-- the `next` pointers of the listed nodes form the list -/
def Chain (next : Nat → H) : List Nat → Prop
  | [] => True
  | n :: rest => next n = headOf rest ∧ Chain next rest

theorem chain_upd_of_not_mem (next : Nat → H) (n : Nat) (h : H) :
    ∀ l : List Nat, n ∉ l → Chain next l → Chain (upd next n h) l := by
  intro l
  induction l with
  | nil => intros; trivial
  | cons m rest ih =>
    intro hn hc
    simp only [List.mem_cons, not_or] at hn
    refine ⟨?_, ih hn.2 hc.2⟩
    have : m ≠ n := fun e => hn.1 e.symm
    simp [upd, this, hc.1]

theorem headOf_eq_node {l : List Nat} {n : Nat} (h : headOf l = .node n) : ∃ rest, l = n :: rest := by
  cases l with
  | nil => simp [headOf] at h
  | cons m rest => simp [headOf] at h; exact ⟨rest, by rw [h]⟩

/-- f has listed itself and has not resumed -/
def Pc.sleepy (p : Pc) : Prop := p = .wListed ∨ p = .parking ∨ p = .parked

/-- the raiser has popped g's node and is about to wake g -/
def Pc.targets (p : Pc) (g : Nat) : Prop :=
  p = .rPopped g ∨ p = .rGotData g g ∨ p = .rGaveNode g ∨ p = .rReady g

structure Inv (s : St) : Prop where
  cnt : s.counter = s.updates
  fnode_id : ∀ f, s.fnode f = f
  head_stack : s.head = headOf s.stack ∨ (s.stack = [] ∧ s.head = .raised)
  chain : Chain s.next s.stack
  nodup : s.stack.Nodup
  listed : ∀ n, n ∈ s.stack →
    (s.pc n).sleepy ∧ s.wakes n + 1 = s.parks n ∧ (∀ g, s.waker n ≠ some g) ∧ s.ndata n = n
  wEarly1 : ∀ f n, s.pc f = .wGotNode n → n = f
  wEarly2 : ∀ f n, s.pc f = .wLoop n → n = f
  wData1 : ∀ f n, s.pc f = .wLoop n → s.ndata f = f
  wData2 : ∀ f n c, s.pc f = .wLdC n c → s.ndata f = f
  wData3 : ∀ f n c h, s.pc f = .wLdH n c h → s.ndata f = f
  wData4 : ∀ f n c h, s.pc f = .wNext n c h → s.ndata f = f
  snapW1 : ∀ f n c, s.pc f = .wLdC n c → c ≤ s.counter ∧ n = f
  snapW2 : ∀ f n c h, s.pc f = .wLdH n c h → c ≤ s.counter ∧ (c = s.counter → s.head = h) ∧ n = f
  snapW3 : ∀ f n c h, s.pc f = .wNext n c h →
    c ≤ s.counter ∧ (c = s.counter → s.head = h) ∧ n = f ∧ s.next n = h ∧ h ≠ .raised
  snapR1 : ∀ f c, s.pc f = .rLdC c → c ≤ s.counter
  snapR2 : ∀ f c h, s.pc f = .rLdH c h → c ≤ s.counter ∧ (c = s.counter → s.head = h)
  snapR3 : ∀ f c n x, s.pc f = .rNext c n x →
    c ≤ s.counter ∧ (c = s.counter → s.head = .node n ∧ x = s.next n)
  waker_target : ∀ f g, s.waker f = some g → (s.pc g).targets f
  target_waker1 : ∀ f g, s.pc g = .rPopped f → s.waker f = some g
  target_waker2 : ∀ f g, s.pc g = .rGotData f f → s.waker f = some g
  target_waker3 : ∀ f g, s.pc g = .rGaveNode f → s.waker f = some g
  target_waker4 : ∀ f g, s.pc g = .rReady f → s.waker f = some g
  waker_sleepy : ∀ f g, s.waker f = some g →
    (s.pc f).sleepy ∧ s.wakes f + 1 = s.parks f ∧ f ∉ s.stack ∧ s.ndata f = f
  owed : ∀ f, (s.pc f).sleepy → s.wakes f + 1 = s.parks f → f ∈ s.stack ∨ ∃ g, s.waker f = some g
  counts : ∀ f, s.wakes f = s.parks f ∨ ((s.pc f).sleepy ∧ s.wakes f + 1 = s.parks f)
  woken_parked : ∀ f, (s.pc f).sleepy → s.wakes f = s.parks f → s.pc f = .parked
  marker : ∀ f, s.scratch f = true ↔ s.pc f = .parked
  ready_parked : ∀ r g, s.pc r = .rReady g → s.pc g = .parked
  gotData_eq : ∀ f m g, s.pc f = .rGotData m g → m = g

theorem inv_init : Inv (init (fun k => k)) := by
  constructor <;> simp [init, headOf, Chain, Pc.sleepy, Pc.targets]

theorem headOf_eq_nil {l : List Nat} (h : headOf l = .nil) : l = [] := by
  cases l with
  | nil => rfl
  | cons m rest => simp [headOf] at h

theorem headOf_ne_raised (l : List Nat) : headOf l ≠ .raised := by
  cases l <;> simp [headOf]

theorem stack_of_head {s : St} (hi : Inv s) :
    (s.head = .raised → s.stack = []) ∧ (s.head = .nil → s.stack = []) ∧
    (∀ n, s.head = .node n → ∃ rest, s.stack = n :: rest ∧ s.next n = headOf rest ∧ Chain s.next rest ∧
        n ∉ rest ∧ rest.Nodup) := by
  refine ⟨?_, ?_, ?_⟩
  · intro h
    rcases hi.head_stack with h' | h'
    · rw [h] at h'; exact absurd h'.symm (headOf_ne_raised _)
    · exact h'.1
  · intro h
    rcases hi.head_stack with h' | h'
    · rw [h] at h'; exact headOf_eq_nil h'.symm
    · exact h'.1
  · intro n h
    rcases hi.head_stack with h' | h'
    · rw [h] at h'
      obtain ⟨rest, hr⟩ := headOf_eq_node h'.symm
      have hc := hi.chain
      have hn := hi.nodup
      rw [hr] at hc hn
      simp only [List.nodup_cons] at hn
      exact ⟨rest, hr, hc.1, hc.2, hn.1, hn.2⟩
    · rw [h] at h'; simp at h'

/-- What fiber `f` knows at pc `p`: a snapshot is no newer than the two words and equal to them
    while the counter has not moved; a raiser past its CAS2 is the waker of the node it popped. -/
def PcOk (s : St) (f : Nat) : Pc → Prop
  | .wGotNode n => n = f
  | .wLoop n => n = f ∧ s.ndata f = f
  | .wLdC n c => n = f ∧ s.ndata f = f ∧ c ≤ s.counter
  | .wLdH n c h => n = f ∧ s.ndata f = f ∧ c ≤ s.counter ∧ (c = s.counter → s.head = h)
  | .wNext n c h => n = f ∧ s.ndata f = f ∧ c ≤ s.counter ∧ (c = s.counter → s.head = h) ∧
      s.next n = h ∧ h ≠ .raised
  | .rLdC c => c ≤ s.counter
  | .rLdH c h => c ≤ s.counter ∧ (c = s.counter → s.head = h)
  | .rNext c n x => c ≤ s.counter ∧ (c = s.counter → s.head = .node n ∧ x = s.next n)
  | .rPopped g => s.waker g = some f
  | .rGotData m g => m = g ∧ s.waker g = some f
  | .rGaveNode g => s.waker g = some f
  | .rReady g => s.waker g = some f ∧ s.scratch g = true
  | _ => True

/-- the conjuncts of `Inv` about who sleeps, who is listed and who wakes whom -/
structure Sleep (s : St) : Prop where
  listed : ∀ n, n ∈ s.stack →
    (s.pc n).sleepy ∧ s.wakes n + 1 = s.parks n ∧ (∀ g, s.waker n ≠ some g) ∧ s.ndata n = n
  waker_target : ∀ f g, s.waker f = some g → (s.pc g).targets f
  waker_sleepy : ∀ f g, s.waker f = some g →
    (s.pc f).sleepy ∧ s.wakes f + 1 = s.parks f ∧ f ∉ s.stack ∧ s.ndata f = f
  owed : ∀ f, (s.pc f).sleepy → s.wakes f + 1 = s.parks f → f ∈ s.stack ∨ ∃ g, s.waker f = some g
  counts : ∀ f, s.wakes f = s.parks f ∨ ((s.pc f).sleepy ∧ s.wakes f + 1 = s.parks f)
  woken_parked : ∀ f, (s.pc f).sleepy → s.wakes f = s.parks f → s.pc f = .parked
  marker : ∀ f, s.scratch f = true ↔ s.pc f = .parked

/-- `Inv` with the conjuncts about one pc gathered in `PcOk`, those about sleepers in `Sleep` -/
structure View (s : St) : Prop where
  cnt : s.counter = s.updates
  fnode_id : ∀ f, s.fnode f = f
  head_stack : s.head = headOf s.stack ∨ (s.stack = [] ∧ s.head = .raised)
  chain : Chain s.next s.stack
  nodup : s.stack.Nodup
  pcok : ∀ f, PcOk s f (s.pc f)
  sleep : Sleep s

theorem View.at {s : St} (hv : View s) {f : Nat} {p : Pc} (h : s.pc f = p) : PcOk s f p :=
  h ▸ hv.pcok f

theorem Inv.view {s : St} (hi : Inv s) : View s where
  cnt := hi.cnt
  fnode_id := hi.fnode_id
  head_stack := hi.head_stack
  chain := hi.chain
  nodup := hi.nodup
  pcok := fun f => by
    cases h : s.pc f with
    | wGotNode n => exact hi.wEarly1 f n h
    | wLoop n => exact ⟨hi.wEarly2 f n h, hi.wData1 f n h⟩
    | wLdC n c => exact ⟨(hi.snapW1 f n c h).2, hi.wData2 f n c h, (hi.snapW1 f n c h).1⟩
    | wLdH n c x =>
      obtain ⟨a, b, e⟩ := hi.snapW2 f n c x h
      exact ⟨e, hi.wData3 f n c x h, a, b⟩
    | wNext n c x =>
      obtain ⟨a, b, e, d⟩ := hi.snapW3 f n c x h
      exact ⟨e, hi.wData4 f n c x h, a, b, d⟩
    | rLdC c => exact hi.snapR1 f c h
    | rLdH c x => exact hi.snapR2 f c x h
    | rNext c n x => exact hi.snapR3 f c n x h
    | rPopped g => exact hi.target_waker1 g f h
    | rGotData m g =>
      obtain rfl := hi.gotData_eq f m g h
      exact ⟨rfl, hi.target_waker2 m f h⟩
    | rGaveNode g => exact hi.target_waker3 g f h
    | rReady g => exact ⟨hi.target_waker4 g f h, (hi.marker g).2 (hi.ready_parked f g h)⟩
    | _ => trivial
  sleep := ⟨hi.listed, hi.waker_target, hi.waker_sleepy, hi.owed, hi.counts, hi.woken_parked, hi.marker⟩

theorem View.inv {s : St} (hv : View s) : Inv s where
  cnt := hv.cnt
  fnode_id := hv.fnode_id
  head_stack := hv.head_stack
  chain := hv.chain
  nodup := hv.nodup
  listed := hv.sleep.listed
  wEarly1 := fun _ _ h => hv.at h
  wEarly2 := fun _ _ h => (hv.at h).1
  wData1 := fun _ _ h => (hv.at h).2
  wData2 := fun _ _ _ h => (hv.at h).2.1
  wData3 := fun _ _ _ _ h => (hv.at h).2.1
  wData4 := fun _ _ _ _ h => (hv.at h).2.1
  snapW1 := fun _ _ _ h => ⟨(hv.at h).2.2, (hv.at h).1⟩
  snapW2 := fun _ _ _ _ h => ⟨(hv.at h).2.2.1, (hv.at h).2.2.2, (hv.at h).1⟩
  snapW3 := fun _ _ _ _ h => ⟨(hv.at h).2.2.1, (hv.at h).2.2.2.1, (hv.at h).1, (hv.at h).2.2.2.2⟩
  snapR1 := fun _ _ h => hv.at h
  snapR2 := fun _ _ _ h => hv.at h
  snapR3 := fun _ _ _ _ h => hv.at h
  waker_target := hv.sleep.waker_target
  target_waker1 := fun _ _ h => hv.at h
  target_waker2 := fun _ _ h => (hv.at h).2
  target_waker3 := fun _ _ h => hv.at h
  target_waker4 := fun _ _ h => (hv.at h).1
  waker_sleepy := hv.sleep.waker_sleepy
  owed := hv.sleep.owed
  counts := hv.sleep.counts
  woken_parked := hv.sleep.woken_parked
  marker := hv.sleep.marker
  ready_parked := fun _ _ h => (hv.sleep.marker _).1 (hv.at h).2
  gotData_eq := fun _ _ _ h => (hv.at h).1

end LibfiberVerif.MultiSignal
