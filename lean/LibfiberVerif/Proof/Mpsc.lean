/-
  Inductive invariants of the MPSC / SPSC queue model (property C15).

  Everything is proved for `Mpsc.step k` with `k` arbitrary, i.e. once for mpsc_fifo.h
  (`Kind.mpsc`) and spsc_fifo.h (`Kind.spsc`); `Model/Mpscr.lean` delegates to
  `Mpsc.step .spsc`, so the relaxed queue's sub-queues inherit the same invariants.

  `Step` lists the accepted steps once; every later proof about a step is a case analysis on it.
  For `Inv`, a step is a write to a cell followed by a move of one program counter: a move that
  touches no cell is `Inv.consumer` / `Inv.producer`, a write to a node outside the queue is
  `Inv.offQueue`; the link write, the publication and `head = x` change the queue itself and
  have a lemma each.
-/
import LibfiberVerif.Model.Mpsc

namespace LibfiberVerif.Mpsc

theorem idx_lt {l : List Nat} {i a : Nat} (h : l[i]? = some a) : i < l.length := by
  rcases List.getElem?_eq_some_iff.mp h with ⟨hi, _⟩; exact hi

theorem mem_of_idx {l : List Nat} {i a : Nat} (h : l[i]? = some a) : a ∈ l :=
  List.mem_iff_getElem?.mpr ⟨i, h⟩

theorem idx_app {l : List Nat} {i a : Nat} (n : Nat) (h : l[i]? = some a) :
    (l ++ [n])[i]? = some a := by
  rw [List.getElem?_append_left (idx_lt h)]; exact h

theorem idx_app_cases {l : List Nat} {n i a : Nat} (h : (l ++ [n])[i]? = some a) :
    l[i]? = some a ∨ (i = l.length ∧ a = n) := by
  by_cases hi : i < l.length
  · left; rw [List.getElem?_append_left hi] at h; exact h
  · right
    have hi' : l.length ≤ i := Nat.le_of_not_lt hi
    rw [List.getElem?_append_right hi'] at h
    have hlt := idx_lt h
    simp at hlt
    have : i = l.length := by omega
    subst this
    simp at h
    exact ⟨rfl, h.symm⟩

theorem idx_drop1 (l : List Nat) (i : Nat) : (l.drop 1)[i]? = (l[i + 1]?) := by
  rw [List.getElem?_drop, Nat.add_comm 1 i]

theorem nodup_idx {l : List Nat} (hnd : l.Nodup) {i j a : Nat}
    (hi : l[i]? = some a) (hj : l[j]? = some a) : i = j :=
  (List.getElem?_inj (idx_lt hi) hnd).mp (hi.trans hj.symm)

theorem idx_of_mem {l : List Nat} {a : Nat} (h : a ∈ l) : ∃ i : Nat, l[i]? = some a :=
  List.mem_iff_getElem?.mp h

theorem drop1_app {l : List Nat} (n : Nat) (h : 0 < l.length) :
    (l ++ [n]).drop 1 = l.drop 1 ++ [n] := by
  cases l with
  | nil => simp at h
  | cons a r => simp

theorem drop1_eq_cons {l : List Nat} {x : Nat} (h : l[1]? = some x) :
    l.drop 1 = x :: l.drop 2 := by
  have hlt := idx_lt h
  rw [List.drop_eq_getElem_cons hlt]
  rcases List.getElem?_eq_some_iff.mp h with ⟨_, hx⟩
  rw [hx]

/-- payloads currently in the hands of the trypop in progress (taken out of the queue, not
    yet returned) -/
def inflight (s : St) : List Nat :=
  match s.cpc with
  | .moved _ x => [s.data x]
  | .gotData _ _ d => [d]
  | .wrote _ d => [d]
  | .readBack _ d => [d]
  | _ => []

/-- producer `t` owns node `n`, which carries `v` and is not (yet) in the queue -/
def Owned (s : St) (t v n : Nat) : Prop :=
  s.holder n = some t ∧ n ∉ s.q ∧ n ≠ 0 ∧ s.data n = v ∧ s.cpc.node ≠ n

structure Inv (k : Kind) (s : St) : Prop where
  qpos : 0 < s.q.length
  hq : s.q[0]? = some s.head
  tl : s.q[s.q.length - 1]? = some s.tail
  nd : s.q.Nodup
  nz : 0 ∉ s.q
  /-- consecutive queue nodes are linked, or the producer of the second one is between its
      publication and its link write -/
  lk : ∀ i a b, s.q[i]? = some a → s.q[i + 1]? = some b →
    s.next a = b ∨ (s.next a = 0 ∧ ∃ t v, s.pc t = .xchgd v b a)
  last : s.next s.tail = 0
  pHave : ∀ t v n, s.pc t = .haveNode v n → Owned s t v n
  pClr : ∀ t v n, s.pc t = .cleared v n → Owned s t v n ∧ s.next n = 0
  pGot : ∀ t v n p, s.pc t = .gotTail v n p → Owned s t v n ∧ s.next n = 0 ∧ k = .spsc ∧ p = s.tail
  pX : ∀ t v n p, s.pc t = .xchgd v n p →
    s.holder n = some t ∧ s.next p = 0 ∧ s.data n = v ∧
      ∃ i, s.q[i]? = some p ∧ s.q[i + 1]? = some n
  /-- (one producer) the node being linked is the last one -/
  pXs : k = .spsc → ∀ t v n p, s.pc t = .xchgd v n p → n = s.tail
  single : k = .spsc → ∀ t, s.pc t ≠ .idle → s.pusher = some t
  /-- conservation: published = returned ++ in the consumer's hands ++ still queued -/
  vals : s.pushed = s.popped ++ inflight s ++ (s.q.drop 1).map s.data
  cGotHead : ∀ h, s.cpc = .gotHead h → h = s.head
  cGotNext : ∀ h x, s.cpc = .gotNext h x → h = s.head ∧ (x ≠ 0 → s.next h = x)
  cMoved : ∀ h x, s.cpc = .moved h x → x = s.head ∧ h ∉ s.q
  cGotData : ∀ h x d, s.cpc = .gotData h x d → h ∉ s.q
  cWrote : ∀ h d, s.cpc = .wrote h d → s.data h = d ∧ h ∉ s.q
  cPkGotHead : ∀ h, s.cpc = .pkGotHead h → h = s.head
  cPkGotNext : ∀ h x, s.cpc = .pkGotNext h x → h = s.head ∧ (x ≠ 0 → s.next h = x)
  /-- the payload a peek has read is the `data` of the node right behind the stub -/
  cPkGotData : ∀ h x d, s.cpc = .pkGotData h x d → s.q[1]? = some x ∧ s.data x = d
  /-- a peek that returned after `i` successful trypops reported the `i`-th published payload -/
  pk : ∀ i v, (i, v) ∈ s.peeked → s.pushed[i]? = some v

theorem inv_init (k : Kind) (stub : Nat) (h0 : stub ≠ 0) : Inv k (init stub) := by
  constructor <;> simp [init, inflight, Owned]
  exact fun h => h0 h.symm

/-- The accepted steps: one constructor per branch of `step`, its guard as hypotheses, the
    successor state spelled out.  Values read from a cell come with an equation. -/
inductive Step (k : Kind) (s : St) : Ev → St → Prop
  | callPush {t v : Nat} (hpc : s.pc t = .idle) (hv : v ≠ 0) (hf : v ∉ s.called)
      (hct : s.cpc = .idle ∨ s.ct ≠ t) (hk : k = .spsc → s.pusher = none) :
      Step k s (.callPush t v)
        { s with pc := upd s.pc t (.called v), called := s.called ++ [v],
                 pusher := if k = .spsc then some t else s.pusher }
  | wrDataClient {t n v : Nat} (hpc : s.pc t = .called v) (hn0 : n ≠ 0) (hnq : n ∉ s.q)
      (hh : s.holder n = none) (hnode : s.cpc.node ≠ n) :
      Step k s (.wrDataClient t n v)
        { s with data := upd s.data n v, holder := upd s.holder n (some t),
                 pc := upd s.pc t (.haveNode v n) }
  | clearNext {t v n : Nat} (hpc : s.pc t = .haveNode v n) :
      Step k s (.wrNext t n 0) { s with next := upd s.next n 0, pc := upd s.pc t (.cleared v n) }
  | linkNext {t v n p : Nat} (hpc : s.pc t = .xchgd v n p) :
      Step k s (.wrNext t p n)
        { s with next := upd s.next p n, holder := upd s.holder n none,
                 pc := upd s.pc t (.linked v) }
  | xchgTail {t v n o : Nat} (hpc : s.pc t = .cleared v n) (hk : k = .mpsc) (ho : o = s.tail) :
      Step k s (.xchgTail t o n) (publish s t v n o)
  | ldTail {t v n x : Nat} (hpc : s.pc t = .cleared v n) (hk : k = .spsc) (hx : x = s.tail) :
      Step k s (.ldTail t x) { s with pc := upd s.pc t (.gotTail v n x) }
  | stTail {t v n p : Nat} (hpc : s.pc t = .gotTail v n p) :
      Step k s (.stTail t n) (publish s t v n p)
  | retPush {t v : Nat} (hpc : s.pc t = .linked v) :
      Step k s (.retPush t 1)
        { s with pc := upd s.pc t .idle, returned := s.returned ++ [v],
                 pusher := if k = .spsc then none else s.pusher }
  | callPop {t : Nat} (hcp : s.cpc = .idle) (hpc : s.pc t = .idle) :
      Step k s (.callPop t) { s with cpc := .called, ct := t }
  | rdHead {t x : Nat} (hcp : s.cpc = .called) (ht : t = s.ct) (hx : x = s.head) :
      Step k s (.rdHead t x) { s with cpc := .gotHead x }
  | rdHeadPeek {t x : Nat} (hcp : s.cpc = .pkCalled) (ht : t = s.ct) (hx : x = s.head) :
      Step k s (.rdHead t x) { s with cpc := .pkGotHead x }
  | rdNext {t h x : Nat} (hcp : s.cpc = .gotHead h) (ht : t = s.ct) (hx : x = s.next h) :
      Step k s (.rdNext t h x) { s with cpc := .gotNext h x }
  | rdNextPeek {t h x : Nat} (hcp : s.cpc = .pkGotHead h) (ht : t = s.ct) (hx : x = s.next h) :
      Step k s (.rdNext t h x) { s with cpc := .pkGotNext h x }
  | wrHead {t h x : Nat} (hcp : s.cpc = .gotNext h x) (ht : t = s.ct) (hx0 : x ≠ 0) :
      Step k s (.wrHead t x) { s with head := x, q := s.q.drop 1, cpc := .moved h x }
  | rdDataPop {t h x d : Nat} (hcp : s.cpc = .moved h x) (ht : t = s.ct) (hd : d = s.data x) :
      Step k s (.rdDataPop t x d) { s with cpc := .gotData h x d }
  | wrDataPop {t h x d : Nat} (hcp : s.cpc = .gotData h x d) (ht : t = s.ct) :
      Step k s (.wrDataPop t h d) { s with data := upd s.data h d, cpc := .wrote h d }
  | rdDataClient {t h d0 d : Nat} (hcp : s.cpc = .wrote h d0) (ht : t = s.ct)
      (hd : d = s.data h) : Step k s (.rdDataClient t h d) { s with cpc := .readBack h d }
  | retPopEmpty {t h : Nat} (hcp : s.cpc = .gotNext h 0) (ht : t = s.ct) :
      Step k s (.retPop t 0) { s with cpc := .idle }
  | retPop {t h d : Nat} (hcp : s.cpc = .readBack h d) (ht : t = s.ct) :
      Step k s (.retPop t d) { s with cpc := .idle, popped := s.popped ++ [d] }
  | callPeek {t : Nat} (hk : k = .mpsc) (hcp : s.cpc = .idle) (hpc : s.pc t = .idle) :
      Step k s (.callPeek t) { s with cpc := .pkCalled, ct := t }
  | rdDataPeek {t h x d : Nat} (hcp : s.cpc = .pkGotNext h x) (ht : t = s.ct) (hx0 : x ≠ 0)
      (hd : d = s.data x) : Step k s (.rdDataPeek t x d) { s with cpc := .pkGotData h x d }
  | retPeekEmpty {t h : Nat} (hcp : s.cpc = .pkGotNext h 0) (ht : t = s.ct) :
      Step k s (.retPeek t 0) { s with cpc := .idle }
  | retPeek {t h x d : Nat} (hcp : s.cpc = .pkGotData h x d) (ht : t = s.ct) :
      Step k s (.retPeek t d)
        { s with cpc := .idle, peeked := s.peeked ++ [(s.popped.length, d)] }

/-- Once the guard's equations are substituted, the successor state determines the constructor. -/
theorem Step.of_step {k : Kind} {s s' : St} {e : Ev} (hs : step k s e = some s') :
    Step k s e s' := by
  cases e <;> simp only [step] at hs <;> (try split at hs) <;>
    simp only [Option.ite_none_right_eq_some, Option.some.injEq, reduceCtorEq] at hs <;>
    (repeat cases ‹_ ∧ _›) <;> subst_vars <;> constructor <;> first | assumption | rfl

section steps
variable {k : Kind} {s : St}

theorem head_mem (h : Inv k s) : s.head ∈ s.q := mem_of_idx h.hq

theorem Inv.one_pusher (h : Inv k s) (hk : k = .spsc) {t t' : Nat} (ht : s.pc t ≠ .idle)
    (ht' : s.pc t' ≠ .idle) : t = t' :=
  Option.some.inj ((h.single hk t ht).symm.trans (h.single hk t' ht'))

/-- the hypothesis `hpu` of `Inv.producer` for a step that leaves `pusher` alone -/
theorem Inv.same_pusher (h : Inv k s) {t : Nat} {c : Pc} (ht : s.pc t ≠ .idle) :
    k = .spsc → (c ≠ .idle → s.pusher = some t) ∧
      ∀ t', t' ≠ t → s.pc t' ≠ .idle → s.pusher = some t' :=
  fun hs => ⟨fun _ => h.single hs t ht, fun t' _ => h.single hs t'⟩

theorem stub_cases (h : Inv k s) :
    s.q = [s.head] ∨ ∃ b, s.q[1]? = some b ∧ b ≠ 0 ∧
      (s.next s.head = b ∨ (s.next s.head = 0 ∧ ∃ t v, s.pc t = .xchgd v b s.head)) := by
  have hq0 := h.hq
  have hnz := h.nz
  have hlk := h.lk 0 s.head
  rcases hq : s.q with _ | ⟨a, _ | ⟨b, r⟩⟩ <;> rw [hq] at hq0 hnz hlk
  · cases hq0
  · exact .inl (by rw [Option.some.inj hq0])
  · exact .inr ⟨b, rfl, fun e => hnz (by simp [e]), hlk b hq0 rfl⟩

theorem second_of_next (h : Inv k s) {x : Nat} (hx : x ≠ 0) (hnx : s.next s.head = x) :
    s.q[1]? = some x := by
  rcases stub_cases h with hq | ⟨b, hb, _, hn | ⟨hn, _⟩⟩
  · have htl : s.head = s.tail := by simpa [hq] using h.tl
    rw [htl, h.last] at hnx
    exact absurd hnx.symm hx
  · rwa [← hnx, hn]
  · exact absurd (hn.symm.trans hnx).symm hx

theorem front_payload (h : Inv k s) (hin : inflight s = []) {x : Nat}
    (hq1 : s.q[1]? = some x) : s.pushed[s.popped.length]? = some (s.data x) := by
  rw [h.vals, hin, List.append_nil, List.getElem?_append_right (Nat.le_refl _), Nat.sub_self,
    drop1_eq_cons hq1]
  rfl

/-- what the invariant records about the consumer at program counter `c` -/
def COk (s : St) : CPc → Prop
  | .gotHead h | .pkGotHead h => h = s.head
  | .gotNext h x | .pkGotNext h x => h = s.head ∧ (x ≠ 0 → s.next h = x)
  | .moved h x => x = s.head ∧ h ∉ s.q
  | .gotData h _ _ => h ∉ s.q
  | .wrote h d => s.data h = d ∧ h ∉ s.q
  | .pkGotData _ x d => s.q[1]? = some x ∧ s.data x = d
  | _ => True

/-- A step of the consumer that touches no cell: its program counter moves to `c`, the ghosts
    `popped` / `peeked` may grow.  The node it holds stays the same or is given up, so the
    producers' nodes remain theirs; what is left to show is the bookkeeping for `c`. -/
theorem Inv.consumer (h : Inv k s) {c : CPc} {ct : Nat} {po : List Nat} {pe : List (Nat × Nat)}
    (hnode : c.node = s.cpc.node ∨ c.node = 0) (hC : COk s c)
    (hvals : s.pushed = po ++ inflight { s with cpc := c } ++ (s.q.drop 1).map s.data)
    (hpk : ∀ i v, (i, v) ∈ pe → s.pushed[i]? = some v) :
    Inv k { s with cpc := c, ct := ct, popped := po, peeked := pe } :=
  have own : ∀ {t v n}, Owned s t v n →
      Owned { s with cpc := c, ct := ct, popped := po, peeked := pe } t v n :=
    fun ⟨h1, h2, h3, h4, h5⟩ => ⟨h1, h2, h3, h4, by
      show c.node ≠ _
      rcases hnode with e | e <;> rw [e]
      · exact h5
      · exact Ne.symm h3⟩
  { h with
    pHave := fun t v n hp => own (h.pHave t v n hp)
    pClr := fun t v n hp => ⟨own (h.pClr t v n hp).1, (h.pClr t v n hp).2⟩
    pGot := fun t v n p hp => ⟨own (h.pGot t v n p hp).1, (h.pGot t v n p hp).2⟩
    vals := hvals
    cGotHead := fun _ e => by subst e; exact hC
    cGotNext := fun _ _ e => by subst e; exact hC
    cMoved := fun _ _ e => by subst e; exact hC
    cGotData := fun _ _ _ e => by subst e; exact hC
    cWrote := fun _ _ e => by subst e; exact hC
    cPkGotHead := fun _ e => by subst e; exact hC
    cPkGotNext := fun _ _ e => by subst e; exact hC
    cPkGotData := fun _ _ _ e => by subst e; exact hC
    pk := hpk }

theorem upd_eq_cases {f : Nat → Pc} {t t' : Nat} {c d : Pc} (e : upd f t c t' = d) :
    (t' = t ∧ c = d) ∨ (t' ≠ t ∧ f t' = d) := by
  by_cases ht : t' = t
  · exact .inl ⟨ht, by rw [← e, ht, upd_same]⟩
  · exact .inr ⟨ht, by rw [← e, upd_other _ _ _ _ ht]⟩

/-- what the invariant records about producer `t` at program counter `c` -/
def POk (k : Kind) (s : St) (t : Nat) : Pc → Prop
  | .haveNode v n => Owned s t v n
  | .cleared v n => Owned s t v n ∧ s.next n = 0
  | .gotTail v n p => Owned s t v n ∧ s.next n = 0 ∧ k = .spsc ∧ p = s.tail
  | .xchgd v n p =>
    (s.holder n = some t ∧ s.next p = 0 ∧ s.data n = v ∧
      ∃ i, s.q[i]? = some p ∧ s.q[i + 1]? = some n) ∧ (k = .spsc → n = s.tail)
  | _ => True

/-- A step of producer `t` that touches no cell and is not its link write: `t` moves to `c`;
    the ghosts `called` / `returned` / `pusher` may change. -/
theorem Inv.producer (h : Inv k s) {t : Nat} {c : Pc} {ca re : List Nat} {pu : Option Nat}
    (hx : ∀ v n p, s.pc t ≠ .xchgd v n p) (hc : POk k s t c)
    (hpu : k = .spsc →
      (c ≠ .idle → pu = some t) ∧ ∀ t', t' ≠ t → s.pc t' ≠ .idle → pu = some t') :
    Inv k { s with pc := upd s.pc t c, called := ca, returned := re, pusher := pu } :=
  { h with
    lk := fun i a b hi hj => (h.lk i a b hi hj).imp_right fun ⟨h0, t', v, hp⟩ =>
      ⟨h0, t', v, (upd_other _ _ _ _ fun e => hx _ _ _ (e ▸ hp)).trans hp⟩
    pHave := fun _ _ _ e => (upd_eq_cases e).elim
      (fun ⟨ht, hd⟩ => by subst ht hd; exact hc) fun ⟨_, hp⟩ => h.pHave _ _ _ hp
    pClr := fun _ _ _ e => (upd_eq_cases e).elim
      (fun ⟨ht, hd⟩ => by subst ht hd; exact hc) fun ⟨_, hp⟩ => h.pClr _ _ _ hp
    pGot := fun _ _ _ _ e => (upd_eq_cases e).elim
      (fun ⟨ht, hd⟩ => by subst ht hd; exact hc) fun ⟨_, hp⟩ => h.pGot _ _ _ _ hp
    pX := fun _ _ _ _ e => (upd_eq_cases e).elim
      (fun ⟨ht, hd⟩ => by subst ht hd; exact hc.1) fun ⟨_, hp⟩ => h.pX _ _ _ _ hp
    pXs := fun hk _ _ _ _ e => (upd_eq_cases e).elim
      (fun ⟨ht, hd⟩ => by subst ht hd; exact hc.2 hk) fun ⟨_, hp⟩ => h.pXs hk _ _ _ _ hp
    single := fun hk t' (e : upd s.pc t c t' ≠ .idle) => by
      by_cases ht : t' = t
      · exact ht ▸ (hpu hk).1 (by rwa [ht, upd_same] at e)
      · exact (hpu hk).2 t' ht (by rwa [upd_other _ _ _ _ ht] at e) }

theorem inflight_congr {s s' : St} (hc : s'.cpc = s.cpc)
    (hd : ∀ h x, s.cpc = .moved h x → s'.data x = s.data x) : inflight s' = inflight s := by
  unfold inflight
  rw [hc]
  cases hcpc : s.cpc <;> simp
  exact hd _ _ hcpc

/-- Cells of a node `n` outside the queue are written; every producer that owns `n` (at most
    the writer) finds it as it expects it.  Nothing else the invariant mentions reads them. -/
theorem Inv.offQueue (h : Inv k s) {n : Nat} (hnq : n ∉ s.q) {da nx : Nat → Nat}
    {ho : Nat → Option Nat} (hda : ∀ a, a ≠ n → da a = s.data a)
    (hnx : ∀ a, a ≠ n → nx a = s.next a) (hho : ∀ a, a ≠ n → ho a = s.holder a)
    (hown : ∀ t v, Owned s t v n → ho n = some t ∧ da n = v ∧ (s.next n = 0 → nx n = 0))
    (hw : ∀ d, s.cpc = .wrote n d → da n = d) :
    Inv k { s with data := da, next := nx, holder := ho } :=
  have inq : ∀ {a}, a ∈ s.q → a ≠ n := fun ha e => hnq (e ▸ ha)
  have own : ∀ {t v a}, Owned s t v a →
      Owned { s with data := da, next := nx, holder := ho } t v a ∧ (s.next a = 0 → nx a = 0) := by
    intro t v a o
    by_cases e : a = n
    · subst e
      exact ⟨⟨(hown t v o).1, o.2.1, o.2.2.1, (hown t v o).2.1, o.2.2.2.2⟩, (hown t v o).2.2⟩
    · exact ⟨⟨(hho a e).trans o.1, o.2.1, o.2.2.1, (hda a e).trans o.2.2.2.1, o.2.2.2.2⟩,
        fun h0 => (hnx a e).trans h0⟩
  { h with
    lk := fun i a b hi hj => by
      show nx a = b ∨ (nx a = 0 ∧ _); rw [hnx a (inq (mem_of_idx hi))]; exact h.lk i a b hi hj
    last := (hnx _ (inq (mem_of_idx h.tl))).trans h.last
    pHave := fun t v a hp => (own (h.pHave t v a hp)).1
    pClr := fun t v a hp =>
      have ⟨o, z⟩ := h.pClr t v a hp
      ⟨(own o).1, (own o).2 z⟩
    pGot := fun t v a p hp =>
      have ⟨o, z, r⟩ := h.pGot t v a p hp
      ⟨(own o).1, (own o).2 z, r⟩
    pX := fun t v a p hp =>
      have ⟨h1, h2, h3, i, h4, h5⟩ := h.pX t v a p hp
      ⟨(hho a (inq (mem_of_idx h5))).trans h1, (hnx p (inq (mem_of_idx h4))).trans h2,
        (hda a (inq (mem_of_idx h5))).trans h3, i, h4, h5⟩
    vals := by
      have hin : inflight { s with data := da, next := nx, holder := ho } = inflight s :=
        inflight_congr rfl fun _ x hm => hda x (inq ((h.cMoved _ _ hm).1 ▸ head_mem h))
      have hmap : (s.q.drop 1).map da = (s.q.drop 1).map s.data :=
        List.map_congr_left fun a ha => hda a (inq (List.mem_of_mem_drop ha))
      show s.pushed = s.popped ++ _ ++ (s.q.drop 1).map da
      rw [hin, hmap]; exact h.vals
    cGotNext := fun a x hc =>
      have ⟨e, z⟩ := h.cGotNext a x hc
      ⟨e, fun hx => (hnx a (inq (e ▸ head_mem h))).trans (z hx)⟩
    cPkGotNext := fun a x hc =>
      have ⟨e, z⟩ := h.cPkGotNext a x hc
      ⟨e, fun hx => (hnx a (inq (e ▸ head_mem h))).trans (z hx)⟩
    cWrote := fun a d hc => by
      refine ⟨?_, (h.cWrote a d hc).2⟩
      by_cases e : a = n
      · subst e; exact hw d hc
      · exact (hda a e).trans (h.cWrote a d hc).1
    cPkGotData := fun a x d hc =>
      have ⟨e, z⟩ := h.cPkGotData a x d hc
      ⟨e, (hda x (inq (mem_of_idx e))).trans z⟩ }

theorem upd_old {f : Nat → Pc} {t t' : Nat} {c d : Pc} (e : upd f t c t' = d) (hcd : c ≠ d) :
    t' ≠ t ∧ f t' = d :=
  (upd_eq_cases e).elim (fun ⟨_, hd⟩ => absurd hd hcd) id

/-- the link write `p->next = n` -/
theorem inv_linkNext {t v n p : Nat} (h : Inv k s) (hpc : s.pc t = .xchgd v n p) :
    Inv k { s with next := upd s.next p n, holder := upd s.holder n none,
                   pc := upd s.pc t (.linked v) } := by
  obtain ⟨hhold, hnext, -, i0, hi0, hj0⟩ := h.pX _ _ _ _ hpc
  have hnd := h.nd
  -- the nodes of the other producers are not `n`, and not `p` unless they are in the queue
  have other : ∀ {t' a}, t' ≠ t → s.holder a = some t' → upd s.holder n none a = some t' :=
    fun ht ha => (upd_other _ _ _ _ fun e => ht (Option.some.inj ((e ▸ ha).symm.trans hhold))).trans ha
  have offq : ∀ {a}, a ∉ s.q → s.next a = 0 → upd s.next p n a = 0 :=
    fun ha hz => (upd_other _ _ _ _ fun e => ha (by rw [e]; exact mem_of_idx hi0)).trans hz
  have own : ∀ {t' v' a}, t' ≠ t → Owned s t' v' a →
      Owned { s with holder := upd s.holder n none } t' v' a :=
    fun ht ⟨h1, h2⟩ => ⟨other ht h1, h2⟩
  have stub : ∀ {a x}, (x ≠ 0 → s.next a = x) → x ≠ 0 → upd s.next p n a = x := by
    intro a x hx hx0
    refine (upd_other _ _ _ _ fun e => hx0 ?_).trans (hx hx0)
    rw [← hx hx0, e, hnext]
  exact { h with
    lk := fun i a b hi hj => by
      show upd s.next p n a = b ∨ (upd s.next p n a = 0 ∧ ∃ t' v', upd s.pc t _ t' = _)
      by_cases e : a = p
      · subst e
        have := nodup_idx hnd hi hi0
        subst this
        rw [hj0] at hj
        exact .inl ((upd_same _ _ _).trans (Option.some.inj hj))
      · rw [upd_other _ _ _ _ e]
        refine (h.lk i a b hi hj).imp_right fun ⟨z, t', v', hp⟩ => ⟨z, t', v', ?_⟩
        rw [upd_other _ _ _ _ fun e' => e (by rw [e', hpc] at hp; injection hp with _ _ e''; exact e''.symm)]
        exact hp
    last := by
      refine (upd_other _ _ _ _ fun e => ?_).trans h.last
      have := nodup_idx hnd (e ▸ h.tl) hi0
      have := idx_lt hj0
      omega
    pHave := fun t' v' a e =>
      have ⟨ht, hp⟩ := upd_old e nofun
      own ht (h.pHave _ _ _ hp)
    pClr := fun t' v' a e =>
      have ⟨ht, hp⟩ := upd_old e nofun
      have ⟨o, z⟩ := h.pClr _ _ _ hp
      ⟨own ht o, offq o.2.1 z⟩
    pGot := fun t' v' a p' e =>
      have ⟨ht, hp⟩ := upd_old e nofun
      have ⟨o, z, r⟩ := h.pGot _ _ _ _ hp
      ⟨own ht o, offq o.2.1 z, r⟩
    pX := fun t' v' a p' e => by
      have ⟨ht, hp⟩ := upd_old e nofun
      obtain ⟨h1, h2, h3, i, h4, h5⟩ := h.pX _ _ _ _ hp
      have han : a ≠ n := fun e => ht (Option.some.inj ((e ▸ h1).symm.trans hhold))
      refine ⟨other ht h1, (upd_other _ _ _ _ fun e => han ?_).trans h2, h3, i, h4, h5⟩
      subst e
      have := nodup_idx hnd h4 hi0
      subst this
      exact Option.some.inj (h5.symm.trans hj0)
    pXs := fun hk t' v' a p' e => h.pXs hk _ _ _ _ (upd_old e nofun).2
    single := fun hk t' e => h.single hk t' fun e' => by
      by_cases ht : t' = t
      · rw [ht, hpc] at e'; cases e'
      · exact e ((upd_other _ _ _ _ ht).trans e')
    cGotNext := fun a x hc =>
      have ⟨e, z⟩ := h.cGotNext a x hc
      ⟨e, stub z⟩
    cPkGotNext := fun a x hc =>
      have ⟨e, z⟩ := h.cPkGotNext a x hc
      ⟨e, stub z⟩ }

/-- the publication `tail = n` (mpsc: by xchg, spsc: by a store after a load) -/
theorem inv_publish {t v n p : Nat} (h : Inv k s)
    (hpc : s.pc t = .cleared v n ∨ s.pc t = .gotTail v n p) (hp : p = s.tail) :
    Inv k (publish s t v n p) := by
  obtain ⟨⟨hhold, hnq, hn0, hdat, hnode⟩, hnext⟩ : Owned s t v n ∧ s.next n = 0 :=
    hpc.elim (h.pClr _ _ _) fun hg => ⟨(h.pGot _ _ _ _ hg).1, (h.pGot _ _ _ _ hg).2.1⟩
  have hqpos := h.qpos
  have htl := h.tl
  have hidle : s.pc t ≠ .idle := by rcases hpc with e | e <;> rw [e] <;> nofun
  have hx : ∀ v' n' p', s.pc t ≠ .xchgd v' n' p' := by rcases hpc with e | e <;> rw [e] <;> nofun
  -- the other producers' nodes are not `n`, so they stay outside the queue
  have own : ∀ {t' v' a}, t' ≠ t → Owned s t' v' a → Owned (publish s t v n p) t' v' a :=
    fun ht ⟨h1, h2, h3⟩ => ⟨h1, fun hm => (List.mem_append.mp hm).elim h2 fun e =>
      ht (Option.some.inj (((List.mem_singleton.mp e) ▸ h1).symm.trans hhold)), h3⟩
  have offq : ∀ {a}, s.cpc.node = a → a ∉ s.q → a ∉ s.q ++ [n] :=
    fun e ha hm => (List.mem_append.mp hm).elim ha fun e' => hnode (e.trans (List.mem_singleton.mp e'))
  exact {
    qpos := by simp [publish]
    hq := idx_app n h.hq
    tl := by simp [publish]
    nd := List.nodup_append.mpr ⟨h.nd, by simp, fun a ha b hb e =>
      hnq ((e.trans (List.mem_singleton.mp hb)) ▸ ha)⟩
    nz := fun hm => (List.mem_append.mp hm).elim h.nz fun e => hn0 (List.mem_singleton.mp e).symm
    lk := fun i a b (hi : (s.q ++ [n])[i]? = some a) hj => by
      show s.next a = b ∨ (s.next a = 0 ∧ ∃ t' v', upd s.pc t _ t' = _)
      rcases idx_app_cases hj with hj' | ⟨hlen, hb⟩
      · have hi' : s.q[i]? = some a := by
          rw [← hi]; exact (List.getElem?_append_left (by have := idx_lt hj'; omega)).symm
        exact (h.lk i a b hi' hj').imp_right fun ⟨z, t', v', hp'⟩ =>
          ⟨z, t', v', (upd_other _ _ _ _ fun e => hx _ _ _ (e ▸ hp')).trans hp'⟩
      · -- the new pair: the old tail and `n`
        have hi' : s.q[s.q.length - 1]? = some a := by
          rw [← hi, List.getElem?_append_left (by omega)]; congr 1; omega
        have ha : a = s.tail := Option.some.inj (hi'.symm.trans htl)
        exact .inr ⟨ha ▸ h.last, t, v, by rw [upd_same, hb, ha, hp]⟩
    last := hnext
    pHave := fun t' v' a e =>
      have ⟨ht, hp'⟩ := upd_old e nofun
      own ht (h.pHave _ _ _ hp')
    pClr := fun t' v' a e =>
      have ⟨ht, hp'⟩ := upd_old e nofun
      ⟨own ht (h.pClr _ _ _ hp').1, (h.pClr _ _ _ hp').2⟩
    pGot := fun t' v' a p' e =>
      have ⟨ht, hp'⟩ := upd_old e nofun
      absurd (h.one_pusher (h.pGot _ _ _ _ hp').2.2.1 (by rw [hp']; nofun) hidle) ht
    pX := fun t' v' a p' e => by
      rcases upd_eq_cases e with ⟨ht, hd⟩ | ⟨-, hp'⟩
      · injection hd with e1 e2 e3
        subst ht e1 e2 e3
        exact ⟨hhold, hp ▸ h.last, hdat, s.q.length - 1, hp ▸ idx_app _ htl, by
          rw [show s.q.length - 1 + 1 = s.q.length by omega]; exact List.getElem?_concat_length⟩
      · obtain ⟨h1, h2, h3, i, h4, h5⟩ := h.pX _ _ _ _ hp'
        exact ⟨h1, h2, h3, i, idx_app _ h4, idx_app _ h5⟩
    pXs := fun hk t' v' a p' e => by
      rcases upd_eq_cases e with ⟨-, hd⟩ | ⟨ht, hp'⟩
      · injection hd with _ e2; exact e2.symm
      · exact absurd (h.one_pusher hk (by rw [hp']; nofun) hidle) ht
    single := fun hk t' e => h.single hk t' fun e' => by
      by_cases ht : t' = t
      · exact hidle (ht ▸ e')
      · exact e ((upd_other _ _ _ _ ht).trans e')
    vals := by
      have hin : inflight (publish s t v n p) = inflight s := inflight_congr rfl fun _ _ _ => rfl
      rw [hin]
      simp only [publish]
      rw [drop1_app n hqpos, List.map_append, h.vals]
      simp [hdat]
    cGotHead := h.cGotHead
    cGotNext := h.cGotNext
    cMoved := fun a x hc => ⟨(h.cMoved a x hc).1, offq (congrArg CPc.node hc) (h.cMoved a x hc).2⟩
    cGotData := fun a x d hc => offq (congrArg CPc.node hc) (h.cGotData a x d hc)
    cWrote := fun a d hc => ⟨(h.cWrote a d hc).1, offq (congrArg CPc.node hc) (h.cWrote a d hc).2⟩
    cPkGotHead := h.cPkGotHead
    cPkGotNext := h.cPkGotNext
    cPkGotData := fun a x d hc => ⟨idx_app _ (h.cPkGotData a x d hc).1, (h.cPkGotData a x d hc).2⟩
    pk := fun i w hm => idx_app _ (h.pk i w hm) }

/-- `head = x`: the old stub leaves the queue and belongs to the trypop -/
theorem inv_wrHead {a x : Nat} (h : Inv k s) (hcp : s.cpc = .gotNext a x) (hx0 : x ≠ 0) :
    Inv k { s with head := x, q := s.q.drop 1, cpc := .moved a x } := by
  obtain ⟨rfl, hnx⟩ := h.cGotNext _ _ hcp
  have hq1 := second_of_next h hx0 (hnx hx0)
  have hlen := idx_lt hq1
  have hhq : s.head ∉ s.q.drop 1 := fun hm => by
    obtain ⟨j, hj⟩ := idx_of_mem hm
    have := nodup_idx h.nd (idx_drop1 _ _ ▸ hj) h.hq
    omega
  have own : ∀ {t v n}, Owned s t v n →
      Owned { s with q := s.q.drop 1, cpc := .moved s.head x } t v n :=
    fun ⟨h1, h2, h3, h4, _⟩ => ⟨h1, fun hm => h2 (List.mem_of_mem_drop hm), h3, h4,
      fun e => h2 (e ▸ head_mem h)⟩
  exact { h with
    qpos := by simp only [List.length_drop]; omega
    hq := (idx_drop1 _ _).trans hq1
    tl := by
      simp only [idx_drop1, List.length_drop]
      rw [show s.q.length - 1 - 1 + 1 = s.q.length - 1 by omega]; exact h.tl
    nd := h.nd.sublist (List.drop_sublist 1 s.q)
    nz := fun hm => h.nz (List.mem_of_mem_drop hm)
    lk := fun i a b hi hj => h.lk (i + 1) a b ((idx_drop1 _ _).symm.trans hi)
      ((idx_drop1 _ _).symm.trans hj)
    pHave := fun t v n hp => own (h.pHave t v n hp)
    pClr := fun t v n hp => ⟨own (h.pClr t v n hp).1, (h.pClr t v n hp).2⟩
    pGot := fun t v n p hp => ⟨own (h.pGot t v n p hp).1, (h.pGot t v n p hp).2⟩
    pX := fun t v n p hp => by
      obtain ⟨h1, h2, h3, i, h4, h5⟩ := h.pX t v n p hp
      -- `p` is not the stub, whose `next` is not NULL
      obtain ⟨j, rfl⟩ : ∃ j, i = j + 1 := by
        cases i with
        | zero => rw [← Option.some.inj (h.hq.symm.trans h4), hnx hx0] at h2; exact absurd h2 hx0
        | succ j => exact ⟨j, rfl⟩
      exact ⟨h1, h2, h3, j, (idx_drop1 _ _).trans h4, (idx_drop1 _ _).trans h5⟩
    vals := by
      have hv := h.vals
      simp only [inflight, hcp, List.append_nil] at hv
      simp only [inflight, List.drop_drop]
      rw [hv, drop1_eq_cons hq1]
      simp
    cGotHead := fun _ e => nomatch e
    cGotNext := fun _ _ e => nomatch e
    cMoved := fun _ _ e => by injection e with e1 e2; exact ⟨e2.symm, e1 ▸ hhq⟩
    cGotData := fun _ _ _ e => nomatch e
    cWrote := fun _ _ e => nomatch e
    cPkGotHead := fun _ e => nomatch e
    cPkGotNext := fun _ _ e => nomatch e
    cPkGotData := fun _ _ _ e => nomatch e }

theorem inv_step {s' : St} {e : Ev} (h : Inv k s) (hs : step k s e = some s') : Inv k s' := by
  cases Step.of_step hs with
  | callPush hpc _ _ _ hk =>
    exact h.producer (by rw [hpc]; nofun) trivial fun hs => ⟨fun _ => if_pos hs,
      fun t' _ ht' => absurd ((hk hs).symm.trans (h.single hs t' ht')) nofun⟩
  | @wrDataClient t n v hpc hn0 hnq hh hnode =>
    -- the node is nobody's yet
    have h1 := h.offQueue hnq (da := upd s.data n v) (nx := s.next) (ho := upd s.holder n (some t))
      (fun _ e => upd_other _ _ _ _ e) (fun _ _ => rfl) (fun _ e => upd_other _ _ _ _ e)
      (fun _ _ o => absurd (o.1.symm.trans hh) nofun)
      (fun _ hc => absurd (congrArg CPc.node hc) hnode)
    exact h1.producer (by rw [hpc]; nofun) ⟨upd_same _ _ _, hnq, hn0, upd_same _ _ _, hnode⟩
      (h.same_pusher (by rw [hpc]; nofun))
  | @clearNext _ _ n hpc =>
    have o := h.pHave _ _ _ hpc
    have h1 := h.offQueue o.2.1 (da := s.data) (nx := upd s.next n 0) (ho := s.holder)
      (fun _ _ => rfl) (fun _ e => upd_other _ _ _ _ e) (fun _ _ => rfl)
      (fun _ _ o' => ⟨o'.1, o'.2.2.2.1, fun _ => upd_same _ _ _⟩)
      (fun _ hc => absurd (congrArg CPc.node hc) o.2.2.2.2)
    exact h1.producer (by rw [hpc]; nofun) ⟨o, upd_same _ _ _⟩ (h.same_pusher (by rw [hpc]; nofun))
  | linkNext hpc => exact inv_linkNext h hpc
  | xchgTail hpc _ ho => exact inv_publish h (.inl hpc) ho
  | ldTail hpc hk hx =>
    have ⟨o, z⟩ := h.pClr _ _ _ hpc
    exact h.producer (by rw [hpc]; nofun) ⟨o, z, hk, hx⟩ (h.same_pusher (by rw [hpc]; nofun))
  | stTail hpc => exact inv_publish h (.inr hpc) (h.pGot _ _ _ _ hpc).2.2.2
  | retPush hpc =>
    exact h.producer (by rw [hpc]; nofun) trivial fun hs => ⟨fun e => absurd rfl e,
      fun t' ht ht' => absurd (h.one_pusher hs ht' (by rw [hpc]; nofun)) ht⟩
  | rdHead hcp _ hx | rdHeadPeek hcp _ hx =>
    exact h.consumer (.inr rfl) hx (by simpa only [inflight, hcp] using h.vals) h.pk
  | rdNext hcp _ hx =>
    exact h.consumer (.inr rfl) ⟨h.cGotHead _ hcp, fun _ => hx.symm⟩
      (by simpa only [inflight, hcp] using h.vals) h.pk
  | rdNextPeek hcp _ hx =>
    exact h.consumer (.inr rfl) ⟨h.cPkGotHead _ hcp, fun _ => hx.symm⟩
      (by simpa only [inflight, hcp] using h.vals) h.pk
  | wrHead hcp _ hx0 => exact inv_wrHead h hcp hx0
  | rdDataPop hcp _ hd =>
    exact h.consumer (.inl (by rw [hcp]; rfl)) (h.cMoved _ _ hcp).2
      (by simpa only [inflight, hcp, hd] using h.vals) h.pk
  | @wrDataPop _ a _ d hcp _ =>
    -- the node is the one the trypop has taken out
    have hnq := h.cGotData _ _ _ hcp
    have h1 := h.offQueue hnq (da := upd s.data a d) (nx := s.next) (ho := s.holder)
      (fun _ e => upd_other _ _ _ _ e) (fun _ _ => rfl) (fun _ _ => rfl)
      (fun _ _ o => absurd (congrArg CPc.node hcp) o.2.2.2.2)
      (fun _ hc => nomatch hcp.symm.trans hc)
    exact h1.consumer (.inl (congrArg CPc.node hcp).symm) ⟨upd_same _ _ _, hnq⟩
      (by simpa only [inflight, hcp] using h1.vals) h.pk
  | rdDataClient hcp _ hd =>
    exact h.consumer (.inl (by rw [hcp]; rfl)) trivial
      (by simpa only [inflight, hcp, hd, (h.cWrote _ _ hcp).1] using h.vals) h.pk
  | callPop hcp _ | callPeek _ hcp _ | retPopEmpty hcp _ | retPeekEmpty hcp _ =>
    exact h.consumer (.inr rfl) trivial (by simpa only [inflight, hcp] using h.vals) h.pk
  | retPop hcp _ =>
    exact h.consumer (.inr rfl) trivial
      (by simpa only [inflight, hcp, List.append_nil] using h.vals) h.pk
  | rdDataPeek hcp _ hx0 hd =>
    have ⟨e, z⟩ := h.cPkGotNext _ _ hcp
    exact h.consumer (.inr rfl) ⟨second_of_next h hx0 (e ▸ z hx0), hd.symm⟩
      (by simpa only [inflight, hcp] using h.vals) h.pk
  | retPeek hcp _ =>
    have ⟨hq1, hd⟩ := h.cPkGotData _ _ _ hcp
    refine h.consumer (.inr rfl) trivial (by simpa only [inflight, hcp] using h.vals) fun i w hm => ?_
    rcases List.mem_append.mp hm with hm | hm
    · exact h.pk _ _ hm
    · cases List.mem_singleton.mp hm
      exact hd ▸ front_payload h (by simp only [inflight, hcp]) hq1

end steps

def Pc.val : Pc → Nat
  | .idle => 0
  | .called v => v
  | .haveNode v _ => v
  | .cleared v _ => v
  | .gotTail v _ _ => v
  | .xchgd v _ _ => v
  | .linked v => v

/-- the push has passed its publication step -/
def Pc.pub : Pc → Bool
  | .xchgd _ _ _ => true
  | .linked _ => true
  | _ => false

/-- what a step does to the producers' program counters and the payload ghost lists -/
inductive VShape (s s' : St) : Prop
  | same (hpc : s'.pc = s.pc) (hc : s'.called = s.called) (hp : s'.pushed = s.pushed)
      (hr : s'.returned = s.returned)
  | move (t : Nat) (c : Pc) (hpc : s'.pc = upd s.pc t c) (h1 : s.pc t ≠ .idle) (h2 : c ≠ .idle)
      (hv : c.val = (s.pc t).val) (hb : c.pub = (s.pc t).pub)
      (hc : s'.called = s.called) (hp : s'.pushed = s.pushed) (hr : s'.returned = s.returned)
  | publish (t : Nat) (c : Pc) (hpc : s'.pc = upd s.pc t c) (h1 : s.pc t ≠ .idle)
      (h0 : (s.pc t).pub = false) (h2 : c ≠ .idle) (hv : c.val = (s.pc t).val) (hb : c.pub = true)
      (hc : s'.called = s.called) (hp : s'.pushed = s.pushed ++ [c.val])
      (hr : s'.returned = s.returned)
  | call (t v : Nat) (h1 : s.pc t = .idle) (hpc : s'.pc = upd s.pc t (.called v)) (hv : v ≠ 0)
      (hf : v ∉ s.called) (hc : s'.called = s.called ++ [v]) (hp : s'.pushed = s.pushed)
      (hr : s'.returned = s.returned)
  | ret (t v : Nat) (h1 : s.pc t = .linked v) (hpc : s'.pc = upd s.pc t .idle)
      (hc : s'.called = s.called) (hp : s'.pushed = s.pushed)
      (hr : s'.returned = s.returned ++ [v])

theorem step_vshape {k : Kind} {s s' : St} {e : Ev} (hs : step k s e = some s') : VShape s s' := by
  cases Step.of_step hs with
  | callPush hpc hv hf => exact .call _ _ hpc rfl hv hf rfl rfl rfl
  | wrDataClient hpc | clearNext hpc | linkNext hpc | ldTail hpc =>
    exact .move _ _ rfl (by rw [hpc]; nofun) nofun (by rw [hpc]; rfl) (by rw [hpc]; rfl) rfl rfl rfl
  | xchgTail hpc | stTail hpc =>
    exact .publish _ _ rfl (by rw [hpc]; nofun) (by rw [hpc]; rfl) nofun (by rw [hpc]; rfl) rfl
      rfl rfl rfl
  | retPush hpc => exact .ret _ _ hpc rfl rfl rfl rfl
  | _ => exact .same rfl rfl rfl rfl

structure VInv (s : St) : Prop where
  callNd : s.called.Nodup
  callNz : 0 ∉ s.called
  pcCalled : ∀ t, s.pc t ≠ .idle → (s.pc t).val ∈ s.called
  pre : ∀ t, s.pc t ≠ .idle → (s.pc t).pub = false → (s.pc t).val ∉ s.pushed
  post : ∀ t, (s.pc t).pub = true → (s.pc t).val ∈ s.pushed
  inj : ∀ t t', t ≠ t' → s.pc t ≠ .idle → (s.pc t).val ≠ (s.pc t').val
  notRet : ∀ t, s.pc t ≠ .idle → (s.pc t).val ∉ s.returned
  pushedSub : ∀ v, v ∈ s.pushed → v ∈ s.called
  retSub : ∀ v, v ∈ s.returned → v ∈ s.pushed
  pushedNd : s.pushed.Nodup

theorem vinv_init (stub : Nat) : VInv (init stub) := by
  constructor <;> simp [init, Pc.pub, Pc.val]

theorem nodup_snoc {l : List Nat} {a : Nat} (hl : l.Nodup) (ha : a ∉ l) : (l ++ [a]).Nodup :=
  List.nodup_append.mpr ⟨hl, by simp, fun b hb c hc e => ha (List.mem_singleton.mp hc ▸ e ▸ hb)⟩

theorem vinv_of_shape {s s' : St} (h : VInv s) (sh : VShape s s') : VInv s' := by
  -- `grind` does not unfold `Pc.val` / `Pc.pub`; these are their values where the shapes fix the pc
  have idle_val : (Pc.idle).val = 0 := rfl
  have idle_pub : (Pc.idle).pub = false := rfl
  have called_val : ∀ v, (Pc.called v).val = v := fun _ => rfl
  have called_pub : ∀ v, (Pc.called v).pub = false := fun _ => rfl
  have linked_val : ∀ v, (Pc.linked v).val = v := fun _ => rfl
  have linked_pub : ∀ v, (Pc.linked v).pub = true := fun _ => rfl
  obtain ⟨callNd, callNz, h3, h4, h5, h6, h7, h8, h9, pushedNd⟩ := h
  cases sh with
  | same hpc hc hp hr => constructor <;> simp only [hpc, hc, hp, hr] <;> assumption
  | move t c hpc h1 h2 hv hb hc hp hr =>
    constructor <;> simp only [hpc, hc, hp, hr, upd_apply] <;> grind
  | publish t c hpc h1 h0 h2 hv hb hc hp hr =>
    constructor <;> simp only [hpc, hc, hp, hr, upd_apply, List.mem_append, List.mem_singleton]
    case pushedNd => exact nodup_snoc pushedNd (hv ▸ h4 t h1 h0)
    all_goals grind
  | call t v h1 hpc hv hf hc hp hr =>
    constructor <;> simp only [hpc, hc, hp, hr, upd_apply, List.mem_append, List.mem_singleton]
    case callNd => exact nodup_snoc callNd hf
    all_goals grind
  | ret t v h1 hpc hc hp hr =>
    constructor <;> simp only [hpc, hc, hp, hr, upd_apply, List.mem_append, List.mem_singleton] <;>
      grind

theorem vinv_step {k : Kind} {s s' : St} {e : Ev} (h : VInv s) (hs : step k s e = some s') :
    VInv s' := vinv_of_shape h (step_vshape hs)

theorem pushed_prefix_of_shape {s s' : St} (sh : VShape s s') : s.pushed <+: s'.pushed := by
  cases sh with
  | same _ _ hp _ => rw [hp]; exact List.prefix_refl _
  | move _ _ _ _ _ _ _ _ hp _ => rw [hp]; exact List.prefix_refl _
  | publish _ _ _ _ _ _ _ _ _ hp _ => rw [hp]; exact List.prefix_append _ _
  | call _ _ _ _ _ _ _ hp _ => rw [hp]; exact List.prefix_refl _
  | ret _ _ _ _ _ hp _ => rw [hp]; exact List.prefix_refl _

theorem returned_mono_of_shape {s s' : St} (sh : VShape s s') {v : Nat} (hv : v ∈ s.returned) :
    v ∈ s'.returned := by
  cases sh with
  | same _ _ _ hr => rw [hr]; exact hv
  | move _ _ _ _ _ _ _ _ _ hr => rw [hr]; exact hv
  | publish _ _ _ _ _ _ _ _ _ _ hr => rw [hr]; exact hv
  | call _ _ _ _ _ _ _ _ hr => rw [hr]; exact hv
  | ret _ _ _ _ _ _ hr => rw [hr]; exact List.mem_append_left _ hv

theorem runFrom_induct {σ ε : Type} (M : Sys σ ε) (P : σ → Prop)
    (hstep : ∀ s e s', P s → M.step s e = some s' → P s')
    {s s' : σ} {es : List ε} (h0 : P s) (h : M.runFrom s es = some s') : P s' :=
  Sys.runFrom_inv P (fun _ => True) (fun s e s' hp _ => hstep s e s' hp) es s s' h0 h
    fun _ _ => trivial

theorem invs_of_runFrom {k : Kind} {stub : Nat} {es : List Ev} {s s' : St}
    (hi : Inv k s ∧ VInv s) (h : (sys k stub).runFrom s es = some s') : Inv k s' ∧ VInv s' :=
  runFrom_induct (sys k stub) (fun s => Inv k s ∧ VInv s)
    (fun _ _ _ hi hs => ⟨inv_step hi.1 hs, vinv_step hi.2 hs⟩) hi h

theorem invs_of_run {k : Kind} {stub : Nat} (h0 : stub ≠ 0) {es : List Ev} {s : St}
    (h : (sys k stub).run es = some s) : Inv k s ∧ VInv s :=
  invs_of_runFrom ⟨inv_init k stub h0, vinv_init stub⟩ h

theorem pushed_prefix_of_runFrom {k : Kind} {stub : Nat} {es : List Ev} {s s' : St}
    (h : (sys k stub).runFrom s es = some s') : s.pushed <+: s'.pushed :=
  runFrom_induct (sys k stub) (fun x => s.pushed <+: x.pushed)
    (fun _ _ _ hp hs => List.IsPrefix.trans hp (pushed_prefix_of_shape (step_vshape hs)))
    (List.prefix_refl _) h

theorem popped_prefix {k : Kind} {s : St} (h : Inv k s) : s.popped <+: s.pushed := by
  rw [h.vals, List.append_assoc]; exact List.prefix_append _ _

theorem popped_nodup {k : Kind} {s : St} (h : Inv k s) (hv : VInv s) : s.popped.Nodup := by
  have hp := hv.pushedNd
  rw [h.vals, List.append_assoc] at hp
  exact (List.nodup_append.mp hp).1

theorem idx_of_prefix {l m : List Nat} (h : l <+: m) {i a : Nat} (hi : l[i]? = some a) :
    m[i]? = some a := by
  obtain ⟨r, hr⟩ := h
  rw [← hr, List.getElem?_append_left (idx_lt hi)]; exact hi

theorem popped_at {k : Kind} {s : St} (h : Inv k s) {i v : Nat} (hi : s.popped[i]? = some v) :
    s.pushed[i]? = some v :=
  idx_of_prefix (popped_prefix h) hi

theorem popped_sub {k : Kind} {s : St} (h : Inv k s) {v : Nat} (hp : v ∈ s.popped) :
    v ∈ s.pushed :=
  (popped_prefix h).subset hp

theorem pushed_called {s : St} (hv : VInv s) {v : Nat} (hp : v ∈ s.pushed) :
    v ∈ s.called ∧ v ≠ 0 :=
  ⟨hv.pushedSub _ hp, fun e => hv.callNz (e ▸ hv.pushedSub _ hp)⟩

/-- order of publication respects real time (abstract form): `vA`'s push had returned in
    state `a`, `vB` had not been handed to push yet, `b` is a later state -/
theorem realtime_abs {a b : St} {vA vB : Nat} (hv : VInv a) (hA : vA ∈ a.returned)
    (hfresh : vB ∉ a.called) (hpre : a.pushed <+: b.pushed) (hnd : b.pushed.Nodup)
    {i j : Nat} (hia : b.pushed[i]? = some vA) (hjb : b.pushed[j]? = some vB) : i < j := by
  have hfresh' : vB ∉ a.pushed := fun hm => hfresh (hv.pushedSub _ hm)
  have hA1 : vA ∈ a.pushed := hv.retSub _ hA
  obtain ⟨i0, hi0⟩ := idx_of_mem hA1
  have hlt0 := idx_lt hi0
  have hi0' : b.pushed[i0]? = some vA := idx_of_prefix hpre hi0
  have : i = i0 := nodup_idx hnd hia hi0'
  subst this
  by_cases hj : j < a.pushed.length
  · exfalso
    obtain ⟨l, hl⟩ := hpre
    rw [← hl, List.getElem?_append_left hj] at hjb
    exact hfresh' (mem_of_idx hjb)
  · omega

theorem callPush_fresh {k : Kind} {s s' : St} {t v : Nat}
    (h : step k s (.callPush t v) = some s') :
    s.pc t = .idle ∧ v ≠ 0 ∧ v ∉ s.called ∧ s'.pc t = .called v := by
  cases Step.of_step h with
  | callPush hpc hv hf => exact ⟨hpc, hv, hf, upd_same _ _ _⟩

theorem realtime_core {k : Kind} {stub : Nat} {s1 s2 : St} {es : List Ev} {tB vA vB : Nat}
    (hi : Inv k s1 ∧ VInv s1) (hA : vA ∈ s1.returned)
    (hrun : (sys k stub).runFrom s1 (.callPush tB vB :: es) = some s2)
    {i j : Nat} (hia : s2.pushed[i]? = some vA) (hjb : s2.pushed[j]? = some vB) : i < j := by
  have hpre := pushed_prefix_of_runFrom hrun
  have hv2 := (invs_of_runFrom hi hrun).2
  obtain ⟨_, hst, -⟩ := Sys.runFrom_cons_some.mp hrun
  have hfresh := (callPush_fresh (k := k) hst).2.2.1
  exact realtime_abs hi.2 hA hfresh hpre hv2.pushedNd hia hjb

theorem returned_when_idle {k : Kind} {stub : Nat} {s s' : St} {es : List Ev} {t v : Nat}
    (hv : v ≠ 0) (h0 : (s.pc t).val = v) (hrun : (sys k stub).runFrom s es = some s')
    (hidle : s'.pc t = .idle) : v ∈ s'.returned := by
  have idle_val : (Pc.idle).val = 0 := rfl
  have linked_val : ∀ v, (Pc.linked v).val = v := fun _ => rfl
  -- the payload stays in the hands of `t` until its push returns
  have := runFrom_induct (sys k stub) (fun x => (x.pc t).val = v ∨ v ∈ x.returned)
    (fun x _ x' (h : _ ∨ _) hs => by
      cases step_vshape (k := k) hs with
      | same hpc _ _ hr => rw [hpc, hr]; exact h
      | move t' c hpc h1 h2 hv' hb hc hp hr => rw [hpc, hr]; simp only [upd_apply]; grind
      | publish t' c hpc h1 h0 h2 hv' hb hc hp hr => rw [hpc, hr]; simp only [upd_apply]; grind
      | call t' v' h1 hpc hv' hf hc hp hr => rw [hpc, hr]; simp only [upd_apply]; grind
      | ret t' v' h1 hpc hc hp hr =>
        rw [hpc, hr]; simp only [upd_apply, List.mem_append, List.mem_singleton]; grind)
    (Or.inl h0) hrun
  rcases this with h | h
  · rw [hidle] at h; exact absurd h.symm hv
  · exact h

/-- a NULL read of `head->next` (by a trypop or by a peek): it is the stub's `next` that was
    read, and the consumer holds no payload in its hands at that instant -/
theorem null_read_shape {k : Kind} {s s' : St} {t h : Nat} (hi : Inv k s)
    (hs : step k s (.rdNext t h 0) = some s') :
    h = s.head ∧ s.next s.head = 0 ∧ inflight s = [] ∧
      (s.cpc = .gotHead h ∨ s.cpc = .pkGotHead h) := by
  cases Step.of_step hs with
  | rdNext hcp _ hx =>
    cases hi.cGotHead _ hcp
    exact ⟨rfl, hx.symm, by simp only [inflight, hcp], .inl hcp⟩
  | rdNextPeek hcp _ hx =>
    cases hi.cPkGotHead _ hcp
    exact ⟨rfl, hx.symm, by simp only [inflight, hcp], .inr hcp⟩

theorem empty_core {k : Kind} {s s' : St} {t h : Nat} (hi : Inv k s)
    (hs : step k s (.rdNext t h 0) = some s') :
    h = s.head ∧ (s.q = [s.head] ∨ ∃ p v n, s.pc p = .xchgd v n s.head ∧ s.q[1]? = some n) := by
  obtain ⟨hh, hx, -⟩ := null_read_shape hi hs
  refine ⟨hh, (stub_cases hi).imp_right fun ⟨b, hb, hb0, hl⟩ => ?_⟩
  rcases hl with hl | ⟨-, p, v, hp⟩
  · exact absurd (hl.symm.trans hx) hb0
  · exact ⟨p, v, b, hp, hb⟩

theorem ret_zero_core {k : Kind} {s s' : St} {t : Nat} (hi : Inv k s) (hv : VInv s)
    (hs : step k s (.retPop t 0) = some s') : ∃ h, s.cpc = .gotNext h 0 := by
  cases Step.of_step hs with
  | retPopEmpty hcp => exact ⟨_, hcp⟩
  | retPop hcp =>
    -- the payload a trypop hands out was published, hence is not 0
    have hvals := hi.vals
    simp only [inflight, hcp] at hvals
    exact absurd (hv.pushedSub 0 (by rw [hvals]; simp)) hv.callNz

theorem drained {k : Kind} {s : St} (hi : Inv k s) (hv : VInv s) (hin : inflight s = [])
    (l : List Nat) (hq : s.q.drop 1 = l) {w : Nat} (hw : w ∈ s.returned) :
    w ∈ s.popped ∨ w ∈ l.map s.data := by
  have := hv.retSub _ hw
  rw [hi.vals, hin, hq, List.append_nil] at this
  exact List.mem_append.mp this

theorem spsc_empty_core {s s' : St} {t h : Nat} (hi : Inv .spsc s) (hv : VInv s)
    (hs : step .spsc s (.rdNext t h 0) = some s') : ∀ v, v ∈ s.returned → v ∈ s.popped := by
  obtain ⟨-, -, hin, -⟩ := null_read_shape hi hs
  intro w hw
  obtain ⟨-, hq | ⟨p, v, n, hp, hq1⟩⟩ := empty_core hi hs
  · exact (drained hi hv hin [] (by rw [hq]; rfl) hw).elim id nofun
  · -- `n` is both the second and the last node, and its push has not returned
    obtain ⟨-, -, hdat, -⟩ := hi.pX _ _ _ _ hp
    have h1 : 1 = s.q.length - 1 :=
      nodup_idx hi.nd hq1 (hi.pXs rfl _ _ _ _ hp ▸ hi.tl)
    have hdrop : s.q.drop 1 = [n] := by
      rw [drop1_eq_cons hq1, List.drop_eq_nil_iff.mpr (by omega)]
    refine (drained hi hv hin _ hdrop hw).elim id fun hm => ?_
    have := hv.notRet p (by rw [hp]; nofun)
    rw [hp] at this
    simp only [List.map_cons, List.map_nil, List.mem_singleton] at hm
    rw [hm, hdat] at hw
    exact absurd hw this

theorem empty_pending_core {k : Kind} {s s' : St} {t h : Nat} (hi : Inv k s) (hv : VInv s)
    (hs : step k s (.rdNext t h 0) = some s') :
    (∀ v, v ∈ s.returned → v ∈ s.popped) ∨ ∃ p v n p', s.pc p = .xchgd v n p' := by
  obtain ⟨-, -, hin, -⟩ := null_read_shape hi hs
  obtain ⟨-, hq | ⟨p, v, n, hp, -⟩⟩ := empty_core hi hs
  · exact .inl fun w hw => (drained hi hv hin [] (by rw [hq]; rfl) hw).elim id nofun
  · exact .inr ⟨p, v, n, _, hp⟩

theorem peek_ret_core {k : Kind} {s s' : St} {t v : Nat} (hi : Inv k s) (hv : VInv s)
    (hs : step k s (.retPeek t v) = some s') :
    (v = 0 ∧ (∃ h, s.cpc = .pkGotNext h 0) ∧ s'.peeked = s.peeked) ∨
      (v ≠ 0 ∧ s.pushed[s.popped.length]? = some v ∧
        s'.peeked = s.peeked ++ [(s.popped.length, v)]) := by
  cases Step.of_step hs with
  | retPeekEmpty hcp => exact .inl ⟨rfl, ⟨_, hcp⟩, rfl⟩
  | retPeek hcp =>
    obtain ⟨hq1, hd⟩ := hi.cPkGotData _ _ _ hcp
    have hfront := hd ▸ front_payload hi (by simp only [inflight, hcp]) hq1
    exact .inr ⟨fun he => hv.callNz (he ▸ hv.pushedSub _ (mem_of_idx hfront)), hfront, rfl⟩

theorem popped_idx_unique {k : Kind} {s : St} (hi : Inv k s) (hv : VInv s) {i j v : Nat}
    (hp : s.pushed[i]? = some v) (hj : s.popped[j]? = some v) : j = i :=
  nodup_idx hv.pushedNd (popped_at hi hj) hp

theorem front_not_popped {k : Kind} {s : St} (hi : Inv k s) (hv : VInv s) {v : Nat}
    (hp : s.pushed[s.popped.length]? = some v) : v ∉ s.popped := by
  intro hm
  obtain ⟨j, hj⟩ := idx_of_mem hm
  have := popped_idx_unique hi hv hp hj
  have := idx_lt hj
  omega

/-- the trypop in progress has moved `head` and holds a payload in its hands -/
def CPc.holds : CPc → Bool
  | .moved _ _ => true
  | .gotData _ _ _ => true
  | .wrote _ _ => true
  | .readBack _ _ => true
  | _ => false

theorem holds_of_inflight_nil {s : St} (h : inflight s = []) : s.cpc.holds = false := by
  unfold inflight at h
  cases hc : s.cpc <;> simp [hc, CPc.holds] at h ⊢

/-- What keeps a payload that a peek has reported visible until a trypop takes it. -/
structure PkInv (s : St) : Prop where
  /-- peeks are recorded with the number of trypops returned so far -/
  le : ∀ i v, (i, v) ∈ s.peeked → i ≤ s.popped.length
  /-- after a peek has reported a payload, and until a trypop moves `head`, the stub's `next`
      stays non-NULL (links are never undone; only the consumer moves `head`) -/
  linked : ∀ v, (s.popped.length, v) ∈ s.peeked → s.cpc.holds = false → s.next s.head ≠ 0
  gotData : ∀ h x d, s.cpc = .pkGotData h x d → s.next s.head ≠ 0

theorem pkinv_init (stub : Nat) : PkInv (init stub) := by
  constructor <;> simp [init]

/-- A step that neither completes a trypop nor a peek (`popped`, `peeked` stay) and does not move
    `head`: a non-NULL `next` of the stub stays non-NULL, a trypop that holds no payload held
    none before, and a peek arrives at `pkGotData` only over a non-NULL `next`. -/
theorem PkInv.frame {s s' : St} (h : PkInv s) (hpe : s'.peeked = s.peeked)
    (hpo : s'.popped = s.popped) (hnx : s.next s.head ≠ 0 → s'.next s'.head ≠ 0)
    (hh : s'.cpc.holds = false → s.cpc.holds = false)
    (hg : ∀ a x d, s'.cpc = .pkGotData a x d → s.cpc = .pkGotData a x d ∨ s.next s.head ≠ 0) :
    PkInv s' where
  le := hpe ▸ hpo ▸ h.le
  linked := fun v hm hc => hnx (h.linked v (hpo ▸ hpe ▸ hm) (hh hc))
  gotData := fun a x d hc => hnx ((hg a x d hc).elim (h.gotData a x d) id)

theorem pkinv_step {k : Kind} {s s' : St} {e : Ev} (hI : Inv k s) (h : PkInv s)
    (hs : step k s e = some s') : PkInv s' := by
  cases Step.of_step hs with
  | callPush | wrDataClient | xchgTail | ldTail | stTail | retPush =>
    exact ⟨h.le, h.linked, h.gotData⟩
  | @clearNext _ _ n hpc =>
    have hne : s.head ≠ n := fun e => (hI.pHave _ _ _ hpc).2.1 (e ▸ head_mem hI)
    exact h.frame rfl rfl (fun hz e => hz ((upd_other s.next n _ 0 hne).symm.trans e)) id
      fun _ _ _ => .inl
  | @linkNext _ _ n p hpc =>
    obtain ⟨-, -, -, i, -, hi1⟩ := hI.pX _ _ _ _ hpc
    refine h.frame rfl rfl (fun hz => ?_) id fun _ _ _ => .inl
    show upd s.next p n s.head ≠ 0
    by_cases e : s.head = p
    · rw [e, upd_same]; exact fun e0 => hI.nz (e0 ▸ mem_of_idx hi1)
    · rwa [upd_other _ _ _ _ e]
  | callPop hcp | callPeek _ hcp | rdHead hcp | rdHeadPeek hcp | rdNext hcp | rdNextPeek hcp
  | retPopEmpty hcp | retPeekEmpty hcp =>
    exact h.frame rfl rfl id (fun _ => by rw [hcp]; rfl) fun _ _ _ e => nomatch e
  | rdDataPop hcp | wrDataPop hcp | rdDataClient hcp =>
    exact h.frame rfl rfl id (fun e => nomatch e) fun _ _ _ e => nomatch e
  | rdDataPeek hcp _ hx0 =>
    have ⟨e, z⟩ := hI.cPkGotNext _ _ hcp
    exact h.frame rfl rfl id (fun _ => by rw [hcp]; rfl) fun _ _ _ _ => .inr (e ▸ z hx0 ▸ hx0)
  | wrHead => exact ⟨h.le, fun _ _ e => Bool.noConfusion e, nofun⟩
  | retPop hcp =>
    refine ⟨fun i v hm => Nat.le_trans (h.le i v hm) (by simp), fun v hm _ => ?_, nofun⟩
    have := h.le _ v hm
    simp only [List.length_append, List.length_singleton] at this
    omega
  | retPeek hcp =>
    have hnz := h.gotData _ _ _ hcp
    refine ⟨fun i v hm => ?_, fun _ _ _ => hnz, nofun⟩
    rcases List.mem_append.mp hm with hm | hm
    · exact h.le i v hm
    · cases List.mem_singleton.mp hm; exact Nat.le_refl _

theorem pkinv_of_run {k : Kind} {stub : Nat} (h0 : stub ≠ 0) {es : List Ev} {s : St}
    (h : (sys k stub).run es = some s) : PkInv s :=
  (Sys.inv_of_run (sys k stub) (fun s => (Inv k s ∧ VInv s) ∧ PkInv s)
    ⟨⟨inv_init k stub h0, vinv_init stub⟩, pkinv_init stub⟩
    (fun _ _ _ hi hs => ⟨⟨inv_step hi.1.1 hs, vinv_step hi.1.2 hs⟩, pkinv_step hi.1.1 hi.2 hs⟩) h).2

end LibfiberVerif.Mpsc
