/-
  Proof/Mpmc.lean — inductive invariant of the MPMC FIFO model (property C13) and refinement of
  the sequential FIFO specification.

  The accepted steps are listed once as rules (`PcMove`, `Step`).  What the invariant says about
  one thread is a predicate of its pc (`Local`); a step is either a move of the acting thread's pc
  (`inv_pc`), a change of the heap with every pc where it was (`inv_life` … `inv_casHead`), or one
  of the two steps that do both at once (`inv_link`, `inv_casTail`).
-/
import LibfiberVerif.Model.Mpmc

namespace LibfiberVerif.Mpmc

/-! ### what a program counter holds (projections used by the invariant) -/

/-- the node the thread owns exclusively (taken from the free list, not yet in the queue) -/
def own : Pc → Option Nat
  | .taken n => some n
  | .valued n _ => some n
  | .pushCalled n _ => some n
  | .pushLoop n _ => some n
  | .pushGotTail n _ _ => some n
  | .pushPub n _ _ => some n
  | .pushFenced n _ _ => some n
  | .pushVal n _ _ => some n
  | .pushNext n _ _ => some n
  | _ => none

/-- … whose `value` field has been written -/
def ownVal : Pc → Option (Nat × Nat)
  | .valued n v => some (n, v)
  | .pushCalled n v => some (n, v)
  | .pushLoop n v => some (n, v)
  | .pushGotTail n v _ => some (n, v)
  | .pushPub n v _ => some (n, v)
  | .pushFenced n v _ => some (n, v)
  | .pushVal n v _ => some (n, v)
  | .pushNext n v _ => some (n, v)
  | _ => none

/-- … whose `prev` field has been reset to NULL -/
def ownInit : Pc → Option Nat
  | .pushLoop n _ => some n
  | .pushGotTail n _ _ => some n
  | .pushPub n _ _ => some n
  | .pushFenced n _ _ => some n
  | .pushVal n _ _ => some n
  | .pushNext n _ _ => some n
  | _ => none

/-- node on which the thread holds a validated protection in slot 0 and relies on it -/
def hold0 : Pc → Option Nat
  | .pushVal _ _ tl => some tl
  | .pushNext _ _ tl => some tl
  | .pushCased _ _ tl => some tl
  | .popVal0 h => some h
  | .popGotPrev h _ => some h
  | .popPub1 h _ => some h
  | .popFenced1 h _ => some h
  | .popVal1 h _ => some h
  | .popGotVal h _ _ => some h
  | _ => none

/-- same for slot 1 -/
def hold1 : Pc → Option Nat
  | .popVal1 _ p => some p
  | .popGotVal _ p _ => some p
  | _ => none

/-- the validated head whose `prev` is about to be read -/
def atHead : Pc → Option Nat
  | .popVal0 h => some h
  | _ => none

/-- (head, prev) after `head->prev` was read non-NULL -/
def sawPrev : Pc → Option (Nat × Nat)
  | .popGotPrev h p => some (h, p)
  | .popPub1 h p => some (h, p)
  | .popFenced1 h p => some (h, p)
  | .popVal1 h p => some (h, p)
  | .popGotVal h p _ => some (h, p)
  | _ => none

/-- (prev, value) after `prev->value` was read -/
def sawVal : Pc → Option (Nat × Nat)
  | .popGotVal _ p x => some (p, x)
  | _ => none

/-- (new, old tail) between the successful tail CAS and `tail->prev = new` -/
def linking : Pc → Option (Nat × Nat)
  | .pushCased n _ tl => some (n, tl)
  | _ => none

theorem atHead_hold0 {p : Pc} {h : Nat} (e : atHead p = some h) : hold0 p = some h := by
  cases p <;> cases e <;> rfl
theorem sawPrev_hold0 {p : Pc} {h q : Nat} (e : sawPrev p = some (h, q)) : hold0 p = some h := by
  cases p <;> cases e <;> rfl
theorem sawVal_hold1 {p : Pc} {q x : Nat} (e : sawVal p = some (q, x)) : hold1 p = some q := by
  cases p <;> cases e <;> rfl
theorem linking_hold0 {p : Pc} {n tl : Nat} (e : linking p = some (n, tl)) : hold0 p = some tl := by
  cases p <;> cases e <;> rfl
theorem ownVal_own {p : Pc} {n v : Nat} (e : ownVal p = some (n, v)) : own p = some n := by
  cases p <;> cases e <;> rfl
theorem ownInit_own {p : Pc} {n : Nat} (e : ownInit p = some n) : own p = some n := by
  cases p <;> cases e <;> rfl

theorem mem_clr {l : List (Nat × Nat)} {t u n : Nat} :
    (u, n) ∈ clr l t ↔ (u, n) ∈ l ∧ u ≠ t := by
  simp [clr, List.mem_filter]

theorem unprot_ne {l : List (Nat × Nat)} {n u m : Nat} (h : unprot l n = true)
    (hm : (u, m) ∈ l) : m ≠ n := by
  simp [unprot, List.all_eq_true] at h
  exact h u m hm

theorem mem_addProt {l : List (Nat × Nat)} {life : Nat → Life} {t n u m : Nat} :
    (u, m) ∈ addProt l life t n ↔ ((u, m) ∈ l ∨ (life n = .inq ∧ u = t ∧ m = n)) := by
  unfold addProt
  split <;> simp_all
  · constructor
    · rintro (⟨rfl, rfl⟩ | h) <;> simp_all
    · rintro (h | ⟨rfl, rfl⟩) <;> simp_all

/-! ### the accepted steps, as rules

  `PcMove s t e A B p0 p1`: event `e` takes thread `t` from pc `A` to pc `B` and leaves `p0`, `p1`
  as protection lists, changing nothing else but the thread's own hazard slots and the `next`
  field of its own node.  `Step` adds the steps that change the heap or a ghost field.
  `Step.of_step` is the only place where `step` is unfolded. -/

inductive PcMove (s : St) (t : Nat) : Ev → Pc → Pc → List (Nat × Nat) → List (Nat × Nat) → Prop
  | callPush : PcMove s t (.callPush t v) (.valued n v) (.pushCalled n v) s.prot0 s.prot1
  | retPush : PcMove s t (.retPush t) .pushDone .idle s.prot0 s.prot1
  | callPop : PcMove s t (.callPop t) .idle .popCalled s.prot0 s.prot1
  | retPop : PcMove s t (.retPop t x) (.popDone x) .idle s.prot0 s.prot1
  | callScan : PcMove s t (.callScan t) .idle .scanning s.prot0 s.prot1
  | retScan : PcMove s t (.retScan t) .scanning .idle s.prot0 s.prot1
  | wrNext : PcMove s t (.wrNext t n x) (.pushVal n v tl) (.pushNext n v tl) s.prot0 s.prot1
  | rdValue :
    PcMove s t (.rdValue t p (s.value p)) (.popVal1 h p) (.popGotVal h p (s.value p)) s.prot0 s.prot1
  | rdPrevNone : s.prev h = none →
    PcMove s t (.rdPrev t h none) (.popVal0 h) .popEmpty s.prot0 s.prot1
  | rdPrevSome : s.prev h = some p →
    PcMove s t (.rdPrev t h (some p)) (.popVal0 h) (.popGotPrev h p) s.prot0 s.prot1
  | ldTail : PcMove s t (.ldTail t s.tail) (.pushLoop n v) (.pushGotTail n v s.tail) s.prot0 s.prot1
  | ldTailOk : PcMove s t (.ldTail t s.tail) (.pushFenced n v s.tail) (.pushVal n v s.tail)
      (addProt s.prot0 s.life t s.tail) s.prot1
  | ldTailRetry : PcMove s t (.ldTail t x) (.pushFenced n v tl) (.pushLoop n v) s.prot0 s.prot1
  | ldHead : PcMove s t (.ldHead t s.head) .popCalled (.popGotHead s.head) s.prot0 s.prot1
  | ldHead0Ok : PcMove s t (.ldHead t s.head) (.popFenced0 s.head) (.popVal0 s.head)
      (addProt s.prot0 s.life t s.head) s.prot1
  | ldHead0Retry : PcMove s t (.ldHead t x) (.popFenced0 h) .popCalled s.prot0 s.prot1
  | ldHead1Ok : PcMove s t (.ldHead t s.head) (.popFenced1 s.head p) (.popVal1 s.head p)
      s.prot0 (addProt s.prot1 s.life t p)
  | ldHead1Retry : PcMove s t (.ldHead t x) (.popFenced1 h p) .popCalled s.prot0 s.prot1
  | casTailFail :
    PcMove s t (.casTail t f e d false) (.pushNext n v tl) (.pushLoop n v) s.prot0 s.prot1
  | casHeadFail :
    PcMove s t (.casHead t f e d false) (.popGotVal h p x) .popCalled s.prot0 s.prot1
  | fencePush : PcMove s t (.fence t) (.pushPub n v tl) (.pushFenced n v tl) s.prot0 s.prot1
  | fencePop0 : PcMove s t (.fence t) (.popPub0 h) (.popFenced0 h) s.prot0 s.prot1
  | fencePop1 : PcMove s t (.fence t) (.popPub1 h p) (.popFenced1 h p) s.prot0 s.prot1
  | pubTail :
    PcMove s t (.wrSlot t t 0 x) (.pushGotTail n v tl) (.pushPub n v tl) (clr s.prot0 t) s.prot1
  | clrPush : PcMove s t (.wrSlot t t 0 x) (.pushLinked n v) .pushDone (clr s.prot0 t) s.prot1
  | pubHead : PcMove s t (.wrSlot t t 0 x) (.popGotHead h) (.popPub0 h) (clr s.prot0 t) s.prot1
  | clrEmpty : PcMove s t (.wrSlot t t 0 x) .popEmpty (.popDone 0) (clr s.prot0 t) s.prot1
  | clrPop0 : PcMove s t (.wrSlot t t 0 x) (.popCased y) (.popClr0 y) (clr s.prot0 t) s.prot1
  | pubPrev :
    PcMove s t (.wrSlot t t 1 x) (.popGotPrev h p) (.popPub1 h p) s.prot0 (clr s.prot1 t)
  | clrPop1 : PcMove s t (.wrSlot t t 1 x) (.popClr0 y) (.popDone y) s.prot0 (clr s.prot1 t)

inductive Step (s : St) : Ev → St → Prop
  | pc {t e A B p0 p1 sl0 sl1 nx} : s.pc t = A → PcMove s t e A B p0 p1 →
    Step s e { s with pc := upd s.pc t B, prot0 := p0, prot1 := p1, slot0 := sl0, slot1 := sl1,
                      next := nx }
  | skip {t} : Step s (.skip t) s
  | rdSlot {t u k x} : Step s (.rdSlot t u k x) s
  | reclaim {t n} : s.life n = .retired → unprot s.prot0 n = true → unprot s.prot1 n = true →
    Step s (.reclaim t n) { s with life := upd s.life n .free }
  | take {t n} : s.pc t = .idle → s.life n = .free →
    Step s (.take t n) { s with life := upd s.life n (.owned t), pc := upd s.pc t (.taken n) }
  | wrValue {t n v} : s.pc t = .taken n →
    Step s (.wrValue t n v) { s with value := upd s.value n v, pc := upd s.pc t (.valued n v) }
  | wrPrevOwn {t n v} : s.pc t = .pushCalled n v →
    Step s (.wrPrev t n none) { s with prev := upd s.prev n none, pc := upd s.pc t (.pushLoop n v) }
  | wrPrevLink {t n v tl} : s.pc t = .pushCased n v tl →
    Step s (.wrPrev t tl (some n))
      { s with prev := upd s.prev tl (some n), pc := upd s.pc t (.pushLinked n v) }
  | casTail {t n v tl} : s.pc t = .pushNext n v tl → s.tail = tl →
    Step s (.casTail t s.tail tl n true)
      { s with tail := n, life := upd s.life n .inq, ordN := upd s.ordN s.len n,
               ordV := upd s.ordV s.len v, len := s.len + 1, pos := upd s.pos n s.len,
               pushed := s.pushed ++ [v], pc := upd s.pc t (.pushCased n v tl) }
  | casHead {t h p x} : s.pc t = .popGotVal h p x → s.head = h →
    Step s (.casHead t s.head h p true)
      { s with head := p, life := upd s.life h .retired, hd := s.hd + 1,
               popped := s.popped ++ [x], pc := upd s.pc t (.popCased x) }

/-- After the case analysis on the thread's pc and the substitution of what the guard fixes,
    event and pcs are constructors, so exactly one rule of `PcMove` applies: `constructor`. -/
theorem Step.of_step {s s' : St} {e : Ev} (h : step s e = some s') : Step s e s' := by
  cases e with
  | skip t | rdSlot t _ _ _ => simp [step] at h; exact h.2 ▸ by constructor
  | reclaim t n =>
    simp [step] at h
    exact h.2 ▸ .reclaim h.1.2.1 h.1.2.2.1 h.1.2.2.2
  | take t n =>
    simp [step] at h
    exact h.2 ▸ .take h.1.1 h.1.2
  | callPop t | callScan t | retScan t => simp [step] at h; exact h.2 ▸ .pc h.1 (by constructor)
  | callPush t v | retPop t v =>
    cases hpc : s.pc t <;> simp [step, hpc] at h
    obtain ⟨rfl, rfl⟩ := h
    exact .pc hpc (by constructor)
  | retPush t | fence t =>
    cases hpc : s.pc t <;> simp [step, hpc] at h <;> exact h ▸ .pc hpc (by constructor)
  | wrNext t n x =>
    cases hpc : s.pc t <;> simp [step, hpc] at h
    obtain ⟨⟨rfl, -⟩, rfl⟩ := h
    exact .pc hpc .wrNext
  | wrValue t n v =>
    cases hpc : s.pc t <;> simp [step, hpc] at h
    obtain ⟨⟨rfl, -⟩, rfl⟩ := h
    exact .wrValue hpc
  | rdValue t n x =>
    cases hpc : s.pc t <;> simp [step, hpc] at h
    obtain ⟨⟨rfl, rfl, -⟩, rfl⟩ := h
    exact .pc hpc .rdValue
  | rdPrev t n x =>
    cases hpc : s.pc t <;> simp [step, hpc] at h
    obtain ⟨⟨rfl, hx, -⟩, h⟩ := h
    cases x <;> cases h
    · exact .pc hpc (.rdPrevNone hx.symm)
    · exact .pc hpc (.rdPrevSome hx.symm)
  | wrPrev t n x =>
    cases hpc : s.pc t <;> simp [step, hpc] at h <;> obtain ⟨⟨rfl, rfl, -⟩, rfl⟩ := h
    · exact .wrPrevOwn hpc
    · exact .wrPrevLink hpc
  | ldTail t x | ldHead t x =>
    cases hpc : s.pc t <;> simp [step, hpc] at h <;> obtain ⟨rfl, h⟩ := h
    · exact h ▸ .pc hpc (by constructor)
    all_goals
      split at h <;> cases h
      · rename_i hx; subst hx
        exact .pc hpc (by constructor)
      · exact .pc hpc (by constructor)
  | casTail t f e d ok | casHead t f e d ok =>
    cases hpc : s.pc t <;> cases ok <;> simp [step, hpc] at h
    · exact h.2 ▸ .pc hpc (by constructor)
    · obtain ⟨⟨rfl, rfl, rfl, hx⟩, rfl⟩ := h
      exact by constructor <;> assumption
  | wrSlot t u k x =>
    cases hpc : s.pc t <;> simp [step, hpc] at h
    case popGotPrev | popClr0 =>
      obtain ⟨rfl, -, rfl, -, rfl⟩ := h
      exact .pc hpc (by constructor)
    all_goals
      obtain ⟨rfl, rfl, -, rfl⟩ := h
      exact .pc hpc (by constructor)

structure Inv (s : St) : Prop where
  hd_lt : s.hd < s.len
  head_eq : s.head = s.ordN s.hd
  tail_eq : s.tail = s.ordN (s.len - 1)
  q_life : ∀ j, s.hd ≤ j → j < s.len → s.life (s.ordN j) = .inq
  q_pos : ∀ j, s.hd ≤ j → j < s.len → s.pos (s.ordN j) = j
  inq_pos : ∀ n, s.life n = .inq → s.hd ≤ s.pos n ∧ s.pos n < s.len ∧ s.ordN (s.pos n) = n
  ret_prev : ∀ n, s.life n = .retired → s.prev n ≠ none
  q_prev : ∀ j, s.hd ≤ j → j < s.len →
    s.prev (s.ordN j) = none ∨ (j + 1 < s.len ∧ s.prev (s.ordN j) = some (s.ordN (j + 1)))
  q_val : ∀ j, s.hd ≤ j → j < s.len → s.value (s.ordN j) = s.ordV j
  p0_life : ∀ u n, (u, n) ∈ s.prot0 → s.life n = .inq ∨ s.life n = .retired
  p1_life : ∀ u n, (u, n) ∈ s.prot1 → s.life n = .inq ∨ s.life n = .retired
  own_life : ∀ t n, own (s.pc t) = some n → s.life n = .owned t
  own_val : ∀ t n v, ownVal (s.pc t) = some (n, v) → s.value n = v
  own_init : ∀ t n, ownInit (s.pc t) = some n → s.prev n = none
  hold0_in : ∀ t n, hold0 (s.pc t) = some n → (t, n) ∈ s.prot0
  hold1_in : ∀ t n, hold1 (s.pc t) = some n → (t, n) ∈ s.prot1
  at_head : ∀ t h, atHead (s.pc t) = some h → s.pos h ≤ s.hd
  saw_prev : ∀ t h p, sawPrev (s.pc t) = some (h, p) → s.prev h = some p
  saw_val : ∀ t p x, sawVal (s.pc t) = some (p, x) → s.value p = x
  link : ∀ t n tl, linking (s.pc t) = some (n, tl) →
    s.prev tl = none ∧ s.pos tl + 1 < s.len ∧ s.ordN (s.pos tl + 1) = n ∧
    s.ordN (s.pos tl) = tl ∧ s.hd ≤ s.pos tl
  link_inj : ∀ t u n n' tl, linking (s.pc t) = some (n, tl) → linking (s.pc u) = some (n', tl) → t = u
  link_pending : ∀ j, s.hd ≤ j → j + 1 < s.len → s.prev (s.ordN j) = none →
    ∃ u, linking (s.pc u) = some (s.ordN (j + 1), s.ordN j)
  pushed_len : s.pushed.length + 1 = s.len
  pushed_val : ∀ j, j + 1 < s.len → s.pushed[j]? = some (s.ordV (j + 1))
  popped_eq : s.popped = s.pushed.take s.hd

theorem inv_init : Inv init := by
  constructor <;> simp [init, own, ownVal, ownInit, hold0, hold1, atHead, sawPrev, sawVal, linking]
  · intro n; split <;> simp

/-- what `own_life` … `saw_val` of `Inv` say about thread `t` standing at a given pc, with the
    projections evaluated: on a constructor it reduces by computation to the facts themselves -/
def Local (s : St) (t : Nat) : Pc → Prop
  | .taken n => s.life n = .owned t
  | .valued n v | .pushCalled n v => s.life n = .owned t ∧ s.value n = v
  | .pushLoop n v | .pushGotTail n v _ | .pushPub n v _ | .pushFenced n v _ =>
    s.life n = .owned t ∧ s.value n = v ∧ s.prev n = none
  | .pushVal n v tl | .pushNext n v tl =>
    (s.life n = .owned t ∧ s.value n = v ∧ s.prev n = none) ∧ (t, tl) ∈ s.prot0
  | .pushCased _ _ tl => (t, tl) ∈ s.prot0
  | .popVal0 h => (t, h) ∈ s.prot0 ∧ s.pos h ≤ s.hd
  | .popGotPrev h p | .popPub1 h p | .popFenced1 h p => (t, h) ∈ s.prot0 ∧ s.prev h = some p
  | .popVal1 h p => (t, h) ∈ s.prot0 ∧ (t, p) ∈ s.prot1 ∧ s.prev h = some p
  | .popGotVal h p x => ((t, h) ∈ s.prot0 ∧ (t, p) ∈ s.prot1 ∧ s.prev h = some p) ∧ s.value p = x
  | _ => True

theorem local_iff {s : St} {t : Nat} {p : Pc} : Local s t p ↔
    (∀ n, own p = some n → s.life n = .owned t) ∧
    (∀ n v, ownVal p = some (n, v) → s.value n = v) ∧
    (∀ n, ownInit p = some n → s.prev n = none) ∧
    (∀ n, hold0 p = some n → (t, n) ∈ s.prot0) ∧
    (∀ n, hold1 p = some n → (t, n) ∈ s.prot1) ∧
    (∀ h, atHead p = some h → s.pos h ≤ s.hd) ∧
    (∀ h q, sawPrev p = some (h, q) → s.prev h = some q) ∧
    (∀ q x, sawVal p = some (q, x) → s.value q = x) := by
  cases p <;> simp [Local, own, ownVal, ownInit, hold0, hold1, atHead, sawPrev, sawVal,
    and_assoc]

theorem Inv.local {s : St} (hI : Inv s) {t : Nat} {A : Pc} (hpc : s.pc t = A) : Local s t A :=
  hpc ▸ local_iff.2 ⟨hI.own_life t, hI.own_val t, hI.own_init t, hI.hold0_in t, hI.hold1_in t,
    hI.at_head t, hI.saw_prev t, hI.saw_val t⟩

/-- A thread's facts speak only of nodes it owns or protects: they survive any step that keeps
    those nodes' fields (and does not take back a protection). -/
theorem Local.frame {s s' : St} {u : Nat} {p : Pc} (L : Local s u p)
    (ho : ∀ m, s.life m = .owned u →
      s'.life m = .owned u ∧ s'.value m = s.value m ∧ (s.prev m = none → s'.prev m = none))
    (h0 : ∀ m, (u, m) ∈ s.prot0 → (u, m) ∈ s'.prot0 ∧ (s.pos m ≤ s.hd → s'.pos m ≤ s'.hd) ∧
      ∀ q, s.prev m = some q → s'.prev m = some q)
    (h1 : ∀ m, (u, m) ∈ s.prot1 → (u, m) ∈ s'.prot1 ∧ s'.value m = s.value m) :
    Local s' u p := by
  obtain ⟨b1, b2, b3, b4, b5, b6, b7, b8⟩ := local_iff.1 L
  exact local_iff.2 ⟨fun n h => (ho n (b1 n h)).1,
    fun n v h => (ho n (b1 n (ownVal_own h))).2.1.trans (b2 n v h),
    fun n h => (ho n (b1 n (ownInit_own h))).2.2 (b3 n h),
    fun n h => (h0 n (b4 n h)).1, fun n h => (h1 n (b5 n h)).1,
    fun n h => (h0 n (b4 n (atHead_hold0 h))).2.1 (b6 n h),
    fun h q e => (h0 h (b4 h (sawPrev_hold0 e))).2.2 q (b7 h q e),
    fun q x e => (h1 q (b5 q (sawVal_hold1 e))).2.trans (b8 q x e)⟩

theorem locals_upd {s' : St} {f : Nat → Pc} {t : Nat} {B : Pc} (hB : Local s' t B)
    (h : ∀ u, u ≠ t → Local s' u (f u)) : ∀ u, Local s' u (upd f t B u) := by
  intro u; by_cases hu : u = t
  · subst hu; simpa using hB
  · simpa [hu] using h u hu

theorem linking_of_upd {s : St} {t u : Nat} {B : Pc} {x : Nat × Nat} (hB : linking B = none)
    (h : linking (upd s.pc t B u) = some x) : linking (s.pc u) = some x := by
  by_cases hu : u = t
  · subst hu; simp [hB] at h
  · simpa [hu] using h

/-! ### frame lemma: the thread's pc changes, protections change compatibly, and cells the
    invariant does not mention (`slot0`, `slot1`, `next`) change arbitrarily -/

/-- one slot class of protections before (`l`) and after (`l'`) a step of thread `t`: the
    entries are in the queue or retired, and those of the other threads are kept -/
def ProtOk (s : St) (t : Nat) (l l' : List (Nat × Nat)) : Prop :=
  (∀ u n, (u, n) ∈ l' → s.life n = .inq ∨ s.life n = .retired) ∧
  ∀ u n, u ≠ t → (u, n) ∈ l → (u, n) ∈ l'

section
variable {s : St} {t : Nat} {l : List (Nat × Nat)}
  (h : ∀ u n, (u, n) ∈ l → s.life n = .inq ∨ s.life n = .retired)
include h

theorem ProtOk.same : ProtOk s t l l := ⟨h, fun _ _ _ hm => hm⟩

theorem ProtOk.clr : ProtOk s t l (clr l t) :=
  ⟨fun u n hm => h u n (mem_clr.1 hm).1, fun _ _ hu hm => mem_clr.2 ⟨hm, hu⟩⟩

theorem ProtOk.add (n : Nat) : ProtOk s t l (addProt l s.life t n) :=
  ⟨fun u m hm => (mem_addProt.1 hm).elim (h u m) fun e => e.2.2 ▸ .inl e.1,
   fun _ _ _ hm => mem_addProt.2 (.inl hm)⟩

end

theorem inv_pc {s : St} (hI : Inv s) {t : Nat} {A B : Pc} (hpc : s.pc t = A)
    {p0 p1 : List (Nat × Nat)} {sl0 sl1 nx : Nat → Option Nat}
    (h0 : ProtOk s t s.prot0 p0) (h1 : ProtOk s t s.prot1 p1)
    (hB : Local s t A → Local { s with prot0 := p0, prot1 := p1 } t B)
    (hl : linking B = linking A) :
    Inv { s with pc := upd s.pc t B, prot0 := p0, prot1 := p1, slot0 := sl0, slot1 := sl1, next := nx } := by
  have L : ∀ u, Local { s with prot0 := p0, prot1 := p1 } u (upd s.pc t B u) :=
    locals_upd (hB (hI.local hpc)) fun u hu => (hI.local rfl).frame (fun _ h => ⟨h, rfl, id⟩)
      (fun m h => ⟨h0.2 u m hu h, id, fun _ => id⟩) (fun m h => ⟨h1.2 u m hu h, rfl⟩)
  have K : ∀ u, linking (upd s.pc t B u) = linking (s.pc u) := by
    intro u; by_cases hu : u = t
    · subst hu; simp [hl, hpc]
    · simp [hu]
  have F := fun u => local_iff.1 (L u)
  simp only [forall_and] at F
  obtain ⟨o1, o2, o3, o4, o5, o6, o7, o8⟩ := F
  exact { hI with
    p0_life := h0.1, p1_life := h1.1, own_life := o1, own_val := o2, own_init := o3,
    hold0_in := o4, hold1_in := o5, at_head := o6, saw_prev := o7, saw_val := o8,
    link := by simpa only [K] using hI.link
    link_inj := by simpa only [K] using hI.link_inj
    link_pending := by simpa only [K] using hI.link_pending }

theorem inv_pc0 {s : St} (hI : Inv s) {t : Nat} {A B : Pc} (hpc : s.pc t = A)
    (hB : Local s t A → Local s t B) (hl : linking B = linking A) :
    Inv { s with pc := upd s.pc t B } :=
  inv_pc hI hpc (.same hI.p0_life) (.same hI.p1_life) hB hl

/-- discharge the side goals of `inv_pc`/`inv_pc0` from the thread's old pc -/
macro "pc_side" hI:ident t:ident hpc:ident : tactic => `(tactic|
  (have a1 := Inv.own_life $hI $t; have a2 := Inv.own_val $hI $t; have a3 := Inv.own_init $hI $t
   have a4 := Inv.hold0_in $hI $t; have a5 := Inv.hold1_in $hI $t; have a6 := Inv.at_head $hI $t
   have a7 := Inv.saw_prev $hI $t; have a8 := Inv.saw_val $hI $t
   rw [$hpc:ident] at a1 a2 a3 a4 a5 a6 a7 a8
   simp [own, ownVal, ownInit, hold0, hold1, atHead, sawPrev, sawVal, linking, mem_addProt, mem_clr, $hpc:ident] at *
   try grind))

/-- a node that nothing refers to (free, or retired and unprotected) changes hands -/
theorem inv_life {s : St} (hI : Inv s) {n : Nat} {l : Life}
    (hn : s.life n = .free ∨ s.life n = .retired) (hl : l ≠ .inq) (hl' : l ≠ .retired)
    (h0 : ∀ u m, (u, m) ∈ s.prot0 → m ≠ n) (h1 : ∀ u m, (u, m) ∈ s.prot1 → m ≠ n) :
    Inv { s with life := upd s.life n l } :=
  { hI with
    q_life := by have := hI.q_life; grind [upd_apply]
    inq_pos := by have := hI.inq_pos; grind [upd_apply]
    ret_prev := by have := hI.ret_prev; grind [upd_apply]
    p0_life := by have := hI.p0_life; grind [upd_apply]
    p1_life := by have := hI.p1_life; grind [upd_apply]
    own_life := by have := hI.own_life; grind [upd_apply] }

/-- the owner of a node writes its `value` -/
theorem inv_value {s : St} (hI : Inv s) {t n : Nat} (hn : s.life n = .owned t)
    (ht : ownVal (s.pc t) = none) (v : Nat) : Inv { s with value := upd s.value n v } :=
  { hI with
    q_val := by have := hI.q_val; have := hI.q_life; grind [upd_apply]
    own_val := by have := hI.own_val; have := hI.own_life; grind [upd_apply, → ownVal_own]
    saw_val := by
      have := hI.saw_val; have := hI.hold1_in; have := hI.p1_life
      grind [upd_apply, → sawVal_hold1] }

/-- the owner of a node resets its `prev` -/
theorem inv_prev {s : St} (hI : Inv s) {t n : Nat} (hn : s.life n = .owned t) :
    Inv { s with prev := upd s.prev n none } :=
  { hI with
    ret_prev := by have := hI.ret_prev; grind [upd_apply]
    q_prev := by have := hI.q_prev; have := hI.q_life; grind [upd_apply]
    own_init := by have := hI.own_init; grind [upd_apply]
    saw_prev := by
      have := hI.saw_prev; have := hI.hold0_in; have := hI.p0_life
      grind [upd_apply, → sawPrev_hold0]
    link := by have := hI.link; grind [upd_apply]
    link_pending := by have := hI.link_pending; have := hI.q_life; grind [upd_apply] }

theorem Inv.head_inq {s : St} (hI : Inv s) : s.life s.head = .inq :=
  hI.head_eq ▸ hI.q_life _ (Nat.le_refl _) hI.hd_lt

theorem Inv.tail_inq {s : St} (hI : Inv s) : s.life s.tail = .inq := by
  have := hI.hd_lt; rw [hI.tail_eq]; exact hI.q_life _ (by omega) (by omega)

/-- a non-NULL `prev` of the dummy is the next node of the queue -/
theorem Inv.prev_head {s : St} (hI : Inv s) {p : Nat} (hp : s.prev s.head = some p) :
    (s.hd + 1 < s.len ∧ p = s.ordN (s.hd + 1)) ∧ s.life p = .inq := by
  have hqv := hI.q_prev s.hd (Nat.le_refl _) hI.hd_lt
  rw [← hI.head_eq, hp] at hqv; simp at hqv
  exact ⟨hqv, hqv.2 ▸ hI.q_life _ (by omega) hqv.1⟩

/-- what a successful head CAS sees -/
theorem casHead_facts {s : St} (hI : Inv s) {t h p x : Nat} (hpc : s.pc t = .popGotVal h p x)
    (hh : s.head = h) :
    s.hd + 1 < s.len ∧ p = s.ordN (s.hd + 1) ∧ x = s.ordV (s.hd + 1) ∧
    x = s.value (s.ordN (s.hd + 1)) ∧ s.pushed[s.hd]? = some x := by
  obtain ⟨⟨-, -, hsp⟩, hsv⟩ := hI.local hpc
  obtain ⟨⟨hlt, hP⟩, -⟩ := hI.prev_head (hh ▸ hsp)
  have hxv : x = s.ordV (s.hd + 1) := by
    rw [← hsv, hP]; exact hI.q_val _ (by omega) hlt
  exact ⟨hlt, hP, hxv, by rw [← hP, hsv], hxv ▸ hI.pushed_val s.hd hlt⟩

/-- the successful head CAS, seen from the heap: the dummy is retired, its successor is the
    new dummy -/
theorem inv_casHead {s : St} (hI : Inv s) {t h p x : Nat} (hpc : s.pc t = .popGotVal h p x)
    (hh : s.head = h) :
    Inv { s with head := p, life := upd s.life h .retired, hd := s.hd + 1,
                 popped := s.popped ++ [x] } := by
  obtain ⟨hlt, hP, -, -, hx⟩ := casHead_facts hI hpc hh
  have hlen := hI.hd_lt
  have hN : s.ordN s.hd = h := by rw [← hI.head_eq]; exact hh
  have hq := hI.q_life s.hd (by omega) (by omega)
  have hqp := hI.q_pos s.hd (by omega) (by omega)
  have hsp : s.prev h = some p := (hI.local hpc).1.2.2
  rw [hN] at hq hqp
  exact { hI with
    hd_lt := hlt
    head_eq := hP
    q_life := by have := hI.q_life; have := hI.q_pos; grind [upd_apply]
    q_pos := fun j (hj : s.hd + 1 ≤ j) => hI.q_pos j (by omega)
    inq_pos := by have := hI.inq_pos; grind [upd_apply]
    ret_prev := by have := hI.ret_prev; grind [upd_apply]
    q_prev := fun j (hj : s.hd + 1 ≤ j) => hI.q_prev j (by omega)
    q_val := fun j (hj : s.hd + 1 ≤ j) => hI.q_val j (by omega)
    p0_life := by have := hI.p0_life; grind [upd_apply]
    p1_life := by have := hI.p1_life; grind [upd_apply]
    own_life := by have := hI.own_life; grind [upd_apply]
    at_head := fun u n hu => Nat.le_succ_of_le (hI.at_head u n hu)
    link := by have := hI.link; grind
    link_pending := fun j (hj : s.hd + 1 ≤ j) => hI.link_pending j (by omega)
    popped_eq := by rw [take_succ_of_getElem? hx, ← hI.popped_eq] }

/-- `tail->prev = new` after the successful tail CAS -/
theorem inv_link {s : St} (hI : Inv s) {t m v tl : Nat} (hpc : s.pc t = .pushCased m v tl) :
    Inv { s with prev := upd s.prev tl (some m), pc := upd s.pc t (.pushLinked m v) } := by
  have hlt : linking (s.pc t) = some (m, tl) := by rw [hpc]; rfl
  obtain ⟨l1, l2, l3, l4, l5⟩ := hI.link t m tl hlt
  have hh0 := hI.p0_life t tl (hI.local hpc)
  refine { hI with
    ret_prev := by have := hI.ret_prev; grind [upd_apply]
    q_prev := by have := hI.q_prev; have := hI.q_pos; grind [upd_apply]
    own_life := ?_, own_val := ?_, own_init := ?_, hold0_in := ?_, hold1_in := ?_, at_head := ?_,
    saw_prev := ?_, saw_val := ?_
    link := fun u n' tl' hu => by
      have hu' := linking_of_upd rfl hu
      have hne : tl' ≠ tl := by
        rintro rfl
        obtain rfl := hI.link_inj u t n' m tl' hu' hlt
        simp [linking] at hu
      simpa [upd_apply, hne] using hI.link u n' tl' hu'
    link_inj := fun a b n n' tl' h1 h2 =>
      hI.link_inj a b n n' tl' (linking_of_upd rfl h1) (linking_of_upd rfl h2)
    link_pending := by
      intro j h1 h2 h3
      have hne : s.ordN j ≠ tl := by intro e; simp [e] at h3
      simp [hne] at h3
      obtain ⟨u, hu⟩ := hI.link_pending j h1 h2 h3
      have : u ≠ t := by rintro rfl; rw [hlt] at hu; simp at hu; exact hne hu.2.symm
      exact ⟨u, by simp [this, hu]⟩ }
  all_goals
    -- the other threads neither own `tl` nor have seen its `prev`, which was NULL
    have F := fun u => local_iff.1 (locals_upd (s' := { s with prev := upd s.prev tl (some m) })
      (f := s.pc) (t := t) (B := .pushLinked m v) trivial (fun u _ => (hI.local rfl).frame
        (fun n hn => ⟨hn, rfl, by
          have : n ≠ tl := by rintro rfl; simp [hn] at hh0
          simp [this]⟩)
        (fun n hn => ⟨hn, id, fun q hq => by
          have : n ≠ tl := by rintro rfl; simp [l1] at hq
          simpa [upd_apply, this] using hq⟩)
        (fun n hn => ⟨hn, rfl⟩)) u)
    simp only [forall_and] at F
    obtain ⟨o1, o2, o3, o4, o5, o6, o7, o8⟩ := F
    assumption

/-- the successful tail CAS: the thread's own node becomes the last one of the queue -/
theorem inv_casTail {s : St} (hI : Inv s) {t n v tl : Nat} (hpc : s.pc t = .pushNext n v tl)
    (ht : s.tail = tl) :
    Inv { s with tail := n, life := upd s.life n .inq, ordN := upd s.ordN s.len n,
                 ordV := upd s.ordV s.len v, len := s.len + 1, pos := upd s.pos n s.len,
                 pushed := s.pushed ++ [v], pc := upd s.pc t (.pushCased n v tl) } := by
  obtain ⟨⟨hown, hval, hini⟩, hh0⟩ := hI.local hpc
  have hlen := hI.hd_lt
  have hl := hI.pushed_len
  have htl : s.ordN (s.len - 1) = tl := by rw [← hI.tail_eq]; exact ht
  have hq := hI.q_life (s.len - 1) (by omega) (by omega)
  have hqp := hI.q_pos (s.len - 1) (by omega) (by omega)
  rw [htl] at hq hqp
  have hne : tl ≠ n := by intro h; rw [h] at hq; simp [hq] at hown
  -- the other threads neither own nor protect `n`, the only node whose `life`/`pos` change
  have L : ∀ u, Local { s with life := upd s.life n .inq, pos := upd s.pos n s.len } u
      (upd s.pc t (.pushCased n v tl) u) :=
    locals_upd hh0 fun u hu => (hI.local rfl).frame
      (fun m hm => ⟨by
        have : m ≠ n := by rintro rfl; exact hu (Life.owned.inj (hm.symm.trans hown))
        simpa [upd_apply, this] using hm, rfl, id⟩)
      (fun m hm => ⟨hm, by
        have : m ≠ n := by rintro rfl; have := hI.p0_life u m hm; simp [hown] at this
        simp [this], fun _ => id⟩)
      (fun m hm => ⟨hm, rfl⟩)
  constructor <;> simp only []
  case hd_lt => omega
  case head_eq => have := hI.head_eq; grind [upd_apply]
  case tail_eq => grind [upd_apply]
  case q_life => have := hI.q_life; grind [upd_apply]
  case q_pos => have := hI.q_pos; have := hI.q_life; grind [upd_apply]
  case inq_pos => have := hI.inq_pos; grind [upd_apply]
  case ret_prev => have := hI.ret_prev; grind [upd_apply]
  case q_prev => have := hI.q_prev; grind [upd_apply]
  case q_val => have := hI.q_val; grind [upd_apply]
  case p0_life => have := hI.p0_life; grind [upd_apply]
  case p1_life => have := hI.p1_life; grind [upd_apply]
  case link =>
    intro u n' tl' hu
    by_cases hut : u = t
    · -- the new link: the old tail `tl`, whose `prev` is still NULL, sits right before `n`
      subst hut
      simp [linking] at hu
      obtain ⟨rfl, rfl⟩ := hu
      have hp := (hI.q_prev (s.len - 1) (by omega) (by omega)).resolve_right (by omega)
      rw [htl] at hp
      have e : s.len - 1 + 1 = s.len := by omega
      simp [upd_apply, hne, hqp, hp, e, htl]; omega
    · -- an older link: its node is protected, hence not `n`, and lies below the old end
      simp [hut] at hu
      obtain ⟨k1, k2, k3, k4, k5⟩ := hI.link u n' tl' hu
      have hn' : tl' ≠ n := by
        rintro rfl
        have := hI.p0_life u tl' (hI.hold0_in u tl' (linking_hold0 hu)); simp [hown] at this
      have e1 : s.pos tl' + 1 ≠ s.len := by omega
      have e2 : s.pos tl' ≠ s.len := by omega
      simp [hn', e1, e2, k1, k3, k4, k5]; omega
  case link_inj => have := hI.link_inj; have := hI.link; grind [upd_apply, linking]
  case link_pending =>
    intro j h1 h2 h3
    by_cases hj : j + 1 = s.len
    · have : j = s.len - 1 := by omega
      subst this
      exact ⟨t, by simp [upd_apply, hj, htl, linking]; omega⟩
    · have hj' : j ≠ s.len := by omega
      simp [upd_apply, hj, hj'] at h3 ⊢
      obtain ⟨u, hu⟩ := hI.link_pending j h1 (by omega) h3
      have : u ≠ t := by rintro rfl; simp [hpc, linking] at hu
      exact ⟨u, by simp [this, hu]⟩
  case pushed_len => simp; omega
  case pushed_val =>
    intro j hj
    by_cases e : j + 1 = s.len
    · have : j = s.pushed.length := by omega
      subst this; simp [e, List.getElem?_append_right]
    · rw [List.getElem?_append_left (by omega)]
      simp [e]; exact hI.pushed_val j (by omega)
  case popped_eq => rw [List.take_append_of_le_length (by omega)]; exact hI.popped_eq
  all_goals
    have F := fun u => local_iff.1 (L u)
    simp only [forall_and] at F
    obtain ⟨o1, o2, o3, o4, o5, o6, o7, o8⟩ := F
    assumption

/-- what `inv_pc` asks of a pc move -/
theorem PcMove.ok {s : St} (hI : Inv s) {t : Nat} {e : Ev} {A B : Pc} {p0 p1 : List (Nat × Nat)}
    (m : PcMove s t e A B p0 p1) :
    ProtOk s t s.prot0 p0 ∧ ProtOk s t s.prot1 p1 ∧
    (Local s t A → Local { s with prot0 := p0, prot1 := p1 } t B) ∧ linking B = linking A := by
  have P0 : ProtOk s t s.prot0 s.prot0 := .same hI.p0_life
  have P1 : ProtOk s t s.prot1 s.prot1 := .same hI.p1_life
  cases m
  case rdPrevNone | ldHead1Retry | casHeadFail => exact ⟨P0, P1, fun _ => trivial, rfl⟩
  case rdValue => exact ⟨P0, P1, fun L => ⟨L, rfl⟩, rfl⟩
  case rdPrevSome hp => exact ⟨P0, P1, fun L => ⟨L.1, hp⟩, rfl⟩
  case casTailFail => exact ⟨P0, P1, fun L => L.1, rfl⟩
  case ldTailOk =>
    exact ⟨.add hI.p0_life _, P1, fun L => ⟨L, mem_addProt.2 (.inr ⟨hI.tail_inq, rfl, rfl⟩)⟩, rfl⟩
  case ldHead0Ok =>
    exact ⟨.add hI.p0_life _, P1, fun _ => ⟨mem_addProt.2 (.inr ⟨hI.head_inq, rfl, rfl⟩),
      Nat.le_of_eq (hI.head_eq ▸ hI.q_pos _ (Nat.le_refl _) hI.hd_lt)⟩, rfl⟩
  case ldHead1Ok =>
    exact ⟨P0, .add hI.p1_life _,
      fun L => ⟨L.1, mem_addProt.2 (.inr ⟨(hI.prev_head L.2).2, rfl, rfl⟩), L.2⟩, rfl⟩
  case pubTail | clrPush | pubHead | clrEmpty | clrPop0 => exact ⟨.clr hI.p0_life, P1, id, rfl⟩
  case pubPrev | clrPop1 => exact ⟨P0, .clr hI.p1_life, id, rfl⟩
  all_goals exact ⟨P0, P1, id, rfl⟩

theorem inv_step {s s' : St} {e : Ev} (hI : Inv s) (h : step s e = some s') : Inv s' := by
  cases Step.of_step h with
  | pc hpc m =>
    obtain ⟨h0, h1, hB, hl⟩ := m.ok hI
    exact inv_pc hI hpc h0 h1 hB hl
  | skip | rdSlot => exact hI
  | reclaim hn h0 h1 =>
    exact inv_life hI (.inr hn) nofun nofun (fun _ _ => unprot_ne h0) (fun _ _ => unprot_ne h1)
  | @take t n hpc hn =>
    have hf : ∀ m, s.life m = .inq ∨ s.life m = .retired → m ≠ n := by
      rintro m hm rfl; simp [hn] at hm
    exact inv_pc0 (inv_life hI (l := .owned t) (.inl hn) nofun nofun
        (fun u m hm => hf m (hI.p0_life u m hm)) (fun u m hm => hf m (hI.p1_life u m hm)))
      hpc (fun _ => upd_same ..) rfl
  | @wrValue t n v hpc =>
    exact inv_pc0 (inv_value hI (hI.local hpc) (by rw [hpc]; rfl) v) hpc
      (fun L => ⟨L, upd_same ..⟩) rfl
  | wrPrevOwn hpc =>
    exact inv_pc0 (inv_prev hI (hI.local hpc).1) hpc (fun L => ⟨L.1, L.2, upd_same ..⟩) rfl
  | wrPrevLink hpc => exact inv_link hI hpc
  | casTail hpc ht => exact inv_casTail hI hpc ht
  | casHead hpc hh => exact inv_pc0 (inv_casHead hI hpc hh) hpc (fun _ => trivial) rfl

theorem inv_of_run {es : List Ev} {s : St} (h : sys.run es = some s) : Inv s :=
  Sys.inv_of_run sys Inv inv_init (fun _ _ _ => inv_step) h

theorem next_not_free {s : St} (hI : Inv s) (t n : Nat) (h : nextAccess (s.pc t) = some n) :
    s.life n ≠ .free := by
  have L := hI.local (t := t) rfl
  have p0 := hI.p0_life t; have p1 := hI.p1_life t
  cases hpc : s.pc t <;> simp [hpc, nextAccess] at h <;> subst h <;> simp [hpc, Local] at L <;>
    grind

/-- every node-field access the model accepts is the one `nextAccess` names -/
theorem access_is_next {s s' : St} {e : Ev} (h : step s e = some s') :
    (∀ t n v, e = .wrValue t n v → nextAccess (s.pc t) = some n) ∧
    (∀ t n x, e = .rdValue t n x → nextAccess (s.pc t) = some n) ∧
    (∀ t n x, e = .wrPrev t n x → nextAccess (s.pc t) = some n) ∧
    (∀ t n x, e = .rdPrev t n x → nextAccess (s.pc t) = some n) ∧
    (∀ t n x, e = .wrNext t n x → nextAccess (s.pc t) = some n) := by
  refine ⟨?_, ?_, ?_, ?_, ?_⟩ <;> rintro t n x rfl <;> cases Step.of_step h
  case wrValue hpc | wrPrevOwn hpc | wrPrevLink hpc => rw [hpc]; rfl
  all_goals rename_i hpc m; cases m <;> rw [hpc] <;> rfl

/-- what the read `head->prev == NULL` on the validated head sees -/
theorem empty_facts {s : St} (hI : Inv s) {t h : Nat} (hpc : s.pc t = .popVal0 h)
    (hp : s.prev h = none) :
    h = s.ordN s.hd ∧
    (s.hd + 1 = s.len ∨ ∃ u, linking (s.pc u) = some (s.ordN (s.hd + 1), s.ordN s.hd)) := by
  have hlen := hI.hd_lt
  obtain ⟨hin, hat⟩ := hI.local hpc
  have hl : s.life h = .inq := (hI.p0_life t h hin).resolve_right fun h1 => hI.ret_prev h h1 hp
  obtain ⟨i1, i2, i3⟩ := hI.inq_pos h hl
  have hN : h = s.ordN s.hd := by rw [← i3]; congr 1; omega
  refine ⟨hN, ?_⟩
  by_cases hlt : s.hd + 1 < s.len
  · exact .inr (hI.link_pending s.hd (Nat.le_refl _) hlt (hN ▸ hp))
  · exact .inl (by omega)

/-! ### refinement of the sequential specification (linearisation-point form) -/

structure Rel (a : Spec) (s : St) : Prop where
  q_eq : a.q = s.pushed.drop s.hd
  ph_eq : ∀ t, a.ph t = phaseOf (s.pc t)
  fl_in : ∀ t, phaseOf (s.pc t) = .pushLin → t ∈ a.fl

theorem rel_init : Rel Spec.init init := by
  constructor <;> simp [Spec.init, init, phaseOf]

theorem rel_frame {a : Spec} {s s' : St} (hR : Rel a s) {t : Nat} {A B : Pc} (hA : s.pc t = A)
    (hpc : s'.pc = upd s.pc t B) (hph : phaseOf B = phaseOf A)
    (hp : s'.pushed = s.pushed) (hh : s'.hd = s.hd) : Rel a s' := by
  have e : ∀ u, phaseOf (s'.pc u) = phaseOf (s.pc u) := by
    intro u; rw [hpc]; by_cases hu : u = t
    · subst hu; simp [hph, hA]
    · simp [hu]
  constructor
  · rw [hp, hh]; exact hR.q_eq
  · intro u; rw [e]; exact hR.ph_eq u
  · intro u; rw [e]; exact hR.fl_in u

-- `rel_none_tac h hR`: `Rel a s'` from `hR : Rel a s` and `h : step s e = some s'` for an `e` that
-- is no API event, branch by branch of `step`
macro "rel_none_tac" h:ident hR:ident : tactic => `(tactic|
  (simp only [step] at $h:ident
   repeat' (split at $h:ident)
   all_goals first | (simp at $h:ident; done) | skip
   all_goals
     simp at $h:ident
     first | (obtain ⟨hc, rfl⟩ := $h:ident) | (subst $h:ident)
     first
       | exact $hR
       | (constructor <;> simp only [] <;> first | exact Rel.q_eq $hR | exact Rel.ph_eq $hR | exact Rel.fl_in $hR)
       | (simp_all; done)
       | (refine rel_frame $hR _ _ rfl ?_ rfl rfl; simp_all [phaseOf])))

/-- a pc move that is not an API event stays within its phase -/
theorem PcMove.phase {s : St} {t : Nat} {e : Ev} {A B : Pc} {p0 p1 : List (Nat × Nat)}
    (m : PcMove s t e A B p0 p1) (ha : api e = none) : phaseOf B = phaseOf A := by
  cases m <;> simp [api] at ha <;> rfl

theorem rel_step_none {a : Spec} {s s' : St} {e : Ev} (hR : Rel a s)
    (h : step s e = some s') (ha : api e = none) : Rel a s' := by
  cases Step.of_step h with
  | pc hpc m => exact rel_frame hR hpc rfl (m.phase ha) rfl rfl
  | skip | rdSlot => exact hR
  | reclaim => exact ⟨hR.q_eq, hR.ph_eq, hR.fl_in⟩
  | take hpc | wrValue hpc | wrPrevOwn hpc | wrPrevLink hpc => exact rel_frame hR hpc rfl rfl rfl rfl
  | casTail | casHead => simp [api] at ha

/-- thread `t` moves to `B`; `q` and `fl` are the specification's queue and in-flight list after
    the matching API step -/
theorem rel_move {a : Spec} {s s' : St} (hR : Rel a s) {t : Nat} {B : Pc} {q fl : List Nat}
    (hpc : s'.pc = upd s.pc t B) (hq : q = s'.pushed.drop s'.hd)
    (hfl : ∀ u, u ≠ t → u ∈ a.fl → u ∈ fl) (hB : phaseOf B = .pushLin → t ∈ fl) :
    Rel { q := q, ph := upd a.ph t (phaseOf B), fl := fl } s' := by
  refine ⟨hq, fun u => ?_, fun u => ?_⟩ <;> rw [hpc] <;> by_cases hu : u = t
  · subst hu; simp
  · simpa [hu] using hR.ph_eq u
  · subst hu; simpa using hB
  · simpa [hu] using fun h => hfl u hu (hR.fl_in u h)

theorem rel_step_some {a : Spec} {s s' : St} {e : Ev} {x : Api} (hI : Inv s) (hR : Rel a s)
    (h : step s e = some s') (ha : api e = some x) :
    ∃ a', Spec.step a x = some a' ∧ Rel a' s' := by
  have keep : ∀ t u, u ≠ t → u ∈ a.fl → u ∈ a.fl := fun _ _ _ h => h
  cases Step.of_step h with
  | skip | rdSlot | reclaim | take | wrValue | wrPrevOwn | wrPrevLink => simp [api] at ha
  | @casTail t n v tl hpc ht =>
    simp [api] at ha; subst ha
    have hl := hI.pushed_len
    have hlen := hI.hd_lt
    refine ⟨_, ?_, rel_move hR (q := a.q ++ [v]) rfl ?_ (fun u _ h => List.mem_cons_of_mem _ h)
      (fun _ => List.mem_cons_self ..)⟩
    · simp [Spec.step, hR.ph_eq, hpc, phaseOf]
    · simp only []; rw [List.drop_append_of_le_length (by omega), hR.q_eq]
  | @casHead t _ _ _ hpc hh =>
    simp [api] at ha; subst ha
    obtain ⟨-, -, -, -, c5⟩ := casHead_facts hI hpc hh
    refine ⟨_, ?_, rel_move hR (B := .popCased _) rfl rfl (keep t) nofun⟩
    obtain ⟨hi, hx⟩ := List.getElem?_eq_some_iff.1 c5
    simp [Spec.step, hR.ph_eq, hpc, phaseOf, hR.q_eq, List.drop_eq_getElem_cons hi, hx]
  | @pc t _ _ _ _ _ _ _ _ hpc m =>
    cases m <;> simp [api] at ha <;> subst ha
    case retPush =>
      refine ⟨_, ?_, rel_move hR (fl := a.fl.filter (· ≠ t)) rfl hR.q_eq
        (fun u hu h => List.mem_filter.2 ⟨h, by simpa using hu⟩) nofun⟩
      simp [Spec.step, hR.ph_eq, hpc, phaseOf]
    case rdPrevNone hnone =>
      obtain ⟨-, e2⟩ := empty_facts hI hpc hnone
      have hlen := hI.pushed_len
      have hemp : a.q = [] ∨ a.fl ≠ [] := by
        rcases e2 with e2 | ⟨u, hu⟩
        · left; rw [hR.q_eq]; exact List.drop_eq_nil_of_le (by omega)
        · right
          have : phaseOf (s.pc u) = .pushLin := by
            cases hpu : s.pc u <;> simp [hpu, linking] at hu <;> rfl
          exact List.ne_nil_of_mem (hR.fl_in u this)
      refine ⟨_, ?_, rel_move hR (B := .popEmpty) rfl hR.q_eq (keep t) nofun⟩
      simp [Spec.step, hR.ph_eq, hpc, phaseOf, hemp]
    all_goals
      refine ⟨_, ?_, rel_move hR rfl hR.q_eq (keep t) nofun⟩
      simp [Spec.step, hR.ph_eq, hpc, phaseOf]

/-- every accepted trace, projected to the API level, is a run of the sequential specification -/
theorem refines {es : List Ev} {s : St} (h : sys.run es = some s) :
    Inv s ∧ ∃ a, specSys.run (es.filterMap api) = some a ∧ Rel a s := by
  refine Sys.hist_inv_of_run sys
    (fun s es => Inv s ∧ ∃ a, specSys.run (es.filterMap api) = some a ∧ Rel a s)
    ⟨inv_init, Spec.init, rfl, rel_init⟩ ?_ h
  intro s es e s' hIH hs
  obtain ⟨hI, a, ha, hR⟩ := hIH
  refine ⟨inv_step hI hs, ?_⟩
  rw [List.filterMap_append]
  cases hx : api e with
  | none =>
    refine ⟨a, ?_, rel_step_none hR hs hx⟩
    simp [hx, ha]
  | some x =>
    obtain ⟨a', h1, h2⟩ := rel_step_some hI hR hs hx
    refine ⟨a', ?_, h2⟩
    simp only [List.filterMap_cons, hx, List.filterMap_nil]
    exact Sys.run_snoc specSys ha h1

/-! ### shape of the API-level traces the specification accepts: in each thread's own
    sequence of events every linearisation point directly follows the invocation and every
    response directly follows the linearisation point -/

def Api.tid : Api → Nat
  | .callPush t _ => t
  | .linPush t => t
  | .retPush t => t
  | .callPop t => t
  | .linPopOk t => t
  | .linPopEmpty t => t
  | .retPop t _ => t

/-- the last event of thread `t` in `l` -/
def lastOf (t : Nat) (l : List Api) : Option Api :=
  l.foldl (fun acc x => if x.tid = t then some x else acc) none

/-- what thread `t`'s phase must be, given its last event -/
def PhaseAfter (p : Phase) : Option Api → Prop
  | none => p = .idle
  | some (.callPush _ v) => p = .pushPend v
  | some (.linPush _) => p = .pushLin
  | some (.retPush _) => p = .idle
  | some (.callPop _) => p = .popPend
  | some (.linPopOk _) => ∃ x, p = .popLin x
  | some (.linPopEmpty _) => p = .popLin 0
  | some (.retPop _ _) => p = .idle

theorem spec_step_ph {a a' : Spec} {x : Api} (hs : Spec.step a x = some a') :
    ∃ P, a'.ph = upd a.ph x.tid P ∧ PhaseAfter P (some x) := by
  cases x <;> simp only [Spec.step] at hs <;> (repeat' (split at hs)) <;> simp at hs <;>
    obtain ⟨-, rfl⟩ := hs <;> exact ⟨_, rfl, by simp [PhaseAfter]⟩

theorem spec_phase_last {l : List Api} {a : Spec} (h : specSys.run l = some a) :
    ∀ t, PhaseAfter (a.ph t) (lastOf t l) := by
  refine Sys.hist_inv_of_run specSys (fun a l => ∀ t, PhaseAfter (a.ph t) (lastOf t l)) ?_ ?_ h
  · intro t; simp [specSys, Spec.init, lastOf, PhaseAfter]
  · intro a l x a' ih hs t
    obtain ⟨P, hP, hA⟩ := spec_step_ph hs
    have hl : lastOf t (l ++ [x]) = if x.tid = t then some x else lastOf t l := by
      simp [lastOf, List.foldl_append]
    rw [hl, hP]
    by_cases ht : x.tid = t
    · subst ht; simpa using hA
    · simpa [ht, upd_other _ _ _ _ (Ne.symm ht)] using ih t

end LibfiberVerif.Mpmc
