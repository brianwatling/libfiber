/-
  Proof/MultiChanRing.lean — the ring-buffer invariant of the multi channel model: every
  message is received exactly once, in the order `high` was advanced (hence per sender in
  the order sent), never more than `size` messages are buffered and a slot is only written
  while it holds NULL.  Property C11.

  Only the owner of the lock can be at a pc that touches the ring, so a step has to argue about
  the fiber it moves (`RInv.of_move` when the ring is left alone, `RInv.of_data` when not).
-/
import LibfiberVerif.Proof.MultiChanInv

namespace LibfiberVerif.MultiChan

/-- the value with sequence number i (0 if there is none yet) -/
def val (s : St) (i : Nat) : Nat := ((s.sent[i]?).map Prod.snd).getD 0

def Op.pend : Op → List Nat
  | .send v => [v]
  | .recv => []

/-- the message a fiber is in the middle of sending (not yet counted in `sent`) -/
def Pc.pending : Pc → List Nat
  | .lock o => o.pend | .lockWait o => o.pend | .gotHigh o _ => o.pend | .gotLow o _ _ => o.pend
  | .wGot o _ => o.pend | .wLinked o => o.pend | .wListed o => o.pend | .wPending o => o.pend
  | .wAsleep o => o.pend
  | .sWrote v _ => [v]
  | .idle => [] | .rRead _ _ => [] | .rCleared _ _ => []
  | .kTop _ => [] | .kGot _ _ => [] | .kNext _ _ _ => [] | .kUnl _ _ => [] | .kClr _ _ => []
  | .unlock _ => [] | .handing _ => [] | .done _ => []

def sentBy (s : St) (f : Nat) : List Nat := (s.sent.filter (fun p => p.1 = f)).map Prod.snd

theorem mod_ne_of_lt {a b c : Nat} (h1 : a < b) (h2 : b - a < c) : a % c ≠ b % c := by
  intro h
  have h3 := Nat.sub_mod_eq_zero_of_mod_eq h.symm
  rw [Nat.mod_eq_of_lt h2] at h3
  omega

structure RInv (s : St) : Prop where
  len : s.sent.length = s.high
  lowhigh : s.low ≤ s.high ∧ s.high - s.low ≤ s.cap
  recvd_eq : s.recvd = (s.sent.take s.low).map Prod.snd
  slots : ∀ i, s.low ≤ i → i < s.high → (∀ f m, s.pc f ≠ .rCleared i m) → s.buf (i % s.cap) = val s i
  sWrote_slot : ∀ f v h, s.pc f = .sWrote v h → s.buf (h % s.cap) = v
  rRead_val : ∀ f l m, s.pc f = .rRead l m → m = val s l
  rCleared_val : ∀ f l m, s.pc f = .rCleared l m → m = val s l ∧ s.buf (l % s.cap) = 0
  free : ∀ j, j < s.cap → (∀ i, s.low ≤ i → i < s.high → i % s.cap ≠ j) →
    (∀ f v h, s.pc f = .sWrote v h → h % s.cap ≠ j) → s.buf j = 0
  nonzero : ∀ p, p ∈ s.sent → p.2 ≠ 0
  calls_eq : ∀ f, sentBy s f ++ (s.pc f).pending = s.calls f
  pend_nz : ∀ f v, v ∈ (s.pc f).pending → v ≠ 0

theorem rinv_init (two : Bool) (cap : Nat) : RInv (init two cap) := by
  constructor <;> simp [init, val, sentBy, Pc.pending]

/-- the pcs between touching a slot of the ring and advancing `high`/`low` -/
def Pc.atSlot : Pc → Bool
  | .sWrote _ _ | .rRead _ _ | .rCleared _ _ => true
  | _ => false

/-- what a fiber at a slot pc knows of the ring -/
def SlotOk (s : St) : Pc → Prop
  | .sWrote v h => s.buf (h % s.cap) = v
  | .rRead l m => m = val s l
  | .rCleared l m => m = val s l ∧ s.buf (l % s.cap) = 0
  | _ => True

theorem RInv.slotOk {s : St} (hr : RInv s) (f : Nat) : SlotOk s (s.pc f) := by
  cases hp : s.pc f <;> first | trivial | skip
  · exact hr.sWrote_slot f _ _ hp
  · exact hr.rRead_val f _ _ hp
  · exact hr.rCleared_val f _ _ hp

/-- the ring invariant after a step that moves fiber `a` from `p`, not at a slot, to `c` and leaves
    the ring and its ghosts alone; by default `c` is not at a slot either, carries the unsent
    message of `p`, and no fiber's calls change -/
theorem RInv.of_move {s s' : St} (hr : RInv s) {a : Nat} {p c : Pc} (hpc : s'.pc = upd s.pc a c)
    (hpa : s.pc a = p) (hp : p.atSlot = false := by rfl) (hc : SlotOk s c := by exact trivial)
    (hcalls : sentBy s a ++ p.pending = s.calls a → sentBy s a ++ c.pending = s'.calls a := by exact id)
    (hnz : (∀ v, v ∈ p.pending → v ≠ 0) → ∀ v, v ∈ c.pending → v ≠ 0 := by exact id)
    (hcalls' : ∀ f, f ≠ a → s'.calls f = s.calls f := by exact fun _ _ => rfl)
    (hsent : s'.sent = s.sent := by rfl) (hhigh : s'.high = s.high := by rfl)
    (hlow : s'.low = s.low := by rfl) (hcap : s'.cap = s.cap := by rfl)
    (hrecvd : s'.recvd = s.recvd := by rfl) (hbuf : s'.buf = s.buf := by rfl) : RInv s' := by
  have hfrom : ∀ f q, s.pc f = q → q.atSlot = true → s'.pc f = q := by
    intro f q e hs
    by_cases hf : f = a
    · subst hf; rw [hpa] at e; subst e; exact absurd (hp.symm.trans hs) nofun
    · rw [hpc, upd_other _ _ _ _ hf, e]
  have hval : ∀ i, val s' i = val s i := fun i => by simp only [val, hsent]
  have hsentBy : ∀ f, sentBy s' f = sentBy s f := fun f => by simp only [sentBy, hsent]
  have hslot : ∀ f q, s'.pc f = q → SlotOk s q := by
    rw [hpc]; exact fun f q e => e ▸ forall_upd (P := fun _ q => SlotOk s q) hc (fun f _ => hr.slotOk f) f
  constructor
  · rw [hsent, hhigh]; exact hr.len
  · rw [hlow, hhigh, hcap]; exact hr.lowhigh
  · rw [hrecvd, hsent, hlow]; exact hr.recvd_eq
  · intro i h1 h2 h3
    rw [hbuf, hcap, hval]; rw [hlow] at h1; rw [hhigh] at h2
    exact hr.slots i h1 h2 (fun f m e => h3 f m (hfrom f _ e rfl))
  · intro f v h e; rw [hbuf, hcap]; exact hslot f _ e
  · intro f l m e; rw [hval]; exact hslot f _ e
  · intro f l m e; rw [hval, hbuf, hcap]; exact hslot f _ e
  · intro j hj hfree hsw
    rw [hcap] at hj hfree hsw; rw [hlow, hhigh] at hfree; rw [hbuf]
    exact hr.free j hj hfree (fun f v h e => hsw f v h (hfrom f _ e rfl))
  · rw [hsent]; exact hr.nonzero
  · rw [hpc]
    exact forall_upd (P := fun f (q : Pc) => sentBy s' f ++ q.pending = s'.calls f)
      (hsentBy a ▸ hcalls (hpa ▸ hr.calls_eq a))
      (fun f hf => by rw [hsentBy, hcalls' f hf]; exact hr.calls_eq f)
  · rw [hpc]
    exact forall_upd (P := fun _ (q : Pc) => ∀ v, v ∈ q.pending → v ≠ 0) (hnz (hpa ▸ hr.pend_nz a))
      (fun f _ => hr.pend_nz f)

theorem atSlot_inCS {p : Pc} (h : p.atSlot = true) : p.inCS = true := by
  cases p <;> first | rfl | exact nomatch h

/-- the ring invariant after a step by the owner `a` of the lock that writes the ring or its
    ghosts: what the invariant says of "every fiber at a slot pc" has to be shown of `a` only -/
theorem RInv.of_data {s s' : St} (hl : LInv s) (hr : RInv s) {a : Nat} {c : Pc} (hpc : s'.pc = upd s.pc a c)
    (hcs : (s.pc a).inCS = true) (len : s'.sent.length = s'.high)
    (lowhigh : s'.low ≤ s'.high ∧ s'.high - s'.low ≤ s'.cap)
    (recvd_eq : s'.recvd = (s'.sent.take s'.low).map Prod.snd)
    (slots : ∀ i, s'.low ≤ i → i < s'.high → (∀ m, c ≠ .rCleared i m) → s'.buf (i % s'.cap) = val s' i)
    (hc : SlotOk s' c)
    (free : ∀ j, j < s'.cap → (∀ i, s'.low ≤ i → i < s'.high → i % s'.cap ≠ j) →
      (∀ v h, c = .sWrote v h → h % s'.cap ≠ j) → s'.buf j = 0)
    (nonzero : ∀ p, p ∈ s'.sent → p.2 ≠ 0)
    (calls_a : sentBy s' a ++ c.pending = s'.calls a)
    (calls : ∀ f, f ≠ a → sentBy s' f = sentBy s f ∧ s'.calls f = s.calls f)
    (hnz : ∀ v, v ∈ c.pending → v ≠ 0) : RInv s' := by
  have hca : s'.pc a = c := by rw [hpc, upd_same]
  have hslot : ∀ f p, s'.pc f = p → SlotOk s' p := by
    rw [hpc]
    refine fun f p e => e ▸ forall_upd (P := fun _ p => SlotOk s' p) hc (fun f hf => ?_) f
    have : (s.pc f).atSlot = false := by
      cases h : (s.pc f).atSlot with
      | false => rfl
      | true => exact absurd (cs_unique hl (atSlot_inCS h) hcs) hf
    cases hp : s.pc f <;> first | trivial | (rw [hp] at this; exact nomatch this)
  refine ⟨len, lowhigh, recvd_eq, fun i h1 h2 h3 => slots i h1 h2 (fun m e => h3 a m (hca.trans e)),
    fun f _ _ => hslot f _, fun f _ _ => hslot f _, fun f _ _ => hslot f _,
    fun j hj hfree hsw => free j hj hfree (fun v h e => hsw a v h (hca.trans e)), nonzero, ?_, ?_⟩
  · rw [hpc]
    exact forall_upd (P := fun f (p : Pc) => sentBy s' f ++ p.pending = s'.calls f) calls_a
      (fun f hf => by rw [(calls f hf).1, (calls f hf).2]; exact hr.calls_eq f)
  · rw [hpc]
    exact forall_upd (P := fun _ (p : Pc) => ∀ v, v ∈ p.pending → v ≠ 0) hnz (fun f _ => hr.pend_nz f)

/-- nobody but the owner `a` of the lock is at a given pc inside the critical section -/
theorem LInv.only {s : St} (hl : LInv s) {a : Nat} {p : Pc} (hpa : s.pc a = p) {f : Nat} {q : Pc}
    (hf : s.pc f = q) {Q : Prop} (hcs : p.inCS = true := by rfl) (hq : q.inCS = true := by rfl)
    (hne : q ≠ p := by nofun) : Q := by
  have := cs_unique hl (hpa ▸ hcs) (hf ▸ hq)
  subst this; exact absurd (hf.symm.trans hpa) hne

theorem send_slot_free {s : St} (hi : LInv s) (hr : RInv s) (f v h l : Nat)
    (hpc : s.pc f = .gotLow (.send v) h l) (hlt : h - l < s.cap) :
    s.buf (h % s.cap) = 0 ∧ s.high - s.low < s.cap := by
  obtain ⟨hh, hl⟩ := hi.gotLow_eq f (.send v) h l hpc
  subst hh hl
  refine ⟨?_, hlt⟩
  apply hr.free _ (Nat.mod_lt _ (by omega))
  · intro i h1 h2
    exact mod_ne_of_lt h2 (by omega)
  · intro g v' h' hg
    exact hi.only hpc hg

theorem rinv_step {s s' : St} {e : Ev} (hl : LInv s) (hr : RInv s) (hs : Step s e s') : RInv s' := by
  cases hs with
  | @callSend f v hpc hv hf =>
    refine hr.of_move rfl hpc (hcalls := fun h => ?_) (hnz := fun _ x hx => List.mem_singleton.1 hx ▸ hv)
      (hcalls' := fun g hg => upd_other _ _ _ _ hg)
    show sentBy s f ++ [v] = upd s.calls f (s.calls f ++ [v]) f
    rw [upd_same, ← h]; simp [Pc.pending]
  | callRecv hpc | retSend hpc | retRecv hpc | acquire hpc | queue hpc | reacquire hpc
  | requeue hpc | release hpc | releaseOwing hpc | releaseFor _ hpc
  | handoffDone _ _ _ hpc | rHigh hpc | rLow hpc | blockS1 hpc | blockR hpc | wakeNone hpc
  | wakeHead hpc | blockS2 _ hpc | wakeNoneS _ hpc | wakeHeadS _ hpc | link hpc | unlink hpc
  | push hpc | pop hpc | pushS _ hpc | popS _ hpc | wStateWaiting hpc | rScratch hpc | wakeR hpc
  | wakeS hpc => exact hr.of_move rfl hpc
  | handoff =>
    exact ⟨hr.len, hr.lowhigh, hr.recvd_eq, hr.slots, hr.sWrote_slot, hr.rRead_val, hr.rCleared_val, hr.free,
      hr.nonzero, hr.calls_eq, hr.pend_nz⟩
  | @rBuf f h l hpc hne =>
    obtain ⟨rfl, rfl⟩ := hl.gotLow_eq _ _ _ _ hpc
    refine hr.of_move rfl hpc (hc := ?_)
    exact hr.slots s.low (Nat.le_refl _) hne (fun g m e => hl.only hpc e)
  | @put f v h l hpc hroom =>
    obtain ⟨rfl, rfl⟩ := hl.gotLow_eq _ _ _ _ hpc
    have hc := hr.calls_eq f; rw [hpc] at hc
    have hn := hr.pend_nz f; rw [hpc] at hn
    refine .of_data hl hr rfl (hpc ▸ rfl) hr.len hr.lowhigh hr.recvd_eq (fun j h1 h2 _ => ?_)
      (upd_same _ _ _) (fun j hj hfree hsw => ?_) hr.nonzero hc (fun _ _ => ⟨rfl, rfl⟩) hn
    · replace h1 : s.low ≤ j := h1
      replace h2 : j < s.high := h2
      have hne : j % s.cap ≠ s.high % s.cap := mod_ne_of_lt h2 (by omega)
      show upd s.buf _ v (j % s.cap) = val s j
      rw [upd_other _ _ _ _ hne]
      exact hr.slots j h1 h2 (fun g m e => hl.only hpc e)
    · have hne : j ≠ s.high % s.cap := fun e => hsw v s.high rfl e.symm
      show upd s.buf _ v j = 0
      rw [upd_other _ _ _ _ hne]
      exact hr.free j hj hfree (fun g v' h' e => hl.only hpc e)
  | @clear f l m hpc =>
    obtain ⟨rfl, hgt⟩ := hl.rRead_eq _ _ _ hpc
    have hc := hr.calls_eq f; rw [hpc] at hc
    refine .of_data hl hr rfl (hpc ▸ rfl) hr.len hr.lowhigh hr.recvd_eq (fun j h1 h2 h3 => ?_)
      ⟨hr.rRead_val f _ _ hpc, upd_same _ _ _⟩ (fun j hj hfree _ => ?_) hr.nonzero hc
      (fun _ _ => ⟨rfl, rfl⟩) nofun
    · replace h1 : s.low ≤ j := h1
      replace h2 : j < s.high := h2
      have hjl : j ≠ s.low := fun e => h3 m (e ▸ rfl)
      have := hr.lowhigh
      have hne : j % s.cap ≠ s.low % s.cap := (mod_ne_of_lt (by omega) (by omega)).symm
      show upd s.buf _ 0 (j % s.cap) = val s j
      rw [upd_other _ _ _ _ hne]
      exact hr.slots j h1 h2 (fun g m' e => hl.only hpc e)
    · show upd s.buf _ 0 j = 0
      by_cases hji : j = s.low % s.cap
      · rw [hji, upd_same]
      · rw [upd_other _ _ _ _ hji]
        exact hr.free j hj hfree (fun g v' h' e => hl.only hpc e)
  | @wHigh f v h hpc =>
    obtain ⟨rfl, hlt⟩ := hl.sWrote_eq _ _ _ hpc
    have hslot := hr.sWrote_slot f v s.high hpc
    have hvnz : v ≠ 0 := hr.pend_nz f v (by rw [hpc]; exact List.mem_singleton.2 rfl)
    have hc := hr.calls_eq f; rw [hpc] at hc
    have hlen := hr.len
    have hlh := hr.lowhigh
    refine .of_data hl hr rfl (hpc ▸ rfl) (by simp [hlen]) ⟨by show s.low ≤ s.high + 1; omega, by show s.high + 1 - s.low ≤ s.cap; omega⟩
      ?_ (fun i h1 h2 _ => ?_) trivial (fun j hj hfree _ => ?_) ?_ ?_ (fun g hg => ⟨?_, rfl⟩) nofun
    · show s.recvd = ((s.sent ++ [(f, v)]).take s.low).map Prod.snd
      rw [List.take_append_of_le_length (by omega)]; exact hr.recvd_eq
    · show s.buf (i % s.cap) = val { s with sent := s.sent ++ [(f, v)] } i
      simp only [val]
      by_cases hih : i = s.high
      · subst hih
        rw [List.getElem?_append_right (by omega)]
        simp [hlen, hslot]
      · have h2' : i < s.high := by have : i < s.high + 1 := h2; omega
        rw [List.getElem?_append_left (by omega)]
        exact hr.slots i h1 h2' (fun g m e => hl.only hpc e)
    · refine hr.free j hj (fun i h1 h2 => hfree i h1 (Nat.lt_succ_of_lt h2)) (fun g v2 h2 e => ?_)
      have := cs_unique hl (f := f) (g := g) (hpc ▸ rfl) (e ▸ rfl)
      subst this; rw [hpc] at e; cases e
      exact hfree s.high hlh.1 (Nat.lt_succ_self _)
    · intro p hp
      rcases List.mem_append.1 hp with hp | hp
      · exact hr.nonzero p hp
      · cases List.mem_singleton.1 hp; exact hvnz
    · show sentBy { s with sent := s.sent ++ [(f, v)] } f ++ [] = s.calls f
      rw [← hc]; simp [sentBy, Pc.pending]
    · show sentBy { s with sent := s.sent ++ [(f, v)] } g = sentBy s g
      have : ¬ f = g := fun e => hg e.symm
      simp [sentBy, List.filter_append, List.filter, this]
  | @wLow f l m hpc =>
    obtain ⟨rfl, hgt⟩ := hl.rCleared_eq _ _ _ hpc
    obtain ⟨hmv, hbuf⟩ := hr.rCleared_val f s.low m hpc
    have hc := hr.calls_eq f; rw [hpc] at hc
    have hlen := hr.len
    have hlh := hr.lowhigh
    have htake : (s.sent.take (s.low + 1)).map Prod.snd = (s.sent.take s.low).map Prod.snd ++ [m] := by
      rw [List.take_add_one, List.map_append]
      simp only [hmv, val]
      rw [List.getElem?_eq_getElem (by omega)]
      simp
    refine .of_data hl hr rfl (hpc ▸ rfl) hlen ⟨by show s.low + 1 ≤ s.high; omega, by show s.high - (s.low + 1) ≤ s.cap; omega⟩
      ?_ (fun i h1 h2 _ => ?_) trivial (fun j hj hfree _ => ?_) hr.nonzero hc (fun _ _ => ⟨rfl, rfl⟩) nofun
    · show s.recvd ++ [m] = (s.sent.take (s.low + 1)).map Prod.snd
      rw [hr.recvd_eq, htake]
    · have h1' : s.low + 1 ≤ i := h1
      exact hr.slots i (by omega) h2 (fun g m' e => by
        have := cs_unique hl (f := f) (g := g) (hpc ▸ rfl) (e ▸ rfl)
        subst this; rw [hpc] at e; cases e; omega)
    · show s.buf j = 0
      by_cases hjl : s.low % s.cap = j
      · rw [← hjl]; exact hbuf
      · refine hr.free j hj (fun i h1 h2 => ?_) (fun g v h e => hl.only hpc e)
        by_cases hil : i = s.low
        · subst hil; exact hjl
        · exact hfree i (by show s.low + 1 ≤ i; omega) h2

end LibfiberVerif.MultiChan
