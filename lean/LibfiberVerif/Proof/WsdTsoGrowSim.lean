/-
  Proof/WsdTsoGrowSim.lean — the TSO model with growth (`Model/WsdTsoGrow.lean`) runs the SAME
  PROGRAM as the sequentially consistent, log-validated model `Model/Wsd.lean`.

  `embed` maps one event of `Wsd` to the same access on the store-buffer machine, a store being
  followed at once by the `flush` that drains it (sequential consistency = the schedule of
  flushes in which every store drains immediately); the memory-order argument of the log line
  is dropped.  `Sim` relates the states: all buffers empty, memory = the SC cells, program
  counters equal constructor by constructor, the same `pushed` / `returned`.
  `sim_runFrom`: every trace accepted by `Wsd.sys k0` — in particular every log of the real
  code that C02's check has replayed — is, event for event, a trace of the TSO model (for
  either setting of `fenced` / `ordered`).  So the TSO theorems are about a superset of the
  validated behaviours, not about some other program.
-/
import LibfiberVerif.Proof.WsdTsoGrow

namespace LibfiberVerif.WsdTsoGrow
open LibfiberVerif.Tso

/-- program counters of `Model/Wsd.lean`, constructor by constructor -/
def ofPc : Wsd.Pc → Pc
  | .idle => .idle
  | .pushCalled v => .pushCalled v
  | .pushGotB v b => .pushGotB v b
  | .pushGotT v b t => .pushGotT v b t
  | .pushCopy v b t g i => .pushCopy v b t g i
  | .pushCopyW v b t g i x => .pushCopyW v b t g i x
  | .pushPublish v b t g => .pushPublish v b t g
  | .pushPut v b g => .pushPut v b g
  | .pushWritten v b => .pushWritten v b
  | .pushDone => .pushDone
  | .popCalled => .popCalled
  | .popGotB b => .popGotB b
  | .popGotArr b g => .popGotArr b g
  | .popStored b g => .popStored b g
  | .popEmpty t => .popEmpty t
  | .popTake b g t => .popTake b g t
  | .popRead b t x => .popRead b t x
  | .popCased t r => .popCased t r
  | .popDone r => .popDone r
  | .stealCalled => .stealCalled
  | .stealGotT t => .stealGotT t
  | .stealGotB t b => .stealGotB t b
  | .stealGotArr t g => .stealGotArr t g
  | .stealRead t g x => .stealRead t g x
  | .stealDone r => .stealDone r

/-- one SC event = the same access on the TSO machine, every store drained at once -/
def embed : Wsd.Ev → List Ev
  | .callPush t v => [.callPush t v]
  | .retPush t => [.retPush t]
  | .callPop t => [.callPop t]
  | .retPop t r => [.retPop t r]
  | .callSteal t => [.callSteal t]
  | .retSteal t r => [.retSteal t r]
  | .ldBottom t x _ => [.ldBottom t x]
  | .stBottom t x _ => [.stBottom t x, .flush t]
  | .ldTop t x _ => [.ldTop t x]
  | .casTop t f e d ok _ => [.casTop t f e d ok]
  | .ldArr t g _ => [.ldArr t g]
  | .stArr t g _ => [.stArr t g, .flush t]
  | .rdSlot t g i x => [.rdSlot t g i.toNat x]
  | .wrSlot t g i x => [.wrSlot t g i.toNat x, .flush t]

structure Sim (a : Wsd.St) (c : St) : Prop where
  k0 : c.k0 = a.k0
  bufs : ∀ u, c.m.buf u = []
  top : c.m.mem cTop = a.top
  bot : c.m.mem cBot = a.bottom
  arr : c.m.mem cArr = a.arr
  slot : ∀ g j, c.m.mem (cSlot a.k0 g j) = a.slot g (Wsd.idx (a.k0 + g) j)
  pc : ∀ u, c.pc u = ofPc (a.pc u)
  pushed : c.pushed = a.pushed
  returned : c.returned = a.returned

def OkAnd (o : Option St) (P : St → Prop) : Prop :=
  match o with
  | some c => P c
  | none => False

@[simp] theorem OkAnd_some (c : St) (P : St → Prop) : OkAnd (some c) P = P c := rfl

theorem size_cast (k0 g : Nat) : ((size k0 g : Nat) : Int) = Wsd.sz (k0 + g) := by
  simp [size, Wsd.sz]

theorem pslot_eq (k0 g : Nat) (j : Int) : pslot k0 g j = (Wsd.idx (k0 + g) j).toNat := by
  simp [pslot, Wsd.idx, size_cast]

theorem store_flush {m : Mem} (hb : ∀ u, m.buf u = []) (t c : Nat) (v : Int) :
    ∃ m', (m.store t c v).flush t = some m' ∧ m'.mem = upd m.mem c v ∧ ∀ u, m'.buf u = [] := by
  refine ⟨{ mem := upd m.mem c v, buf := upd (upd m.buf t (m.buf t ++ [(c, v)])) t [] }, ?_, rfl, ?_⟩
  · simp [Mem.flush, Mem.store, hb t]
  · intro u; simp only [upd]; split
    · rfl
    · exact hb u

theorem Sim.pcAt {a : Wsd.St} {c : St} (hS : Sim a c) {t : Nat} {p : Wsd.Pc} (h : a.pc t = p) :
    c.pc t = ofPc p := by rw [hS.pc, h]

theorem Sim.pcUpd {a : Wsd.St} {c : St} (hS : Sim a c) (t : Nat) (p : Wsd.Pc) :
    ∀ u, upd c.pc t (ofPc p) u = ofPc (upd a.pc t p u) := by
  intro u; simp only [upd]; split
  · rfl
  · exact hS.pc u

/-- The fields are compared as tuples so that a caller closes `ha` and `hc` by `rfl`. -/
theorem Sim.move {a a' : Wsd.St} {c c' : St} (hS : Sim a c) (t : Nat) (p : Wsd.Pc)
    (ha : (a'.k0, a'.top, a'.bottom, a'.arr, a'.slot, a'.pc)
      = (a.k0, a.top, a.bottom, a.arr, a.slot, upd a.pc t p))
    (hc : (c'.m, c'.pc) = (c.m, upd c.pc t (ofPc p))) (hk : c'.k0 = a'.k0)
    (hp : c'.pushed = a'.pushed) (hr : c'.returned = a'.returned) : Sim a' c' := by
  simp only [Prod.mk.injEq] at ha hc
  obtain ⟨a1, a2, a3, a4, a5, a6⟩ := ha
  obtain ⟨c2, c3⟩ := hc
  refine ⟨hk, by rw [c2]; exact hS.bufs, by rw [c2, a2]; exact hS.top,
    by rw [c2, a3]; exact hS.bot, by rw [c2, a4]; exact hS.arr, ?_, ?_, hp, hr⟩
  · rw [c2, a1, a5]; exact hS.slot
  · rw [c3, a6]; exact hS.pcUpd t p

theorem Sim.write {a a' : Wsd.St} {c c' : St} (hS : Sim a c) (t : Nat) (p : Wsd.Pc) (cell : Nat)
    (v : Int) (hmem : c'.m.mem = upd c.m.mem cell v) (hbuf : ∀ u, c'.m.buf u = [])
    (hk : (a'.k0, a'.pc, c'.pc) = (a.k0, upd a.pc t p, upd c.pc t (ofPc p))) (hk0 : c'.k0 = a'.k0)
    (htop : a'.top = if cTop = cell then v else a.top)
    (hbot : a'.bottom = if cBot = cell then v else a.bottom)
    (harr : (a'.arr : Int) = if cArr = cell then v else a.arr)
    (hslot : ∀ g j, a'.slot g (Wsd.idx (a.k0 + g) j) =
      if cSlot a.k0 g j = cell then v else a.slot g (Wsd.idx (a.k0 + g) j))
    (hp : c'.pushed = a'.pushed) (hr : c'.returned = a'.returned) : Sim a' c' := by
  simp only [Prod.mk.injEq] at hk
  obtain ⟨k1, k3, k4⟩ := hk
  refine ⟨hk0, hbuf, ?_, ?_, ?_, fun g j => ?_, ?_, hp, hr⟩
  · rw [hmem, htop, ← hS.top]; rfl
  · rw [hmem, hbot, ← hS.bot]; rfl
  · rw [hmem, harr, ← hS.arr]; rfl
  · rw [hmem, k1, hslot, ← hS.slot]; rfl
  · rw [k3, k4]; exact hS.pcUpd t p

theorem idx_nonneg (k : Nat) (j : Int) : 0 ≤ Wsd.idx k j :=
  Int.emod_nonneg _ (Int.ne_of_gt (Wsd.sz_pos k))

theorem cSlot_eq_iff (k0 : Nat) (g g' : Nat) (j j' : Int) :
    cSlot k0 g' j' = cSlot k0 g j ↔ g' = g ∧ Wsd.idx (k0 + g') j' = Wsd.idx (k0 + g) j := by
  constructor
  · intro h
    by_cases hg : g' = g
    · subst hg
      refine ⟨rfl, ?_⟩
      have h1 := idx_nonneg (k0 + g') j'
      have h2 := idx_nonneg (k0 + g') j
      simp only [cSlot, pslot_eq] at h
      omega
    · exact absurd h (cSlot_gen_ne k0 hg _ _)
  · rintro ⟨rfl, h⟩
    simp only [cSlot, pslot_eq, h]

theorem setSlot_cSlot (k0 : Nat) (sl : Nat → Int → Int) (g : Nat) (j x : Int) (g1 : Nat) (j1 : Int) :
    Wsd.setSlot sl g (Wsd.idx (k0 + g) j) x g1 (Wsd.idx (k0 + g1) j1) =
      if cSlot k0 g1 j1 = cSlot k0 g j then x else sl g1 (Wsd.idx (k0 + g1) j1) := by
  simp only [Wsd.setSlot, cSlot_eq_iff]

theorem sim_casTop {f o : Bool} {k : Nat} {a a' : Wsd.St} {c : St} {t : Nat} {fd e d : Int} {ok : Bool} {mo : Nat}
    (hS : Sim a c) (h : Wsd.step a (.casTop t fd e d ok mo) = some a') :
    OkAnd ((sys f o k).runFrom c (embed (.casTop t fd e d ok mo))) (Sim a') := by
  simp only [Wsd.step] at h
  split at h <;> (try (simp at h; done))
  all_goals
    rename_i heq
    have hpcC := hS.pcAt heq; simp only [ofPc] at hpcC
    split at h <;> (try (simp at h; done))
    rename_i hcc
    obtain ⟨rfl, rfl, rfl, hok, -⟩ := hcc
    have hbt := hS.bufs t; have htop := hS.top
    split at h <;> simp at h <;> subst h
    · rename_i hwon
      subst hwon
      have hT : a.top = e := by simpa using hok.symm
      simp [embed, Sys.runFrom, sys, step, hpcC, Mem.drained, hbt, htop, hT]
      exact hS.write t _ cTop _ rfl hS.bufs rfl hS.k0 (if_pos rfl).symm (if_neg cBot_ne_top).symm
        (if_neg cArr_ne_top).symm (fun g j => (if_neg (cSlot_ne_top _ _ _)).symm) hS.pushed hS.returned
    · rename_i hlost
      have hok' : ok = false := by simpa using hlost
      subst hok'
      have hT : ¬ a.top = e := by simpa using hok.symm
      simp [embed, Sys.runFrom, sys, step, hpcC, Mem.drained, hbt, htop, hT]
      exact hS.move t _ rfl rfl hS.k0 hS.pushed hS.returned

theorem sim_stBottom {f o : Bool} {k : Nat} {a a' : Wsd.St} {c : St} {t : Nat} {x : Int} {mo : Nat} (hS : Sim a c)
    (h : Wsd.step a (.stBottom t x mo) = some a') :
    OkAnd ((sys f o k).runFrom c (embed (.stBottom t x mo))) (Sim a') := by
  obtain ⟨m', hf, hmem, hbuf⟩ := store_flush hS.bufs t cBot x
  simp only [Wsd.step] at h
  split at h <;> (try (simp at h; done))
  all_goals
    rename_i heq
    have hpcC := hS.pcAt heq; simp only [ofPc] at hpcC
    (repeat' split at h) <;> simp at h
    subst h
    rename_i hc
    have hx := hc.1
    simp [embed, Sys.runFrom, sys, step, hpcC, hx]
    rw [← hx, hf]
    simp only [OkAnd_some]
    exact hS.write t _ cBot _ hmem hbuf rfl hS.k0 (if_neg cBot_ne_top.symm).symm (if_pos rfl).symm
      (if_neg cArr_ne_bot).symm (fun g j => (if_neg (cSlot_ne_bot _ _ _)).symm)
      (by simp [hS.pushed]) hS.returned

theorem sim_stArr {f o : Bool} {k : Nat} {a a' : Wsd.St} {c : St} {t g : Nat} {mo : Nat} (hS : Sim a c)
    (h : Wsd.step a (.stArr t g mo) = some a') :
    OkAnd ((sys f o k).runFrom c (embed (.stArr t g mo))) (Sim a') := by
  simp only [Wsd.step] at h
  split at h <;> (try (simp at h; done))
  rename_i v b tt g' heq
  have hpcC := hS.pcAt heq; simp only [ofPc] at hpcC
  (repeat' split at h) <;> simp at h
  subst h
  rename_i hc
  obtain ⟨hg, -⟩ := hc
  subst hg
  obtain ⟨m', hf, hmem, hbuf⟩ := store_flush hS.bufs t cArr ((g' : Int) + 1)
  simp [embed, Sys.runFrom, sys, step, hpcC]
  rw [hf]
  simp only [OkAnd_some]
  exact hS.write t _ cArr _ hmem hbuf rfl hS.k0 (if_neg cArr_ne_top.symm).symm (if_neg cArr_ne_bot.symm).symm
    (by rw [if_pos rfl]; exact Int.natCast_succ _) (fun g j => (if_neg (cSlot_ne_arr _ _ _)).symm)
    hS.pushed hS.returned

theorem sim_wrSlot {f o : Bool} {k : Nat} {a a' : Wsd.St} {c : St} {t g : Nat} {i x : Int} (hS : Sim a c)
    (h : Wsd.step a (.wrSlot t g i x) = some a') :
    OkAnd ((sys f o k).runFrom c (embed (.wrSlot t g i x))) (Sim a') := by
  simp only [Wsd.step] at h
  split at h <;> (try (simp at h; done))
  all_goals
    rename_i heq
    have hpcC := hS.pcAt heq; simp only [ofPc] at hpcC
    split at h <;> (try (simp at h; done))
    rename_i hc
    obtain ⟨hg, hi, hx⟩ := hc
  · -- a copy store
    rename_i v b tt g' j y
    obtain ⟨m', hf, hmem, hbuf⟩ := store_flush hS.bufs t (cSlot a.k0 g j) x
    split at h <;> simp at h <;> subst h
    all_goals
      rename_i hjb
      simp [embed, Sys.runFrom, sys, step, hpcC, hg, hi, hx, hS.k0, pslot_eq, hjb]
      rw [← hg, ← hx, hf]
      simp only [OkAnd_some]
      exact hS.write t _ _ _ hmem hbuf rfl rfl (if_neg (cSlot_ne_top _ _ _).symm).symm
        (if_neg (cSlot_ne_bot _ _ _).symm).symm (if_neg (cSlot_ne_arr _ _ _).symm).symm (setSlot_cSlot _ _ _ _ _)
        hS.pushed hS.returned
  · -- the element store
    rename_i v b g'
    obtain ⟨m', hf, hmem, hbuf⟩ := store_flush hS.bufs t (cSlot a.k0 g b) x
    simp at h; subst h
    simp [embed, Sys.runFrom, sys, step, hpcC, hg, hi, hx, hS.k0, pslot_eq]
    rw [← hg, ← hx, hf]
    simp only [OkAnd_some]
    exact hS.write t _ _ _ hmem hbuf rfl rfl (if_neg (cSlot_ne_top _ _ _).symm).symm
      (if_neg (cSlot_ne_bot _ _ _).symm).symm (if_neg (cSlot_ne_arr _ _ _).symm).symm (setSlot_cSlot _ _ _ _ _)
      hS.pushed hS.returned

theorem sim_step {f o : Bool} {k : Nat} {a a' : Wsd.St} {c : St} {e : Wsd.Ev} (hS : Sim a c)
    (h : Wsd.step a e = some a') : OkAnd ((sys f o k).runFrom c (embed e)) (Sim a') := by
  cases e with
  | callPush t v | callPop t | callSteal t =>
    simp only [Wsd.step] at h
    obtain ⟨hc, rfl⟩ := Wsd.of_ite_some h
    have hpcC := hS.pc t
    simp_all [embed, Sys.runFrom, sys, step, ofPc]
    exact hS.move _ _ rfl rfl hS.k0 hS.pushed hS.returned
  | retPush t | retPop t r | retSteal t r =>
    simp only [Wsd.step] at h
    split at h <;> (try (simp at h; done))
    rename_i heq
    have hpcC := hS.pcAt heq; simp only [ofPc] at hpcC
    (repeat' split at h) <;> simp at h
    subst h
    have hret := hS.returned
    simp_all [embed, Sys.runFrom, sys, step]
    exact hS.move t _ rfl rfl hS.k0 hS.pushed rfl
  | ldBottom t x mo | ldTop t x mo | ldArr t g mo | rdSlot t g i x =>
    -- a load: both machines read the same cell (all buffers are empty) and branch alike
    simp only [Wsd.step] at h
    split at h <;> (try (simp at h; done))
    all_goals
      rename_i heq
      have hpcC := hS.pcAt heq; simp only [ofPc] at hpcC
      (repeat' split at h) <;> simp at h
      all_goals
        subst h
        have hbt := hS.bufs t; have htop := hS.top; have hbot := hS.bot; have harr := hS.arr
        have hk := hS.k0; have hsl := hS.slot
        simp_all [embed, Sys.runFrom, sys, step, load_of_drained, Mem.drained, ← Int.not_le,
          size_cast, pslot_eq]
        exact hS.move t _ rfl rfl rfl hS.pushed hS.returned
  | stBottom t x mo => exact sim_stBottom hS h
  | casTop t fd e d ok mo => exact sim_casTop hS h
  | stArr t g mo => exact sim_stArr hS h
  | wrSlot t g i x => exact sim_wrSlot hS h

theorem sim_init (f o : Bool) (k0 : Nat) : Sim (Wsd.init k0) (init f o k0) := by
  constructor <;> simp [Wsd.init, init, Mem.init, ofPc]

theorem sim_runFrom {f o : Bool} {k : Nat} {a a' : Wsd.St} {c : St} {es : List Wsd.Ev}
    (hS : Sim a c) (h : (Wsd.sys k).runFrom a es = some a') :
    ∃ c', (sys f o k).runFrom c (es.flatMap embed) = some c' ∧ Sim a' c' := by
  induction es generalizing a c with
  | nil => simp [Sys.runFrom] at h; subst h; exact ⟨c, rfl, hS⟩
  | cons e es ih =>
    simp only [Sys.runFrom] at h
    cases hst : (Wsd.sys k).step a e with
    | none => simp [hst] at h
    | some a1 =>
      simp [hst] at h
      have h1 := sim_step (f := f) (o := o) (k := k) hS hst
      cases hc : (sys f o k).runFrom c (embed e) with
      | none => rw [hc] at h1; exact absurd h1 (by simp [OkAnd])
      | some c1 =>
        rw [hc] at h1
        obtain ⟨c', hc', hS'⟩ := ih h1 h
        refine ⟨c', ?_, hS'⟩
        simp only [List.flatMap_cons, Sys.runFrom_append, hc]
        exact hc'

end LibfiberVerif.WsdTsoGrow
