/-
  Proof/CondTrace.lean — trace-level facts about the signaller's ghost counters (property C05):
  `claimed f` changes only at f's own call / claim events, `popped f` is reset at f's call and
  otherwise counts exactly f's pops of `cond->waiters`.  With them "a signal pops exactly
  one waiter between its fetch_sub and its return" is stated over event lists.  Then what individual
  events require and do, read off `step`.
-/
import LibfiberVerif.Proof.Cond

namespace LibfiberVerif.Cond

/-- events that start a signal/broadcast call of `f` or make its claim -/
def isSigStart (f : Nat) : Ev → Bool
  | .callSignal g _ | .callBroadcast g _ | .fsubCount g _ | .xchgCount g _ => g = f
  | _ => false

/-- a pop of `cond->waiters` (`head := next`) by `f` -/
def isPopBy (f : Nat) : Ev → Bool
  | .wHead .C g _ => g = f
  | _ => false

theorem isPopBy_of_not_pop {e : Ev} (h : isPopEv e = false) (f : Nat) : isPopBy f e = false := by
  cases e <;> first | rfl | skip
  next q g n => cases q <;> first | rfl | cases h

def popsBy (f : Nat) (es : List Ev) : Nat := (es.filter (isPopBy f)).length

def SameSig (f : Nat) (s s' : St) : Prop :=
  (s'.gh f).claimed = (s.gh f).claimed ∧ (s'.gh f).popped = (s.gh f).popped

theorem SameSig.rfl' {f : Nat} {s : St} : SameSig f s s := ⟨rfl, rfl⟩

theorem sameSig_upd {f g : Nat} {s s' : St} {g' : G} (h : s'.gh = upd s.gh g g')
    (hc : g = f → g'.claimed = (s.gh g).claimed ∧ g'.popped = (s.gh g).popped) : SameSig f s s' := by
  simp only [SameSig, h, upd]; split
  · next hfg => subst hfg; exact hc rfl
  · exact ⟨rfl, rfl⟩

theorem step_sig {s s' : St} {e : Ev} (h : step s e = some s') (f : Nat)
    (hn : isSigStart f e = false) :
    (s'.gh f).claimed = (s.gh f).claimed ∧
    (s'.gh f).popped = (s.gh f).popped + (if isPopBy f e = true then 1 else 0) := by
  have same : isPopEv e = false → SameSig f s s' →
      (s'.gh f).claimed = (s.gh f).claimed ∧
      (s'.gh f).popped = (s.gh f).popped + (if isPopBy f e = true then 1 else 0) := fun hp hs => by
    rw [isPopBy_of_not_pop hp]; exact ⟨hs.1, by simpa using hs.2⟩
  have self : ∀ {g : Nat}, (g = f → False) → ∀ {g' : G},
      g = f → g'.claimed = (s.gh g).claimed ∧ g'.popped = (s.gh g).popped := fun h _ e => (h e).elim
  cases step_Step h with
  | mx f' hp hmx => exact same hp (by rw [SameSig, hmx.frame.2.1]; exact ⟨rfl, rfl⟩)
  | own f' p p' g' gh' hpc ht hgh hw hp hmx =>
    refine same hp ?_
    rw [SameSig, hmx.frame.2.1]
    refine sameSig_upd hgh fun hf => ?_
    cases ht with
    | callSig hh bc he => rcases he with rfl | rfl <;> simp [isSigStart, hf] at hn
    | _ => exact ⟨rfl, rfl⟩
  | mxD g w me x hme hp hx hr => exact same hp (by rw [SameSig, (retireD_frame hr).2.1]; exact ⟨rfl, rfl⟩)
  | enq f' n p hpc => exact same rfl (sameSig_upd rfl fun _ => ⟨rfl, rfl⟩)
  | link f' n p i hpc hh ho hd => exact same rfl (sameSig_upd rfl fun _ => ⟨rfl, rfl⟩)
  | pop f' x bc k h n g hpc hord hg hne =>
    by_cases hf : f = f'
    · subst hf; simp [isPopBy]
    · have hf' : ¬ f' = f := fun h => hf h.symm
      simp only [isPopBy, upd_other _ _ _ _ hf, decide_eq_true_eq, if_neg hf']
      by_cases hg' : f = g
      · subst hg'; simp
      · simp [upd_other _ _ _ _ hg']
  | register t f' hpc => exact same rfl (sameSig_upd rfl fun _ => ⟨rfl, rfl⟩)
  | addBack t f' x hpc hx => exact same rfl ⟨rfl, rfl⟩
  | claim f' bc n c x hpc he hn' hb hc hc' hx =>
    refine same (by rcases he with rfl | rfl <;> rfl) (sameSig_upd rfl (self ?_))
    rcases he with rfl | rfl <;> simpa [isSigStart] using hn
  | sigMiss f' x hpc hc hx => exact same rfl ⟨rfl, rfl⟩
  | bcNone f' x y hpc hc hx hy =>
    exact same rfl (sameSig_upd rfl (self (by simpa [isSigStart] using hn)))
  | @deferred s3 t g w old x y hw hh hx hy hr =>
    refine same rfl ?_
    have hg : s3.gh = s.gh := ((retireD_frame hr).2.1).trans rfl
    exact sameSig_upd (g := w) (g' := { s3.gh w with nU := (s3.gh w).nU + 1 })
      (by show upd s3.gh w _ = upd s.gh w _; rw [hg]) (fun _ => by rw [hg]; exact ⟨rfl, rfl⟩)

theorem runFrom_sig (f : Nat) : ∀ (mid : List Ev) (s s2 : St), sys.runFrom s mid = some s2 →
    (∀ e ∈ mid, isSigStart f e = false) →
    (s2.gh f).claimed = (s.gh f).claimed ∧ (s2.gh f).popped = (s.gh f).popped + popsBy f mid
  | [], s, s2, h, _ => by simp [Sys.runFrom] at h; subst h; simp [popsBy]
  | e :: mid, s, s2, h, hn => by
    simp only [Sys.runFrom] at h
    cases hs : sys.step s e with
    | none => rw [hs] at h; cases h
    | some s1 =>
      rw [hs] at h
      have h1 := step_sig (f := f) hs (hn e (by simp))
      have h2 := runFrom_sig f mid s1 s2 h (fun e' he' => hn e' (by simp [he']))
      refine ⟨by rw [h2.1, h1.1], ?_⟩
      rw [h2.2, h1.2]
      simp only [popsBy, List.filter_cons]
      split <;> simp <;> omega

/-- a trace that ends with a call of `f`: its claim event `c`, the rest of the call `mid`, its return `r` -/
theorem run_call {es mid : List Ev} {c r : Ev} {s' : St}
    (h : sys.run (es ++ [c] ++ mid ++ [r]) = some s') :
    ∃ s0 s1 s2, sys.run es = some s0 ∧ step s0 c = some s1 ∧ sys.runFrom s1 mid = some s2 ∧
      sys.run (es ++ [c] ++ mid) = some s2 ∧ step s2 r = some s' := by
  obtain ⟨s2, h2, hret⟩ := Sys.runFrom_append_some h
  obtain ⟨s1, h1, hmid⟩ := Sys.runFrom_append_some h2
  obtain ⟨s0, h0, hc⟩ := Sys.runFrom_append_some h1
  exact ⟨s0, s1, s2, h0, (Sys.runFrom_singleton_some.mp hc), hmid, h2, (Sys.runFrom_singleton_some.mp hret)⟩

/-- Between the claim of a signal / broadcast call of `f` (pops reset) and a state in which `f`
    has popped all it claimed, `f` pops `cond->waiters` exactly as often as it claimed. -/
theorem pops_eq_claim {f : Nat} {mid : List Ev} {s1 s2 : St} (h : sys.runFrom s1 mid = some s2)
    (hmid : ∀ e ∈ mid, isSigStart f e = false) (h0 : (s1.gh f).popped = 0)
    (hr : (s2.gh f).popped = (s2.gh f).claimed) : popsBy f mid = (s1.gh f).claimed := by
  have := runFrom_sig f mid s1 s2 h hmid
  omega

theorem fsubCount_effect {s s' : St} {f : Nat} {old : Int}
    (h : step s (.fsubCount f old) = some s') :
    s.pc f = .lockI false ∧ old = s.count ∧
      (s'.gh f).claimed = (if old ≥ 1 then 1 else (s.gh f).claimed) ∧
      (s'.gh f).popped = (s.gh f).popped ∧
      s'.pc f = (if old ≥ 1 then .wake false 1 .top else .sigMiss) := by
  simp only [step] at h
  split at h
  · next hc =>
    simp only [Option.bind_eq_some_iff] at h
    obtain ⟨s1, h1, h⟩ := h
    obtain ⟨x, hx, rfl⟩ := stepI_shape h1
    refine ⟨hc.1, hc.2.1, ?_⟩
    split at h
    · next hge => simp at h; subst h; simp [hge]
    · next hlt => simp at h; subst h; simp [hlt]
  · cases h

theorem xchgCount_effect {s s' : St} {f : Nat} {old : Int}
    (h : step s (.xchgCount f old) = some s') :
    s.pc f = .lockI true ∧ old = s.count ∧ 0 ≤ old ∧
      (s'.gh f).claimed = old.toNat ∧ (s'.gh f).popped = (s.gh f).popped ∧
      s'.pc f = (if old.toNat = 0 then .unlockI true else .wake true old.toNat .top) ∧
      s'.count = 0 ∧ ∃ x, Mutex.step (syncIn s s.i) (.retLock (A f)) = some x := by
  simp only [step] at h
  split at h
  · next hc =>
    simp only [Option.bind_eq_some_iff] at h
    obtain ⟨s1, h1, h⟩ := h
    obtain ⟨x, hx, rfl⟩ := stepI_shape h1
    refine ⟨hc.1, hc.2.1, hc.2.2.1, ?_⟩
    simp only [] at h
    split at h
    · next hz =>
      obtain ⟨y, hy, rfl⟩ := toUnlockI_shape h
      simp [hz]; exact ⟨x, hx⟩
    · next hnz => simp at h; subst h; simp [hnz]; exact ⟨x, hx⟩
  · cases h

theorem retSig_pre {s s' : St} {f : Nat} {bc : Bool} (h : retSig s f bc = some s') :
    s.pc f = .unlockI bc := by
  simp only [retSig] at h
  split at h
  · next hc => exact hc.1
  · cases h

theorem retWait_effect {s s' : St} {f : Nat} (h : step s (.retWait f) = some s') :
    s.pc f = .relock ∧ s'.m.pc (A f) = .held ∧ s'.m.owner = s.m.owner ∧
      (s.m.pc (A f) = .acquired ∨ s.m.pc (A f) = .parked ∧ s.m.owner = some (A f)) ∧
      (s'.gh f).nR = (s.gh f).nR + 1 := by
  simp only [step] at h
  split at h
  · next hpc =>
    simp only [Option.map_eq_some_iff] at h
    obtain ⟨s1, h1, rfl⟩ := h
    obtain ⟨x, hx, rfl⟩ := stepM_shape h1
    have := mx_retLock hx
    exact ⟨hpc, this.1, this.2.2, this.2.1, by simp⟩
  · cases h

theorem popC_effect {s s' : St} {f x : Nat} (h : step s (.wHead .C f x) = some s') :
    ∃ bc k hh n g, s.pc f = .wake bc k (.gotNext hh x) ∧ s.order[s.hd]? = some (n, g) ∧
      s.pc g = .parked ∧ s'.hd = s.hd + 1 ∧ s'.pc g = .woken ∧ s'.order = s.order ∧
      (s'.gh f).popped = (s.gh f).popped + 1 ∧ (s'.gh f).claimed = (s.gh f).claimed := by
  cases step_Step h with
  | pop _ _ bc k hh n g hpc hord hg hne =>
    exact ⟨bc, k, hh, n, g, hpc, hord, hg, rfl, by simp [upd, hne], rfl, by simp [upd], by simp [upd]⟩
  | claim _ _ _ _ _ _ he => rcases he with h | h <;> cases h
  | mx _ hp _ => cases hp
  | own _ _ _ _ _ _ _ _ _ hp _ => cases hp
  | mxD _ _ _ _ _ hp _ _ => cases hp

/-- `fetch_add(M.counter)`: either the harness-level unlock by M's holder, or the deferred unlock
    on behalf of the waiter `w` registered on that kernel thread, whose link is done -/
theorem faddM_pre {s s' : St} {t g : Nat} {old : Int} (h : step s (.fadd .M t g old) = some s') :
    (s.pc g = .idle ∧ s.m.pc (A g) = .unlockCalled) ∨
    (∃ w, s.deferred t = some w ∧ s.m.pc (D w) = .held ∧ s.m.owner = some (D w) ∧
      s'.deferred t = none) := by
  simp only [step] at h
  split at h
  · split at h
    · cases h
    · split at h
      · next hc => exact Or.inl hc
      · split at h
        · next w hw =>
          split at h
          · next hheld =>
            simp only [Option.map_eq_some_iff, Option.bind_eq_some_iff] at h
            obtain ⟨s3, ⟨s2, ⟨s1, h1, h2⟩, h3⟩, rfl⟩ := h
            obtain ⟨x, hx, rfl⟩ := stepM_shape h1
            cases Mutex.Step.of_step hx with
            | callUnlock _ ho _ => exact Or.inr ⟨w, hw, hheld, ho, by simp⟩
          · cases h
        · cases h
  · next hq => exact absurd trivial hq

end LibfiberVerif.Cond
