/-
  Proof/MultiChanInv.lean — vocabulary of the invariants of the multi channel model (C11): the
  accepted steps as a relation, the classifiers of program counters, the one-list invariant `Inv`
  (`St.two = false`, the code before /repo commit b18179b; proved in Proof/MultiChan.lean), waiter
  lists, and the lock discipline `LInv`, which holds for BOTH list disciplines: a fiber inside
  the critical section holds the abstract lock, so there is at most one, and what it has read from
  `high`/`low` is still current (proved with the waiter lists, Proof/MultiChanWait.lean).
-/
import LibfiberVerif.Model.MultiChan

namespace LibfiberVerif.MultiChan

/-! ### the accepted steps

One constructor per branch of `step`, with the guards of that branch as hypotheses; where a guard
equates an argument of the event with a value, the event carries the value.  Invariant
proofs go by cases on `Step` and never unfold `step`. -/

inductive Step (s : St) : Ev → St → Prop
  | callSend {f v} (hpc : s.pc f = .idle) (hv : v ≠ 0) (hf : f ≠ 0) :
      Step s (.callSend f v)
        { s with fibers := addFiber s.fibers f, calls := upd s.calls f (s.calls f ++ [v]),
                 awS := f :: s.awS, pc := upd s.pc f (.lock (.send v)) }
  | callRecv {f} (hpc : s.pc f = .idle) (hf : f ≠ 0) :
      Step s (.callRecv f)
        { s with fibers := addFiber s.fibers f, awR := f :: s.awR, pc := upd s.pc f (.lock .recv) }
  | retSend {f} (hpc : s.pc f = .done 0) : Step s (.retSend f) { s with pc := upd s.pc f .idle }
  | retRecv {f m} (hpc : s.pc f = .done m) (hm : m ≠ 0) :
      Step s (.retRecv f m) { s with pc := upd s.pc f .idle }
  -- the abstract mutex
  | acquire {f o} (hpc : s.pc f = .lock o) (h1 : s.counter = 1) (hl : s.lock = none)
      (hh : s.handoffBy = none) :
      Step s (.fsub f s.counter)
        { s with counter := s.counter - 1, lock := some f, pc := upd s.pc f (.lockWait o) }
  | queue {f o} (hpc : s.pc f = .lock o) (h1 : s.counter ≠ 1) :
      Step s (.fsub f s.counter) { s with counter := s.counter - 1, pc := upd s.pc f (.lockWait o) }
  | reacquire {f o} (hpc : s.pc f = .wAsleep o) (hw : s.woken f = true) (h1 : s.counter = 1)
      (hl : s.lock = none) (hh : s.handoffBy = none) :
      Step s (.fsub f s.counter)
        { s with counter := s.counter - 1, lock := some f, woken := upd s.woken f false,
                 pc := upd s.pc f (.lockWait o) }
  | requeue {f o} (hpc : s.pc f = .wAsleep o) (hw : s.woken f = true) (h1 : s.counter ≠ 1) :
      Step s (.fsub f s.counter)
        { s with counter := s.counter - 1, woken := upd s.woken f false, pc := upd s.pc f (.lockWait o) }
  | release {f res} (hpc : s.pc f = .unlock res) (hl : s.lock = some f) (h1 : s.counter + 1 = 1) :
      Step s (.fadd f s.counter)
        { s with counter := s.counter + 1, lock := none, pc := upd s.pc f (.done res) }
  | releaseOwing {f res} (hpc : s.pc f = .unlock res) (hl : s.lock = some f) (h1 : s.counter + 1 ≠ 1) :
      Step s (.fadd f s.counter)
        { s with counter := s.counter + 1, lock := none, handoffBy := some f,
                 pc := upd s.pc f (.handing res) }
  -- the deferred unlock: f releases on behalf of the blocked owner p
  | releaseFor {f p o hb} (hl : s.lock = some p) (hpc : s.pc p = .wPending o) (hpf : p ≠ f)
      (hhb : hb = if s.counter + 1 = 1 then none else some f) :
      Step s (.fadd f s.counter)
        { s with counter := s.counter + 1, lock := none, handoffBy := hb, pc := upd s.pc p (.wAsleep o) }
  | handoffDone {f g o res} (hh : s.handoffBy = some f) (hl : s.lock = none)
      (hg : s.pc g = .lockWait o) (hpc : s.pc f = .handing res) (hfg : f ≠ g) :
      Step s (.handoff f g) { s with lock := some g, handoffBy := none, pc := upd s.pc f (.done res) }
  | handoff {f g o} (hh : s.handoffBy = some f) (hl : s.lock = none) (hg : s.pc g = .lockWait o) :
      Step s (.handoff f g) { s with lock := some g, handoffBy := none }
  | rHigh {f o} (hpc : s.pc f = .lockWait o) (hl : s.lock = some f) :
      Step s (.rHigh f s.high) { s with pc := upd s.pc f (.gotHigh o s.high) }
  | rLow {f o h} (hpc : s.pc f = .gotHigh o h) :
      Step s (.rLow f s.low) { s with pc := upd s.pc f (.gotLow o h s.low) }
  | blockS1 {f v h l} (hpc : s.pc f = .gotLow (.send v) h l) (hfull : ¬ (h - l < s.cap))
      (htwo : s.two = false) :
      Step s (.rWaiters f s.waiters)
        { s with everS := true, awS := s.awS.erase f, pc := upd s.pc f (.wGot (.send v) s.waiters) }
  | blockR {f h l} (hpc : s.pc f = .gotLow .recv h l) (hempty : ¬ (h > l)) :
      Step s (.rWaiters f s.waiters)
        { s with everR := true, awR := s.awR.erase f, pc := upd s.pc f (.wGot .recv s.waiters) }
  | wakeNone {f res} (hpc : s.pc f = .kTop res) (hk : ¬ (s.two = true ∧ s.wk = true))
      (h0 : s.waiters = 0) :
      Step s (.rWaiters f s.waiters) { s with pw := false, pc := upd s.pc f (.unlock res) }
  | wakeHead {f res} (hpc : s.pc f = .kTop res) (hk : ¬ (s.two = true ∧ s.wk = true))
      (h0 : s.waiters ≠ 0) :
      Step s (.rWaiters f s.waiters) { s with pc := upd s.pc f (.kGot res s.waiters) }
  | blockS2 {f v h l} (htwo : s.two = true) (hpc : s.pc f = .gotLow (.send v) h l)
      (hfull : ¬ (h - l < s.cap)) :
      Step s (.rSWaiters f s.swaiters)
        { s with everS := true, awS := s.awS.erase f, pc := upd s.pc f (.wGot (.send v) s.swaiters) }
  | wakeNoneS {f res} (htwo : s.two = true) (hpc : s.pc f = .kTop res) (hk : s.wk = true)
      (h0 : s.swaiters = 0) :
      Step s (.rSWaiters f s.swaiters) { s with pw := false, pc := upd s.pc f (.unlock res) }
  | wakeHeadS {f res} (htwo : s.two = true) (hpc : s.pc f = .kTop res) (hk : s.wk = true)
      (h0 : s.swaiters ≠ 0) :
      Step s (.rSWaiters f s.swaiters) { s with pc := upd s.pc f (.kGot res s.swaiters) }
  | link {f o w} (hpc : s.pc f = .wGot o w) :
      Step s (.wScratch f f w) { s with scr := upd s.scr f w, pc := upd s.pc f (.wLinked o) }
  | unlink {f res w} (hpc : s.pc f = .kUnl res w) :
      Step s (.wScratch f w 0) { s with scr := upd s.scr w 0, pc := upd s.pc f (.kClr res w) }
  | push {f o} (hpc : s.pc f = .wLinked o) (ho : s.two = true → o = .recv) :
      Step s (.wWaiters f f) { s with waiters := f, wl := f :: s.wl, pc := upd s.pc f (.wListed o) }
  | pop {f res g x} (hpc : s.pc f = .kNext res g x) (hk : ¬ (s.two = true ∧ s.wk = true)) :
      Step s (.wWaiters f x)
        { s with waiters := x, wl := s.wl.drop 1, waking := some g, pc := upd s.pc f (.kUnl res g) }
  | pushS {f v} (htwo : s.two = true) (hpc : s.pc f = .wLinked (.send v)) :
      Step s (.wSWaiters f f)
        { s with swaiters := f, swl := f :: s.swl, pc := upd s.pc f (.wListed (.send v)) }
  | popS {f res g x} (htwo : s.two = true) (hpc : s.pc f = .kNext res g x) (hk : s.wk = true) :
      Step s (.wSWaiters f x)
        { s with swaiters := x, swl := s.swl.drop 1, waking := some g, pc := upd s.pc f (.kUnl res g) }
  | wStateWaiting {f o} (hpc : s.pc f = .wListed o) :
      Step s (.wStateWaiting f) { s with pc := upd s.pc f (.wPending o) }
  | put {f v h l} (hpc : s.pc f = .gotLow (.send v) h l) (hroom : h - l < s.cap) :
      Step s (.wBuf f (h % s.cap) v)
        { s with buf := upd s.buf (h % s.cap) v, pc := upd s.pc f (.sWrote v h) }
  | clear {f l m} (hpc : s.pc f = .rRead l m) :
      Step s (.wBuf f (l % s.cap) 0)
        { s with buf := upd s.buf (l % s.cap) 0, pc := upd s.pc f (.rCleared l m) }
  | wHigh {f v h} (hpc : s.pc f = .sWrote v h) :
      Step s (.wHigh f (h + 1))
        { s with high := h + 1, sent := s.sent ++ [(f, v)], awS := s.awS.erase f, pw := true, wk := false,
                 pc := upd s.pc f (.kTop 0) }
  | rBuf {f h l} (hpc : s.pc f = .gotLow .recv h l) (hne : h > l) :
      Step s (.rBuf f (l % s.cap) (s.buf (l % s.cap)))
        { s with pc := upd s.pc f (.rRead l (s.buf (l % s.cap))) }
  | wLow {f l m} (hpc : s.pc f = .rCleared l m) :
      Step s (.wLow f (l + 1))
        { s with low := l + 1, recvd := s.recvd ++ [m], awR := s.awR.erase f, pw := true, wk := true,
                 pc := upd s.pc f (.kTop m) }
  | rScratch {f res w} (hpc : s.pc f = .kGot res w) :
      Step s (.rScratch f w (s.scr w)) { s with pc := upd s.pc f (.kNext res w (s.scr w)) }
  | wakeR {f res w} (hpc : s.pc f = .kClr res w) (hw : s.pc w = .wAsleep .recv) :
      Step s (.wStateReady f w)
        { s with woken := upd s.woken w true, waking := none, pw := false, awR := w :: s.awR,
                 pc := upd s.pc f (.unlock res) }
  | wakeS {f res w v} (hpc : s.pc f = .kClr res w) (hw : s.pc w = .wAsleep (.send v)) :
      Step s (.wStateReady f w)
        { s with woken := upd s.woken w true, waking := none, pw := false, awS := w :: s.awS,
                 pc := upd s.pc f (.unlock res) }

theorem Step.of_step {s s' : St} {e : Ev} (h : step s e = some s') : Step s e s' := by
  cases e <;> simp only [step] at h <;> (repeat' split at h) <;>
    simp only [Option.some.injEq, reduceCtorEq] at h <;> subst h
  all_goals try simp only [ne_eq, Decidable.not_not, not_or, Bool.not_eq_false] at *
  all_goals repeat (cases ‹_ ∧ _›)
  -- an argument of the event that the model compares with a field is that field
  all_goals try subst ‹_ = s.counter›
  all_goals try subst ‹_ = s.waiters›
  all_goals try subst ‹_ = s.swaiters›
  all_goals subst_vars
  all_goals (constructor <;> first | assumption | simp [*])

def Op.isRecv : Op → Bool
  | .recv => true
  | .send _ => false

def Op.isSend : Op → Bool
  | .recv => false
  | .send _ => true

/-- pcs between acquiring the lock's first effect and releasing it -/
def Pc.inCS : Pc → Bool
  | .idle => false | .lock _ => false | .lockWait _ => false
  | .gotHigh _ _ => true | .gotLow _ _ _ => true
  | .wGot _ _ => true | .wLinked _ => true | .wListed _ => true | .wPending _ => true
  | .wAsleep _ => false
  | .sWrote _ _ => true | .rRead _ _ => true | .rCleared _ _ => true
  | .kTop _ => true | .kGot _ _ => true | .kNext _ _ _ => true | .kUnl _ _ => true | .kClr _ _ => true
  | .unlock _ => true | .handing _ => false | .done _ => false

/-- the fiber an internal_wake has unlinked and is making READY -/
def Pc.wakingOf : Pc → Option Nat
  | .kUnl _ w => some w | .kClr _ w => some w
  | .idle => none | .lock _ => none | .lockWait _ => none | .gotHigh _ _ => none | .gotLow _ _ _ => none
  | .wGot _ _ => none | .wLinked _ => none | .wListed _ => none | .wPending _ => none | .wAsleep _ => none
  | .sWrote _ _ => none | .rRead _ _ => none | .rCleared _ _ => none
  | .kTop _ => none | .kGot _ _ => none | .kNext _ _ _ => none
  | .unlock _ => none | .handing _ => none | .done _ => none

/-- blocked path of internal_wait (lock still held by the blocked fiber) -/
def Pc.waitOp : Pc → Option Op
  | .wGot o _ => some o | .wLinked o => some o | .wListed o => some o | .wPending o => some o
  | .idle => none | .lock _ => none | .lockWait _ => none | .gotHigh _ _ => none | .gotLow _ _ _ => none
  | .wAsleep _ => none
  | .sWrote _ _ => none | .rRead _ _ => none | .rCleared _ _ => none
  | .kTop _ => none | .kGot _ _ => none | .kNext _ _ _ => none | .kUnl _ _ => none | .kClr _ _ => none
  | .unlock _ => none | .handing _ => none | .done _ => none

/-- listed in the waiter list: wListed / wPending / wAsleep -/
def Pc.listedOp : Pc → Option Op
  | .wListed o => some o | .wPending o => some o | .wAsleep o => some o
  | .idle => none | .lock _ => none | .lockWait _ => none | .gotHigh _ _ => none | .gotLow _ _ _ => none
  | .wGot _ _ => none | .wLinked _ => none
  | .sWrote _ _ => none | .rRead _ _ => none | .rCleared _ _ => none
  | .kTop _ => none | .kGot _ _ => none | .kNext _ _ _ => none | .kUnl _ _ => none | .kClr _ _ => none
  | .unlock _ => none | .handing _ => none | .done _ => none

/-- "this fiber will make progress for the RECEIVERS": an awake receiver that has not taken
    its message yet, a woken sleeping receiver, or anybody inside internal_wake -/
def Pc.witR : Pc → Bool → Bool
  | .lock o, _ => o.isRecv | .lockWait o, _ => o.isRecv | .gotHigh o _, _ => o.isRecv | .gotLow o _ _, _ => o.isRecv
  | .rRead _ _, _ => true | .rCleared _ _, _ => true
  | .wAsleep o, wk => o.isRecv && wk
  | .kTop _, _ => true | .kGot _ _, _ => true | .kNext _ _ _, _ => true | .kUnl _ _, _ => true | .kClr _ _, _ => true
  | .idle, _ => false | .wGot _ _, _ => false | .wLinked _, _ => false | .wListed _, _ => false | .wPending _, _ => false
  | .sWrote _ _, _ => false | .unlock _, _ => false | .handing _, _ => false | .done _, _ => false

/-- the same for the SENDERS -/
def Pc.witS : Pc → Bool → Bool
  | .lock o, _ => o.isSend | .lockWait o, _ => o.isSend | .gotHigh o _, _ => o.isSend | .gotLow o _ _, _ => o.isSend
  | .sWrote _ _, _ => true
  | .wAsleep o, wk => o.isSend && wk
  | .kTop _, _ => true | .kGot _ _, _ => true | .kNext _ _ _, _ => true | .kUnl _ _, _ => true | .kClr _ _, _ => true
  | .idle, _ => false | .wGot _ _, _ => false | .wLinked _, _ => false | .wListed _, _ => false | .wPending _, _ => false
  | .rRead _ _, _ => false | .rCleared _ _, _ => false | .unlock _, _ => false | .handing _, _ => false | .done _, _ => false

def headW : List Nat → Nat
  | [] => 0
  | f :: _ => f

/-- the `scratch` links of the listed fibers spell out the list -/
def ChainW (scr : Nat → Nat) : List Nat → Prop
  | [] => True
  | f :: rest => scr f = headW rest ∧ ChainW scr rest

theorem chainW_upd_of_not_mem (scr : Nat → Nat) (n v : Nat) :
    ∀ l : List Nat, n ∉ l → ChainW scr l → ChainW (upd scr n v) l
  | [], _, _ => trivial
  | _ :: rest, hn, hc =>
    have hn := not_or.1 (mt List.mem_cons.2 hn)
    ⟨(upd_other _ _ _ _ (Ne.symm hn.1)).trans hc.1, chainW_upd_of_not_mem scr n v rest hn.2 hc.2⟩

theorem mem_addFiber (l : List Nat) (f g : Nat) : g ∈ addFiber l f ↔ g ∈ l ∨ g = f := by
  unfold addFiber
  by_cases h : f ∈ l
  · simp only [List.contains_iff_mem, h, if_true]
    exact ⟨.inl, fun hg => hg.elim id (· ▸ h)⟩
  · simp [h]

theorem waitOp_inCS (p : Pc) (o : Op) (h : p.waitOp = some o) : p.inCS = true := by
  cases p <;> simp [Pc.waitOp, Pc.inCS] at *

theorem wakingOf_inCS (p : Pc) (w : Nat) (h : p.wakingOf = some w) : p.inCS = true := by
  cases p <;> simp [Pc.wakingOf, Pc.inCS] at *

theorem headW_mem (l : List Nat) (h : l ≠ []) : headW l ∈ l := by
  cases l with
  | nil => exact absurd rfl h
  | cons a r => simp [headW]

theorem headW_cons (l : List Nat) (hw : headW l ≠ 0) : ∃ rest, l = headW l :: rest := by
  cases l with
  | nil => simp [headW] at hw
  | cons a r => exact ⟨r, by simp [headW]⟩

theorem listedOp_cases (p : Pc) (o : Op) (h : p.listedOp = some o) :
    p = .wListed o ∨ p = .wPending o ∨ p = .wAsleep o := by
  cases p <;> simp [Pc.listedOp] at * <;> simp [h]

theorem Op.isRecv_false (o : Op) (h : o.isRecv = false) : ∃ v, o = .send v := by
  cases o with
  | recv => simp [Op.isRecv] at h
  | send v => exact ⟨v, rfl⟩

theorem Op.isSend_false (o : Op) (h : o.isSend = false) : o = .recv := by
  cases o with
  | recv => rfl
  | send v => simp [Op.isSend] at h

structure Inv (s : St) : Prop where
  -- lock discipline
  cs_lock : ∀ f, (s.pc f).inCS = true → s.lock = some f
  handoff_free : ∀ g, s.handoffBy = some g → s.lock = none
  -- what the lock holder knows
  gotHigh_eq : ∀ f o h, s.pc f = .gotHigh o h → h = s.high
  gotLow_eq : ∀ f o h l, s.pc f = .gotLow o h l → h = s.high ∧ l = s.low
  sWrote_eq : ∀ f v h, s.pc f = .sWrote v h → h = s.high ∧ s.high - s.low < s.cap
  rRead_eq : ∀ f l m, s.pc f = .rRead l m → l = s.low ∧ s.high > s.low
  rCleared_eq : ∀ f l m, s.pc f = .rCleared l m → l = s.low ∧ s.high > s.low
  wait_recv : ∀ f, (s.pc f).waitOp = some .recv → s.high ≤ s.low
  wait_send : ∀ f v, (s.pc f).waitOp = some (.send v) → ¬ (s.high - s.low < s.cap)
  wGot_eq : ∀ f o w, s.pc f = .wGot o w → w = s.waiters
  wLinked_eq : ∀ f o, s.pc f = .wLinked o → s.scr f = s.waiters
  woken_asleep : ∀ f, s.woken f = true → ∃ o, s.pc f = .wAsleep o
  -- who ever blocked
  ever_recv1 : ∀ f, (s.pc f).waitOp = some .recv → s.everR = true
  ever_recv2 : ∀ f, s.pc f = .wAsleep .recv → s.everR = true
  ever_send1 : ∀ f v, (s.pc f).waitOp = some (.send v) → s.everS = true
  ever_send2 : ∀ f v, s.pc f = .wAsleep (.send v) → s.everS = true
  -- the waiter list
  waiters_eq : s.waiters = headW s.wl
  chain : ChainW s.scr s.wl
  wl_nodup : s.wl.Nodup
  wl_nz : 0 ∉ s.wl
  wl_listed : ∀ f, f ∈ s.wl → (∃ o, (s.pc f).listedOp = some o) ∧ s.woken f = false
  listed_wl1 : ∀ f o, s.pc f = .wListed o → f ∈ s.wl
  listed_wl2 : ∀ f o, s.pc f = .wPending o → f ∈ s.wl
  kGot_head : ∀ g res w, s.pc g = .kGot res w → ∃ rest, s.wl = w :: rest
  kNext_head : ∀ g res w x, s.pc g = .kNext res w x → ∃ rest, s.wl = w :: rest ∧ x = headW rest
  waking_of : ∀ g w, (s.pc g).wakingOf = some w → s.waking = some w
  waking_lock : ∀ w, s.waking = some w →
    (∃ g, s.lock = some g ∧ (s.pc g).wakingOf = some w) ∧ w ∉ s.wl ∧ s.woken w = false ∧
    ∃ o, s.pc w = .wAsleep o
  asleep_wl : ∀ f o, s.pc f = .wAsleep o → s.woken f = false → f ∈ s.wl ∨ s.waking = some f
  fibers_all : ∀ f, s.pc f ≠ .idle → f ∈ s.fibers
  nz : ∀ f, s.pc f ≠ .idle → f ≠ 0
  -- somebody is active (homogeneous waiter list)
  actR : s.everS = false → s.wl ≠ [] → s.high > s.low → ∃ g, (s.pc g).witR (s.woken g) = true
  actS : s.everR = false → s.wl ≠ [] → s.high - s.low < s.cap → ∃ g, (s.pc g).witS (s.woken g) = true

theorem not_free {l : Option Nat} {a : Nat} (h : l = some a) {Q : Prop} : l = none → Q :=
  fun h' => absurd (h.symm.trans h') nofun

theorem only_holder {l : Option Nat} {a : Nat} (h : l = some a) {Q : Nat → Prop} :
    ∀ g, g ≠ a → l = some g → Q g :=
  fun _ hg h' => absurd (Option.some.inj (h.symm.trans h')).symm hg

/-- a waiter list: `hd` is its head word, the `scratch` links spell it out, no fiber twice, no NULL -/
structure ListOk (scr : Nat → Nat) (hd : Nat) (l : List Nat) : Prop where
  head : hd = headW l
  chain : ChainW scr l
  nodup : l.Nodup
  nz : 0 ∉ l

theorem ListOk.upd_scr {scr : Nat → Nat} {hd : Nat} {l : List Nat} (h : ListOk scr hd l) {n : Nat}
    (hn : n ∉ l) (v : Nat) : ListOk (upd scr n v) hd l :=
  ⟨h.head, chainW_upd_of_not_mem scr n v l hn h.chain, h.nodup, h.nz⟩

theorem ListOk.push {scr : Nat → Nat} {hd : Nat} {l : List Nat} (h : ListOk scr hd l) {f : Nat}
    (hs : scr f = hd) (hn : f ∉ l) (h0 : f ≠ 0) : ListOk scr f (f :: l) :=
  ⟨rfl, ⟨hs.trans h.head, h.chain⟩, List.nodup_cons.2 ⟨hn, h.nodup⟩,
    fun hm => (List.mem_cons.1 hm).elim (fun e => h0 e.symm) h.nz⟩

theorem ListOk.pop {scr : Nat → Nat} {hd g : Nat} {rest : List Nat} (h : ListOk scr hd (g :: rest)) :
    ListOk scr (headW rest) rest ∧ scr g = headW rest ∧ g ∉ rest :=
  ⟨⟨rfl, h.chain.2, (List.nodup_cons.1 h.nodup).2, fun hm => h.nz (List.mem_cons_of_mem _ hm)⟩,
    h.chain.1, (List.nodup_cons.1 h.nodup).1⟩

theorem ListOk.eq_nil {scr : Nat → Nat} {hd : Nat} {l : List Nat} (h : ListOk scr hd l) (h0 : hd = 0) :
    l = [] := by
  cases l with
  | nil => rfl
  | cons a r => exact absurd (by rw [← h0, h.head]; exact List.mem_cons_self) h.nz

theorem ListOk.eq_cons {scr : Nat → Nat} {hd : Nat} {l : List Nat} (h : ListOk scr hd l) (h0 : hd ≠ 0) :
    ∃ rest, l = hd :: rest := by
  rw [h.head] at h0 ⊢; exact headW_cons l h0

theorem mem_drop_one {l rest : List Nat} {g : Nat} (h : l = g :: rest) {x : Nat} (e : x ≠ g) :
    x ∈ l.drop 1 ↔ x ∈ l := by
  rw [h]; exact (List.mem_cons.trans (or_iff_right e)).symm

theorem some_iff_of_none {o : Option Nat} (h : o = none) {g x : Nat} (e : x ≠ g) :
    some g = some x ↔ o = some x :=
  ⟨fun h' => absurd (Option.some.inj h').symm e, fun h' => absurd (h.symm.trans h') nofun⟩

/-- why an operation has to block -/
def St.blocked (s : St) : Op → Prop
  | .recv => s.high ≤ s.low
  | .send _ => ¬ (s.high - s.low < s.cap)

theorem quiescent_iff (s : St) : quiescent s = true ↔
    (∀ f, f ∈ s.fibers → s.pc f = .idle ∨ sleeping s f = true) ∧ s.lock = none ∧ s.handoffBy = none := by
  simp [quiescent, and_assoc]

theorem sleeping_iff (s : St) (f : Nat) : sleeping s f = true ↔ (∃ o, s.pc f = .wAsleep o) ∧ s.woken f = false := by
  cases hp : s.pc f <;> simp [sleeping, hp, Pc.asleepOp]

structure LInv (s : St) : Prop where
  cs_lock : ∀ f, (s.pc f).inCS = true → s.lock = some f
  handoff_free : ∀ g, s.handoffBy = some g → s.lock = none
  gotHigh_eq : ∀ f o h, s.pc f = .gotHigh o h → h = s.high
  gotLow_eq : ∀ f o h l, s.pc f = .gotLow o h l → h = s.high ∧ l = s.low
  sWrote_eq : ∀ f v h, s.pc f = .sWrote v h → h = s.high ∧ s.high - s.low < s.cap
  rRead_eq : ∀ f l m, s.pc f = .rRead l m → l = s.low ∧ s.high > s.low
  rCleared_eq : ∀ f l m, s.pc f = .rCleared l m → l = s.low ∧ s.high > s.low

theorem cs_unique {s : St} (hi : LInv s) {f g : Nat} (hf : (s.pc f).inCS = true) (hg : (s.pc g).inCS = true) :
    f = g :=
  Option.some.inj ((hi.cs_lock f hf).symm.trans (hi.cs_lock g hg))

theorem Inv.toLInv {s : St} (hi : Inv s) : LInv s :=
  ⟨hi.cs_lock, hi.handoff_free, hi.gotHigh_eq, hi.gotLow_eq, hi.sWrote_eq, hi.rRead_eq, hi.rCleared_eq⟩

end LibfiberVerif.MultiChan
