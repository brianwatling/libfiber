/-
  Proof/ChanBWake.lean — "a receiver blocked on an empty bounded channel is always resumed by a
  later send".  The sender claims a slot, writes the message and only then raises; the receiver
  reads `high`, `low` and the slot, and sleeps only through fiber_signal_wait, whose CAS fails
  if a raise came in meanwhile.  Property C11.
-/
import LibfiberVerif.Proof.ChanBounded

namespace LibfiberVerif.Chan

open Signal (PPc)

/-- g has claimed a slot and not yet exchanged RAISED into the signal word -/
def Pc.isInflightB : Pc → Bool
  | .sClaimed _ _ => true | .sPublished _ => true
  | .idle => false | .sTop _ => false | .sLdLow _ _ => false | .sLdHigh _ _ _ => false | .sRdBuf _ _ _ _ => false
  | .qCalled _ => false | .qData _ => false | .qCleared _ => false | .qLdTail _ _ => false
  | .qSwapped _ _ _ => false | .sRaising _ => false | .sRaised _ _ => false | .sDone => false
  | .rTop => false | .rLdHigh _ => false | .rLdLow _ _ => false | .rRdBuf _ _ _ => false | .rCleared _ _ => false
  | .rGotHead _ => false | .rGotNext _ _ => false | .rMoved _ _ => false | .rGotData _ _ => false
  | .rWrote _ _ => false | .rEmpty => false | .rWaiting => false | .rDone _ => false | .tEmpty => false

def binFlight (s : St) (g : Nat) : Prop := (s.pc g).isInflightB = true

/-- pcs at which the receiver holds a copy of `high` it has not acted on yet -/
def Pc.holdsHigh : Pc → Bool
  | .rLdHigh _ => true
  | .rLdLow _ _ => true
  | _ => false

/-- a fiber at pc `c` holds a copy of `high` that `hi` has overtaken -/
def Stale (hi : Nat) (c : Pc) : Prop := ∃ h, (c = .rLdHigh h ∨ ∃ l, c = .rLdLow h l) ∧ h < hi

theorem Stale.holdsHigh {hi : Nat} {c : Pc} (h : Stale hi c) : c.holdsHigh = true := by
  obtain ⟨_, h | ⟨_, h⟩, _⟩ := h <;> rw [h] <;> rfl

theorem Stale.not_of {hi : Nat} {c : Pc} (hc : c.holdsHigh = false) : ¬ Stale hi c :=
  fun h => by rw [h.holdsHigh] at hc; cases hc

theorem Pc.isRecv_of_holdsHigh {c : Pc} (h : c.holdsHigh = true) : c.isRecv = true := by
  cases c <;> first | rfl | cases h

theorem Pc.not_uses_of_holdsHigh {c : Pc} (h : c.holdsHigh = true) : c.usesSignal = false := by
  cases c <;> first | rfl | cases h

theorem holdsHigh_emptyPc (s : St) : (emptyPc s).holdsHigh = false := by
  unfold emptyPc; split
  · rfl
  · split <;> rfl

/-- coverage for the bounded channel: the message with sequence number `low` is in its slot, no
    sender is between its claim and its exchange -/
abbrev BCov : St → Prop := GCov bavail Pc.isInflightB Stale

theorem bcov_init (spin : Bool) (cap : Nat) : BCov (initM spin .bounded cap) := by
  refine fun _ => ⟨?_, fun h => absurd rfl h⟩
  rintro w ⟨_, h | ⟨_, h⟩, _⟩ <;> cases h

theorem bcov_step {s s' : St} {e : Ev} (hk : s.kind = .bounded) (hcap : 0 < s.cap) (hi : Ctl s) (hb : BInv s)
    (hc : BCov s) (hsp : s.spin = false) (hs : step s e = some s') : BCov s' := by
  have hsr : ∀ hi c, Stale hi c → c.isRecv = true := fun _ _ h => Pc.isRecv_of_holdsHigh h.holdsHigh
  rcases step_cases hs with ⟨pe, rfl⟩ | h | ⟨_, h⟩ | ⟨hq, _⟩
  · exact GCov.proto hi hc (fun _ _ _ h => h) rfl rfl (fun _ => rfl) hsr
      (fun _ _ h => Pc.not_uses_of_holdsHigh h.holdsHigh) (fun _ => Stale.not_of rfl) hs
  · cases h with
    | callSend hpc hg =>
      exact hc.move hpc rfl rfl rfl id rfl (by rw [if_pos hk]; rfl) (by rw [if_pos hk]; exact Stale.not_of rfl)
    | _ => have hpc := ‹s.pc _ = _›; exact hc.move hpc rfl rfl rfl id rfl rfl (Stale.not_of rfl)
  · cases h with
    | @ldLowR f h hpc =>
      -- the copy of `high` is carried along
      refine hc.mono id (fun _ => cls_move hpc rfl rfl) (fun _ => committed_move (by rfl) (by rfl) (by rfl))
        (fun w hs => ?_) rfl
      by_cases hwf : w = f
      · subst hwf
        obtain ⟨h', h1 | ⟨l, h1⟩, h2⟩ := hs <;> (simp only [upd_same] at h1; cases h1)
        exact ⟨h, .inl hpc, h2⟩
      · have hs : Stale s.high (upd s.pc f _ w) := hs
        rwa [upd_other _ _ _ _ hwf] at hs
    | @ldHighR f hpc =>
      -- a fresh copy of `high` is not stale
      refine hc.mono id (fun _ => cls_move hpc rfl rfl) (fun _ => committed_move (by rfl) (by rfl) (by rfl))
        (fun _ => stp_move (by rfl) (by rfl) ?_) rfl
      rintro ⟨h', h1 | ⟨l, h1⟩, h2⟩ <;> cases h1
      exact absurd h2 (Nat.lt_irrefl _)
    | @rBufEmpty f h l hpc hx =>
      -- the receiver found nothing although the slot at `low` is written: its copy of `high` was stale
      obtain ⟨hh, hl⟩ := hb.rLdLow_eq f h l hpc
      intro hf
      obtain ⟨h1, h2⟩ := hc (fun g hg => hf g (cls_move hpc rfl rfl hg))
      refine ⟨fun w hs => h1 w (stp_move (by rfl) (by rfl) (Stale.not_of (holdsHigh_emptyPc s)) hs),
        fun ha => ⟨fun w _ => h1 f ?_, (h2 ha).2⟩⟩
      rw [hpc]; refine ⟨h, .inr ⟨l, rfl⟩, ?_⟩
      have hlt := bavail_lt hb hcap ha
      have ha' : s.buf (s.low % s.cap) ≠ 0 := ha
      rw [hl] at hx
      have : ¬ h > s.low := fun hgt => hx ⟨ha', hgt⟩
      omega
    | @casOk f v l x hpc _ _ =>
      exact GCov.inflight (g := f) (by
        show (upd s.pc f (.sClaimed v s.high) f).isInflightB = true; rw [upd_same]; rfl)
    | @wBufS f v h hpc =>
      exact GCov.inflight (g := f) (by
        show (upd s.pc f (pubPc s v) f).isInflightB = true; rw [upd_same, pubPc, hsp]; rfl)
    | @wBufR f h l m hpc =>
      exact GCov.busy (hi.step hs) hsr (f := f)
        (by show (upd s.pc f (.rCleared l m) f).isRecv = true; rw [upd_same]; rfl)
        (by show (upd s.pc f (.rCleared l m) f).usesSignal = false; rw [upd_same]; rfl)
        (by show ¬ Stale _ (upd s.pc f (.rCleared l m) f); rw [upd_same]; exact Stale.not_of rfl)
    | @stLow f l m hpc =>
      exact GCov.busy (hi.step hs) hsr (f := f)
        (by show (upd s.pc f (.rDone m) f).isRecv = true; rw [upd_same]; rfl)
        (by show (upd s.pc f (.rDone m) f).usesSignal = false; rw [upd_same]; rfl)
        (by show ¬ Stale _ (upd s.pc f (.rDone m) f); rw [upd_same]; exact Stale.not_of rfl)
    | _ => have hpc := ‹s.pc _ = _›; exact hc.move hpc rfl rfl rfl id rfl rfl (Stale.not_of rfl)
  · exact absurd hk hq

theorem bcov_of_run {spin : Bool} {cap : Nat} (hcap : 0 < cap) {es : List Ev} {s : St}
    (h : (sysM spin .bounded cap).run es = some s) : s.spin = false → BCov s :=
  Sys.inv_of_run_on _ (fun s => s.spin = false → BCov s) (fun _ => bcov_init spin cap)
    (fun _ s e s' hr hc hs hsp' =>
      have hsp := (params_step s s' e hs).2.2.symm.trans hsp'
      bcov_step (params_of_run hr).1 ((params_of_run hr).2.1 ▸ hcap) (ctl_of_run hr) (binv_of_run hr) (hc hsp) hsp hs) h

theorem not_stranded_of_bcov {s : St} (hi : Ctl s) (hc : s.spin = false → BCov s) (ha : bavail s) (w : Nat)
    (hidle : ∀ g, g ≠ w → s.pc g = .idle) :
    ¬ asleep s w ∧ (committed s w → s.p.word = .raised) :=
  hi.not_stranded hc ha w hidle rfl fun c _ hc hl => by
    cases c <;> first | exact ⟨hl, Pc.noConfusion, Pc.noConfusion⟩ | cases hc

end LibfiberVerif.Chan
