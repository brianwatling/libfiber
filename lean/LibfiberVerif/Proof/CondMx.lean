/-
  What the condition-variable proofs (C05) read off the model.  First what they need from the
  mutex model (`Mutex.step`), proved here from that model alone: frame lemmas and the small
  invariant `MI`.  Then the accepted steps of the composed model as a relation `Step`, by what
  they do to the state (`step_Step`: every accepted step is one of them); the invariants
  (Proof/Cond.lean) and the trace lemma (Proof/CondTrace.lean) are proved by cases on `Step`.
-/
import LibfiberVerif.Model.Cond
import LibfiberVerif.Proof.MutexStep

namespace LibfiberVerif.Cond

theorem mx_pc_other {x x' : Mutex.St} {e : Mutex.Ev} (h : Mutex.step x e = some x')
    {b : Nat} (hb : b ≠ Mutex.actor e) : x'.pc b = x.pc b :=
  (Mutex.Step.of_step h).pc_other hb

/-- `Mutex.Pc.isHold`, `Mutex.Pc.isWake` of Proof/MutexStep.lean, under the names the C05 statements use -/
def isHolder : Mutex.Pc → Bool
  | .acquired | .held | .tryDone true | .unlockCalled => true
  | _ => false

def isWaker : Mutex.Pc → Bool
  | .wakeLoop | .popGotHead _ | .popGotNext _ _ => true
  | _ => false

/-- the part of the mutex invariant C05 relies on -/
structure MI (x : Mutex.St) : Prop where
  le1 : x.counter ≤ 1
  own_le : x.owner ≠ none → x.counter ≤ 0
  holder : ∀ f, isHolder (x.pc f) = true → x.owner = some f
  waker : ∀ f, isWaker (x.pc f) = true → x.owner = none ∧ x.counter ≤ 0
  waker1 : ∀ f g, isWaker (x.pc f) = true → isWaker (x.pc g) = true → f = g

theorem MI.init (stub : Nat) (nodeOf : Nat → Nat) : MI (Mutex.init stub nodeOf) := by
  constructor <;> simp [Mutex.init, isHolder, isWaker]

theorem MI.sync {s : St} {x : Mutex.St} (h : MI x) : MI (syncIn s x) := by
  obtain ⟨a, b, c, d, e⟩ := h
  exact ⟨a, b, c, d, e⟩

theorem MI.frame {x x' : Mutex.St} (hi : MI x) (hc : x'.counter = x.counter)
    (ho : x'.owner = x.owner) (hh : ∀ f, isHolder (x'.pc f) = isHolder (x.pc f))
    (hw : ∀ f, isWaker (x'.pc f) = isWaker (x.pc f)) : MI x' := by
  obtain ⟨a1, a2, a3, a4, a5⟩ := hi
  constructor <;> simp only [hc, ho, hh, hw] <;> assumption

theorem MI.move {x : Mutex.St} (hi : MI x) {x' : Mutex.St} {a : Nat} {p : Mutex.Pc}
    (hpc : x'.pc = upd x.pc a p) (hc : x'.counter = x.counter) (ho : x'.owner = x.owner)
    (hh : isHolder p = isHolder (x.pc a)) (hw : isWaker p = isWaker (x.pc a)) : MI x' := by
  apply hi.frame hc ho <;> intro f <;> simp only [hpc, upd] <;> split <;> simp_all

theorem MI.step {x x' : Mutex.St} {e : Mutex.Ev} (hi : MI x) (h : Mutex.step x e = some x') :
    MI x' := by
  cases Mutex.Step.of_step h
  all_goals first
    | (refine hi.move (hpc := rfl) (hc := rfl) (ho := rfl) ?_ ?_ <;> simp_all [isHolder, isWaker]; done)
    | exact hi.frame rfl rfl (fun _ => rfl) (fun _ => rfl)
    | skip
  all_goals
    obtain ⟨a1, a2, a3, a4, a5⟩ := hi
    constructor <;> (intros; simp only [upd] at *; grind [isHolder, isWaker])

theorem mx_held_new {x x' : Mutex.St} {e : Mutex.Ev} (h : Mutex.step x e = some x') {a : Nat}
    (ha : x'.pc a = .held) : x.pc a = .held ∨ e = .retLock a ∨ e = .retTry a true := by
  by_cases hb : a = Mutex.actor e
  · cases Mutex.Step.of_step h <;> subst hb <;> simp_all [upd]
  · rw [mx_pc_other h hb] at ha; exact Or.inl ha

theorem mx_retLock {x x' : Mutex.St} {a : Nat} (h : Mutex.step x (.retLock a) = some x') :
    x'.pc a = .held ∧ (x.pc a = .acquired ∨ x.pc a = .parked ∧ x.owner = some a) ∧
      x'.owner = x.owner := by
  cases Mutex.Step.of_step h <;> simp_all [upd]

theorem A_inj {f g : Nat} (h : A f = A g) : f = g := by simp only [A] at h; omega
theorem A_ne_D (f w : Nat) : A f ≠ D w := by simp only [A, D]; omega
theorem D_inj {f g : Nat} (h : D f = D g) : f = g := by simp only [D] at h; omega

theorem stepI_shape {s s' : St} {e : Mutex.Ev} (h : stepI s e = some s') :
    ∃ x, Mutex.step (syncIn s s.i) e = some x ∧
      s' = { s with i := x, fnode := x.fnode, ndata := x.ndata } := by
  simp only [stepI] at h; split at h <;> simp at h
  exact ⟨_, by assumption, h.symm⟩

theorem stepM_shape {s s' : St} {e : Mutex.Ev} (h : stepM s e = some s') :
    ∃ x, Mutex.step (syncIn s s.m) e = some x ∧
      s' = { s with m := x, fnode := x.fnode, ndata := x.ndata } := by
  simp only [stepM] at h; split at h <;> simp at h
  exact ⟨_, by assumption, h.symm⟩

theorem toUnlockI_shape {s s' : St} {f : Nat} {bc : Bool} (h : toUnlockI s f bc = some s') :
    ∃ x, Mutex.step (syncIn s s.i) (.callUnlock (A f)) = some x ∧
      s' = { s with i := x, fnode := x.fnode, ndata := x.ndata, pc := upd s.pc f (.unlockI bc) } := by
  simp only [toUnlockI, Option.map_eq_some_iff] at h
  obtain ⟨s1, h1, rfl⟩ := h
  obtain ⟨x, hx, rfl⟩ := stepI_shape h1
  exact ⟨x, hx, rfl⟩

theorem retireD_shape {s s' : St} {g w : Nat} (h : retireD s g w = some s') :
    (∃ x o, Mutex.step (syncIn s s.m) (.retUnlock (D w)) = some x ∧
        s' = { s with m := x, fnode := x.fnode, ndata := x.ndata, onBehalf := o }) ∨
    (s.m.pc (D w) ≠ .unlockDone ∧ ∃ o, s' = { s with onBehalf := o }) := by
  simp only [retireD] at h
  split at h
  · simp only [Option.map_eq_some_iff] at h
    obtain ⟨s1, h1, rfl⟩ := h
    obtain ⟨x, hx, rfl⟩ := stepM_shape h1
    exact Or.inl ⟨x, _, hx, rfl⟩
  · next hne => cases h; exact Or.inr ⟨hne, _, rfl⟩

/-- a pop of `cond->waiters` (`head := next`) by whoever -/
def isPopEv : Ev → Bool
  | .wHead .C _ _ => true
  | _ => false

theorem isPopEv_of_tag {e : Ev} {q : Q} (hq : q ≠ .C) (h : tagOf e = none ∨ tagOf e = some q) :
    isPopEv e = false := by
  cases e <;> first | rfl | skip
  next q' g n => cases q' <;> first | rfl | simp_all [tagOf]

/-- the fiber must be holding I: it has examined the waiter count and not yet finished -/
def needsI : Pc → Bool
  | .sigMiss | .wake _ _ _ => true
  | _ => false

/-- inside a trypop+wake iteration before the pop took effect -/
def prePop : WPc → Bool
  | .top | .gotHead _ | .gotNext _ _ => true
  | _ => false

/-- between `call wait` and the link -/
def inWait : Pc → Bool
  | .waitCalled | .waitCounted | .waitSaving | .waitGotNode _ | .waitWroteData _
  | .waitClearedNode _ | .pushCleared _ | .pushXchgd _ _ _ => true
  | _ => false

/-- Steps of the two mutexes taken by fiber `f` for itself (`A f`), and writes to node / fiber
    cells.  I is stepped only outside the section that needs I, M only outside the part of `wait`
    in which the waiter must keep M. -/
inductive Mx (f : Nat) : St → St → Prop
  | mem (s : St) (fn nd : Nat → Nat) : Mx f s { s with fnode := fn, ndata := nd }
  | m {s : St} {me : Mutex.Ev} {x : Mutex.St} (hw : inWait (s.pc f) = false) (ha : Mutex.actor me = A f)
      (hx : Mutex.step (syncIn s s.m) me = some x) :
      Mx f s { s with m := x, fnode := x.fnode, ndata := x.ndata }
  | i {s : St} {me : Mutex.Ev} {x : Mutex.St} (hn : needsI (s.pc f) = false) (ha : Mutex.actor me = A f)
      (hx : Mutex.step (syncIn s s.i) me = some x) :
      Mx f s { s with i := x, fnode := x.fnode, ndata := x.ndata }
  | comp {s s1 s2 : St} : Mx f s s1 → Mx f s1 s2 → Mx f s s2

/-- Moves of a fiber's pc and history counters that touch none of the shared counters: within
    one phase of `wait` or of the wake loop, and the calls and returns. -/
inductive Trans (e : Ev) (f : Nat) : Pc → G → Pc → G → Prop
  | saving {g : G} : Trans e f .waitCounted g .waitSaving g
  | gotNode {g : G} (n : Nat) : Trans e f .waitSaving g (.waitGotNode n) g
  | wroteData {g : G} (n : Nat) : Trans e f (.waitGotNode n) g (.waitWroteData n) g
  | clearedNode {g : G} (n : Nat) : Trans e f (.waitWroteData n) g (.waitClearedNode n) g
  | pushCleared {g : G} (n : Nat) : Trans e f (.waitClearedNode n) g (.pushCleared n) g
  /-- within an iteration, or on to the next one (`k` pops are still owed) -/
  | wake {g : G} (bc : Bool) (k : Nat) (w w' : WPc) (h : prePop w' = true → prePop w = true ∨ k ≠ 0) :
      Trans e f (.wake bc k w) g (.wake bc k w') g
  /-- the last wake-up of a call is complete: start releasing I -/
  | fin {g : G} (bc : Bool) (w : WPc) : Trans e f (.wake bc 0 w) g (.unlockI bc) g
  | callWait {g : G} : Trans e f .idle g .waitCalled g
  | retWait {g : G} : Trans e f .relock g .idle { g with nR := g.nR + 1 }
  | callSig {g : G} (hh bc : Bool) (he : e = .callSignal f hh ∨ e = .callBroadcast f hh) :
      Trans e f .idle g (.lockI bc) { g with holds := hh, claimed := 0, popped := 0 }
  | retSig {g : G} (bc : Bool) : Trans e f (.unlockI bc) g .idle g
  /-- a resumed waiter enters `fiber_mutex_lock(M)` -/
  | relock {g : G} : Trans e f .woken g .relock g

/-- What an accepted step does.  `x`, `y` are the states of the mutex sub-model after its
    step(s); every event but the pop of `cond->waiters` leaves the signaller counters alone. -/
inductive Step (s : St) : Ev → St → Prop
  /-- mutex traffic of a fiber acting for itself -/
  | mx {e : Ev} {s' : St} (f : Nat) (hp : isPopEv e = false) (hmx : Mx f s s') : Step s e s'
  /-- a move of `f` alone, with the mutex steps it takes for itself; a waiter keeps M -/
  | own {e : Ev} {s' : St} (f : Nat) (p p' : Pc) (g' : G) (gh' : Nat → G) (hpc : s.pc f = p)
      (ht : Trans e f p (s.gh f) p' g') (hgh : gh' = upd s.gh f g')
      (hw : inWait p' = true → inWait p = true ∨ s.m.pc (A f) = .held) (hp : isPopEv e = false)
      (hmx : Mx f { s with pc := upd s.pc f p', gh := gh' } s') : Step s e s'
  /-- the wake loop of a deferred unlock, run by `g` for the agent `D w` -/
  | mxD {e : Ev} {s' : St} (g w : Nat) (me : Mutex.Ev) (x : Mutex.St) (hme : toMx (D w) e = some me)
      (hp : isPopEv e = false) (hx : Mutex.step (syncIn s s.m) me = some x)
      (hr : retireD { s with m := x, fnode := x.fnode, ndata := x.ndata } g w = some s') :
      Step s e s'
  /-- `xchg(&C.tail)` -/
  | enq (f n p : Nat) (hpc : s.pc f = .pushCleared n) :
      Step s (.xchgTail .C f p n)
        { s with order := s.order ++ [(n, f)], pc := upd s.pc f (.pushXchgd n p s.order.length),
                 gh := upd s.gh f { s.gh f with nE := (s.gh f).nE + 1 } }
  /-- the link: the waiter's last step before it switches away.  M passes from `A f` to `D f`. -/
  | link (f n p i : Nat) (hpc : s.pc f = .pushXchgd n p i)
      (hh : s.m.pc (A f) = .held) (ho : s.m.owner = some (A f)) (hd : s.m.pc (D f) = .idle) :
      Step s (.wNext f p n)
        { s with linked := upd s.linked i true, pc := upd s.pc f .parked,
                 gh := upd s.gh f { s.gh f with nL := (s.gh f).nL + 1 },
                 m := { s.m with pc := upd (upd s.m.pc (A f) .idle) (D f) .held, owner := some (D f) } }
  | pop (f x bc k h n g) (hpc : s.pc f = .wake bc k (.gotNext h x)) (hord : s.order[s.hd]? = some (n, g))
      (hg : s.pc g = .parked) (hne : g ≠ f) :
      Step s (.wHead .C f x)
        { s with headNode := x, hd := s.hd + 1, owed := s.owed - 1,
                 gh := upd (upd s.gh g { s.gh g with nP := (s.gh g).nP + 1 }) f
                         { s.gh f with popped := (s.gh f).popped + 1 },
                 pc := upd (upd s.pc g .woken) f (.wake bc (k - 1) (.moved h x)) }
  /-- registration; `manager[t]->mutex_to_unlock = M` -/
  | register (t f : Nat) (hpc : s.pc f = .waitCalled) :
      Step s (.faddCount t f s.count)
        { s with count := s.count + 1, nreg := s.nreg + 1,
                 gh := upd s.gh f { s.gh f with nC := (s.gh f).nC + 1 },
                 deferred := upd s.deferred t (some f), pc := upd s.pc f .waitCounted }
  /-- a signal that found nobody puts the count back and starts releasing I -/
  | addBack (t f : Nat) (x : Mutex.St) (hpc : s.pc f = .sigMiss)
      (hx : Mutex.step (syncIn s s.i) (.callUnlock (A f)) = some x) :
      Step s (.faddCount t f s.count)
        { s with count := s.count + 1, miss := 0, i := x, fnode := x.fnode, ndata := x.ndata,
                 pc := upd s.pc f (.unlockI false) }
  /-- granted I, the signaller (`n = 1`) or broadcaster (`n` = the count it saw) claims `n ≥ 1`
      waiters -/
  | claim {e : Ev} (f : Nat) (bc : Bool) (n : Nat) (c : Int) (x : Mutex.St) (hpc : s.pc f = .lockI bc)
      (he : e = .fsubCount f s.count ∨ e = .xchgCount f s.count)
      (hn : 1 ≤ n) (hb : bc = false → n = 1) (hc : c = s.count - n) (hc' : 0 ≤ c)
      (hx : Mutex.step (syncIn s s.i) (.retLock (A f)) = some x) :
      Step s e
        { s with i := x, fnode := x.fnode, ndata := x.ndata, count := c, nclaim := s.nclaim + n,
                 owed := n, gh := upd s.gh f { s.gh f with claimed := n },
                 pc := upd s.pc f (.wake bc n .top) }
  /-- granted I, the signaller sees no waiter -/
  | sigMiss (f : Nat) (x : Mutex.St) (hpc : s.pc f = .lockI false) (hc : s.count < 1)
      (hx : Mutex.step (syncIn s s.i) (.retLock (A f)) = some x) :
      Step s (.fsubCount f s.count)
        { s with i := x, fnode := x.fnode, ndata := x.ndata, count := s.count - 1, miss := 1,
                 pc := upd s.pc f .sigMiss }
  /-- granted I, the broadcaster sees no waiter and starts releasing I -/
  | bcNone (f : Nat) (x y : Mutex.St) (hpc : s.pc f = .lockI true) (hc : s.count = 0)
      (hx : Mutex.step (syncIn s s.i) (.retLock (A f)) = some x)
      (hy : Mutex.step (syncIn { s with fnode := x.fnode, ndata := x.ndata } x) (.callUnlock (A f)) = some y) :
      Step s (.xchgCount f s.count)
        { s with i := y, fnode := y.fnode, ndata := y.ndata, count := 0, owed := 0,
                 gh := upd s.gh f { s.gh f with claimed := 0 }, pc := upd s.pc f (.unlockI true) }
  /-- `fetch_add(M.counter)` of the deferred unlock for the waiter `w` registered on kernel
      thread `t`, run by `g` -/
  | deferred {s3 : St} (t g w : Nat) (old : Int) (x y : Mutex.St)
      (hw : s.deferred t = some w) (hh : s.m.pc (D w) = .held)
      (hx : Mutex.step (syncIn s s.m) (.callUnlock (D w)) = some x)
      (hy : Mutex.step (syncIn { s with fnode := x.fnode, ndata := x.ndata } x) (.fadd (D w) old) = some y)
      (hr : retireD { s with m := y, fnode := y.fnode, ndata := y.ndata } g w = some s3) :
      Step s (.fadd .M t g old)
        { s3 with deferred := upd s3.deferred t none,
                  gh := upd s3.gh w { s3.gh w with nU := (s3.gh w).nU + 1 } }

/-- the mutex sub-model events produced by `toMx` are accesses, never API returns -/
theorem toMx_props {a : Nat} {e : Ev} {me : Mutex.Ev} (h : toMx a e = some me) :
    Mutex.actor me = a ∧ (∀ b, me ≠ .retLock b) ∧ (∀ b r, me ≠ .retTry b r) := by
  cases e <;> simp [toMx] at h <;> subst h <;> simp [Mutex.actor]

theorem toMx_actor {a : Nat} {e : Ev} {me : Mutex.Ev} (h : toMx a e = some me) : Mutex.actor me = a :=
  (toMx_props h).1

theorem of_ite_some {α : Type} {c : Prop} [Decidable c] {o : Option α} {a : α}
    (h : (if c then o else none) = some a) : c ∧ o = some a := by
  by_cases hc : c
  · exact ⟨hc, by simpa [hc] using h⟩
  · simp [hc] at h

theorem Mx.ofM {s s' : St} {f : Nat} {me : Mutex.Ev} (hw : inWait (s.pc f) = false)
    (ha : Mutex.actor me = A f) (h : stepM s me = some s') : Mx f s s' := by
  obtain ⟨x, hx, rfl⟩ := stepM_shape h
  exact .m hw ha hx

/-- a move of `f` that involves neither mutex and is no move into `wait` -/
theorem Step.ofTrans {s : St} {e : Ev} {f : Nat} {p p' : Pc} {fn nd : Nat → Nat} (hpc : s.pc f = p)
    (ht : Trans e f p (s.gh f) p' (s.gh f)) (hw : inWait p' = true → inWait p = true)
    (hp : isPopEv e = false) :
    Step s e { s with pc := upd s.pc f p', fnode := fn, ndata := nd } :=
  .own f p p' _ _ hpc ht (upd_self _ _).symm (fun h => .inl (hw h)) hp (.mem _ fn nd)

theorem Step.ofWake {s : St} {e : Ev} {f : Nat} {bc : Bool} {k : Nat} {w w' : WPc} {fn nd : Nat → Nat}
    (hpc : s.pc f = .wake bc k w) (hw : prePop w' = true → prePop w = true ∨ k ≠ 0)
    (hp : isPopEv e = false) :
    Step s e { s with pc := upd s.pc f (.wake bc k w'), fnode := fn, ndata := nd } :=
  .ofTrans hpc (.wake bc k w w' hw) (by simp [inWait]) hp

/-- the end of a trypop+wake iteration -/
theorem Step.ofFinish {s s' : St} {e : Ev} {f : Nat} {bc : Bool} {k : Nat} {w : WPc}
    (hpc : s.pc f = .wake bc k w) (hp : isPopEv e = false) (h : finishOne s f bc k = some s') :
    Step s e s' := by
  simp only [finishOne] at h
  split at h
  · next hk =>
    subst hk
    simp only [toUnlockI, Option.map_eq_some_iff] at h
    obtain ⟨s1, h1, rfl⟩ := h
    obtain ⟨x, hx, rfl⟩ := stepI_shape h1
    exact .own f _ _ _ _ hpc (.fin bc w) (upd_self _ _).symm (by simp [inWait]) hp (.i (by simp [needsI]) rfl hx)
  · next hk => cases h; exact .ofWake hpc (fun _ => .inr hk) hp

theorem stepC_Step {s s' : St} {e : Ev} (h : stepC s (actorOf e) e = some s') : Step s e s' := by
  cases e <;> simp only [stepC, actorOf] at h <;> try cases h
  case wState f g v =>
    split at h
    · next hpc => obtain ⟨-, h⟩ := of_ite_some h; cases h; exact .ofTrans hpc .saving (fun _ => rfl) rfl
    · next bc k g' st hpc => exact .ofFinish hpc rfl (of_ite_some h).2
    · cases h
  case rState f g v =>
    split at h
    · next bc k h0 g' hpc =>
      obtain ⟨-, h⟩ := of_ite_some h
      split at h
      · cases h; exact .ofWake hpc (by simp [prePop]) rfl
      · exact .ofFinish hpc rfl h
    · cases h
  case rNode f g n =>
    split at h
    · next hpc => obtain ⟨-, h⟩ := of_ite_some h; cases h; exact .ofTrans hpc (.gotNode _) (fun _ => rfl) rfl
    · cases h
  case wNode f g n =>
    split at h
    · next m hpc =>
      obtain ⟨-, h⟩ := of_ite_some h; cases h; exact .ofTrans hpc (.clearedNode _) (fun _ => rfl) rfl
    · next bc k h0 g' hpc =>
      obtain ⟨-, h⟩ := of_ite_some h; cases h
      exact .ofWake hpc (by simp [prePop]) rfl
    · cases h
  case wData f n g =>
    split at h
    · next m hpc =>
      obtain ⟨⟨rfl, -⟩, h'⟩ := of_ite_some h; cases h'
      exact .ofTrans hpc (.wroteData _) (fun _ => rfl) rfl
    · next bc k h0 x0 g' hpc =>
      obtain ⟨-, h⟩ := of_ite_some h; cases h
      exact .ofWake hpc (by simp [prePop]) rfl
    · cases h
  case rData f n g =>
    split at h
    · next bc k h0 x0 hpc =>
      obtain ⟨-, h⟩ := of_ite_some h; cases h
      exact .ofWake hpc (by simp [prePop]) rfl
    · next bc k h0 g' hpc =>
      obtain ⟨-, h⟩ := of_ite_some h; cases h
      exact .ofWake hpc (by simp [prePop]) rfl
    · cases h
  case wNext f n x =>
    split at h
    · next m hpc =>
      obtain ⟨-, h⟩ := of_ite_some h; cases h; exact .ofTrans hpc (.pushCleared _) (fun _ => rfl) rfl
    · next m p i hpc =>
      obtain ⟨⟨rfl, rfl, hc⟩, h'⟩ := of_ite_some h; cases h'
      exact .link f _ _ i hpc hc.1 hc.2.1 hc.2.2
    · cases h
  case rNext f n x =>
    split at h
    · next bc k h0 hpc =>
      obtain ⟨-, h⟩ := of_ite_some h
      split at h <;> cases h <;> exact .ofWake hpc (by simp [prePop]) rfl
    · cases h
  case xchgTail q f o n =>
    split at h
    · next m hpc =>
      obtain ⟨⟨rfl, rfl, -⟩, h'⟩ := of_ite_some h; cases h'
      exact .enq f _ _ hpc
    · cases h
  case rHead q f n =>
    split at h
    · next bc k hpc =>
      obtain ⟨⟨rfl, -⟩, h'⟩ := of_ite_some h; cases h'
      exact .ofWake hpc (by simp [prePop]) rfl
    · cases h
  case wHead q f n =>
    split at h
    · next bc k h0 x0 hpc =>
      obtain ⟨⟨rfl, rfl⟩, h'⟩ := of_ite_some h
      split at h'
      · next n0 g hord =>
        obtain ⟨hg, h'⟩ := of_ite_some h'; cases h'
        exact .pop f _ bc k h0 n0 g hpc hord hg.1 hg.2
      · cases h'
    · cases h

theorem dispatch_Step {s s' : St} {e : Ev} (h : dispatch s e = some s') : Step s e s' := by
  simp only [dispatch] at h
  split at h
  · exact stepC_Step (of_ite_some h).2
  · next hc =>
    obtain ⟨ht, h⟩ := of_ite_some h
    simp only [Option.bind_eq_some_iff] at h
    obtain ⟨me, hme, h⟩ := h
    obtain ⟨x, hx, rfl⟩ := stepI_shape h
    refine .mx _ (isPopEv_of_tag (q := .I) (by decide) ht) (.i ?_ (toMx_actor hme) hx)
    simp only [ctxOf] at hc
    split at hc
    · cases hc
    · split at hc <;> simp_all [needsI]
  · next hc =>
    obtain ⟨ht, h⟩ := of_ite_some h
    simp only [Option.bind_eq_some_iff] at h
    obtain ⟨me, hme, h⟩ := h
    refine .mx _ (isPopEv_of_tag (q := .M) (by decide) ht) (.ofM ?_ (toMx_actor hme) h)
    simp only [ctxOf] at hc
    split at hc
    · cases hc
    · split at hc <;> simp_all [inWait]
  · next w hc =>
    obtain ⟨ht, h⟩ := of_ite_some h
    simp only [Option.bind_eq_some_iff] at h
    obtain ⟨s1, ⟨me, hme, h1⟩, h⟩ := h
    obtain ⟨x, hx, rfl⟩ := stepM_shape h1
    exact .mxD _ w me x hme (isPopEv_of_tag (q := .M) (by decide) ht) hx h
  · cases h

theorem callSig_Step {s s' : St} {e : Ev} {f : Nat} {hh bc : Bool}
    (he : e = .callSignal f hh ∨ e = .callBroadcast f hh) (h : callSig s f hh bc = some s') :
    Step s e s' := by
  obtain ⟨hc, h⟩ := of_ite_some h
  simp only [Option.map_eq_some_iff] at h
  obtain ⟨s1, h1, rfl⟩ := h
  obtain ⟨x, hx, rfl⟩ := stepI_shape h1
  exact .own f _ _ _ _ hc.1 (.callSig hh bc he) rfl (by simp [inWait]) (by rcases he with rfl | rfl <;> rfl)
    (.i (by simp [needsI]) rfl hx)

theorem retSig_Step {s s' : St} {e : Ev} {f : Nat} {bc : Bool} (hp : isPopEv e = false)
    (h : retSig s f bc = some s') : Step s e s' := by
  obtain ⟨hc, h⟩ := of_ite_some h
  simp only [Option.map_eq_some_iff] at h
  obtain ⟨s1, h1, rfl⟩ := h
  obtain ⟨x, hx, rfl⟩ := stepI_shape h1
  exact .own f _ _ _ _ hc.1 (.retSig bc) (upd_self _ _).symm (by simp [inWait]) hp
    (.i (by simp [needsI]) rfl hx)

/-- an API note about M, or a counter access of M by a fiber outside the cond operations -/
theorem Step.ofNote {s s' : St} {e : Ev} {f : Nat} {me : Mutex.Ev} (hpc : s.pc f = .idle)
    (ha : Mutex.actor me = A f) (hp : isPopEv e = false) (h : stepM s me = some s') : Step s e s' :=
  .mx f hp (.ofM (by rw [hpc]; rfl) ha h)

theorem step_Step {s s' : St} {e : Ev} (h : step s e = some s') : Step s e s' := by
  cases e with
  | callLock f => simp only [step] at h; split at h; exact .ofNote (‹_ ∧ _›).1 rfl rfl h; cases h
  | retLock f => simp only [step] at h; split at h; exact .ofNote (‹_ ∧ _›).1 rfl rfl h; cases h
  | callUnlock f => simp only [step] at h; split at h; exact .ofNote (‹_ ∧ _›).1 rfl rfl h; cases h
  | retUnlock f => simp only [step] at h; split at h; exact .ofNote (‹_ ∧ _›).1 rfl rfl h; cases h
  | csEnter f => simp only [step] at h; split at h; exact .ofNote ‹_› rfl rfl h; cases h
  | csExit f v => simp only [step] at h; split at h; exact .ofNote ‹_› rfl rfl h; cases h
  | callWait f =>
    simp only [step] at h
    split at h <;> cases h
    next hc =>
    exact .own f _ _ _ _ hc.1 .callWait (upd_self _ _).symm (fun _ => .inr hc.2.2.1) rfl (.mem _ _ _)
  | faddCount t f old =>
    simp only [step] at h
    split at h
    · next hpc =>
      split at h <;> cases h
      next hc => obtain ⟨rfl, -⟩ := hc; exact .register t f hpc
    · split at h
      · next hpc =>
        split at h
        · next hc =>
          subst hc
          obtain ⟨x, hx, rfl⟩ := toUnlockI_shape h
          exact .addBack t f x hpc hx
        · cases h
      · cases h
  | retWait f =>
    simp only [step] at h
    split at h
    · next hpc =>
      simp only [Option.map_eq_some_iff] at h
      obtain ⟨s1, h1, rfl⟩ := h
      obtain ⟨x, hx, rfl⟩ := stepM_shape h1
      exact .own f _ _ _ _ hpc .retWait rfl (by simp [inWait]) rfl (.m (by simp [inWait]) rfl hx)
    · cases h
  | callSignal f hh => exact callSig_Step (.inl rfl) (by simpa only [step] using h)
  | callBroadcast f hh => exact callSig_Step (.inr rfl) (by simpa only [step] using h)
  | retSignal f => exact retSig_Step rfl (by simpa only [step] using h)
  | retBroadcast f => exact retSig_Step rfl (by simpa only [step] using h)
  | fsubCount f old =>
    simp only [step] at h
    split at h
    · next hc =>
      obtain ⟨hpc, rfl, -⟩ := hc
      simp only [Option.bind_eq_some_iff] at h
      obtain ⟨s1, h1, h⟩ := h
      obtain ⟨x, hx, rfl⟩ := stepI_shape h1
      split at h <;> cases h
      · next hge => exact .claim f false 1 _ x hpc (.inl rfl) (Nat.le_refl 1) (fun _ => rfl) rfl (by omega) hx
      · next hlt => exact .sigMiss f x hpc (by omega) hx
    · cases h
  | xchgCount f old =>
    simp only [step] at h
    split at h
    · next hc =>
      obtain ⟨hpc, rfl, hnn, -⟩ := hc
      simp only [Option.bind_eq_some_iff] at h
      obtain ⟨s1, h1, h⟩ := h
      obtain ⟨x, hx, rfl⟩ := stepI_shape h1
      simp only [] at h
      split at h
      · next hz =>
        obtain ⟨y, hy, rfl⟩ := toUnlockI_shape h
        simp only [hz, Nat.add_zero]
        exact .bcNone f x y hpc (by omega) hx hy
      · next hnz =>
        cases h
        exact .claim f true _ _ x hpc (.inr rfl) (by omega) (fun h => nomatch h) (by omega) (Int.le_refl 0) hx
    · cases h
  | fsub q f old =>
    simp only [step] at h
    split at h
    · next hq =>
      split at h
      · cases h
      · split at h
        · next hpc =>
          simp only [Option.map_eq_some_iff, Option.bind_eq_some_iff] at h
          obtain ⟨s2, ⟨s1, h1, h2⟩, rfl⟩ := h
          obtain ⟨x, hx, rfl⟩ := stepM_shape h1
          obtain ⟨y, hy, rfl⟩ := stepM_shape h2
          exact .own f _ _ _ _ hpc .relock (upd_self _ _).symm (by simp [inWait]) rfl
            (.comp (.m (by simp [inWait]) rfl hx) (.m (by simp [inWait]) rfl hy))
        · split at h
          · next hpc => exact .ofNote hpc rfl rfl h
          · cases h
    · exact dispatch_Step h
  | fadd q t g old =>
    simp only [step] at h
    split at h
    · next hq =>
      subst hq
      split at h
      · cases h
      · split at h
        · next hc => exact .ofNote hc.1 rfl rfl h
        · split at h
          · next w hw =>
            split at h
            · next hheld =>
              simp only [Option.map_eq_some_iff, Option.bind_eq_some_iff] at h
              obtain ⟨s3, ⟨s2, ⟨s1, h1, h2⟩, h3⟩, rfl⟩ := h
              obtain ⟨x, hx, rfl⟩ := stepM_shape h1
              obtain ⟨y, hy, rfl⟩ := stepM_shape h2
              exact .deferred t g w old x y hw hheld hx hy h3
            · cases h
          · cases h
    · exact dispatch_Step h
  | xchgTail q f o n => exact dispatch_Step (by simpa only [step] using h)
  | rHead q f n => exact dispatch_Step (by simpa only [step] using h)
  | wHead q f n => exact dispatch_Step (by simpa only [step] using h)
  | wState f g v => exact dispatch_Step (by simpa only [step] using h)
  | rState f g v => exact dispatch_Step (by simpa only [step] using h)
  | rNode f g n => exact dispatch_Step (by simpa only [step] using h)
  | wNode f g n => exact dispatch_Step (by simpa only [step] using h)
  | wData f n g => exact dispatch_Step (by simpa only [step] using h)
  | rData f n g => exact dispatch_Step (by simpa only [step] using h)
  | wNext f n x => exact dispatch_Step (by simpa only [step] using h)
  | rNext f n x => exact dispatch_Step (by simpa only [step] using h)

end LibfiberVerif.Cond
