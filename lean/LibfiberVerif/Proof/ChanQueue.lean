/-
  Proof/ChanQueue.lean — the unbounded (MPSC) and sp (SPSC) channels: every message is
  received exactly once, in the order the senders swapped the tail.  Property C11.  The queue itself
  is the abstract one of the model (`order`/`linked`/`hd`, justified by C15); `QI` relates it to
  `sent`/`recvd`, to the node `data` words the receiver actually reads, and to the senders between
  their tail swap and their link write.  The single receiver comes from `Ctl`, the freshness of
  pending messages from `Log`.

  `QI` is a part about the queue and one conjunct `loc` that says what holds of each fiber at its pc
  (`QAt`); an event argues the part it changes and `QAt` of the fiber it moves.
-/
import LibfiberVerif.Proof.ChanCtl
import LibfiberVerif.Proof.ChanLog

namespace LibfiberVerif.Chan

/-- a message is linked at the head of the queue -/
def avail (s : St) : Prop := headNext s ≠ 0

/-- h is the queue's initial stub or a node strictly before the last one popped: the receiver
    may overwrite its `data` without touching a message that is still to be read -/
def isOld (s : St) (h : Nat) : Prop := h = 1 ∨ ∃ j, j + 1 < s.hd ∧ j < s.sent.length ∧ h = qval s j + 1

def Pc.swappedAt : Pc → Nat → Bool
  | .qSwapped _ _ i, j => i == j
  | .idle, _ => false | .sTop _, _ => false | .sLdLow _ _, _ => false | .sLdHigh _ _ _, _ => false
  | .sRdBuf _ _ _ _, _ => false | .sClaimed _ _, _ => false | .qCalled _, _ => false | .qData _, _ => false
  | .qCleared _, _ => false | .qLdTail _ _, _ => false | .sPublished _, _ => false | .sRaising _, _ => false
  | .sRaised _ _, _ => false | .sDone, _ => false | .rTop, _ => false | .rLdHigh _, _ => false
  | .rLdLow _ _, _ => false | .rRdBuf _ _ _, _ => false | .rCleared _ _, _ => false | .rGotHead _, _ => false
  | .rGotNext _ _, _ => false | .rMoved _ _, _ => false | .rGotData _ _, _ => false | .rWrote _ _, _ => false
  | .rEmpty, _ => false | .rWaiting, _ => false | .rDone _, _ => false | .tEmpty, _ => false

theorem swappedAt_iff (p : Pc) (j : Nat) : p.swappedAt j = true ↔ ∃ v prev, p = .qSwapped v prev j := by
  cases p <;> simp [Pc.swappedAt]

/-- what the queue says about fiber `f` at pc `c`: its node holds its message; its entry, once swapped
    in, is `order[i]`; the receiver's copies of head and next are the queue's -/
def QAt (s : St) (f : Nat) : Pc → Prop
  | .qData v => s.ndata (v + 1) = v
  | .qCleared v => s.ndata (v + 1) = v
  | .qLdTail v _ => s.ndata (v + 1) = v
  | .qSwapped _ _ i => i < s.order.length ∧ qown s i = f
  | .rGotHead h => h = s.headNode
  | .rGotNext h x => h = s.headNode ∧ s.hd < s.sent.length ∧ x = qval s s.hd + 1
  | .rMoved h x => 0 < s.hd ∧ x = qval s (s.hd - 1) + 1 ∧ s.ndata x = qval s (s.hd - 1) ∧ isOld s h
  | .rGotData h _ => isOld s h
  | .rWrote h _ => isOld s h
  | _ => True

structure QI (s : St) : Prop where
  ord : s.order = (s.sent.map Prod.snd).map (· + 1)
  hd_le : s.hd ≤ s.sent.length
  head : s.headNode = if s.hd = 0 then 1 else qval s (s.hd - 1) + 1
  data : ∀ i, s.hd ≤ i → i < s.sent.length → s.ndata (qval s i + 1) = qval s i
  recvd_eq : s.recvd = (s.sent.map Prod.snd).take s.hd
  /-- an unlinked node belongs to a sender between its tail swap and its link write -/
  unlinked : ∀ i, i < s.order.length → s.linked i = false → (s.pc (qown s i)).swappedAt i = true
  lk : ∀ i, s.linked i = true → i < s.order.length
  loc : ∀ f, QAt s f (s.pc f)

theorem QI.at {s : St} (hq : QI s) {f : Nat} {c : Pc} (h : s.pc f = c) : QAt s f c := h ▸ hq.loc f

theorem QI.len {s : St} (hq : QI s) : s.order.length = s.sent.length := by rw [hq.ord]; simp

theorem QI.onz {s : St} (hq : QI s) (n : Nat) (hn : n ∈ s.order) : n ≠ 0 := by
  rw [hq.ord] at hn; simp only [List.mem_map] at hn; obtain ⟨_, _, rfl⟩ := hn; omega

theorem qi_init (spin : Bool) (k : Kind) (cap : Nat) : QI (initM spin k cap) := by
  constructor <;> simp [initM, qval, QAt]

theorem Log.isOld_ne {s : St} (hl : Log s) {h : Nat} (ho : isOld s h) :
    (∀ i, s.hd ≤ i + 1 → i < s.sent.length → qval s i + 1 ≠ h) ∧
    (∀ f v, v ∈ (s.pc f).pending → v + 1 ≠ h) := by
  constructor
  · intro i h1 h2 he
    rcases ho with ho | ⟨j, hj1, hj2, hj3⟩
    · rw [ho] at he; exact qval_ne_zero hl.vnz h2 (by omega)
    · rw [hj3] at he
      have := hl.qval_inj h2 hj2 (by omega)
      omega
  · intro f v hv he
    rcases ho with ho | ⟨j, hj1, hj2, hj3⟩
    · rw [ho] at he; exact ((hl.loc f).1 v hv).1 (by omega)
    · rw [hj3] at he; exact hl.pending_ne hv hj2 he.symm

theorem headNext_ne_zero {s : St} (ho : s.order = (s.sent.map Prod.snd).map (· + 1)) {x : Nat}
    (hx : x = headNext s) (hne : x ≠ 0) : s.hd < s.sent.length ∧ x = qval s s.hd + 1 := by
  simp only [headNext, ho] at hx
  split at hx
  · rename_i n hn
    simp only [List.getElem?_map, Option.map_eq_some_iff] at hn
    obtain ⟨a, ⟨p, hp, rfl⟩, rfl⟩ := hn
    have hlt : s.hd < s.sent.length := by
      by_cases h : s.hd < s.sent.length
      · exact h
      · rw [List.getElem?_eq_none (by omega)] at hp; simp at hp
    split at hx
    · refine ⟨hlt, ?_⟩
      rw [hx, qval_lt s s.hd hlt]
      rw [List.getElem?_eq_getElem hlt] at hp
      simp at hp; rw [hp]
    · exact absurd hx hne
  · exact absurd hx hne

theorem qat_emptyPc (s t : St) (f : Nat) : QAt t f (emptyPc s) := by
  unfold emptyPc; split
  · trivial
  · split <;> trivial

theorem qat_pubPc (s t : St) (f v : Nat) : QAt t f (pubPc s v) := by
  unfold pubPc; split <;> trivial

/-- `QAt` reads `ndata` only at the node of the pending message and at the node just popped -/
theorem QAt.congr {s t : St} {f : Nat} {c : Pc} (h : QAt s f c) (hhn : t.headNode = s.headNode) (hhd : t.hd = s.hd)
    (hsent : t.sent = s.sent) (hord : t.order = s.order)
    (hp : ∀ v, v ∈ c.pending → t.ndata (v + 1) = s.ndata (v + 1))
    (hm : ∀ h x, c = .rMoved h x → t.ndata x = s.ndata x) : QAt t f c := by
  cases c <;> simp only [QAt, isOld, qval, qown, hhn, hhd, hsent, hord] at h ⊢ <;> first | trivial | exact h | skip
  · rw [hp _ (by simp [Pc.pending])]; exact h
  · rw [hp _ (by simp [Pc.pending])]; exact h
  · rw [hp _ (by simp [Pc.pending])]; exact h
  · rw [hm _ _ rfl]; exact h

/-- a sender's pc reads only its own node -/
theorem QAt.sender {s t : St} {f : Nat} {c : Pc} (h : QAt s f c) (hc : c.isRecv = false) (hsent : t.sent = s.sent)
    (hord : t.order = s.order) (hp : ∀ v, v ∈ c.pending → t.ndata (v + 1) = s.ndata (v + 1)) : QAt t f c := by
  cases c <;> simp only [QAt, qown, hsent, hord] at h ⊢ <;> first | trivial | exact h | cases hc | skip
  · rw [hp _ (by simp [Pc.pending])]; exact h
  · rw [hp _ (by simp [Pc.pending])]; exact h
  · rw [hp _ (by simp [Pc.pending])]; exact h

theorem qown_append_lt (s : St) (p : Nat × Nat) (i : Nat) (h : i < s.sent.length) :
    ((((s.sent ++ [p])[i]?).map Prod.fst).getD 0) = qown s i :=
  lown_append_lt s.sent p i h

theorem qown_append_len (l : List (Nat × Nat)) (p : Nat × Nat) :
    ((((l ++ [p])[l.length]?).map Prod.fst).getD 0) = p.1 := by
  simp

/-- one more message linearised: what is said of nodes in the queue stays -/
theorem QAt.push {s : St} {f : Nat} {c : Pc} (h : QAt s f c) (hle : s.hd ≤ s.sent.length)
    (hlen : s.order.length = s.sent.length) (p : Nat × Nat) (n : Nat) (pc : Nat → Pc) :
    QAt { s with order := s.order ++ [n], sent := s.sent ++ [p], pc := pc } f c := by
  have hlt : ∀ i, i < s.sent.length → lval (s.sent ++ [p]) i = qval s i := fun i hi => lval_append_lt _ _ i hi
  have hold : ∀ h, isOld s h → h = 1 ∨ ∃ j, j + 1 < s.hd ∧ j < (s.sent ++ [p]).length ∧
      h = lval (s.sent ++ [p]) j + 1 := by
    rintro h (d | ⟨j, j1, j2, j3⟩)
    · exact .inl d
    · exact .inr ⟨j, j1, by simp only [List.length_append, List.length_singleton]; omega, by rw [hlt j j2]; exact j3⟩
  cases c <;> simp only [QAt] at h ⊢ <;> first | trivial | exact h | skip
  · refine ⟨by simp only [List.length_append, List.length_singleton]; omega, ?_⟩
    show ((((s.sent ++ [p])[_]?).map Prod.fst).getD 0) = f
    rw [qown_append_lt s p _ (hlen ▸ h.1)]; exact h.2
  · obtain ⟨a, b, c⟩ := h
    refine ⟨a, by simp only [List.length_append, List.length_singleton]; omega, ?_⟩
    show _ = lval (s.sent ++ [p]) s.hd + 1
    rw [hlt s.hd b]; exact c
  · obtain ⟨a, b, c, d⟩ := h
    have hl : s.hd - 1 < s.sent.length := by omega
    refine ⟨a, ?_, ?_, hold _ d⟩
    · show _ = lval (s.sent ++ [p]) (s.hd - 1) + 1
      rw [hlt _ hl]; exact b
    · show _ = lval (s.sent ++ [p]) (s.hd - 1)
      rw [hlt _ hl]; exact c
  · exact hold _ h
  · exact hold _ h

/-- frame: `f` moves from a pc that is not `qSwapped`; queue, links, log and node words stay -/
theorem QI.move {s : St} (hq : QI s) {f : Nat} {a X : Pc} (hpc : s.pc f = a) (ha : ∀ j, a.swappedAt j = false)
    (hX : QAt s f X)
    {p' : Signal.PSt} {tm es : Bool} {te : Nat} {r' sp' : Option Nat} {c' : Nat → List Nat} {u' : List Nat} :
    QI { s with p := p', tryMode := tm, emptySeen := es, tryEmpty := te, receiver := r', calls := c',
                used := u', spSender := sp', pc := upd s.pc f X } := by
  refine ⟨hq.ord, hq.hd_le, hq.head, hq.data, hq.recvd_eq, fun i hi hl => ?_, hq.lk, forall_upd hX fun g _ => hq.loc g⟩
  have := hq.unlinked i hi hl
  show (upd s.pc f X (qown s i)).swappedAt i = true
  rw [upd_apply]; split
  · rename_i e; rw [e, hpc, ha] at this; cases this
  · exact this

/-- a `data` word outside the queue and outside the other fibers' reach is written -/
theorem qi_wData {s : St} (hq : QI s) {f n d : Nat} {a X : Pc} (hpc : s.pc f = a) (ha : ∀ j, a.swappedAt j = false)
    (hn1 : ∀ i, s.hd ≤ i + 1 → i < s.sent.length → qval s i + 1 ≠ n)
    (hn2 : ∀ g v, g ≠ f → v ∈ (s.pc g).pending → v + 1 ≠ n)
    (hX : QAt { s with ndata := upd s.ndata n d } f X) :
    QI { s with ndata := upd s.ndata n d, pc := upd s.pc f X } := by
  refine ⟨hq.ord, hq.hd_le, hq.head, fun i h1 h2 => ?_, hq.recvd_eq, fun i hi hl => ?_, hq.lk,
    forall_upd hX (fun g hgf => ?_)⟩
  · show upd s.ndata n d (qval s i + 1) = qval s i
    rw [upd_other _ _ _ _ (hn1 i (Nat.le_succ_of_le h1) h2)]; exact hq.data i h1 h2
  · have := hq.unlinked i hi hl
    show (upd s.pc f X (qown s i)).swappedAt i = true
    rw [upd_apply]; split
    · rename_i e; rw [e, hpc, ha] at this; cases this
    · exact this
  · refine (hq.loc g).congr rfl rfl rfl rfl (fun v hv => upd_other _ _ _ _ (hn2 g v hgf hv)) (fun h x e => ?_)
    obtain ⟨h0, hx, _⟩ : QAt s g (.rMoved h x) := e ▸ hq.loc g
    have := hq.hd_le
    exact upd_other _ _ _ _ (hx ▸ hn1 (s.hd - 1) (by omega) (by omega))

/-- linearisation of a send on a queue kind: the node is swapped in at the tail, not linked yet -/
theorem qi_push {s : St} (hq : QI s) {f v : Nat} {a : Pc} (prev : Nat) (hpc : s.pc f = a)
    (ha : ∀ j, a.swappedAt j = false) (hnd : s.ndata (v + 1) = v) :
    QI { s with order := s.order ++ [v + 1], sent := s.sent ++ [(f, v)],
                pc := upd s.pc f (.qSwapped v prev s.order.length) } := by
  have hlen := hq.len
  have hlt : ∀ i, i < s.sent.length → lval (s.sent ++ [(f, v)]) i = qval s i := fun i hi =>
    lval_append_lt _ _ i hi
  refine ⟨by simp [hq.ord], ?_, ?_, fun i h1 h2 => ?_, ?_, fun i hi hl => ?_, fun i hi => ?_,
    forall_upd ⟨by simp, ?_⟩ fun g _ => (hq.loc g).push hq.hd_le hlen _ _ _⟩
  · have := hq.hd_le; simp only [List.length_append, List.length_singleton]; omega
  · simp only [hq.head]
    split
    · rfl
    · show qval s (s.hd - 1) + 1 = lval (s.sent ++ [(f, v)]) (s.hd - 1) + 1
      rw [hlt (s.hd - 1) (by have := hq.hd_le; omega)]
  · simp only [List.length_append, List.length_singleton] at h2
    show s.ndata (lval (s.sent ++ [(f, v)]) i + 1) = lval (s.sent ++ [(f, v)]) i
    by_cases hi : i < s.sent.length
    · rw [hlt i hi]; exact hq.data i h1 hi
    · obtain rfl : i = s.sent.length := by omega
      rw [lval_append_len]; exact hnd
  · simp only [List.map_append]
    rw [List.take_append_of_le_length (by simpa using hq.hd_le)]; exact hq.recvd_eq
  · simp only [List.length_append, List.length_singleton] at hi
    show (upd s.pc f _ ((((s.sent ++ [(f, v)])[i]?).map Prod.fst).getD 0)).swappedAt i = true
    by_cases hlt' : i < s.order.length
    · rw [qown_append_lt s _ i (hlen ▸ hlt'), upd_apply]
      have := hq.unlinked i hlt' hl
      split
      · rename_i e; rw [e, hpc, ha] at this; cases this
      · exact this
    · obtain rfl : i = s.sent.length := by omega
      rw [qown_append_len, upd_same, hlen]; simp [Pc.swappedAt]
  · have := hq.lk i hi; simp only [List.length_append, List.length_singleton]; omega
  · show ((((s.sent ++ [(f, v)])[s.order.length]?).map Prod.fst).getD 0) = f
    rw [hlen, qown_append_len]

/-- the sender links its node: the message is published -/
theorem qi_link {s : St} (hq : QI s) {f v prev i : Nat} (hpc : s.pc f = .qSwapped v prev i) :
    QI { s with linked := upd s.linked i true, pc := upd s.pc f (pubPc s v) } := by
  refine ⟨hq.ord, hq.hd_le, hq.head, hq.data, hq.recvd_eq, fun j hj hl => ?_, fun j hj => ?_,
    forall_upd (qat_pubPc s _ f v) fun g _ => hq.loc g⟩
  · have hl : upd s.linked i true j = false := hl
    have hji : j ≠ i := fun e => by rw [e, upd_same] at hl; cases hl
    rw [upd_other _ _ _ _ hji] at hl
    have := hq.unlinked j hj hl
    show (upd s.pc f (pubPc s v) (qown s j)).swappedAt j = true
    rw [upd_apply]; split
    · rename_i e; rw [e, hpc] at this; simp [Pc.swappedAt] at this; exact absurd this.symm hji
    · exact this
  · have hj : upd s.linked i true j = true := hj
    by_cases hji : j = i
    · rw [hji]; exact (hq.at hpc).1
    · rw [upd_other _ _ _ _ hji] at hj; exact hq.lk j hj

theorem qi_wHead {s : St} (hc : Ctl s) (hq : QI s) {f h x : Nat} (hpc : s.pc f = .rGotNext h x) :
    QI { s with headNode := x, hd := s.hd + 1, recvd := s.recvd ++ [s.ndata x],
                pc := upd s.pc f (.rMoved h x) } := by
  obtain ⟨hh, hlt, hxe⟩ : QAt s f (.rGotNext h x) := hq.at hpc
  have hdat : s.ndata x = qval s s.hd := by rw [hxe]; exact hq.data s.hd (Nat.le_refl _) hlt
  have hold : h = 1 ∨ ∃ j, j + 1 < s.hd + 1 ∧ j < s.sent.length ∧ h = qval s j + 1 := by
    rw [hh, hq.head]
    split
    · exact Or.inl rfl
    · exact Or.inr ⟨s.hd - 1, by omega, by omega, rfl⟩
  refine ⟨hq.ord, by simp only; omega, by simp only [hxe]; simp [qval],
    fun i h1 h2 => hq.data i (by simp only at h1; omega) h2, ?_, fun i hi hl => ?_, hq.lk,
    forall_upd ⟨by simp, by simpa [qval] using hxe, by simpa [qval] using hdat, hold⟩ (fun g hgf => ?_)⟩
  · show s.recvd ++ [s.ndata x] = (s.sent.map Prod.snd).take (s.hd + 1)
    rw [hq.recvd_eq, hdat, List.take_add_one]
    simp [qval, List.getElem?_map, List.getElem?_eq_getElem hlt]
  · have := hq.unlinked i hi hl
    show (upd s.pc f _ (qown s i)).swappedAt i = true
    rw [upd_apply]; split
    · rename_i e; rw [e, hpc] at this; cases this
    · exact this
  · -- the others are senders: they read only their own node
    exact (hq.loc g).sender (hc.alone (by rw [hpc]; rfl) hgf) rfl rfl (fun _ _ => rfl)

theorem QI.step {s s' : St} {e : Ev} (hk : s.kind ≠ .bounded) (hc : Ctl s) (hl : Log s) (hq : QI s)
    (hs : step s e = some s') : QI s' := by
  rcases step_cases hs with ⟨pe, rfl⟩ | h | ⟨hb, _⟩ | ⟨_, h⟩
  · rcases proto_shape s s' pe hs with ⟨p', rfl⟩ | ⟨p', X, rfl, ht⟩
    · exact ⟨hq.ord, hq.hd_le, hq.head, hq.data, hq.recvd_eq, hq.unlinked, hq.lk, hq.loc⟩
    · generalize hpa : s.pc (pactor pe) = a at ht
      exact hq.move hpa (by cases ht <;> exact fun _ => rfl) (by cases ht <;> trivial)
  · cases h with
    | callSend hpc hg => rw [if_neg hk]; exact hq.move hpc (fun _ => rfl) (by trivial)
    | _ => have hpc := ‹s.pc _ = _›; exact hq.move hpc (fun _ => rfl) (by trivial)
  · exact absurd hb hk
  · cases h with
    | @wDataS f v hpc =>
      -- the harness (sender) stores the value into its fresh node
      have hv : v ∈ (s.pc f).pending := by rw [hpc]; simp [Pc.pending]
      exact qi_wData hq hpc (fun _ => rfl) (fun i _ hi => hl.pending_ne hv hi)
        (fun g v' hg hv' e => hg (hl.pend_uniq g f v' hv' ((show v' = v by omega) ▸ hv)))
        (by show upd s.ndata (v + 1) v (v + 1) = v; rw [upd_same])
    | @wDataR f h d hpc =>
      -- the receiver copies the message into the node it returns (the old stub)
      have hold : isOld s h := hq.at hpc
      exact qi_wData hq hpc (fun _ => rfl) (hl.isOld_ne hold).1 (fun g v _ hv => (hl.isOld_ne hold).2 g v hv) hold
    | wNextClear hpc => exact hq.move hpc (fun _ => rfl) (by exact (hq.at hpc : QAt s _ (.qData _)))
    | wNextLink hpc => exact qi_link hq hpc
    | xchgTail hk' hpc | stTail hk' hpc => exact qi_push hq _ hpc (fun _ => rfl) (hq.at hpc)
    | ldTail hk' hpc => exact hq.move hpc (fun _ => rfl) (by exact (hq.at hpc : QAt s _ (.qCleared _)))
    | rHead hpc => exact hq.move hpc (fun _ => rfl) (by rfl)
    | rNextEmpty hpc h0 => exact hq.move hpc (fun _ => rfl) (qat_emptyPc s s _)
    | rNext hpc hne => exact hq.move hpc (fun _ => rfl) (by exact ⟨hq.at hpc, headNext_ne_zero hq.ord rfl hne⟩)
    | wHead hpc => exact qi_wHead hc hq hpc
    | rDataNew hpc => exact hq.move hpc (fun _ => rfl) (by exact (hq.at hpc : QAt s _ (.rMoved _ _)).2.2.2)
    | rDataOld hpc => exact hq.move hpc (fun _ => rfl) (by trivial)

theorem qi_of_run {spin : Bool} {k : Kind} {cap : Nat} (hk : k ≠ .bounded) {es : List Ev} {s : St}
    (h : (sysM spin k cap).run es = some s) : QI s :=
  Sys.inv_of_run_on _ QI (qi_init spin k cap)
    (fun _ _ _ _ hr hq hs => hq.step ((params_of_run hr).1 ▸ hk) (ctl_of_run hr) (log_of_run hr) hs) h

/-- an empty-looking queue is empty, or the node next in line is not linked yet -/
theorem empty_queue_of_inv {s : St} (hq : QI s) (h0 : headNext s = 0) :
    s.hd = s.sent.length ∨
    (s.hd < s.sent.length ∧ s.linked s.hd = false ∧ (s.pc (qown s s.hd)).swappedAt s.hd = true) := by
  by_cases hlt : s.hd < s.sent.length
  · right
    have hlo : s.hd < s.order.length := by rw [hq.len]; exact hlt
    simp only [headNext, List.getElem?_eq_getElem hlo] at h0
    have hlk : s.linked s.hd = false := by
      by_cases hlk : s.linked s.hd = true
      · simp only [hlk, if_true] at h0
        exact absurd h0 (hq.onz _ (List.getElem_mem hlo))
      · simpa using hlk
    exact ⟨hlt, hlk, hq.unlinked s.hd hlo hlk⟩
  · left
    have := hq.hd_le
    omega

/-! ### the receive loop takes an available message in its next pass -/

/-- `headNext` as a function of the three fields it reads -/
def hnext (order : List Nat) (linked : Nat → Bool) (hd : Nat) : Nat :=
  match order[hd]? with
  | some n => if linked hd then n else 0
  | none => 0

theorem headNext_hnext (s : St) : headNext s = hnext s.order s.linked s.hd := rfl

theorem receive_takes_queue {s : St} (hk : s.kind ≠ .bounded) (f : Nat) (hpc : s.pc f = .rTop)
    (ha : avail s) :
    ∃ s', (sysM s.spin s.kind s.cap).runFrom s
        [.rHead f s.headNode, .rNext f s.headNode (headNext s), .wHead f (headNext s),
         .rData f (headNext s) (s.ndata (headNext s)), .wData f s.headNode (s.ndata (headNext s)),
         .rData f s.headNode (s.ndata (headNext s)), .retRecv f (s.ndata (headNext s))] = some s' ∧
      s'.pc f = .idle ∧ s'.recvd = s.recvd ++ [s.ndata (headNext s)] ∧ s'.hd = s.hd + 1 := by
  simp only [avail, headNext_hnext] at ha
  simp only [headNext_hnext]
  obtain ⟨x, hxe⟩ : ∃ x, hnext s.order s.linked s.hd = x := ⟨_, rfl⟩
  rw [hxe] at ha ⊢
  simp [Sys.runFrom, sysM, step, hk, hpc, upd, ha, headNext_hnext, hxe]

end LibfiberVerif.Chan
