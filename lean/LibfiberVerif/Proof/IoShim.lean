/-
  Proof/IoShim.lean — invariants of Model/IoShim.lean (property C08).

  Frame  :  `step_frame` — which fiber and which descriptor an event can write at all.
  E layer:  `EInv`  — per descriptor, by stage of the critical section in progress: a parked
            waiter is armed (or the descriptor number has been closed); the wake loop leaves the
            list empty.
  S layer:  `SMove` — what an event does to the program counter and the ghost fields of its fiber
            (`step_fiber`); the two per-fiber invariants are kept by every `SMove`:
            `SInv`  — by program counter: what the ghost fields (`syss`, `lastChk`) say about the
            invocation in progress; which descriptors a program counter can name;
            `BInv`  — a call on a descriptor outside [0, max_fd) is on its way to the real libc
            function or to returning EBADF (under `kernelOk`).
  Index  :  `XInv`  — a descriptor with a critical section in progress, with a ticket pending on
            its spinlock, or open in the kernel is inside [0, max_fd); together with `SInv` this
            bounds every index into the two tables (`index_step`).
-/
import LibfiberVerif.Model.IoShim

namespace LibfiberVerif.IoShim

/-! ## what an event can write

  Every invariant below is a statement per fiber about the S-layer fields or per descriptor
  about the E-layer fields; `step_frame` says once which fiber and which descriptor an event can
  touch at all, so that each preservation proof only looks at those. -/

/-- the fiber whose S-layer fields (`pc`, `syss`, `lastChk`) the event may write -/
def sfib : Ev → Option Nat
  | .call f _ | .ret f _ _ | .fLoad f _ _ | .fOr f _ _ _ | .fAnd f _ _ _ | .fStore f _ _
  | .sys f _ _ | .sys2 f _ _ _ | .sysCtl f _ _ | .lkPoll f _ _ | .ulStore f _ _ | .rScr f _ _ => some f
  | _ => none

/-- the descriptor whose E-layer fields (`sec`, `waiters`, `events`, `interest`, `everClosed`) the
    event may write -/
def efd (s : St) : Ev → Option Int
  | .fStore _ fd _ | .sys _ fd _ | .lkPoll _ fd _ | .ulStore _ fd _ | .rEvents _ fd _ | .wEvents _ fd _
  | .rAdded _ fd _ | .wAdded _ fd _ | .rBoth _ fd _ _ | .ctl _ _ fd _ _ | .rWaiters _ fd _
  | .wWaiters _ fd _ => some fd
  | .rScr a _ _ | .wScr a _ _ | .wSt a _ _ => s.cur a
  | _ => none

/-- the actor whose pending ticket `tk` the event may write -/
def tka : Ev → Option Nat
  | .lkTake a _ _ | .lkPoll a _ _ => some a
  | _ => none

/-- splits the unfolded step equation `h` into its accepted branches and substitutes the successor;
    `cases` comes first, so that a branch that has reached `some _ = some s'` or `none = some s'`
    is not split further into the conditionals inside the successor state -/
macro "step_cases " h:ident : tactic => `(tactic|
  repeat' first
    | cases $h:ident
    | split at $h:ident)

theorem step_frame {D : Decisions} {s s' : St} {e : Ev} (hst : step D s e = some s') :
    s'.maxFd = s.maxFd ∧
    (∀ g, some g ≠ sfib e → s'.pc g = s.pc g ∧ s'.syss g = s.syss g ∧ s'.lastChk g = s.lastChk g) ∧
    (∀ fd, some fd ≠ efd s e → s'.sec fd = s.sec fd ∧ s'.waiters fd = s.waiters fd ∧
      s'.events fd = s.events fd ∧ s'.interest fd = s.interest fd ∧ s'.everClosed fd = s.everClosed fd) ∧
    (∀ a, some a ≠ tka e → s'.tk a = s.tk a) ∧
    -- KernelSpec: a descriptor the kernel hands out is inside [0, max_fd)
    (∀ fd, s'.isOpen fd = true → s.isOpen fd = true ∨ inRange s.maxFd fd = true) := by
  cases e <;> simp only [step] at hst <;> step_cases hst <;>
    -- a field group the branch does not write is closed by `rfl`
    (refine ⟨rfl, fun g hg => ?_, fun fd hfd => ?_, fun a ha => ?_, fun fd hfd => ?_⟩
     · first | exact ⟨rfl, rfl, rfl⟩ | simp_all [sfib, upd]
     · first | exact ⟨rfl, rfl, rfl, rfl, rfl⟩ | simp_all [efd, updI]
     · first | rfl | (simp only [tka, ne_eq, Option.some.injEq] at ha; simp [upd, ha])
     · first | exact Or.inl hfd | grind [updI])

theorem step_maxFd {D : Decisions} {s s' : St} {e : Ev} (hst : step D s e = some s') : s'.maxFd = s.maxFd :=
  (step_frame hst).1

theorem maxFd_of_run {D : Decisions} {m : Int} {es : List Ev} {s : St}
    (h : (sys D m).run es = some s) : s.maxFd = m :=
  Sys.inv_of_run (sys D m) (fun s => s.maxFd = m) rfl
    (fun _ _ _ hi hst => by rw [step_maxFd hst]; exact hi) h

/-- interest armed in epoll (or its event already fetched by a poller), or the descriptor number
    has been closed at some time -/
def Armed (s : St) (fd : Int) : Prop := s.interest fd ≠ 0 ∨ s.everClosed fd = true

/-- what holds of descriptor `fd` at each stage of the critical section -/
def EOkC (sec : Sec) (ws : List Nat) (armed : Prop) (evs : Nat) : Prop :=
  match sec with
  | .free | .parked | .wfailed _ | .wfail _ _ => ws ≠ [] → armed
  | .w1 _ bit | .w2 _ bit _ => (ws ≠ [] → armed) ∧ bit ≠ 0
  | .w3 _ _ | .w4 _ _ | .w5 _ _ => (ws ≠ [] → armed) ∧ evs ≠ 0
  | .w6 _ | .w7 _ | .w8 _ _ | .w9 _ | .w10 _ => armed
  | .done _ | .cj1 _ | .cj2 _ => ws = []
  | _ => True

def EOk (s : St) (fd : Int) : Prop := EOkC (s.sec fd) (s.waiters fd) (Armed s fd) (s.events fd)

def EInv (s : St) : Prop := ∀ fd, EOk s fd

theorem einv_init (m : Int) : EInv (init m) := by
  intro fd; simp [EOk, EOkC, init]

theorem dir_ne_zero (o : Op) : o.dir ≠ 0 := by
  unfold Op.dir; split <;> decide

/-- frame: a step that leaves the E fields of `fd` alone keeps `EOk … fd` (interest may only have
    been cleared together with `everClosed` being set) -/
theorem eok_frame {s s' : St} {fd : Int}
    (h : EOk s fd) (h1 : s'.sec fd = s.sec fd) (h2 : s'.waiters fd = s.waiters fd)
    (h3 : s'.events fd = s.events fd)
    (h4 : Armed s fd → Armed s' fd) : EOk s' fd := by
  unfold EOk at *
  rw [h1, h2, h3]
  generalize s.sec fd = sc at *
  cases sc <;> simp only [EOkC] at * <;> first
    | exact fun hw => h4 (h hw)
    | exact ⟨fun hw => h4 (h.1 hw), h.2⟩
    | exact h4 h
    | exact h
    | trivial

theorem einv_step {D : Decisions} (hD : D.ctlChecked = true) {s s' : St} {e : Ev} (h : EInv s)
    (hst : step D s e = some s') : EInv s' := by
  intro fd
  have hx := h fd
  by_cases hfd : some fd = efd s e
  · -- `fd` is the descriptor `e` works on
    cases e <;> simp only [efd, Option.some.injEq, reduceCtorEq] at hfd <;> (try subst hfd)
    case lkPoll a v =>
      simp only [step] at hst; step_cases hst
      all_goals first
        | exact hx
        | (simp only [EOk, Armed] at *; simp only [startSec]; repeat' split
           all_goals simp_all [EOkC, updI, dir_ne_zero])
    case sys f r =>
      -- only close() writes E fields: it clears `interest` and sets `everClosed`
      simp only [step] at hst; step_cases hst
      all_goals first
        | exact eok_frame hx rfl rfl rfl (by simp [Armed, updI])
        | simp_all [EOk, EOkC, updI]
    case fStore | ulStore | rEvents | wEvents | rAdded | wAdded | rBoth | ctl | rWaiters | wWaiters =>
      -- `ctl` is where `hD` is needed (`simp_all` takes it from the context): unchecked, a failed
      -- epoll_ctl would go on to `w6` / `w7`, which claim the interest is armed
      simp only [step] at hst; step_cases hst
      -- where the next stage is a conditional (`p2`, `c1`, `l1`, `w5`), both stages are looked at
      all_goals (simp only [EOk, updI, ↓reduceIte] at hx ⊢; try split)
      all_goals simp_all [EOkC, Armed]
    case rScr | wScr | wSt =>
      simp only [step, ← hfd] at hst
      step_cases hst
      all_goals simp_all [EOk, EOkC, Armed, updI]
  · obtain ⟨h1, h2, h3, h4, h5⟩ := (step_frame hst).2.2.1 fd hfd
    exact eok_frame hx h1 h2 h3 (by simp [Armed, h4, h5])

theorem einv_of_run {D : Decisions} (hD : D.ctlChecked = true) {m : Int} {es : List Ev} {s : St}
    (h : (sys D m).run es = some s) : EInv s :=
  Sys.inv_of_run (sys D m) EInv (einv_init m) (fun _ _ _ hi hs => einv_step hD hi hs) h

def AllRetry (o : Op) (l : List Res) : Prop := ∀ x ∈ l, retryable o x = true

/-- read / write family and accept: the calls `transparent` and `blocking_never_eagain` speak about -/
def Op.xfer (o : Op) : Bool := o.isRead || o.isWrite || o.isAccept

/-- the value about to be returned is the last underlying call's; the earlier ones asked to retry -/
def Transparent (o : Op) (syss : List Res) (r : Res) : Prop :=
  ∃ rest, syss = r :: rest ∧ AllRetry o rest

/-- why a shim may return EAGAIN -/
def Justified (D : Decisions) (m : Int) (c : Call) (chk : Option Nat) (r : Res) : Prop :=
  r = .err EAGAIN →
    c.dw = true ∨ inRange m c.fd = false ∨ (∃ v, chk = some v ∧ sb D v = false) ∨
    (c.op = .accept ∧ D.acceptLoops = false)

def SOkC (D : Decisions) (m : Int) (syss : List Res) (chk : Option Nat) : Pc → Prop
  | .idle => True
  | .sbTop c => c.op.isRead = true ∧ c.dw = false ∧ inRange m c.fd = true ∧ AllRetry c.op syss
  | .doSys c => AllRetry c.op syss
  | .sbRetry c r => c.dw = false ∧ inRange m c.fd = true ∧ retryable c.op r = true ∧
      Transparent c.op syss r
  | .wantWait c => c.dw = false ∧ inRange m c.fd = true ∧ AllRetry c.op syss ∧
      ∃ v, chk = some v ∧ sb D v = true
  | .inWait c => inRange m c.fd = true ∧ AllRetry c.op syss
  | .soErr c => c.op.xfer = false
  | .setupFlag c n left r | .setupCtl c n left r =>
      inRange m n = true ∧ (∀ x ∈ left, inRange m x = true) ∧ r ≠ .err EAGAIN ∧
      (c.op.xfer = true → Transparent c.op syss r)
  | .pipeCtl c todo both _ => (∀ x ∈ todo, inRange m x = true) ∧ (∀ x ∈ both, inRange m x = true) ∧ c.op.xfer = false
  | .pipeFlag c todo _ => (∀ x ∈ todo, inRange m x = true) ∧ c.op.xfer = false
  | .mChk c => c.op.xfer = false ∧ inRange m c.fd = true
  | .mRmw c _ => c.op.xfer = false ∧ (D.boundsChecked = true → inRange m c.fd = true)
  | .mSys c mg => c.op.xfer = false ∧ (mg = true → inRange m c.fd = true)
  | .mGetMask c _ => c.op.xfer = false ∧ inRange m c.fd = true
  | .clSec c | .clInSec c => c.op.xfer = false ∧ (D.boundsChecked = true → inRange m c.fd = true)
  | .clStore c | .clSys c => c.op.xfer = false
  | .retv c r => c.op.xfer = true → Transparent c.op syss r ∧ Justified D m c chk r
  | .retFail _ => True

def SOk (D : Decisions) (s : St) (f : Nat) : Prop := SOkC D s.maxFd (s.syss f) (s.lastChk f) (s.pc f)

def SInv (D : Decisions) (s : St) : Prop := ∀ f, SOk D s f

theorem sinv_init (D : Decisions) (m : Int) : SInv D (init m) := by
  intro f; simp [SOk, SOkC, init]

theorem allRetry_nil (o : Op) : AllRetry o [] := by intro x hx; cases hx

theorem allRetry_cons {o : Op} {r : Res} {l : List Res} (h1 : retryable o r = true) (h2 : AllRetry o l) :
    AllRetry o (r :: l) := by
  intro x hx
  cases hx with
  | head => exact h1
  | tail _ h => exact h2 x h

theorem enter_ok (D : Decisions) (m : Int) (c : Call) : SOkC D m [] none (enter D m c) := by
  obtain ⟨op, fd, dw⟩ := c
  cases op <;> simp [enter, Op.isRead] <;>
    (repeat' split) <;> simp_all [SOkC, Op.xfer, Op.isRead, Op.isWrite, Op.isAccept, allRetry_nil]

theorem afterSys_ok (D : Decisions) (m : Int) (c : Call) (r : Res) (syss : List Res)
    (h : AllRetry c.op syss)
    (hacc : ∀ n, r = .ok n → c.op = .accept → inRange m (n : Int) = true) :
    SOkC D m (r :: syss) none (afterSys D m c r (syss.length + 1)) := by
  unfold afterSys
  simp only []
  repeat' split
  all_goals (simp_all [SOkC, Transparent, Justified, Op.xfer, Op.isRead, Op.isWrite, Op.isAccept, Op.isConnect, retryable])
  all_goals (obtain ⟨op, fd, dw⟩ := c; cases op <;> simp_all)

theorem allRetry_of_transparent {o : Op} {l : List Res} {r : Res} (h : Transparent o l r)
    (hr : retryable o r = true) : AllRetry o l := by
  obtain ⟨rest, h1, h2⟩ := h
  rw [h1]; exact allRetry_cons hr h2

theorem xfer_of_isRead {o : Op} (h : o.isRead = true) : o.xfer = true := by simp [Op.xfer, h]
theorem xfer_of_isAccept {o : Op} (h : o.isAccept = true) : o.xfer = true := by simp [Op.xfer, h]
theorem not_xfer_of_isSocket {o : Op} (h : o.isSocket = true) : o.xfer = false := by
  cases o <;> first | rfl | cases h
theorem not_xfer_of_isConnect {o : Op} (h : o.isConnect = true) : o.xfer = false := by
  cases o <;> first | rfl | cases h

theorem not_xfer_of_create2 {o : Op} (h : (o.isSocketpair || o.isPipe) = true) : o.xfer = false := by
  cases o <;> first | rfl | cases h

theorem sbRetry_load_ok {D : Decisions} {m : Int} {l : List Res} {k : Option Nat} {c : Call} {r : Res} (v : Nat)
    (hs : SOkC D m l k (.sbRetry c r)) :
    SOkC D m l (some v) (if sb D v then afterSbTrue D c false else .retv c r) := by
  simp only [SOkC] at hs
  split
  · -- back to the top of the loop body, or on to the wait: the earlier calls all asked to retry
    have h5 := allRetry_of_transparent hs.2.2.2 hs.2.2.1
    unfold afterSbTrue
    split <;> simp_all [SOkC]
  · simp only [SOkC]
    intro _
    exact ⟨hs.2.2.2, fun _ => Or.inr (Or.inr (Or.inl ⟨v, rfl, by simp_all⟩))⟩

theorem sbTop_load_ok {D : Decisions} {m : Int} {l : List Res} {k : Option Nat} {c : Call} (v : Nat)
    (hs : SOkC D m l k (.sbTop c)) :
    SOkC D m l (some v) (if sb D v then afterSbTrue D c true else .doSys c) := by
  simp only [SOkC] at hs
  split
  · unfold afterSbTrue
    split <;> simp_all [SOkC]
  · exact hs.2.2.2

theorem afterWait_ok {D : Decisions} {m : Int} {l : List Res} {k : Option Nat} {c : Call}
    (h : SOkC D m l k (.inWait c)) (ok : Bool) : SOkC D m l k (afterWait c ok) := by
  unfold afterWait
  (repeat' split) <;> simp_all [SOkC, not_xfer_of_isConnect]

/-- The S layer read off `step`: what event `e` does to the program counter and the ghost fields
    (`syss`, `lastChk`; `l`, `k` before) of the fiber it names.  Of the guards only those are kept
    that speak of the event, of `max_fd` and of these three fields.  `stay`: the event works on the
    E layer only (a poll that does not get the lock, an unlock after parking, the store of fix j …);
    a `ret` never stays. -/
inductive SMove (D : Decisions) (m : Int) : Ev → Pc → List Res → Option Nat → Pc → List Res → Option Nat → Prop
  | stay : (∀ f op r, e ≠ .ret f op r) → SMove D m e p l k p l k
  | call : SMove D m (.call f c) .idle l k (enter D m c) [] none
  | retv : SMove D m (.ret f c.op r) (.retv c r) l k .idle l k
  | retFail : (D.errnoOnClosed = true → x = EBADF) → SMove D m (.ret f c.op (.err x)) (.retFail c) l k .idle l k
  | soErr : SMove D m (.ret f c.op r) (.soErr c) l k .idle l k
  | sbTop : SMove D m (.fLoad f c.fd v) (.sbTop c) l k (if sb D v then afterSbTrue D c true else .doSys c) l (some v)
  | sbRetry : SMove D m (.fLoad f c.fd v) (.sbRetry c r) l k (if sb D v then afterSbTrue D c false else .retv c r) l (some v)
  | mChkSys : inRange m c.fd = true → SMove D m (.fLoad f c.fd v) (.mChk c) l k (.mSys c b) l k
  | mChkRmw : inRange m c.fd = true → SMove D m (.fLoad f c.fd v) (.mChk c) l k (.mRmw c (.ok 0)) l k
  | mGetMask : SMove D m (.fLoad f c.fd v) (.mGetMask c r) l k (.retv c (.ok r')) l k
  | setupFlag : SMove D m (.fOr f n old x) (.setupFlag c n left r) l k (.setupCtl c n left r) l k
  | pipeFlag : SMove D m (.fOr f n old x) (.pipeFlag c (n :: rest) r) l k (if rest = [] then .retv c r else .pipeFlag c rest r) l k
  | rmwOr : SMove D m (.fOr f c.fd old x) (.mRmw c r) l k (.retv c r) l k
  | rmwAnd : SMove D m (.fAnd f c.fd old x) (.mRmw c r) l k (.retv c r) l k
  | clStore : SMove D m (.fStore f c.fd v) (.clStore c) l k (.clSys c) l k
  | socketOk {n : Nat} : c.op.isSocket = true → inRange m (n : Int) = true →
      SMove D m (.sys f fd (.ok n)) (.doSys c) l k (.setupFlag c n [] (.ok n)) l k
  | socketErr : c.op.isSocket = true → SMove D m (.sys f fd (.err x)) (.doSys c) l k (.retv c (.err x)) l k
  | doSys : c.op.isSocket = false →
      (∀ n : Nat, c.op = .accept → r = .ok n → inRange m (n : Int) = true) →
      SMove D m (.sys f c.fd r) (.doSys c) l k (afterSys D m c r (l.length + 1)) (r :: l) none
  | mSysRmw : SMove D m (.sys f c.fd r) (.mSys c true) l k (.mRmw c r) l k
  | mSysGet : SMove D m (.sys f c.fd r) (.mSys c true) l k (.mGetMask c x) l k
  | mSysRet : SMove D m (.sys f c.fd r) (.mSys c b) l k (.retv c r) l k
  | clSys : SMove D m (.sys f c.fd r) (.clSys c) l k (.retv c r) l k
  | cjSys : SMove D m (.sys f fd r) (.clInSec c) l k (.clInSec c) [r] k
  | pairOk : c.op.isSocketpair = true → inRange m a = true → inRange m b = true →
      SMove D m (.sys2 f a b (.ok x)) (.doSys c) l k (.setupFlag c a [b] (.ok x)) l k
  | pipeOk : c.op.isPipe = true → inRange m a = true → inRange m b = true →
      SMove D m (.sys2 f a b (.ok x)) (.doSys c) l k (.pipeCtl c [a, b] [a, b] (.ok x)) l k
  | sys2Err : (c.op.isSocketpair || c.op.isPipe) = true →
      SMove D m (.sys2 f a b (.err x)) (.doSys c) l k (.retv c (.err x)) l k
  | setupMore : SMove D m (.sysCtl f n r) (.setupCtl c n (n2 :: rest) r0) l k (.setupFlag c n2 rest r0) l k
  | setupDone : SMove D m (.sysCtl f n r) (.setupCtl c n [] r0) l k (.retv c r0) l k
  | pipeCtl : SMove D m (.sysCtl f n r) (.pipeCtl c (n :: rest) both r0) l k
      (if rest = [] then .pipeFlag c both r0 else .pipeCtl c rest both r0) l k
  | waitIn : SMove D m (.lkPoll f c.fd v) (.wantWait c) l k (.inWait c) l k
  | closeIn : SMove D m (.lkPoll f c.fd v) (.clSec c) l k (.clInSec c) l k
  | waitFail : SMove D m (.ulStore f fd v) (.inWait c) l k (afterWait c false) l k
  | woken {v : Int} : SMove D m (.rScr f g v) (.inWait c) l k (afterWait c (v == 0)) l k
  | closeOut : SMove D m (.ulStore f fd v) (.clInSec c) l k
      (if D.closeUnderLock then .retv c (l.headD (.ok 0)) else if inRange m c.fd then .clStore c else .clSys c) l k

theorem step_fiber {D : Decisions} {s s' : St} {e : Ev} {f : Nat} (hst : step D s e = some s') (hf : sfib e = some f) :
    SMove D s.maxFd e (s.pc f) (s.syss f) (s.lastChk f) (s'.pc f) (s'.syss f) (s'.lastChk f) := by
  cases e <;> simp only [sfib, Option.some.injEq, reduceCtorEq] at hf <;> subst hf <;>
    simp only [step] at hst <;> step_cases hst
  all_goals (try simp_all only [upd, ↓reduceIte, ne_eq, Decidable.not_not, not_or])
  -- `constructor` finds the move; `mChk` has one move per outcome of its conditional, `lkPoll`
  -- one per outcome of `startSec`
  all_goals first
    | exact .stay (by simp)
    | (constructor <;> simp_all <;> done)
    | (constructor; grind)
    | (split <;> constructor <;> grind)
    | (simp only [startSec]; repeat' split
       all_goals first | exact .stay (by simp) | (subst_vars; simp only [*]; constructor))

theorem smove_sok {D : Decisions} {m : Int} {e : Ev} {p p' : Pc} {l l' : List Res} {k k' : Option Nat}
    (h : SMove D m e p l k p' l' k') (hs : SOkC D m l k p) : SOkC D m l' k' p' := by
  cases h
  case stay => exact hs
  case call => exact enter_ok _ _ _
  case sbTop => exact sbTop_load_ok _ hs
  case sbRetry => exact sbRetry_load_ok _ hs
  case doSys h => exact afterSys_ok _ _ _ _ _ hs (fun n hr ho => h n ho hr)
  case waitFail | woken => exact afterWait_ok hs _
  case pipeFlag | pipeCtl | closeOut => split <;> (try split) <;> simp_all [SOkC]
  all_goals simp_all [SOkC, Justified, not_xfer_of_isSocket, not_xfer_of_create2]

theorem sinv_step {D : Decisions} {s s' : St} {e : Ev} (h : SInv D s)
    (hst : step D s e = some s') : SInv D s' := by
  intro g
  by_cases hfg : some g = sfib e
  · simpa only [SOk, step_maxFd hst] using smove_sok (step_fiber hst hfg.symm) (h g)
  · obtain ⟨h1, h2, h3⟩ := (step_frame hst).2.1 g hfg
    simpa only [SOk, step_maxFd hst, h1, h2, h3] using h g

theorem ret_eagain_at_retv {D : Decisions} (hd : D.errnoOnClosed = true) {m : Int} {f : Nat} {op : Op} {p p' : Pc}
    {l l' : List Res} {k k' : Option Nat} (h : SMove D m (.ret f op (.err EAGAIN)) p l k p' l' k')
    (hs : SOkC D m l k p) (hx : op.xfer = true) : ∃ c, c.op = op ∧ p = .retv c (.err EAGAIN) := by
  cases h with
  | stay h => exact absurd rfl (h _ _ _)
  | retv => exact ⟨_, rfl, rfl⟩
  | retFail h => exact absurd (h hd) (by decide)  -- fix d: a failed wait reports EBADF
  | soErr => simp [SOkC, hx] at hs  -- only connect gets here

theorem sinv_of_run {D : Decisions} {m : Int} {es : List Ev} {s : St}
    (h : (sys D m).run es = some s) : SInv D s :=
  Sys.inv_of_run (sys D m) (SInv D) (sinv_init D m) (fun _ _ _ hi hs => sinv_step hi hs) h

structure XInv (s : St) : Prop where
  sec : ∀ fd, s.sec fd ≠ .free → inRange s.maxFd fd = true
  tk : ∀ a fd t, s.tk a = some (fd, t) → inRange s.maxFd fd = true
  opn : ∀ fd, s.isOpen fd = true → inRange s.maxFd fd = true

theorem xinv_init (m : Int) : XInv (init m) := by
  constructor <;> simp [init]

/-- the descriptor with which an event indexes `fd_info[]` / `wait_info[]` -/
def idx : Ev → Option Int
  | .fLoad _ fd _ | .fOr _ fd _ _ | .fAnd _ fd _ _ | .fStore _ fd _ => some fd
  | .lkTake _ fd _ | .lkPoll _ fd _ | .ulLoad _ fd _ | .ulStore _ fd _ => some fd
  | .rEvents _ fd _ | .wEvents _ fd _ | .rAdded _ fd _ | .wAdded _ fd _ | .rBoth _ fd _ _ => some fd
  | .rWaiters _ fd _ | .wWaiters _ fd _ => some fd
  | _ => none

theorem index_step {D : Decisions} (hb : D.boundsChecked = true) {s s' : St} {e : Ev} (hs : SInv D s) (hx : XInv s)
    (hst : step D s e = some s') {fd : Int} (hi : idx e = some fd) : inRange s.maxFd fd = true := by
  have h1 := hx.sec; have h2 := hx.tk
  cases e with
  | fLoad f x v | fOr f x old m | fAnd f x old m | fStore f x v | lkTake f x old =>
    -- the program counter of `f` names the descriptor; `SInv` or a guard says it is in range
    obtain rfl : x = fd := by simpa [idx] using hi
    have hg := hs f
    simp only [step] at hst; step_cases hst
    all_goals (simp only [SOk] at hg; (try simp only [*] at hg); grind [SOkC])
  | lkPoll a x v =>
    obtain rfl : x = fd := by simpa [idx] using hi
    cases htk : s.tk a with
    | none => simp [step, htk] at hst
    | some p =>
      obtain ⟨fd', t⟩ := p
      refine h2 a x t ?_
      by_cases hfd : fd' = x
      · rw [htk, hfd]
      · simp [step, htk, hfd] at hst
  | ulLoad a x v | ulStore a x v | rEvents a x v | wEvents a x v | rAdded a x v | wAdded a x v
  | rBoth a x ev ad | rWaiters a x hd | wWaiters a x hd =>
    obtain rfl : x = fd := by simpa [idx] using hi
    exact h1 x (fun hf => by simp [step, hf] at hst)
  | _ => simp [idx] at hi

/-- The index invariant is kept.  A critical section, a ticket or an open descriptor that is new
    comes from an event that indexes the tables with that descriptor (`index_step`) or from the
    kernel (`step_frame`); everything else is as before. -/
theorem xinv_step {D : Decisions} (hb : D.boundsChecked = true) {s s' : St} {e : Ev} (hs : SInv D s) (hx : XInv s)
    (hst : step D s e = some s') : XInv s' := by
  obtain ⟨hm, -, hE, hT, hO⟩ := step_frame hst
  have hidx := fun fd => index_step hb hs hx hst (fd := fd)
  refine ⟨fun fd hfd => ?_, fun a fd t ht => ?_, fun fd hfd => ?_⟩ <;> rw [hm]
  · by_cases hf : s.sec fd = .free
    · by_cases he : some fd = efd s e
      · cases e <;> simp only [efd, Option.some.injEq, reduceCtorEq] at he <;> (try subst he)
        case sys f r =>
          -- outside a critical section the close path of `sys` leaves `sec` alone
          simp only [step] at hst; step_cases hst
          all_goals simp_all
        case ctl => simp [step, hf] at hst
        case rScr | wScr | wSt => simp [step, ← he, hf] at hst
        all_goals exact hidx fd (by simp [idx])
      · rw [(hE fd he).1] at hfd; exact absurd hf hfd
    · exact hx.sec fd hf
  · by_cases ha : some a = tka e
    · cases e <;> simp only [tka, Option.some.injEq, reduceCtorEq] at ha <;> subst ha
      case lkTake x old =>
        have hxfd : x = fd := by
          have hst' := hst
          simp only [step] at hst'; step_cases hst'
          all_goals (simp [upd] at ht; exact ht.1)
        exact hidx fd (by simp [idx, hxfd])
      case lkPoll x v =>
        simp only [step] at hst; step_cases hst
        all_goals first | exact hx.tk _ _ _ ht | simp [upd] at ht
    · rw [hT a ha] at ht; exact hx.tk a fd t ht
  · rcases hO fd hfd with h | h
    · exact hx.opn fd h
    · exact h

theorem xinv_sinv_of_run {D : Decisions} (hb : D.boundsChecked = true) {m : Int} {es : List Ev} {s : St}
    (h : (sys D m).run es = some s) : SInv D s ∧ XInv s :=
  Sys.inv_of_run (sys D m) (fun s => SInv D s ∧ XInv s) ⟨sinv_init D m, xinv_init m⟩
    (fun _ _ _ hi hst => ⟨sinv_step hi.1 hst, xinv_step hb hi.1 hi.2 hst⟩) h

def Op.isCreate (o : Op) : Bool := o.isSocket || o.isSocketpair || o.isPipe

/-- where a call on a descriptor outside [0, max_fd) can be -/
def BOkC (m : Int) : Pc → Prop
  | .idle | .doSys _ | .clSys _ | .mSys _ _ => True
  | .retv c r => inRange m c.fd = false → c.op.isCreate = false → r = .err EBADF
  | .sbTop c | .sbRetry c _ | .wantWait c | .inWait c | .soErr c | .mChk c | .mRmw c _ | .mGetMask c _
  | .clSec c | .clInSec c | .clStore c | .retFail c => inRange m c.fd = true
  | .setupFlag c _ _ _ | .setupCtl c _ _ _ | .pipeCtl c _ _ _ | .pipeFlag c _ _ =>
      inRange m c.fd = true ∨ c.op.isCreate = true

def BOk (s : St) (f : Nat) : Prop := BOkC s.maxFd (s.pc f)
def BInv (s : St) : Prop := ∀ f, BOk s f

theorem binv_init (m : Int) : BInv (init m) := by intro f; simp [BOk, BOkC, init]

theorem enter_bok {D : Decisions} (hb : D.boundsChecked = true) (m : Int) (c : Call) : BOkC m (enter D m c) := by
  obtain ⟨op, fd, dw⟩ := c
  cases op <;> simp [enter, Op.isRead, hb] <;> (repeat' split) <;> simp_all [BOkC]

theorem afterSys_bok (D : Decisions) (m : Int) (c : Call) (r : Res) (n : Nat)
    (hk : inRange m c.fd = false → r = .err EBADF) : BOkC m (afterSys D m c r n) := by
  unfold afterSys
  simp only []
  repeat' split
  all_goals (simp_all [BOkC, retryable, EBADF, EAGAIN, EINPROGRESS])
  all_goals (try (by_cases hr : inRange m c.fd = true <;> simp_all [EBADF, EAGAIN, EINPROGRESS]))
  all_goals (try (split at * <;> simp_all))

theorem afterWait_bok {m : Int} {c : Call} (h : BOkC m (.inWait c)) (ok : Bool) : BOkC m (afterWait c ok) := by
  unfold afterWait
  (repeat' split) <;> simp_all [BOkC]

/-- `hk`: what `kernelOk` and `XInv.opn` say of a `sys` event -/
theorem smove_bok {D : Decisions} (hb : D.boundsChecked = true) {m : Int} {e : Ev} {p p' : Pc} {l l' : List Res}
    {k k' : Option Nat} (h : SMove D m e p l k p' l' k') (hs : SOkC D m l k p) (hB : BOkC m p)
    (hk : ∀ f fd r, e = .sys f fd r → inRange m fd = false → r = .err EBADF ∨ ∃ c, p = .doSys c ∧ c.op.isSocket = true) :
    BOkC m p' := by
  cases h
  case stay => exact hB
  case call => exact enter_bok hb _ _
  case doSys =>
    refine afterSys_bok _ _ _ _ _ fun hr => ?_
    rcases hk _ _ _ rfl hr with h | ⟨c, hc, hs⟩
    · exact h
    · cases hc; simp_all
  case waitFail | woken => exact afterWait_bok hB _
  all_goals first | have hk := hk _ _ _ rfl | clear hk
  all_goals grind [BOkC, SOkC, Op.isCreate, afterSbTrue, EBADF, EAGAIN]

theorem binv_step {D : Decisions} (hb : D.boundsChecked = true) {s s' : St} {e : Ev} (hs : SInv D s) (hx : XInv s)
    (h : BInv s) (hk : kernelOk s e = true) (hst : step D s e = some s') : BInv s' := by
  intro g
  by_cases hfg : some g = sfib e
  · -- the kernel rejects a call on a descriptor that is not open, and open descriptors are in range
    simpa only [BOk, step_maxFd hst] using smove_bok hb (step_fiber hst hfg.symm) (hs g) (h g) (by
      rintro f fd r rfl hr
      cases hfg
      have := hx.opn fd
      grind [kernelOk])
  · simpa only [BOk, step_maxFd hst, ((step_frame hst).2.1 g hfg).1] using h g

theorem sysK_step {D : Decisions} {m : Int} {s s' : St} {e : Ev} (h : (sysK D m).step s e = some s') :
    kernelOk s e = true ∧ step D s e = some s' := by
  simp only [sysK] at h
  split at h
  · exact ⟨by assumption, h⟩
  · simp at h

theorem allinv_of_runK {D : Decisions} (hb : D.boundsChecked = true) {m : Int} {es : List Ev} {s : St}
    (h : (sysK D m).run es = some s) : SInv D s ∧ XInv s ∧ BInv s ∧ s.maxFd = m :=
  Sys.inv_of_run (sysK D m) (fun s => SInv D s ∧ XInv s ∧ BInv s ∧ s.maxFd = m)
    ⟨sinv_init D m, xinv_init m, binv_init m, rfl⟩
    (fun _ _ _ hi hst => by
      obtain ⟨hk, hst⟩ := sysK_step hst
      exact ⟨sinv_step hi.1 hst, xinv_step hb hi.1 hi.2.1 hst, binv_step hb hi.1 hi.2.1 hi.2.2.1 hk hst,
             by rw [step_maxFd hst]; exact hi.2.2.2⟩) h

end LibfiberVerif.IoShim
