/-
  Proof/MultiChanWait.lean — the invariant of the waiter lists of the multi channel model, for BOTH
  list disciplines (`St.two = false`: ONE mixed list `waiters`, the code before /repo commit
  b18179b; `St.two = true`: `waiters` = blocked receivers, `send_waiters` = blocked senders, a send
  wakes a receiver, a receive wakes a sender — /repo since that commit).

  Shape of the invariant: what is known of a fiber depends on its pc only, so it is stated as a
  predicate of (state, fiber, pc) — `Held` for the owner of the lock (it includes the lock
  discipline `LInv`: what the owner has read of `high`/`low` is still current), `Out` for every
  fiber — and a step has to re-establish it for the one fiber it moves (`WInv.step`); for the
  others it carries over because the few fields `Out` reads are unchanged for them (`Out.frame`).

  On top of the lists, per discipline, the fact that excludes a lost wake-up:
  two lists — a counting argument.  `awR` is the (duplicate-free) list of receivers that are
  awake and have not yet taken their message; as long as some receiver is blocked,
      #messages buffered  ≤  #awake receivers  (+ 1 while a sender still owes its wake-up),
  because every message put while the receivers' list is non-empty wakes exactly one of them.
  Symmetrically for free slots and senders.
  one list — as long as only receivers (only senders) have ever blocked, a non-empty list and a
  non-empty (non-full) ring imply that some fiber is still on its way to a wake-up.
-/
import LibfiberVerif.Proof.MultiChanRing

namespace LibfiberVerif.MultiChan

/-- a receiver that is awake and has not yet taken its message -/
def Pc.awakeR : Pc → Bool → Bool
  | .lock o, _ | .lockWait o, _ | .gotHigh o _, _ | .gotLow o _ _, _ => o.isRecv
  | .rRead _ _, _ | .rCleared _ _, _ => true
  | .wAsleep o, wk => o.isRecv && wk
  | _, _ => false

/-- a sender that is awake and has not yet put its message -/
def Pc.awakeS : Pc → Bool → Bool
  | .lock o, _ | .lockWait o, _ | .gotHigh o _, _ | .gotLow o _ _, _ => o.isSend
  | .sWrote _ _, _ => true
  | .wAsleep o, wk => o.isSend && wk
  | _, _ => false

def b2n (b : Bool) : Nat := if b then 1 else 0

/-- the list `send_waiters` (`snd`) or `waiters`, and its head word -/
def St.lst (s : St) (snd : Bool) : List Nat := if snd then s.swl else s.wl
def St.hd (s : St) (snd : Bool) : Nat := if snd then s.swaiters else s.waiters

/-- the list an operation blocks on, and the list the internal_wake in progress works on -/
def St.side (s : St) (o : Op) : Bool := s.two && o.isSend
def St.wside (s : St) : Bool := s.two && s.wk

theorem St.side_recv (s : St) : s.side .recv = false := Bool.and_false _

theorem St.side_one {s : St} (h : s.two = false) (o : Op) : s.side o = false := by rw [St.side, h]; rfl

theorem St.side_send {s : St} (h : s.two = true) (v : Nat) : s.side (.send v) = true := by rw [St.side, h]; rfl

theorem St.wside_false {s : St} (h : ¬ (s.two = true ∧ s.wk = true)) : s.wside = false := by
  simpa [St.wside] using h

theorem St.wside_true {s : St} (h : s.two = true) (hk : s.wk = true) : s.wside = true := by
  rw [St.wside, h, hk]; rfl

def St.ever (s : St) : Op → Bool
  | .recv => s.everR
  | .send _ => s.everS

theorem ever_mono {s s' : St} (hS : s.everS = true → s'.everS = true) (hR : s.everR = true → s'.everR = true) :
    ∀ o, s.ever o = true → s'.ever o = true
  | .send _ => hS
  | .recv => hR

/-- what holds while `f` owns the lock and is at `p`: what it has read of `high`/`low` is still
    current; `pw` says that the owner is inside internal_wake, `waking` which fiber it has unlinked -/
def Held (s : St) (f : Nat) : Pc → Prop
  | .lockWait _ | .unlock _ => s.pw = false ∧ s.waking = none
  | .gotHigh _ h => s.pw = false ∧ s.waking = none ∧ h = s.high
  | .gotLow _ h l => s.pw = false ∧ s.waking = none ∧ h = s.high ∧ l = s.low
  | .sWrote _ h => s.pw = false ∧ s.waking = none ∧ h = s.high ∧ s.high - s.low < s.cap
  | .rRead l _ | .rCleared l _ => s.pw = false ∧ s.waking = none ∧ l = s.low ∧ s.high > s.low
  | .wGot o w => s.pw = false ∧ s.waking = none ∧ s.blocked o ∧ s.ever o = true ∧ w = s.hd (s.side o)
  | .wLinked o => s.pw = false ∧ s.waking = none ∧ s.blocked o ∧ s.ever o = true ∧ s.scr f = s.hd (s.side o)
  | .wListed o | .wPending o =>
    s.pw = false ∧ s.waking = none ∧ s.blocked o ∧ s.ever o = true ∧ f ∈ s.lst (s.side o)
  | .kTop _ => s.pw = true ∧ s.waking = none
  | .kGot _ w => s.pw = true ∧ s.waking = none ∧ ∃ rest, s.lst s.wside = w :: rest
  | .kNext _ w x => s.pw = true ∧ s.waking = none ∧ ∃ rest, s.lst s.wside = w :: rest ∧ x = headW rest
  | .kUnl _ w | .kClr _ w => s.pw = true ∧ s.waking = some w
  | .idle | .lock _ | .wAsleep _ | .handing _ | .done _ => False

structure Out (s : St) (f : Nat) (p : Pc) : Prop where
  known : p ≠ .idle → f ∈ s.fibers ∧ f ≠ 0
  asleep : s.woken f = true → ∃ o, p = .wAsleep o
  awR : f ∈ s.awR ↔ p.awakeR (s.woken f) = true
  awS : f ∈ s.awS ↔ p.awakeS (s.woken f) = true
  listed : ∀ b, f ∈ s.lst b → s.woken f = false ∧ ∃ o, p.listedOp = some o ∧ s.side o = b
  sleeper : ∀ o, p = .wAsleep o →
    s.ever o = true ∧ (s.woken f = false → f ∈ s.lst (s.side o) ∨ s.waking = some f)
  waking : s.waking = some f →
    s.woken f = false ∧ f ∉ s.wl ∧ f ∉ s.swl ∧ ∃ o, p = .wAsleep o ∧ s.side o = s.wside

/-- two lists, the counting invariants: while a receiver (a sender) is blocked, the messages
    buffered (the free slots) are covered by the receivers (senders) that are awake, plus the
    wake-up owed -/
def Count (s : St) : Prop :=
  (s.wl ≠ [] → s.high ≤ s.low + s.awR.length + b2n (s.pw && !s.wk)) ∧
  (s.swl ≠ [] → s.cap + s.low ≤ s.high + s.awS.length + b2n (s.pw && s.wk))

/-- one list, homogeneous so far: somebody is active (`pc` is passed on its own because a step is
    described by the update of `s.pc`) -/
def Wit (s : St) (pc : Nat → Pc) : Prop :=
  (s.everS = false → s.wl ≠ [] → s.high > s.low → ∃ g, (pc g).witR (s.woken g) = true) ∧
  (s.everR = false → s.wl ≠ [] → s.high - s.low < s.cap → ∃ g, (pc g).witS (s.woken g) = true)

structure WInv (s : St) : Prop where
  cs : ∀ f, (s.pc f).inCS = true → s.lock = some f
  hof : ∀ g, s.handoffBy = some g → s.lock = none
  rl : ListOk s.scr s.waiters s.wl
  sl : ListOk s.scr s.swaiters s.swl
  awR_nodup : s.awR.Nodup
  awS_nodup : s.awS.Nodup
  free : s.lock = none → s.pw = false ∧ s.waking = none
  held : ∀ g, s.lock = some g → Held s g (s.pc g)
  out : ∀ f, Out s f (s.pc f)
  count : s.two = true → Count s
  wit : s.two = false → Wit s s.pc

theorem winv_init (two : Bool) (cap : Nat) : WInv (init two cap) := by
  refine ⟨nofun, nofun, ⟨rfl, trivial, .nil, nofun⟩, ⟨rfl, trivial, .nil, nofun⟩, .nil, .nil, fun _ => ⟨rfl, rfl⟩,
    nofun, fun f => ?_, fun _ => ⟨fun h => absurd rfl h, fun h => absurd rfl h⟩,
    fun _ => ⟨fun _ h => absurd rfl h, fun _ h => absurd rfl h⟩⟩
  refine ⟨fun h => absurd rfl h, nofun, by simp [init, Pc.awakeR], by simp [init, Pc.awakeS], fun b h => ?_,
    nofun, nofun⟩
  cases b <;> exact nomatch h

theorem WInv.lstOk {s : St} (hi : WInv s) (b : Bool) : ListOk s.scr (s.hd b) (s.lst b) := by
  cases b
  · exact hi.rl
  · exact hi.sl

theorem out_awake {s : St} {f : Nat} {p : Pc} (hp : p.asleepOp = none) :
    Out s f p ↔ (p ≠ .idle → f ∈ s.fibers ∧ f ≠ 0) ∧ s.woken f = false ∧
      (f ∈ s.awR ↔ p.awakeR false = true) ∧ (f ∈ s.awS ↔ p.awakeS false = true) ∧
      (∀ b, f ∈ s.lst b → ∃ o, p.listedOp = some o ∧ s.side o = b) ∧ s.waking ≠ some f := by
  have hne : ∀ o, p ≠ .wAsleep o := fun o e => by rw [e] at hp; exact nomatch hp
  constructor
  · intro h
    have hw : s.woken f = false := by
      cases hw : s.woken f with
      | false => rfl
      | true => obtain ⟨o, ho⟩ := h.asleep hw; exact absurd ho (hne o)
    refine ⟨h.known, hw, hw ▸ h.awR, hw ▸ h.awS, fun b hm => (h.listed b hm).2, fun e => ?_⟩
    obtain ⟨_, _, _, o, ho, _⟩ := h.waking e
    exact hne o ho
  · rintro ⟨hk, hw, hr, hs, hl, hwk⟩
    exact ⟨hk, fun h => absurd (hw ▸ h) Bool.false_ne_true, hw ▸ hr, hw ▸ hs, fun b hm => ⟨hw, hl b hm⟩,
      fun o ho => absurd ho (hne o), fun e => absurd e hwk⟩

theorem Out.plain {s : St} {f : Nat} {p : Pc} (h : Out s f p) (hp : p.listedOp = none) :
    s.woken f = false ∧ f ∉ s.wl ∧ f ∉ s.swl ∧ s.waking ≠ some f := by
  have ha : p.asleepOp = none := by cases p <;> first | rfl | exact nomatch hp
  obtain ⟨_, hw, _, _, hl, hwk⟩ := (out_awake ha).1 h
  rw [hp] at hl
  exact ⟨hw, fun hm => (hl false hm).elim fun _ e => (nomatch e.1),
    fun hm => (hl true hm).elim fun _ e => (nomatch e.1), hwk⟩

theorem St.mem_lst {s : St} {b : Bool} {f : Nat} :
    f ∈ s.lst b ↔ (b = true ∧ f ∈ s.swl) ∨ (b = false ∧ f ∈ s.wl) := by
  cases b <;> simp [St.lst]

/-- `Out` of a fiber carries over to a state in which it is known, awake, listed and being woken
    as before -/
theorem Out.frame {s s' : St} {f : Nat} {p : Pc} (h : Out s f p)
    (hfib : ∀ x, x ∈ s.fibers → x ∈ s'.fibers := by exact fun _ h => h)
    (hwoken : s'.woken f = s.woken f := by rfl)
    (hawR : f ∈ s'.awR ↔ f ∈ s.awR := by rfl) (hawS : f ∈ s'.awS ↔ f ∈ s.awS := by rfl)
    (hwl : f ∈ s'.wl ↔ f ∈ s.wl := by rfl) (hswl : f ∈ s'.swl ↔ f ∈ s.swl := by rfl)
    (hwaking : s'.waking = some f ↔ s.waking = some f := by rfl)
    (hwk : s.waking = some f → s'.wk = s.wk := by exact fun _ => rfl)
    (hever : ∀ o, s.ever o = true → s'.ever o = true := by exact fun _ h => h)
    (htwo : s'.two = s.two := by rfl) : Out s' f p := by
  have hlst : ∀ b, f ∈ s'.lst b ↔ f ∈ s.lst b := by
    intro b; rw [St.mem_lst, St.mem_lst, hwl, hswl]
  have hside : ∀ o, s'.side o = s.side o := fun o => by rw [St.side, St.side, htwo]
  constructor
  · exact fun hp => ⟨hfib f (h.known hp).1, (h.known hp).2⟩
  · rw [hwoken]; exact h.asleep
  · rw [hawR, hwoken]; exact h.awR
  · rw [hawS, hwoken]; exact h.awS
  · intro b; rw [hlst, hwoken]; simp only [hside]; exact h.listed b
  · intro o ho; rw [hside, hlst, hwoken, hwaking]; exact ⟨hever o (h.sleeper o ho).1, (h.sleeper o ho).2⟩
  · rw [hwaking, hwoken, hwl, hswl]; intro hw
    simp only [hside, St.wside, htwo, hwk hw]; exact h.waking hw

/-- … and to another pc `c` as long as neither is asleep and both are listed alike; by default `c`
    counts as awake exactly if `p` does -/
theorem Out.to {s s' : St} {f : Nat} {p : Pc} (h : Out s f p) (c : Pc) (hp : p.asleepOp = none := by rfl)
    (hc : c.asleepOp = none := by rfl)
    (hknown : (p ≠ .idle → f ∈ s.fibers ∧ f ≠ 0) → c ≠ .idle → f ∈ s'.fibers ∧ f ≠ 0 := by
      exact fun h _ => h nofun)
    (hawR : (f ∈ s.awR ↔ p.awakeR false = true) → (f ∈ s'.awR ↔ c.awakeR false = true) := by exact id)
    (hawS : (f ∈ s.awS ↔ p.awakeS false = true) → (f ∈ s'.awS ↔ c.awakeS false = true) := by exact id)
    (hlisted : (∀ b, f ∈ s.lst b → ∃ o, p.listedOp = some o ∧ s.side o = b) →
      ∀ b, f ∈ s'.lst b → ∃ o, c.listedOp = some o ∧ s'.side o = b := by exact id)
    (hwoken : s'.woken f = s.woken f := by rfl)
    (hwaking : s'.waking = some f ↔ s.waking = some f := by rfl) : Out s' f c := by
  obtain ⟨h1, h2, h3, h4, h5, h6⟩ := (out_awake hp).1 h
  exact (out_awake hc).2 ⟨hknown h1, hwoken ▸ h2, hawR h3, hawS h4, hlisted h5, fun e => h6 (hwaking.1 e)⟩

/-- the lock discipline after a step that moves fiber `a` to `c` -/
structure Locked (s s' : St) (a : Nat) (c : Pc) : Prop where
  cs_a : c.inCS = true → s'.lock = some a
  cs : ∀ g, g ≠ a → (s.pc g).inCS = true → s'.lock = some g
  hof : ∀ g, s'.handoffBy = some g → s'.lock = none
  free : s'.lock = none → s'.pw = false ∧ s'.waking = none
  held_a : s'.lock = some a → Held s' a c
  held : ∀ g, g ≠ a → s'.lock = some g → Held s' g (s.pc g)

theorem WInv.not_held {s : St} (hi : WInv s) {f : Nat} {p : Pc} (hpc : s.pc f = p) (hp : ¬ Held s f p)
    {Q : Prop} (h : s.lock = some f) : Q :=
  absurd (hpc ▸ hi.held f h) hp

/-- a witness of activity survives a step that moves `a` to `c` if `a` stays one or was none -/
theorem wit_upd {W : Pc → Bool → Bool} {pc : Nat → Pc} {wk wk' : Nat → Bool} {a : Nat} {p c : Pc}
    (h : ∃ g, W (pc g) (wk g) = true) (hpc : pc a = p) (ha : W p (wk a) = true → W c (wk' a) = true)
    (hwk : ∀ g, g ≠ a → wk' g = wk g := by exact fun _ _ => rfl) : ∃ g, W (upd pc a c g) (wk' g) = true := by
  obtain ⟨g, hg⟩ := h
  by_cases e : g = a
  · subst e; exact ⟨g, by rw [upd_same]; exact ha (hpc ▸ hg)⟩
  · exact ⟨g, by rw [upd_other _ _ _ _ e, hwk g e]; exact hg⟩

theorem wit_self {W : Pc → Bool → Bool} {pc : Nat → Pc} {wk : Nat → Bool} {a : Nat} {c : Pc}
    (h : W c (wk a) = true) : ∃ g, W (upd pc a c g) (wk g) = true :=
  ⟨a, by rw [upd_same]; exact h⟩

theorem Wit.move {s s' : St} {a : Nat} {p c : Pc} (h : Wit s s.pc) (hpa : s.pc a = p)
    (hR : p.witR (s.woken a) = true → c.witR (s'.woken a) = true := by exact id)
    (hS : p.witS (s.woken a) = true → c.witS (s'.woken a) = true := by exact id)
    (hwoken : ∀ g, g ≠ a → s'.woken g = s.woken g := by exact fun _ _ => rfl)
    (heS : s'.everS = s.everS := by rfl) (heR : s'.everR = s.everR := by rfl)
    (hwl : s'.wl = s.wl := by rfl) (hhigh : s'.high = s.high := by rfl) (hlow : s'.low = s.low := by rfl)
    (hcap : s'.cap = s.cap := by rfl) : Wit s' (upd s.pc a c) :=
  ⟨fun h1 h2 h3 => wit_upd (h.1 (heS ▸ h1) (hwl ▸ h2) (hhigh ▸ hlow ▸ h3)) hpa hR hwoken,
    fun h1 h2 h3 => wit_upd (h.2 (heR ▸ h1) (hwl ▸ h2) (hhigh ▸ hlow ▸ hcap ▸ h3)) hpa hS hwoken⟩

/-- while a fiber is on its way to sleep, nothing is claimed about activity for its kind -/
theorem St.blocked_ever {s : St} {o : Op} (hb : s.blocked o) (he : s.ever o = true) :
    (s.everS = false → ¬ s.high > s.low) ∧ (s.everR = false → ¬ s.high - s.low < s.cap) := by
  cases o with
  | recv => exact ⟨fun _ => Nat.not_lt.2 hb, fun h => absurd (h.symm.trans he) nofun⟩
  | send v => exact ⟨fun h => absurd (h.symm.trans he) nofun, fun _ => hb⟩

/-- a woken sleeper goes back to the top of its loop -/
theorem WInv.out_rewoken {s s' : St} (hi : WInv s) {f : Nat} {o : Op} (hpc : s.pc f = .wAsleep o)
    (hw : s.woken f = true) (hwoken : s'.woken f = false := by exact upd_same _ _ _)
    (hfib : s'.fibers = s.fibers := by rfl) (hawR : s'.awR = s.awR := by rfl)
    (hawS : s'.awS = s.awS := by rfl) (hwl : s'.wl = s.wl := by rfl) (hswl : s'.swl = s.swl := by rfl)
    (hwaking : s'.waking = s.waking := by rfl) : Out s' f (.lockWait o) := by
  have ho := hi.out f; rw [hpc] at ho
  have hne : s.woken f ≠ false := by rw [hw]; nofun
  refine (out_awake rfl).2 ⟨fun _ => hfib ▸ ho.known nofun, hwoken, ?_, ?_, fun b hb => ?_, ?_⟩
  · rw [hawR, ho.awR, hw]; simp [Pc.awakeR]
  · rw [hawS, ho.awS, hw]; simp [Pc.awakeS]
  · refine absurd (ho.listed b ?_).1 hne
    rw [St.mem_lst] at hb ⊢; rwa [hwl, hswl] at hb
  · rw [hwaking]; exact fun h => absurd (ho.waking h).1 hne

/-- the blocked owner falls asleep when its lock is released for it -/
theorem Out.fall_asleep {s : St} {f : Nat} {o : Op} (h : Out s f (.wPending o)) (hm : f ∈ s.lst (s.side o))
    (he : s.ever o = true) : Out s f (.wAsleep o) := by
  obtain ⟨h1, h2, h3, h4, h5, h6⟩ := (out_awake rfl).1 h
  exact ⟨fun _ => h1 nofun, fun _ => ⟨o, rfl⟩, by rw [h3]; simp [Pc.awakeR, h2], by rw [h4]; simp [Pc.awakeS, h2],
    fun b hb => ⟨h2, h5 b hb⟩, fun o' e => by cases e; exact ⟨he, fun _ => .inl hm⟩, fun h => absurd h h6⟩

theorem WInv.head_asleep {s : St} (hi : WInv s) {a g : Nat} {b : Bool} {rest : List Nat}
    (hlk : s.lock = some a) (hga : g ≠ a) (h : s.lst b = g :: rest) :
    s.woken g = false ∧ (∃ o, s.pc g = .wAsleep o ∧ s.side o = b) ∧ g ∉ s.lst (!b) := by
  obtain ⟨hw, o, ho, hb⟩ := (hi.out g).listed b (h ▸ List.mem_cons_self)
  refine ⟨hw, ⟨o, ?_, hb⟩, fun hm => ?_⟩
  · have hout : ∀ p, s.pc g = p → p.inCS = true → False := fun p e hc =>
      hga (Option.some.inj ((hi.cs g (e ▸ hc)).symm.trans hlk))
    rcases listedOp_cases _ _ ho with e | e | e
    · exact (hout _ e rfl).elim
    · exact (hout _ e rfl).elim
    · exact e
  · obtain ⟨_, o', ho', hb'⟩ := (hi.out g).listed _ hm
    cases ho.symm.trans ho'
    rw [hb] at hb'; cases b <;> exact nomatch hb'

/-- the sleeper that internal_wake has just unlinked -/
theorem Out.unlinked {s s' : St} {g : Nat} {o : Op} (h : Out s g (.wAsleep o)) (hw : s.woken g = false)
    (hwl : g ∉ s'.wl) (hswl : g ∉ s'.swl) (hwaking : s'.waking = some g) (hwk : s'.side o = s'.wside)
    (hfib : s'.fibers = s.fibers := by rfl) (hwoken : s'.woken = s.woken := by rfl)
    (hawR : s'.awR = s.awR := by rfl) (hawS : s'.awS = s.awS := by rfl)
    (hever : s'.ever o = s.ever o := by rfl) : Out s' g (.wAsleep o) :=
  ⟨hfib ▸ h.known, fun _ => ⟨o, rfl⟩, hawR ▸ hwoken ▸ h.awR, hawS ▸ hwoken ▸ h.awS,
    fun b hb => by cases b <;> first | exact absurd hb hwl | exact absurd hb hswl,
    fun o' e => by cases e; exact ⟨hever ▸ (h.sleeper o rfl).1, fun _ => .inr hwaking⟩,
    fun _ => ⟨hwoken ▸ hw, hwl, hswl, o, rfl, hwk⟩⟩

/-- the sleeper that internal_wake has just made READY -/
theorem Out.readied {s s' : St} {w : Nat} {o : Op} (h : Out s w (.wAsleep o)) (hwoken : s'.woken w = true)
    (hawR : w ∈ s'.awR ↔ o.isRecv = true) (hawS : w ∈ s'.awS ↔ o.isSend = true)
    (hwl : w ∉ s'.wl) (hswl : w ∉ s'.swl) (hwaking : s'.waking = none)
    (hfib : s'.fibers = s.fibers := by rfl) (hever : s'.ever o = s.ever o := by rfl) : Out s' w (.wAsleep o) :=
  ⟨hfib ▸ h.known, fun _ => ⟨o, rfl⟩, by rw [hawR, hwoken]; simp [Pc.awakeR], by rw [hawS, hwoken]; simp [Pc.awakeS],
    fun b hb => by cases b <;> first | exact absurd hb hwl | exact absurd hb hswl,
    fun o' e => by cases e; exact ⟨hever ▸ (h.sleeper o rfl).1, fun h' => absurd (hwoken.symm.trans h') nofun⟩,
    fun h' => absurd (hwaking.symm.trans h') nofun⟩

/-- nobody but the owner of the lock is inside the critical section; nobody while the lock is free -/
theorem WInv.alone {s : St} (hi : WInv s) {a : Nat} (hlk : s.lock = some a) {Q : Nat → Prop} :
    ∀ g, g ≠ a → (s.pc g).inCS = true → Q g :=
  fun g hg h => absurd (Option.some.inj ((hi.cs g h).symm.trans hlk)) hg

theorem WInv.nobody {s : St} (hi : WInv s) (hlk : s.lock = none) {a : Nat} {Q : Nat → Prop} :
    ∀ g, g ≠ a → (s.pc g).inCS = true → Q g :=
  fun g _ h => not_free (hi.cs g h) hlk

theorem WInv.held_at {s : St} (hi : WInv s) {f : Nat} {p : Pc} (e : s.pc f = p) (hc : p.inCS = true := by rfl) :
    Held s f p :=
  e ▸ hi.held f (hi.cs f (e ▸ hc))

theorem WInv.toLInv {s : St} (hi : WInv s) : LInv s :=
  ⟨hi.cs, hi.hof, fun _ _ _ e => (hi.held_at e).2.2, fun _ _ _ _ e => (hi.held_at e).2.2,
    fun _ _ _ e => (hi.held_at e).2.2, fun _ _ _ e => (hi.held_at e).2.2, fun _ _ _ e => (hi.held_at e).2.2⟩

theorem WInv.owner {s : St} (hi : WInv s) {a : Nat} {p : Pc} (hpa : s.pc a = p) (hcs : p.inCS = true := by rfl) :
    s.lock = some a ∧ Held s a p ∧ Out s a p :=
  have hlk := hi.cs a (hpa ▸ hcs)
  ⟨hlk, hpa ▸ ⟨hi.held a hlk, hi.out a⟩⟩

/-- the invariant after a step that moves fiber `a` from `p` to `c`: the lists, the awake fibers, what
    holds of every fiber and the counts are carried over from the state before, by default unchanged -/
theorem WInv.step {s s' : St} (hi : WInv s) {a : Nat} {p c : Pc} (hpa : s.pc a = p)
    (hpc : s'.pc = upd s.pc a c) (lk : Locked s s' a c) (two : s'.two = s.two := by rfl)
    (wit : s.two = false → Wit s s.pc → Wit s' (upd s.pc a c) := by exact fun _ h => h.move ‹_›)
    (rl : ListOk s.scr s.waiters s.wl → ListOk s'.scr s'.waiters s'.wl := by exact id)
    (sl : ListOk s.scr s.swaiters s.swl → ListOk s'.scr s'.swaiters s'.swl := by exact id)
    (nr : s.awR.Nodup → s'.awR.Nodup := by exact id) (ns : s.awS.Nodup → s'.awS.Nodup := by exact id)
    (out_a : Out s a p → Out s' a c := by exact fun h => h.to _)
    (out : ∀ f, f ≠ a → Out s f (s.pc f) → Out s' f (s.pc f) := by exact fun _ _ h => h.frame)
    (count : s.two = true → Count s → Count s' := by exact fun _ => id) : WInv s' := by
  refine ⟨?_, lk.hof, rl hi.rl, sl hi.sl, nr hi.awR_nodup, ns hi.awS_nodup, lk.free, ?_, ?_,
    fun h => count (two ▸ h) (hi.count (two ▸ h)), hpc ▸ fun h => wit (two ▸ h) (hi.wit (two ▸ h))⟩
  · rw [hpc]; exact forall_upd (P := fun g (p : Pc) => p.inCS = true → s'.lock = some g) lk.cs_a lk.cs
  · intro g hg
    rw [hpc]
    exact forall_upd (P := fun g p => s'.lock = some g → Held s' g p) lk.held_a lk.held g hg
  · rw [hpc]; exact forall_upd (out_a (hpa ▸ hi.out a)) (fun f hf => out f hf (hi.out f))

/-- the lock discipline after a step by the owner `a` of the lock that keeps the lock; `held` is what
    `a` knows at its new pc -/
theorem WInv.owns {s s' : St} (hi : WInv s) {a : Nat} {p c : Pc} (hpa : s.pc a = p)
    (held : Held s a p → Held s' a c) (hcs : p.inCS = true := by rfl)
    (hlock : s'.lock = s.lock := by rfl) (hho : s'.handoffBy = s.handoffBy := by rfl) : Locked s s' a c :=
  have hlk := hi.cs a (hpa ▸ hcs)
  have hlk' := hlock.trans hlk
  ⟨fun _ => hlk', hi.alone hlk, fun g h => hlock ▸ hi.hof g (hho ▸ h), not_free hlk',
    fun _ => held (hpa ▸ hi.held a hlk), only_holder hlk'⟩

theorem winv_step {s s' : St} {e : Ev} (hr : RInv s) (hi : WInv s) (hs : Step s e s') : WInv s' := by
  cases hs with
  | @callSend f v hpc hv hf =>
    -- one more awake sender: the senders' bound gets weaker
    have ho : Out s f .idle := hpc ▸ hi.out f
    exact hi.step hpc rfl ⟨nofun, fun g _ => hi.cs g, hi.hof, hi.free, hi.not_held hpc id, fun g _ => hi.held g⟩ (wit := fun _ h => h.move hpc nofun nofun)
      (ns := fun h => List.nodup_cons.2 ⟨fun h' => (nomatch ho.awS.1 h'), h⟩)
      (out_a := fun h => h.to _ (hknown := fun _ _ => ⟨(mem_addFiber _ _ _).2 (.inr rfl), hf⟩)
        (hawS := fun _ => by simp [Pc.awakeS, Op.isSend]))
      (out := fun g hg h => h.frame (hfib := fun x hx => (mem_addFiber _ _ _).2 (.inl hx)) (hawS := by simp [hg]))
      (count := fun _ h => ⟨h.1, fun hne => by have := h.2 hne; simp only [List.length_cons]; omega⟩)
  | @callRecv f hpc hf =>
    have ho : Out s f .idle := hpc ▸ hi.out f
    exact hi.step hpc rfl ⟨nofun, fun g _ => hi.cs g, hi.hof, hi.free, hi.not_held hpc id, fun g _ => hi.held g⟩ (wit := fun _ h => h.move hpc nofun nofun)
      (nr := fun h => List.nodup_cons.2 ⟨fun h' => (nomatch ho.awR.1 h'), h⟩)
      (out_a := fun h => h.to _ (hknown := fun _ _ => ⟨(mem_addFiber _ _ _).2 (.inr rfl), hf⟩)
        (hawR := fun _ => by simp [Pc.awakeR, Op.isRecv]))
      (out := fun g hg h => h.frame (hfib := fun x hx => (mem_addFiber _ _ _).2 (.inl hx)) (hawR := by simp [hg]))
      (count := fun _ h => ⟨fun hne => by have := h.1 hne; simp only [List.length_cons]; omega, h.2⟩)
  | retSend hpc | retRecv hpc | queue hpc => exact hi.step hpc rfl ⟨nofun, fun g _ => hi.cs g, hi.hof, hi.free, hi.not_held hpc id, fun g _ => hi.held g⟩
  | requeue hpc hw =>
    exact hi.step hpc rfl ⟨nofun, fun g _ => hi.cs g, hi.hof, hi.free, hi.not_held hpc id, fun g _ => hi.held g⟩
      (wit := fun _ h => h.move hpc (by rw [hw]; simp [Pc.witR]) (by rw [hw]; simp [Pc.witS])
        (fun g hg => upd_other _ _ _ _ hg))
      (out_a := fun _ => hi.out_rewoken hpc hw) (out := fun g hg h => h.frame (hwoken := upd_other _ _ _ _ hg))
  | acquire hpc _ hlk hh =>
    exact hi.step hpc rfl ⟨nofun, hi.nobody hlk, fun g h => absurd (hh.symm.trans h) nofun, nofun,
      fun _ => hi.free hlk, only_holder rfl⟩
  | reacquire hpc hw _ hlk hh =>
    exact hi.step hpc rfl ⟨nofun, hi.nobody hlk, fun g h => absurd (hh.symm.trans h) nofun, nofun,
      fun _ => hi.free hlk, only_holder rfl⟩
      (wit := fun _ h => h.move hpc (by rw [hw]; simp [Pc.witR]) (by rw [hw]; simp [Pc.witS])
        (fun g hg => upd_other _ _ _ _ hg))
      (out_a := fun _ => hi.out_rewoken hpc hw) (out := fun g hg h => h.frame (hwoken := upd_other _ _ _ _ hg))
  | release hpc hlk | releaseOwing hpc hlk =>
    exact hi.step hpc rfl ⟨nofun, hi.alone hlk, fun _ _ => rfl, fun _ => (hi.owner hpc).2.1, nofun, nofun⟩
  | releaseFor hlk hpc =>
    -- the deferred unlock: the owner, listed and pending, is asleep from here on
    obtain ⟨_, hH, _⟩ := hi.owner hpc
    exact hi.step hpc rfl ⟨nofun, hi.alone hlk, fun _ _ => rfl, fun _ => ⟨hH.1, hH.2.1⟩, nofun, nofun⟩
      (wit := fun _ h => h.move hpc nofun nofun) (out_a := fun h => (h.fall_asleep hH.2.2.2.2 hH.2.2.2.1).frame)
  | handoffDone _ hlk hg hpc hfg =>
    refine hi.step hpc rfl ⟨nofun, hi.nobody hlk, nofun, nofun, fun h => absurd (Option.some.inj h) hfg.symm,
      fun g' _ h => ?_⟩
    cases Option.some.inj h; rw [hg]; exact hi.free hlk
  | handoff _ hlk hg =>
    refine ⟨fun g h => not_free (hi.cs g h) hlk, nofun, hi.rl, hi.sl, hi.awR_nodup, hi.awS_nodup, nofun, fun g' h => ?_,
      fun g => (hi.out g).frame, hi.count, hi.wit⟩
    cases Option.some.inj h; exact hg ▸ hi.free hlk
  | rHigh hpc hlk =>
    have hH := hpc ▸ hi.held _ hlk
    exact hi.step hpc rfl ⟨fun _ => hlk, hi.alone hlk, hi.hof, hi.free, fun _ => ⟨hH.1, hH.2, rfl⟩, only_holder hlk⟩
  | @wStateWaiting f _ hpc | @clear f _ _ hpc =>
    exact hi.step hpc rfl (hi.owns hpc id)
  | @rLow f _ _ hpc =>
    exact hi.step hpc rfl (hi.owns hpc (fun hH => ⟨hH.1, hH.2.1, hH.2.2, rfl⟩))
  | @put f _ _ _ hpc hroom =>
    exact hi.step hpc rfl (hi.owns hpc (fun ⟨h1, h2, e1, e2⟩ => ⟨h1, h2, e1, e1 ▸ e2 ▸ hroom⟩))
  | @rBuf f _ _ hpc hne =>
    exact hi.step hpc rfl (hi.owns hpc (fun ⟨h1, h2, e1, e2⟩ => ⟨h1, h2, e2, e1 ▸ e2 ▸ hne⟩))
  | @blockS1 f v _ _ hpc hfull htwo | @blockS2 f v _ _ htwo hpc hfull =>
    -- a sender gives up: the ring is full (and with one list the list may be mixed from now on)
    obtain ⟨_, ⟨hpw, hwkg, rfl, rfl⟩, _⟩ := hi.owner hpc
    refine hi.step hpc rfl
      (hi.owns hpc (fun _ => ⟨hpw, hwkg, hfull, rfl, show _ = s.hd (s.side (.send v)) by rw [St.side, htwo]; rfl⟩))
      (wit := fun _ _ => ⟨nofun, fun _ _ h3 => absurd h3 hfull⟩) (ns := fun h => h.erase f)
      (out_a := fun h => h.to _ (hawS := fun _ => by simp [hi.awS_nodup.mem_erase_iff, Pc.awakeS]))
      (out := fun g hg h => h.frame (hawS := List.mem_erase_of_ne hg) (hever := ever_mono (fun _ => rfl) id))
      (count := fun _ h => ⟨h.1, fun _ => ?_⟩)
    have := hr.lowhigh.1
    show s.cap + s.low ≤ s.high + _ + _
    omega
  | @blockR f _ _ hpc hempty =>
    -- a receiver gives up: the ring is empty, so the receivers' bound holds whatever `awR` is
    obtain ⟨_, ⟨hpw, hwkg, rfl, rfl⟩, _⟩ := hi.owner hpc
    have hle : s.high ≤ s.low := Nat.le_of_not_lt hempty
    exact hi.step hpc rfl (hi.owns hpc (fun _ => ⟨hpw, hwkg, hle, rfl, show s.waiters = s.hd (s.side .recv) by rw [St.side_recv]; rfl⟩))
      (wit := fun _ _ => ⟨fun _ _ h3 => absurd h3 hempty, nofun⟩) (nr := fun h => h.erase f)
      (out_a := fun h => h.to _ (hawR := fun _ => by simp [hi.awR_nodup.mem_erase_iff, Pc.awakeR]))
      (out := fun g hg h => h.frame (hawR := List.mem_erase_of_ne hg) (hever := ever_mono id (fun _ => rfl)))
      (count := fun _ h => ⟨fun _ => Nat.le_add_right_of_le (Nat.le_add_right_of_le hle), h.2⟩)
  | @wakeNone f _ hpc hk h0 =>
    -- nobody to wake: the list is empty, the owed wake-up lapses
    have hnil := hi.rl.eq_nil h0
    have hwk : s.two = true → s.wk = false := fun h => by simpa [h] using hk
    exact hi.step hpc rfl (hi.owns hpc (fun hH => ⟨rfl, hH.2⟩))
      (wit := fun _ _ => ⟨fun _ h => absurd hnil h, fun _ h => absurd hnil h⟩)
      (count := fun h2 h => ⟨fun h => absurd hnil h,
        fun hne => by have := h.2 hne; rw [hwk h2] at this; simpa using this⟩)
  | @wakeNoneS f _ htwo hpc hk h0 =>
    exact hi.step hpc rfl (hi.owns hpc (fun hH => ⟨rfl, hH.2⟩))
      (wit := fun h => absurd (htwo.symm.trans h) nofun)
      (count := fun _ h => ⟨fun hne => by have := h.1 hne; rw [hk] at this; simpa using this,
        fun h => absurd (hi.sl.eq_nil h0) h⟩)
  | @wakeHead f _ hpc hk h0 =>
    exact hi.step hpc rfl
      (hi.owns hpc (fun hH => ⟨hH.1, hH.2, show ∃ rest, s.lst s.wside = s.waiters :: rest by
        rw [St.wside_false hk]; exact hi.rl.eq_cons h0⟩))
  | @wakeHeadS f _ htwo hpc hk h0 =>
    exact hi.step hpc rfl
      (hi.owns hpc (fun hH => ⟨hH.1, hH.2, show ∃ rest, s.lst s.wside = s.swaiters :: rest by
        rw [St.wside_true htwo hk]; exact hi.sl.eq_cons h0⟩))
  | @link f _ w hpc =>
    obtain ⟨hlk, _, ho⟩ := hi.owner hpc
    obtain ⟨_, hwl, hswl, _⟩ := ho.plain rfl
    exact hi.step hpc rfl
      (hi.owns hpc (fun hH => ⟨hH.1, hH.2.1, hH.2.2.1, hH.2.2.2.1, (upd_same _ _ _).trans hH.2.2.2.2⟩))
      (rl := fun h => h.upd_scr hwl w) (sl := fun h => h.upd_scr hswl w)
  | @unlink f _ w hpc =>
    obtain ⟨hlk, hH, _⟩ := hi.owner hpc
    obtain ⟨_, hwl, hswl, _⟩ := (hi.out w).waking hH.2
    exact hi.step hpc rfl (hi.owns hpc id) (rl := fun h => h.upd_scr hwl 0)
      (sl := fun h => h.upd_scr hswl 0)
  | @rScratch f _ w hpc =>
    refine hi.step hpc rfl (hi.owns hpc (fun ⟨hpw, hwkg, rest, hrest⟩ => ?_))
    have hp := hi.lstOk s.wside; rw [hrest] at hp
    exact ⟨hpw, hwkg, rest, hrest, hp.pop.2.1⟩
  | @push f o hpc ho' =>
    have hside : s.side o = false := by
      cases h : s.two with
      | false => exact St.side_one h o
      | true => rw [ho' h]; exact St.side_recv s
    obtain ⟨hlk, ⟨hpw, hwkg, hb, he, hscr⟩, ho⟩ := hi.owner hpc
    rw [hside] at hscr
    obtain ⟨_, hwl, hswl, _⟩ := ho.plain rfl
    exact hi.step hpc rfl
      (hi.owns hpc (fun _ => ⟨hpw, hwkg, hb, he, show f ∈ St.lst _ (s.side o) by rw [hside]; exact List.mem_cons_self⟩))
      (wit := fun _ _ => ⟨fun h1 _ h3 => absurd h3 ((St.blocked_ever hb he).1 h1),
        fun h1 _ h3 => absurd h3 ((St.blocked_ever hb he).2 h1)⟩) (rl := fun h => h.push hscr hwl (ho.known nofun).2)
      (out_a := fun h => h.to _
        (hlisted := fun _ b hb => by cases b <;> first | exact ⟨o, rfl, hside⟩ | exact absurd hb hswl))
      (out := fun g hg h => h.frame (hwl := List.mem_cons.trans (or_iff_right hg)))
      (count := fun h2 h => ⟨fun _ => by
        have hb : s.blocked .recv := ho' h2 ▸ hb
        exact Nat.le_add_right_of_le (Nat.le_add_right_of_le hb), h.2⟩)
  | @pushS f v htwo hpc =>
    obtain ⟨hlk, ⟨hpw, hwkg, hb, he, hscr⟩, ho⟩ := hi.owner hpc
    rw [St.side_send htwo] at hscr
    obtain ⟨_, hwl, hswl, _⟩ := ho.plain rfl
    refine hi.step hpc rfl
      (hi.owns hpc (fun _ => ⟨hpw, hwkg, hb, he, show f ∈ St.lst _ (s.side (.send v)) by
        rw [St.side_send htwo]; exact List.mem_cons_self⟩))
      (wit := fun h => absurd (htwo.symm.trans h) nofun) (sl := fun h => h.push hscr hswl (ho.known nofun).2)
      (out_a := fun h => h.to _
        (hlisted := fun _ b hb => by cases b <;> first | exact absurd hb hwl | exact ⟨_, rfl, St.side_send htwo v⟩))
      (out := fun g hg h => h.frame (hswl := List.mem_cons.trans (or_iff_right hg)))
      (count := fun _ h => ⟨h.1, fun _ => ?_⟩)
    have := hr.lowhigh.1
    have : ¬ (s.high - s.low < s.cap) := hb
    show s.cap + s.low ≤ s.high + _ + _
    omega
  | @wHigh f v h hpc =>
    -- one more message, one awake sender less, and a wake-up of a receiver owed
    obtain ⟨_, ⟨hpw, hwkg, rfl, hlt⟩, ho⟩ := hi.owner hpc
    have hlen := List.length_erase_of_mem (ho.awS.2 rfl)
    have hpos : 0 < s.awS.length := List.length_pos_of_mem (ho.awS.2 rfl)
    exact hi.step hpc rfl (hi.owns hpc (fun _ => ⟨rfl, hwkg⟩)) (wit := fun _ _ => ⟨fun _ _ _ => wit_self rfl, fun _ _ _ => wit_self rfl⟩)
      (ns := fun h => h.erase f)
      (out_a := fun h => h.to _ (hawS := fun _ => by simp [hi.awS_nodup.mem_erase_iff, Pc.awakeS]))
      (out := fun g hg h => h.frame (hawS := List.mem_erase_of_ne hg)
        (hwk := fun h => absurd (hwkg.symm.trans h) nofun))
      (count := fun _ h => ⟨fun hne => by have := h.1 hne; rw [hpw] at this; simpa [b2n] using this,
        fun hne => by have := h.2 hne; rw [hpw] at this; simp [b2n, hlen] at this ⊢; omega⟩)
  | @wLow f l m hpc =>
    obtain ⟨_, ⟨hpw, hwkg, rfl, hlt⟩, ho⟩ := hi.owner hpc
    have hlen := List.length_erase_of_mem (ho.awR.2 rfl)
    have hpos : 0 < s.awR.length := List.length_pos_of_mem (ho.awR.2 rfl)
    exact hi.step hpc rfl (hi.owns hpc (fun _ => ⟨rfl, hwkg⟩)) (wit := fun _ _ => ⟨fun _ _ _ => wit_self rfl, fun _ _ _ => wit_self rfl⟩)
      (nr := fun h => h.erase f)
      (out_a := fun h => h.to _ (hawR := fun _ => by simp [hi.awR_nodup.mem_erase_iff, Pc.awakeR]))
      (out := fun g hg h => h.frame (hawR := List.mem_erase_of_ne hg)
        (hwk := fun h => absurd (hwkg.symm.trans h) nofun))
      (count := fun _ h => ⟨fun hne => by have := h.1 hne; rw [hpw] at this; simp [b2n, hlen] at this ⊢; omega,
        fun hne => by have := h.2 hne; rw [hpw] at this; simp [b2n] at this ⊢; omega⟩)
  | @pop f res g x hpc hk =>
    -- the head `g` leaves the list: it is asleep, un-woken, and now the fiber being woken
    obtain ⟨hlk, ⟨hpw, hwkg, rest, hrest, hx⟩, ho⟩ := hi.owner hpc
    rw [St.wside_false hk] at hrest
    replace hrest : s.wl = g :: rest := hrest
    have hp := hi.rl; rw [hrest] at hp
    have hgf : f ≠ g := fun e => (ho.plain rfl).2.1 (e ▸ hrest ▸ List.mem_cons_self)
    obtain ⟨hgw, ⟨o, hgpc, hgo⟩, hgs⟩ := hi.head_asleep (b := false) hlk hgf.symm hrest
    have hnot : g ∉ s.wl.drop 1 := fun h => hp.pop.2.2 (by rwa [hrest] at h)
    refine hi.step hpc rfl (hi.owns hpc (fun _ => ⟨hpw, rfl⟩))
      (wit := fun _ _ => ⟨fun _ _ _ => wit_self rfl, fun _ _ _ => wit_self rfl⟩) (rl := fun _ => ?_)
      (out_a := fun h => h.to _ (hwaking := some_iff_of_none hwkg hgf)
        (hlisted := fun h b hb => h b (by cases b <;> first | exact List.mem_of_mem_drop hb | exact hb)))
      (out := fun g' _ h => ?_) (count := fun _ h => ⟨fun _ => h.1 (by rw [hrest]; nofun), h.2⟩)
    · show ListOk s.scr x (s.wl.drop 1)
      rw [hrest, hx]; exact hp.pop.1
    · by_cases e : g' = g
      · subst e; rw [hgpc] at h ⊢
        exact h.unlinked hgw hnot hgs rfl (hgo.trans (St.wside_false hk).symm)
      · exact h.frame (hwl := mem_drop_one hrest e) (hwaking := some_iff_of_none hwkg e)
  | @popS f res g x htwo hpc hk =>
    obtain ⟨hlk, ⟨hpw, hwkg, rest, hrest, hx⟩, ho⟩ := hi.owner hpc
    rw [St.wside_true htwo hk] at hrest
    replace hrest : s.swl = g :: rest := hrest
    have hp := hi.sl; rw [hrest] at hp
    have hgf : f ≠ g := fun e => (ho.plain rfl).2.2.1 (e ▸ hrest ▸ List.mem_cons_self)
    obtain ⟨hgw, ⟨o, hgpc, hgo⟩, hgs⟩ := hi.head_asleep (b := true) hlk hgf.symm hrest
    have hnot : g ∉ s.swl.drop 1 := fun h => hp.pop.2.2 (by rwa [hrest] at h)
    refine hi.step hpc rfl (hi.owns hpc (fun _ => ⟨hpw, rfl⟩)) (wit := fun h => absurd (htwo.symm.trans h) nofun)
      (sl := fun _ => ?_)
      (out_a := fun h => h.to _ (hwaking := some_iff_of_none hwkg hgf)
        (hlisted := fun h b hb => h b (by cases b <;> first | exact List.mem_of_mem_drop hb | exact hb)))
      (out := fun g' _ h => ?_) (count := fun _ h => ⟨h.1, fun _ => h.2 (by rw [hrest]; nofun)⟩)
    · show ListOk s.scr x (s.swl.drop 1)
      rw [hrest, hx]; exact hp.pop.1
    · by_cases e : g' = g
      · subst e; rw [hgpc] at h ⊢
        exact h.unlinked hgw hgs hnot rfl (hgo.trans (St.wside_true htwo hk).symm)
      · exact h.frame (hswl := mem_drop_one hrest e) (hwaking := some_iff_of_none hwkg e)
  | @wakeR f res w hpc hw =>
    -- the owed wake-up is paid: `w` is awake again and counts as an awake receiver
    obtain ⟨hlk, ⟨hpw, hwkg⟩, ho⟩ := hi.owner hpc
    have how : Out s w (.wAsleep .recv) := hw ▸ hi.out w
    obtain ⟨hww, hwl, hswl, o, ho', hwk⟩ := how.waking hwkg
    cases ho'
    have hwk : s.two = true → s.wk = false := fun h => by simpa [St.side, St.wside, h, Op.isSend] using hwk
    have hwf : f ≠ w := fun e => by rw [e, hw] at hpc; exact nomatch hpc
    have hnot : w ∉ s.awR := fun h => by have := how.awR.1 h; rw [hww] at this; exact nomatch this
    have hnot' : w ∉ s.awS := fun h => by have := how.awS.1 h; rw [hww] at this; exact nomatch this
    refine hi.step hpc rfl (hi.owns hpc (fun _ => ⟨rfl, rfl⟩))
      (wit := fun _ _ => ⟨fun _ _ _ => ⟨w, ?_⟩, fun h1 _ _ => absurd (h1.symm.trans (how.sleeper _ rfl).1) nofun⟩)
      (nr := fun h => List.nodup_cons.2 ⟨hnot, h⟩)
      (out_a := fun h => h.to _ (hwoken := upd_other _ _ _ _ hwf)
        (hawR := (List.mem_cons.trans (or_iff_right hwf)).trans) (hwaking := ⟨nofun, fun h => absurd h (ho.plain rfl).2.2.2⟩))
      (out := fun g' _ h => ?_) (count := fun h2 h => ⟨fun hne => ?_, fun hne => ?_⟩)
    · rw [upd_other _ _ _ _ hwf.symm, hw]
      show Pc.witR _ (upd s.woken w true w) = true
      rw [upd_same]; rfl
    · by_cases e : g' = w
      · subst e; rw [hw] at h ⊢
        exact h.readied (upd_same _ _ _) (by simp [Op.isRecv]) (by simpa [Op.isSend] using hnot') hwl hswl rfl
      · exact h.frame (hwoken := upd_other _ _ _ _ e) (hawR := List.mem_cons.trans (or_iff_right e))
          (hwaking := ⟨nofun, fun h => absurd (Option.some.inj (hwkg.symm.trans h)) (Ne.symm e)⟩)
    · have := h.1 hne; rw [hpw, hwk h2] at this
      simp [b2n] at this ⊢; omega
    · have := h.2 hne; rw [hpw, hwk h2] at this
      simpa [b2n] using this
  | @wakeS f res w v hpc hw =>
    obtain ⟨hlk, ⟨hpw, hwkg⟩, ho⟩ := hi.owner hpc
    have how : Out s w (.wAsleep (.send v)) := hw ▸ hi.out w
    obtain ⟨hww, hwl, hswl, o, ho', hwk⟩ := how.waking hwkg
    cases ho'
    have hwk : s.two = true → s.wk = true := fun h => by simpa [St.side, St.wside, h, Op.isSend] using hwk.symm
    have hwf : f ≠ w := fun e => by rw [e, hw] at hpc; exact nomatch hpc
    have hnot : w ∉ s.awS := fun h => by have := how.awS.1 h; rw [hww] at this; exact nomatch this
    have hnot' : w ∉ s.awR := fun h => by have := how.awR.1 h; rw [hww] at this; exact nomatch this
    refine hi.step hpc rfl (hi.owns hpc (fun _ => ⟨rfl, rfl⟩))
      (wit := fun _ _ => ⟨fun h1 _ _ => absurd (h1.symm.trans (how.sleeper _ rfl).1) nofun, fun _ _ _ => ⟨w, ?_⟩⟩)
      (ns := fun h => List.nodup_cons.2 ⟨hnot, h⟩)
      (out_a := fun h => h.to _ (hwoken := upd_other _ _ _ _ hwf)
        (hawS := (List.mem_cons.trans (or_iff_right hwf)).trans) (hwaking := ⟨nofun, fun h => absurd h (ho.plain rfl).2.2.2⟩))
      (out := fun g' _ h => ?_) (count := fun h2 h => ⟨fun hne => ?_, fun hne => ?_⟩)
    · rw [upd_other _ _ _ _ hwf.symm, hw]
      show Pc.witS _ (upd s.woken w true w) = true
      rw [upd_same]; rfl
    · by_cases e : g' = w
      · subst e; rw [hw] at h ⊢
        exact h.readied (upd_same _ _ _) (by simpa [Op.isRecv] using hnot') (by simp [Op.isSend]) hwl hswl rfl
      · exact h.frame (hwoken := upd_other _ _ _ _ e) (hawS := List.mem_cons.trans (or_iff_right e))
          (hwaking := ⟨nofun, fun h => absurd (Option.some.inj (hwkg.symm.trans h)) (Ne.symm e)⟩)
    · have := h.1 hne; rw [hpw, hwk h2] at this
      simpa [b2n] using this
    · have := h.2 hne; rw [hpw, hwk h2] at this
      simp [b2n] at this ⊢; omega

end LibfiberVerif.MultiChan
