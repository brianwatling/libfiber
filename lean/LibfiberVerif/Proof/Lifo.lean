/-
  Proof/Lifo.lean — the inductive invariant of Model/Lifo.lean (mpmc_lifo.h) and its
  preservation by every step, for any number of threads and nodes.

  The heart is the ABA argument, as an invariant: the counter only grows (by one per
  successful CAS2), so a thread whose loaded counter `c` still equals the current counter
  has seen NO successful CAS2 since that load; hence the head it loaded afterwards is still
  the head, that node is still in the stack (so nobody owns it and nobody writes its
  `next`), and the `next` it read is still the second element.  If the counter moved, the
  CAS2 fails — even when the head POINTER is the same node again.
-/
import LibfiberVerif.Model.Lifo
import LibfiberVerif.Proof.NodeList

namespace LibfiberVerif.Lifo
open NodeList

/-- the node a thread at this pc privately owns -/
def claim : Pc → Option Nat
  | .pushReady n => some n
  | .pushGotCounter n _ => some n
  | .pushGotHead n _ _ => some n
  | .pushWroteNext n _ _ => some n
  | .popWon h => some h
  | _ => none

/-- the counter value of the snapshot a thread at this pc holds -/
def snapC : Pc → Option Nat
  | .pushGotCounter _ c => some c
  | .pushGotHead _ c _ => some c
  | .pushWroteNext _ c _ => some c
  | .popGotCounter c => some c
  | .popGotHead c _ => some c
  | .popGotNext c _ _ => some c
  | _ => none

/-- the head pointer of the snapshot (loaded after the counter) -/
def snapH : Pc → Option Nat
  | .pushGotHead _ _ h => some h
  | .pushWroteNext _ _ h => some h
  | .popGotHead _ h => some h
  | .popGotNext _ h _ => some h
  | _ => none

/-- a pop only goes on with a non-NULL head -/
def popH : Pc → Option Nat
  | .popGotHead _ h => some h
  | .popGotNext _ h _ => some h
  | _ => none

structure Inv (s : St) : Prop where
  /-- the cells spell the abstract stack: following `next` from `head` visits exactly `stk` -/
  chain : Chain s.next s.head s.stk
  nodup : s.stk.Nodup
  /-- a node is in the stack iff nobody owns it -/
  own : ∀ n, n ∈ s.stk ↔ s.owner n = none
  claimOk : ∀ t n, claim (s.pc t) = some n → n ≠ 0 ∧ s.owner n = some t
  /-- a loaded counter is never ahead of the real one -/
  cLe : ∀ t c, snapC (s.pc t) = some c → c ≤ s.counter
  /-- counter unchanged since the load ⇒ the head loaded afterwards is still the head -/
  hOk : ∀ t c h, snapC (s.pc t) = some c → snapH (s.pc t) = some h → s.counter = c → s.head = h
  popNZ : ∀ t h, popH (s.pc t) = some h → h ≠ 0
  /-- counter unchanged since the load ⇒ `head->next` is still what the popper read,
      although it was a plain read of a node that may be recycled at any time -/
  xOk : ∀ t c h x, s.pc t = .popGotNext c h x → s.counter = c → s.next h = x
  wOk : ∀ t n c h, s.pc t = .pushWroteNext n c h → s.next n = h
  /-- the ghost linearisation is a legal sequential stack history ending in the current stack -/
  lin : stackReplay s.lin = some (s.stk.map (fun n => (n, s.data n)))

/-- what thread `t` knows at each program counter: the per-thread clauses of `Inv`, by pc -/
def Local (s : St) (t : Nat) : Pc → Prop
  | .pushReady n => n ≠ 0 ∧ s.owner n = some t
  | .pushGotCounter n c => (n ≠ 0 ∧ s.owner n = some t) ∧ Since s.counter c True
  | .pushGotHead n c h => (n ≠ 0 ∧ s.owner n = some t) ∧ Since s.counter c (s.head = h)
  | .pushWroteNext n c h =>
    (n ≠ 0 ∧ s.owner n = some t) ∧ Since s.counter c (s.head = h) ∧ s.next n = h
  | .popGotCounter c => Since s.counter c True
  | .popGotHead c h => Since s.counter c (s.head = h) ∧ h ≠ 0
  | .popGotNext c h x => Since s.counter c (s.head = h ∧ s.next h = x) ∧ h ≠ 0
  | .popWon h => h ≠ 0 ∧ s.owner h = some t
  | _ => True

theorem inv_iff {s : St} : Inv s ↔ Linked s.next s.head s.stk s.owner ∧
    stackReplay s.lin = some (s.stk.map (fun n => (n, s.data n))) ∧ ∀ t, Local s t (s.pc t) := by
  constructor
  · intro hI
    refine ⟨⟨hI.chain, hI.nodup, hI.own⟩, hI.lin, fun t => ?_⟩
    have h1 := hI.claimOk t; have h2 := hI.cLe t; have h3 := hI.hOk t
    have h4 := hI.popNZ t; have h5 := hI.xOk t; have h6 := hI.wOk t
    cases hpc : s.pc t <;> rw [hpc] at h1 h2 h3 h4 h5 h6 <;> simp only [Local]
    case pushReady n => exact h1 n rfl
    case pushGotCounter n c => exact ⟨h1 n rfl, h2 c rfl, fun _ => trivial⟩
    case pushGotHead n c h => exact ⟨h1 n rfl, h2 c rfl, h3 c h rfl rfl⟩
    case pushWroteNext n c h => exact ⟨h1 n rfl, ⟨h2 c rfl, h3 c h rfl rfl⟩, h6 n c h rfl⟩
    case popGotCounter c => exact ⟨h2 c rfl, fun _ => trivial⟩
    case popGotHead c h => exact ⟨⟨h2 c rfl, h3 c h rfl rfl⟩, h4 h rfl⟩
    case popGotNext c h x =>
      exact ⟨⟨h2 c rfl, fun e => ⟨h3 c h rfl rfl e, h5 c h x rfl e⟩⟩, h4 h rfl⟩
    case popWon h => exact h1 h rfl
    all_goals trivial
  · rintro ⟨hL, hlin, hloc⟩
    refine ⟨hL.chain, hL.nodup, hL.own, ?_, ?_, ?_, ?_, ?_, ?_, hlin⟩ <;> intro t <;>
      have h := hloc t <;> generalize s.pc t = pc at h ⊢ <;> clear hloc hL hlin <;>
      cases pc <;> simp_all [Local, Since, claim, snapC, snapH, popH]

theorem Inv.linked {s : St} (hI : Inv s) : Linked s.next s.head s.stk s.owner :=
  ⟨hI.chain, hI.nodup, hI.own⟩

theorem Inv.loc {s : St} (hI : Inv s) {t : Nat} {pc : Pc} (hpc : s.pc t = pc) : Local s t pc :=
  hpc ▸ (inv_iff.1 hI).2.2 t

theorem inv_init (own0 : Nat → Nat) : Inv (init own0) := by
  constructor <;> simp [init, claim, snapC, snapH, popH, stackReplay, stackReplayFrom]

/-- What `t` knows survives the steps of others: they neither take `t`'s nodes nor write their
    `next`, the counter only grows, and while it stands still so do the head and its `next`. -/
theorem Local.frame {s s' : St} {t : Nat} {pc : Pc} (h : Local s t pc)
    (hown : ∀ n, s.owner n = some t → s'.owner n = some t ∧ s'.next n = s.next n)
    (hv : Since s'.counter s.counter
      (s'.head = s.head ∧ (s.head ≠ 0 → s'.next s.head = s.next s.head))) : Local s' t pc := by
  have ow : ∀ n, n ≠ 0 ∧ s.owner n = some t → n ≠ 0 ∧ s'.owner n = some t :=
    fun n h => ⟨h.1, (hown n h.2).1⟩
  have hd : ∀ {c x}, Since s.counter c (s.head = x) → Since s'.counter c (s'.head = x) :=
    fun h => h.trans hv fun q hh => q.1.trans hh
  cases pc <;> simp only [Local] at h ⊢
  case pushReady n => exact ow n h
  case pushGotCounter n c => exact ⟨ow n h.1, h.2.trans hv fun _ => id⟩
  case pushGotHead n c x => exact ⟨ow n h.1, hd h.2⟩
  case pushWroteNext n c x => exact ⟨ow n h.1, hd h.2.1, (hown n h.1.2).2.trans h.2.2⟩
  case popGotCounter c => exact h.trans hv fun _ => id
  case popGotHead c x => exact ⟨hd h.1, h.2⟩
  case popGotNext c x y =>
    refine ⟨h.1.trans hv fun q hh => ⟨q.1.trans hh.1, ?_⟩, h.2⟩
    obtain ⟨rfl, rfl⟩ := hh
    exact q.2 h.2
  case popWon x => exact ow x h
  all_goals trivial

/-- a step of thread `t`: the container ghost, the linearisation and `t`'s new knowledge are
    established by hand, everybody else is framed -/
theorem inv_step_of {s s' : St} {t : Nat} {new : Pc} (hI : Inv s) (hpc : s'.pc = upd s.pc t new)
    (hL : Linked s'.next s'.head s'.stk s'.owner)
    (hlin : stackReplay s'.lin = some (s'.stk.map (fun n => (n, s'.data n))))
    (hnew : Local s' t new)
    (hown : ∀ t', t' ≠ t → ∀ n, s.owner n = some t' → s'.owner n = some t' ∧ s'.next n = s.next n)
    (hv : Since s'.counter s.counter
      (s'.head = s.head ∧ (s.head ≠ 0 → s'.next s.head = s.next s.head))) : Inv s' := by
  refine inv_iff.2 ⟨hL, hlin, hpc ▸ forall_upd hnew fun t' e => (hI.loc rfl).frame (hown t' e) hv⟩

theorem Inv.move {s : St} (hI : Inv s) {t : Nat} {new : Pc} (hnew : Local s t new) :
    Inv { s with pc := upd s.pc t new } :=
  inv_step_of hI rfl hI.linked hI.lin hnew (fun _ _ _ h => ⟨h, rfl⟩) (.now ⟨rfl, fun _ => rfl⟩)

theorem inv_step (s s' : St) (e : Ev) (hI : Inv s) (h : step s e = some s') : Inv s' := by
  cases e <;> simp only [step] at h
  case wrData t n v =>
    split at h <;> simp at h
    obtain ⟨⟨rfl, hn0, hown_n⟩, rfl⟩ := h
    refine inv_step_of hI rfl hI.linked ?_ ⟨hn0, hown_n⟩ (fun _ _ _ h => ⟨h, rfl⟩) (.now ⟨rfl, fun _ => rfl⟩)
    show stackReplay s.lin = some (s.stk.map (fun m => (m, upd s.data n v m)))
    rw [map_upd_notin (fun m d => (m, d)) (hI.linked.not_mem hown_n)]; exact hI.lin
  case ldCounter t c =>
    split at h <;> simp at h
    · rename_i n hpc
      obtain ⟨rfl, rfl⟩ := h
      exact hI.move ⟨hI.loc hpc, .now trivial⟩
    · obtain ⟨rfl, rfl⟩ := h
      exact hI.move (.now trivial)
  case ldHead t hd =>
    split at h <;> simp at h
    · rename_i n c hpc
      obtain ⟨rfl, rfl⟩ := h
      exact hI.move ⟨(hI.loc hpc).1, (hI.loc hpc).2.imp fun _ => rfl⟩
    · rename_i c hpc
      obtain ⟨rfl, h⟩ := h
      split at h <;> simp at h <;> subst h
      · -- NULL head: the stack is empty at this instant
        rename_i h0
        have hnil : s.stk = [] := chain_zero (h0 ▸ hI.chain)
        refine inv_step_of hI rfl hI.linked ?_ trivial (fun _ _ _ h => ⟨h, rfl⟩) (.now ⟨rfl, fun _ => rfl⟩)
        exact stackReplay_snoc hI.lin (by rw [hnil]; rfl)
      · rename_i h0
        exact hI.move ⟨(hI.loc hpc).imp fun _ => rfl, h0⟩
  case wrNext t n hd =>
    split at h <;> simp at h
    rename_i n' c h' hpc
    obtain ⟨⟨rfl, rfl⟩, rfl⟩ := h
    obtain ⟨h1, h2⟩ := hI.loc hpc
    refine inv_step_of hI rfl (hI.linked.upd_next h1.2 hd) hI.lin ⟨h1, h2, upd_same _ _ _⟩
      (fun t' ht' m hm => ⟨hm, upd_other _ _ _ _ (ne_of_owned ht' h1.2 hm)⟩) (.now ⟨rfl, fun h0 => upd_other _ _ _ _ ?_⟩)
    -- the head is in the stack, `n` is not: a popper's `next` read survives
    intro e; exact hI.linked.not_mem h1.2 (e ▸ chain_head_mem hI.chain h0)
  case rdNext t n x =>
    split at h <;> simp at h
    rename_i c h' hpc
    obtain ⟨⟨rfl, rfl⟩, rfl⟩ := h
    obtain ⟨h1, h2⟩ := hI.loc hpc
    exact hI.move ⟨h1.imp fun hh => ⟨hh, rfl⟩, h2⟩
  case cas2 t el eh nl nh ok =>
    split at h
    · -- push
      rename_i n c hd hpc
      split at h
      case isFalse => simp at h
      rename_i hcond
      obtain ⟨rfl, rfl, rfl, rfl, hok⟩ := hcond
      obtain ⟨h1, -, h4⟩ := hI.loc hpc
      split at h <;> simp at h <;> subst h
      · -- success: the counter is unchanged since the load, so `eh` is still the head
        rename_i hoktrue
        simp [hoktrue] at hok
        refine inv_step_of hI rfl (hI.linked.push h1.1 h1.2 (h4.trans hok.2.symm)) ?_ trivial
          (fun t' ht' m hm => ⟨(upd_other _ _ _ _ (ne_of_owned ht' h1.2 hm)).trans hm, rfl⟩)
          (hok.1 ▸ .succ)
        exact stackReplay_snoc hI.lin rfl
      · exact hI.move h1
    · -- pop
      rename_i c hd x hpc
      split at h
      case isFalse => simp at h
      rename_i hcond
      obtain ⟨rfl, rfl, rfl, rfl, hok⟩ := hcond
      obtain ⟨h1, h3⟩ := hI.loc hpc
      split at h <;> simp at h <;> subst h
      · -- success: the counter is unchanged since the load, so `eh` is the top and `nh` the second
        rename_i hoktrue
        simp [hoktrue] at hok
        obtain ⟨hc, hh⟩ := hok
        obtain ⟨hl, hL⟩ := hI.linked.pop (hh ▸ h3) t
        rw [hh, (h1.2 hc).2] at hL
        refine inv_step_of hI rfl hL ?_ ⟨h3, upd_same _ _ _⟩
          (fun t' ht' m hm => ⟨(upd_other _ _ _ _ ?_).trans hm, rfl⟩)
          (hc ▸ .succ)
        · exact stackReplay_snoc hI.lin (by rw [hl, hh]; simp [stackStep])
        · -- `eh` is in the stack, so nobody owns it
          intro e; rw [e, (hI.own eh).1 (hl ▸ hh ▸ List.mem_cons_self)] at hm; cases hm
      · exact hI.move trivial
    · simp at h
  -- call and return notes, the data read of the node won: the new pc carries no knowledge
  all_goals
    (repeat' split at h) <;> simp at h <;> (try obtain ⟨_, h⟩ := h) <;> (try subst h) <;> exact hI.move trivial

theorem inv_of_run {own0 : Nat → Nat} {es : List Ev} {s : St} (h : (sys own0).run es = some s) : Inv s :=
  Sys.inv_of_run (sys own0) Inv (inv_init own0) (fun s e s' hI hs => inv_step s s' e hI hs) h

def casOk : Ev → Bool
  | .cas2 _ _ _ _ _ true => true
  | _ => false

theorem counter_step {s s' : St} {e : Ev} (h : step s e = some s') :
    s'.counter = s.counter + (if casOk e then 1 else 0) := by
  cases e <;> simp only [step] at h
  case cas2 t el eh nl nh ok =>
    cases ok <;> (repeat' split at h) <;> simp at h <;> (try subst h) <;> simp_all [casOk]
  all_goals (repeat' split at h) <;> simp at h <;> (try obtain ⟨_, h⟩ := h) <;> (try subst h) <;> simp [casOk]

/-! ### the snapshot a thread holds is the one of its LAST counter load -/

theorem snapC_step {s s' : St} {e : Ev} {t : Nat} (h : step s e = some s')
    (hne : ∀ c, e ≠ .ldCounter t c) :
    ∀ c, snapC (s'.pc t) = some c → snapC (s.pc t) = some c := by
  intro c0
  cases e <;> simp only [step] at h
  case ldCounter t1 c1 =>
    have ht : t1 ≠ t := by intro e; subst e; exact hne c1 rfl
    (repeat' split at h) <;> simp at h <;> obtain ⟨_, rfl⟩ := h <;> simp [upd, Ne.symm ht]
  all_goals
    (repeat' split at h) <;> simp at h <;> (try obtain ⟨_, h⟩ := h) <;> (try subst h) <;>
      simp only [upd] <;> split <;> (try rename_i e; subst e) <;> simp_all [snapC]

end LibfiberVerif.Lifo
