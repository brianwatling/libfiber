/-
  Proof/Sleep.lean — lemmas and invariants for Model/Sleep.lean (property C09).

  Part 1: the pure tree functions (`insert` = waiter_insert, `removeLt` =
          waiter_remove_less_than, `drainAll` = the wake loop).
  Part 2: invariants of the protocol model, for every variant.  `Step` lists the accepted
          steps of `step` once (`step_sound`); each invariant layer (L lock, T timer, M tree,
          S timing, C counters, R request, N no sleeper lost, D drains) is preserved by
          cases on `Step`: the few moves a layer cares about, and one frame lemma for the rest.
-/
import LibfiberVerif.Model.Sleep
namespace LibfiberVerif.Sleep
open Tree

/-! ## Part 1 — the tree -/

theorem mem_group {i w : Nat} {c : List Nat} {x : Nat × Nat} (h : x ∈ group i w c) : x.2 = w := by
  simp only [group, List.mem_cons, List.mem_map] at h
  rcases h with rfl | ⟨j, _, rfl⟩ <;> rfl

theorem insert_toList_perm (t : Tree) (id wt : Nat) :
    (insert t id wt).toList.Perm ((id, wt) :: t.toList) := by
  induction t with
  | nil => simp [insert, toList, group]
  | node i w c l r ihl ihr =>
    simp only [insert]
    split
    · simpa [toList] using ihl.append_right (group i w c ++ r.toList)
    · split
      · -- equal: pushed on the chain right after the head
        subst wt
        simp only [toList, group, List.map_cons, List.append_assoc, List.cons_append]
        exact (List.Perm.append_left _ (List.Perm.swap _ _ _)).trans List.perm_middle
      · simpa [toList] using (ihr.append_left (l.toList ++ group i w c)).trans List.perm_middle

theorem mem_insert_toList {t : Tree} {id wt : Nat} {x : Nat × Nat} :
    x ∈ (insert t id wt).toList ↔ x = (id, wt) ∨ x ∈ t.toList := by
  rw [(insert_toList_perm t id wt).mem_iff]; simp

theorem insert_ordered {t : Tree} (id wt : Nat) (h : Ordered t) : Ordered (insert t id wt) := by
  induction t with
  | nil => simp [insert, Ordered, toList]
  | node i w c l r ihl ihr =>
    obtain ⟨hl, hr, hlt, hgt⟩ := h
    simp only [insert]
    split
    · refine ⟨ihl hl, hr, ?_, hgt⟩
      intro x hx
      rcases mem_insert_toList.mp hx with rfl | hx
      · assumption
      · exact hlt x hx
    · split
      · exact ⟨hl, hr, hlt, hgt⟩
      · refine ⟨hl, ihr hr, hlt, ?_⟩
        intro x hx
        rcases mem_insert_toList.mp hx with rfl | hx
        · simp; omega
        · exact hgt x hx

theorem removeLt_spec {t : Tree} {now i w : Nat} {c : List Nat} {t' : Tree}
    (h : removeLt t now = some ((i, w, c), t')) :
    t.toList = group i w c ++ t'.toList ∧ w < now ∧ size t' < size t ∧ (Ordered t → Ordered t') := by
  induction t generalizing t' with
  | nil => simp [removeLt] at h
  | node i0 w0 c0 l r ihl _ =>
    cases l with
    | nil =>
      simp only [removeLt] at h
      split at h <;> simp at h
      obtain ⟨⟨rfl, rfl, rfl⟩, rfl⟩ := h
      exact ⟨by simp [toList], ‹_›, by simp [size], fun ho => ho.2.1⟩
    | node i1 w1 c1 l1 r1 =>
      simp only [removeLt] at h
      split at h <;> simp at h
      rename_i heq
      obtain ⟨rfl, rfl⟩ := h
      obtain ⟨h1, h2, h3, h4⟩ := ihl heq
      refine ⟨by simp only [toList] at h1 ⊢; rw [h1]; simp, h2, by simp only [size] at h3 ⊢; omega,
        fun ⟨hl, hr, hlt, hgt⟩ =>
          ⟨h4 hl, hr, fun z hz => hlt z (h1 ▸ List.mem_append_right _ hz), hgt⟩⟩

theorem removeLt_none {t : Tree} {now : Nat} (ho : Ordered t) (h : removeLt t now = none) :
    ∀ x ∈ t.toList, now ≤ x.2 := by
  induction t with
  | nil => simp [toList]
  | node i0 w0 c0 l r ihl _ =>
    obtain ⟨hl, hr, hlt, hgt⟩ := ho
    -- nothing in the left subtree is due, and neither is the root: it is not due itself, or
    -- lies after the root of the left subtree
    have key : (∀ x ∈ l.toList, now ≤ x.2) ∧ now ≤ w0 := by
      cases l with
      | nil => simp only [removeLt] at h; split at h <;> simp at h; exact ⟨by simp [toList], by omega⟩
      | node i1 w1 c1 l1 r1 =>
        simp only [removeLt] at h
        split at h <;> simp at h
        have hleft := ihl hl ‹_›
        have hmem : (i1, w1) ∈ (Tree.node i1 w1 c1 l1 r1).toList := by simp [toList, group]
        have := hleft _ hmem
        have := hlt _ hmem
        exact ⟨hleft, by simp at *; omega⟩
    intro x hx
    simp only [toList, List.mem_append] at hx
    rcases hx with (hx | hx) | hx
    · exact key.1 x hx
    · rw [mem_group hx]; exact key.2
    · have := hgt x hx; have := key.2; omega

theorem drainN_spec (n : Nat) : ∀ (t : Tree) (now : Nat), Ordered t → size t ≤ n →
    t.toList = (drainN n t now).1 ++ (drainN n t now).2.toList ∧
    (∀ x ∈ (drainN n t now).1, x.2 < now) ∧
    (∀ x ∈ (drainN n t now).2.toList, now ≤ x.2) ∧
    Ordered (drainN n t now).2 ∧ removeLt (drainN n t now).2 now = none := by
  induction n with
  | zero =>
    intro t now ho hs
    have : t = .nil := by cases t <;> simp [size] at hs ⊢
    subst this
    simp [drainN, toList, removeLt, Ordered]
  | succ n ih =>
    intro t now ho hs
    simp only [drainN]
    split
    · rename_i heq
      exact ⟨by simp, by simp, removeLt_none ho heq, ho, heq⟩
    · rename_i i w c t' heq
      obtain ⟨htl, hlt, hsz, hord⟩ := removeLt_spec heq
      obtain ⟨h1, h2, h3, h4, h5⟩ := ih t' now (hord ho) (by omega)
      refine ⟨?_, fun x hx => ?_, h3, h4, h5⟩
      · rw [htl]
        conv => lhs; rw [h1]
        simp
      · rcases List.mem_append.mp hx with hx | hx
        · rw [mem_group hx]; exact hlt
        · exact h2 x hx

theorem filter_append_split {α : Type} (p : α → Bool) (a b : List α)
    (ha : ∀ x ∈ a, p x = true) (hb : ∀ x ∈ b, p x = false) :
    (a ++ b).filter p = a ∧ (a ++ b).filter (fun x => !p x) = b := by
  constructor
  · rw [List.filter_append, List.filter_eq_self.mpr ha, List.filter_eq_nil_iff.mpr (by
      intro x hx; simp [hb x hx])]
    simp
  · rw [List.filter_append, List.filter_eq_nil_iff.mpr (by intro x hx; simp [ha x hx]),
      List.filter_eq_self.mpr (by intro x hx; simp [hb x hx])]
    simp

/-! ## Part 2 — invariants of the protocol model (every variant unless stated) -/

/-- events after which the state may be unchanged up to `pend` and `unl` -/
def Ev.silent : Ev → Bool
  | .lockLd .. | .timerRead .. | .unlockLd .. | .rRoot .. | .rWt .. | .rLeft .. | .rRight .. | .rNext ..
  | .wRoot .. | .wLeft .. | .wRight .. | .wNext .. => true
  | _ => false

/-- The accepted steps of `step v`, one constructor per branch that returns `some`: the guards
    the proofs below use, and the new state written out.  Every move changes the pc of one fiber
    (`silent` and `tick`: of none).  The label `none` is the waker's half of a READY write. -/
inductive Step (v : Variant) (s : St) : Option Ev → St → Prop
  | tick (d k : Nat) (hk : k = (s.now + d) / v.period - s.now / v.period) :
      Step v s (some (.tick d k)) { s with now := s.now + d, pending := s.pending + k }
  | call (f : Nat) (kind : Kind) (a b : Nat) (hpc : s.pc f = .idle) (hok : argsOk kind a b = true) :
      Step v s (some (.callSleep f kind a b s.now))
        { s with pc := upd s.pc f .called, segs := upd s.segs f (plan v kind a b),
                 start := upd s.start f s.now, req := upd s.req f (reqUs kind a b),
                 guar := upd s.guar f (guaranteed v (plan v kind a b)),
                 ovf := upd s.ovf f (decide (guaranteed v (plan v kind a b) < reqUs kind a b)),
                 credit := upd s.credit f 0, segStart := upd s.segStart f s.now,
                 stale := upd s.stale f false }
  | faddSl (g : Nat) (hpc : s.pc g = .called) :
      Step v s (some (.lockFadd g s.users))
        { s with users := s.users + 1, pc := upd s.pc g (.spin .sl 0 s.users) }
  | faddIdle (g : Nat) (hpc : s.pc g = .idle) :
      Step v s (some (.lockFadd g s.users))
        { s with users := s.users + 1, pc := upd s.pc g (.spin .wk 0 s.users) }
  | faddWk (g k : Nat) (hpc : s.pc g = .polled k) :
      Step v s (some (.lockFadd g s.users))
        { s with users := s.users + 1, pc := upd s.pc g (.spin .wk k s.users) }
  | acquire (g t : Nat) (r : Role) (k my : Nat) (hpc : s.pc g = .spin r k my) (hfree : s.holder = none) :
      Step v s (some (.lockLd g t)) { s with holder := some g, pc := upd s.pc g (.locked r k) }
  | timerLocked (g : Nat) (r : Role) (hpc : s.pc g = .locked r 0) :
      Step v s (some (.timerRead g s.pending))
        { s with pending := 0, fl := (g, s.pending) :: s.fl, pc := upd s.pc g (.addR r s.pending) }
  | timerPoll (g : Nat) (hd : v.drains = false) (hpc : s.pc g = .idle) :
      Step v s (some (.timerRead g s.pending))
        { s with pending := 0, fl := (g, s.pending) :: s.fl, pc := upd s.pc g (.polled s.pending) }
  | rTtcPoll (g k : Nat) (hd : v.drains = false) (hpc : s.pc g = .locked .wk k) :
      Step v s (some (.rTtc g s.ttc false)) { s with pc := upd s.pc g (.addW .wk k s.ttc) }
  | rTtcAdd (g : Nat) (r : Role) (k : Nat) (hpc : s.pc g = .addR r k) :
      Step v s (some (.rTtc g s.ttc false)) { s with pc := upd s.pc g (.addW r k s.ttc) }
  | rTtcHead (g : Nat) (r : Role) (hpc : s.pc g = .loopHead r) :
      Step v s (some (.rTtc g s.ttc false)) { s with pc := upd s.pc g (.removing r), pend := none }
  | rTtcSleep (g k : Nat) (hd : v.drains = false) (hpc : s.pc g = .locked .sl k) :
      Step v s (some (.rTtc g s.ttc true))
        { s with pc := upd s.pc g .inserting, base := upd s.base g s.ttc, pend := none,
                 stale := upd s.stale g (s.stale g || decide (s.ttc < s.segStart g / v.period)) }
  | rTtcDone (g : Nat) (hpc : s.pc g = .removing .sl) (hnone : removeLt s.tree s.ttc = none) :
      Step v s (some (.rTtc g s.ttc true))
        { s with pc := upd s.pc g .inserting, base := upd s.base g s.ttc, pend := none,
                 stale := upd s.stale g (s.stale g || decide (s.ttc < s.segStart g / v.period)) }
  | wTtc (g : Nat) (r : Role) (k y : Nat) (hpc : s.pc g = .addW r k y) :
      Step v s (some (.wTtc g (y + k)))
        { s with ttc := y + k, fl := s.fl.erase (g, k), pc := upd s.pc g (.loopHead r) }
  | nodeNote (f wt sec usec : Nat) (tl : List (Nat × Nat)) (hpc : s.pc f = .inserting)
      (hsegs : s.segs f = (sec, usec) :: tl) (hwt : wt = s.base f + ticks v sec usec) (hf : f ≠ 0) :
      Step v s (some (.nodeNote f wt))
        { s with tree := insert s.tree f wt, wake := upd s.wake f wt, pend := none,
                 pc := upd s.pc f .inserted }
  | wWaiter (g : Nat) (hpc : s.pc g = .inserted) :
      Step v s (some (.wWaiter g g g)) { s with pc := upd s.pc g .owner }
  | park (g : Nat) (hpc : s.pc g = .owner) :
      Step v s (some (.wState g g WAITING))
        { s with pc := upd s.pc g .parkedL, nPark := upd s.nPark g (s.nPark g + 1) }
  | woken (g f : Nat) (hf : s.pc f = .parked) (hhd : s.cur.head? = some f) :
      Step v s (some (.wState g f READY))
        { s with cur := s.cur.tail, pc := upd s.pc f .woken, nWake := upd s.nWake f (s.nWake f + 1) }
  | wakerLast (g f : Nat) (r : Role) (hpc : s.pc g = .gotNext r f 0) (hx : s.cur.head?.getD 0 = 0) :
      Step v s none { s with pc := upd s.pc g (.loopHead r) }
  | wakerMore (g f y : Nat) (r : Role) (hpc : s.pc g = .gotNext r f y) :
      Step v s none { s with pc := upd s.pc g (.needNode r y) }
  | wakerAF (g f : Nat) (r : Role) (hv : v.nextFirst = false) (hpc : s.pc g = .gotNode r f) :
      Step v s none { s with pc := upd s.pc g (.sched r f) }
  | unlockOwn (h : Nat) (hpc : s.pc h = .removing .wk)
      (hnone : removeLt s.tree s.ttc = none) :
      Step v s (some (.unlockLd h s.ticket))
        { s with unl := some (h, s.ticket), pc := upd s.pc h .wDone }
  | releaseP (h t o : Nat) (hh : s.holder = some o) (hpc : s.pc o = .parkedL) :
      Step v s (some (.unlockSt h t))
        { s with ticket := t, holder := none, unl := none, pc := upd s.pc o .parked }
  | releaseW (h t o : Nat) (hh : s.holder = some o) (hpc : s.pc o = .wDone) :
      Step v s (some (.unlockSt h t))
        { s with ticket := t, holder := none, unl := none, pc := upd s.pc o .idle }
  | remove (g : Nat) (r : Role) (i w : Nat) (c : List Nat) (t' : Tree) (hpc : s.pc g = .removing r)
      (hrm : removeLt s.tree s.ttc = some ((i, w, c), t')) :
      Step v s (some (.rWaiter g i i))
        { s with tree := t', cur := i :: c, curW := w, pend := none, pc := upd s.pc g (.gotNode r i),
                 badRead := s.badRead || decide (s.pc i ≠ .parked) }
  | follow (g : Nat) (r : Role) (y : Nat) (hpc : s.pc g = .needNode r y) (hhd : s.cur.head? = some y) :
      Step v s (some (.rWaiter g y y))
        { s with pc := upd s.pc g (.gotNode r y), badRead := s.badRead || decide (s.pc y ≠ .parked) }
  | readNext (g : Nat) (r : Role) (n : Nat) (hpc : s.pc g = .gotNode r n)
      (hhd : s.cur.head? = some n) :
      Step v s (some (.rNext g n (s.cur.tail.head?.getD 0)))
        { s with pc := upd s.pc g (.gotNext r n (s.cur.tail.head?.getD 0)),
                 badRead := s.badRead || decide (s.pc n ≠ .parked) }
  | lateEnd (e : Ev) (g : Nat) (r : Role) (m : Nat)
      (hx : s.cur.head?.getD 0 = 0)
      (he : e = .rNext g m (s.cur.head?.getD 0) ∨ e = .staleNext g (s.cur.head?.getD 0))
      (hpc : s.pc g = .sched r m) :
      Step v s (some e) { s with badRead := true, pc := upd s.pc g (.loopHead r) }
  | lateMore (e : Ev) (g : Nat) (r : Role) (m x : Nat) (he : e = .rNext g m x ∨ e = .staleNext g x)
      (hpc : s.pc g = .sched r m) :
      Step v s (some e) { s with badRead := true, pc := upd s.pc g (.needNode r x) }
  | dropNext (e : Ev) (g : Nat) (r : Role) (m : Nat) (he : e = .rNext g m 0 ∨ e = .staleNext g 0)
      (hpc : s.pc g = .sched r m) :
      Step v s (some e)
        { s with badRead := true, lost := s.lost ++ s.cur, cur := [], pc := upd s.pc g (.loopHead r) }
  | resumedLast (f sec usec : Nat) (hpc : s.pc f = .woken) (hsegs : s.segs f = [(sec, usec)]) :
      Step v s (some (.resumed f))
        { s with pc := upd s.pc f .done, segs := upd s.segs f [],
                 credit := upd s.credit f (s.credit f + v.period * ticks v sec usec),
                 segStart := upd s.segStart f s.now, nRes := upd s.nRes f (s.nRes f + 1) }
  | resumedMore (f sec usec : Nat) (rest : List (Nat × Nat)) (hpc : s.pc f = .woken)
      (hsegs : s.segs f = (sec, usec) :: rest) (hrest : rest ≠ []) :
      Step v s (some (.resumed f))
        { s with pc := upd s.pc f .called, segs := upd s.segs f rest,
                 credit := upd s.credit f (s.credit f + v.period * ticks v sec usec),
                 segStart := upd s.segStart f s.now, nRes := upd s.nRes f (s.nRes f + 1) }
  | retSleep (f : Nat) (hpc : s.pc f = .done) :
      Step v s (some (.retSleep f s.now)) { s with pc := upd s.pc f .idle }
  | silent (e : Ev) (he : e.silent = true) (p : Option (Loc × Nat)) (u : Option (Nat × Nat)) :
      Step v s (some e) { s with pend := p, unl := u }

/- From here on: `s` is the state before a step and `s'` the state after it, `g` the fiber whose
   pc moves, from `p` to `p'`. -/
variable {v : Variant} {s s' : St} {e : Option Ev} {g : Nat} {p p' : Pc}

theorem upd_woken {g f : Nat} (hg : s.pc g = p) (hf : s.pc f = .parked)
    (hp : p ≠ .parked) : upd s.pc f .woken g = p := by
  have : g ≠ f := fun h => hp (by rw [← hg, h, hf])
  simp [upd, this, hg]

/-- every accepted step is one of the moves above; a READY write is two of them: the sleeper
    becomes `woken`, then the waker moves on.  Each branch of `step` that returns `some` is one
    constructor word for word, so after unfolding the script only has to find which. -/
theorem step_sound {e : Ev} (h : step v s e = some s') :
    Step v s (some e) s' ∨
      ∃ g f s₁, e = .wState g f READY ∧ Step v s (some e) s₁ ∧ Step v s₁ none s' := by
  cases e with
  | wState g f x =>
    simp only [step, afterNext] at h
    (repeat' split at h) <;> cases h
    all_goals (repeat (cases ‹_ ∧ _›))
    all_goals (try subst_vars)
    · exact .inl (.park _ ‹_›)
    all_goals refine .inr ⟨g, _, _, rfl, .woken g _ ‹_› ‹_›, ?_⟩
    · exact .wakerLast g _ _ (upd_woken ‹s.pc g = _› ‹_› (by simp)) (Eq.symm ‹_›)
    · exact .wakerMore g _ _ _ (upd_woken ‹s.pc g = _› ‹_› (by simp))
    · exact .wakerAF g _ _ (by simpa using ‹¬v.nextFirst = true›)
        (upd_woken ‹s.pc g = _› ‹_› (by simp))
  | _ =>
    left
    simp only [step, afterNext] at h <;> (repeat' split at h) <;> cases h
    all_goals (repeat (cases ‹_ ∧ _›))
    all_goals (try simp only [Bool.not_eq_true] at *)
    all_goals (try subst_vars)
    all_goals first
      | exact .silent _ rfl _ _
      | (apply Step.rTtcDone <;> assumption)
      | (constructor <;>
          first | assumption | rfl | exact Or.inl rfl | exact Or.inr rfl | exact Eq.symm ‹_›)

/-! ### L: sleep_spinlock has one owner, and the owner's pc knows it -/

def InvL (s : St) : Prop := ∀ g, (s.pc g).holds = true ↔ s.holder = some g

theorem invL_init : InvL init := by intro g; simp [init, Pc.holds]

/-- classifiers of a pc that is known are closed by `rfl` -/
theorem holder_of (hL : InvL s) (hpc : s.pc g = p)
    (h : p.holds = true) : s.holder = some g := (hL g).1 (hpc ▸ h)

theorem invL_frame (hI : InvL s) (e1 : s'.pc = upd s.pc g p')
    (e2 : s'.holder = s.holder) (c : p'.holds = (s.pc g).holds) : InvL s' := by
  intro f
  rw [e1, e2, ← hI f, upd]
  split
  · subst f; rw [c]
  · rfl

theorem invL_step (hI : InvL s) (h : Step v s e s') :
    InvL s' := by
  cases h with
  | silent | tick => exact hI
  | acquire g t r k my hpc hfree =>
    intro f; have := hI f; have := hI g; simp only [upd]; grind [Pc.holds]
  | releaseP h t o hh hpc | releaseW h t o hh hpc =>
    intro f; have := hI f; have := hI o; simp only [upd]; grind [Pc.holds]
  | _ => exact invL_frame hI rfl rfl (by simp [*, Pc.holds])

/-! ### T: every timer expiration is in exactly one place -/

def flSum (l : List (Nat × Nat)) : Nat := (l.map (·.2)).sum

theorem flSum_erase (l : List (Nat × Nat)) (g k : Nat) (h : (g, k) ∈ l ∨ k = 0) :
    flSum (l.erase (g, k)) + k = flSum l := by
  induction l with
  | nil => rcases h with h | h <;> simp_all [flSum]
  | cons a l ih =>
    by_cases ha : a = (g, k)
    · subst ha; simp [flSum]; omega
    · have ih := ih (h.imp_left fun h => by simpa [Ne.symm ha] using h)
      rw [List.erase_cons_tail (by simpa using ha)]
      simp only [flSum, List.map_cons, List.sum_cons] at ih ⊢
      omega

def InvT (v : Variant) (s : St) : Prop :=
  s.ttc + s.pending + flSum s.fl = s.now / v.period ∧
  (∀ g, (s.pc g).carry ≠ 0 → (g, (s.pc g).carry) ∈ s.fl) ∧
  (∀ g r k y, s.pc g = .addW r k y → y = s.ttc)

theorem invT_init (v : Variant) : InvT v init := by
  simp [InvT, init, flSum, Pc.carry]

/-- one pc moves; `ttc` stays and nothing leaves `fl` -/
theorem invT_frame (hI : InvT v s)
    (e1 : s'.pc = upd s.pc g p') (e2 : s'.ttc + s'.pending + flSum s'.fl = s'.now / v.period)
    (e3 : s'.ttc = s.ttc) (e4 : ∀ x ∈ s.fl, x ∈ s'.fl)
    (c1 : p'.carry ≠ 0 → p'.carry = (s.pc g).carry ∨ (g, p'.carry) ∈ s'.fl)
    (c2 : ∀ r k y, p' = .addW r k y → y = s.ttc) : InvT v s' := by
  refine ⟨e2, fun f hf => ?_, fun f r k y hf => ?_⟩ <;> rw [e1, upd] at hf
  · rw [e1, upd]
    split at hf
    · subst f
      rw [if_pos rfl]
      exact (c1 hf).elim (fun c => c ▸ e4 _ (hI.2.1 g (c ▸ hf))) id
    · rw [if_neg ‹_›]; exact e4 _ (hI.2.1 f hf)
  · rw [e3]
    split at hf
    · exact c2 r k y hf
    · exact hI.2.2 f r k y hf

theorem invT_step (hL : InvL s) (hI : InvT v s)
    (h : Step v s e s') : InvT v s' := by
  cases h with
  | silent => exact hI
  | tick d k hk =>
    have := Nat.div_le_div_right (c := v.period) (Nat.le_add_right s.now d)
    exact ⟨by have := hI.1; simp only; omega, hI.2⟩
  | timerLocked g r hpc | timerPoll g hd hpc =>
    refine invT_frame hI rfl ?_ rfl (fun _ => List.mem_cons_of_mem _) (fun _ => .inr (by simp [Pc.carry]))
      (by simp)
    have := hI.1
    simp only [flSum, List.map_cons, List.sum_cons] at this ⊢
    omega
  | wTtc g r k y hpc =>
    have hc := hI.2.1 g
    rw [hpc] at hc
    have hs := flSum_erase s.fl g k (by by_cases hk : k = 0 <;> simp_all [Pc.carry])
    have hy := hI.2.2 g r k y hpc
    refine ⟨by have := hI.1; simp only; omega, fun f hf => ?_, fun f r' k' y' hf => ?_⟩ <;>
      simp only [upd] at hf ⊢ <;> split at hf
    · simp [Pc.carry] at hf
    · rw [if_neg ‹_›]
      exact (List.mem_erase_of_ne (by simp [*])).mpr (hI.2.1 f hf)
    · simp at hf
    · -- only the owner of the lock is between its read and its write of `ttc`
      have := (holder_of hL hpc rfl).symm.trans (holder_of hL hf rfl)
      simp_all
  | _ => exact invT_frame hI rfl hI.1 rfl (fun _ h => h) (by simp [*, Pc.carry]) (by simp)

/-! ### M: the sleepers tree, the group being woken and the sleeping fibers' pcs agree -/

def ids (t : Tree) : List Nat := t.toList.map (·.1)
def Pc.inTree : Pc → Bool
  | .inserted | .owner | .parkedL | .parked => true
  | _ => false
def Pc.walking : Pc → Bool
  | .gotNode .. | .gotNext .. | .sched .. | .needNode .. => true
  | _ => false

def InvM (s : St) : Prop :=
  (ids s.tree ++ s.cur).Nodup ∧
  (∀ x ∈ s.tree.toList, s.wake x.1 = x.2 ∧ (s.pc x.1).inTree = true ∧ x.1 ≠ 0) ∧
  (∀ m ∈ s.cur, s.wake m = s.curW ∧ s.pc m = .parked ∧ m ≠ 0) ∧
  (s.cur ≠ [] → s.curW < s.ttc ∧ ∃ g, s.holder = some g ∧ (s.pc g).walking = true) ∧
  Ordered s.tree

theorem invM_init : InvM init := by
  refine ⟨by simp [init, ids, toList], ?_, ?_, ?_, by simp [init, Ordered]⟩ <;> simp [init, toList]

theorem invM_same {s : St} (hI : InvM s) (s' : St)
    (e1 : s'.tree = s.tree) (e2 : s'.cur = s.cur) (e3 : s'.curW = s.curW) (e4 : s'.wake = s.wake)
    (e5 : s'.ttc = s.ttc) (e6 : s'.holder = s.holder) (e7 : s'.pc = s.pc) : InvM s' := by
  unfold InvM; rw [e1, e2, e3, e4, e5, e6, e7]; exact hI

/-- one pc moves; `cur` may lose elements from the front (`c1`, `c2`: the mover is no tree
    node that leaves the tree-states, and none of the remaining `cur`) -/
theorem invM_frame (hI : InvM s)
    (e1 : s'.tree = s.tree) (e2 : s'.cur <:+ s.cur) (e3 : s'.curW = s.curW) (e4 : s'.wake = s.wake)
    (e5 : s'.cur ≠ [] → s.ttc ≤ s'.ttc) (e6 : s'.cur ≠ [] → s'.holder = s.holder)
    (e7 : s'.pc = upd s.pc g p')
    (c1 : g ∈ ids s.tree → (s.pc g).inTree = true → p'.inTree = true)
    (c2 : g ∈ s'.cur → s.pc g ≠ .parked)
    (c3 : (s.pc g).walking = true → p'.walking = true ∨ s'.cur = []) : InvM s' := by
  obtain ⟨m1, m2, m3, m4, m5⟩ := hI
  have hsub : ∀ m ∈ s'.cur, m ∈ s.cur := fun m hm => e2.subset hm
  refine ⟨e1 ▸ m1.sublist (e2.sublist.append_left _), fun x hx => ?_, fun m hm => ?_, fun hc => ?_,
    e1 ▸ m5⟩
  · rw [e1] at hx
    have := m2 x hx
    rw [e4, e7, upd]
    refine ⟨this.1, ?_, this.2.2⟩
    split
    · exact c1 (‹x.1 = g› ▸ List.mem_map_of_mem hx) (‹x.1 = g› ▸ this.2.1)
    · exact this.2.1
  · have := m3 m (hsub m hm)
    have hmg : m ≠ g := fun h => c2 (h ▸ hm) (h ▸ this.2.1)
    rw [e4, e3, e7, upd, if_neg hmg]
    exact this
  · have hc' : s.cur ≠ [] := fun h => hc (List.suffix_nil.mp (h ▸ e2))
    obtain ⟨h1, g0, h2, h3⟩ := m4 hc'
    rw [e3, e6 hc, e7]
    refine ⟨Nat.lt_of_lt_of_le h1 (e5 hc), g0, h2, ?_⟩
    rw [upd]
    split
    · subst g0; exact (c3 h3).resolve_right hc
    · exact h3

theorem cur_nil_of_holder (hL : InvL s) (hI : InvM s) (hpc : s.pc g = p)
    (hh : p.holds = true) (hw : p.walking = false) : s.cur = [] := by
  apply Classical.byContradiction
  intro hc
  obtain ⟨_, g0, h2, h3⟩ := hI.2.2.2.1 hc
  rw [holder_of hL hpc hh] at h2; simp at h2; subst h2
  rw [hpc, hw] at h3; simp at h3

theorem ids_insert_perm (t : Tree) (f wt : Nat) : (ids (insert t f wt)).Perm (f :: ids t) := by
  have := (insert_toList_perm t f wt).map (·.1)
  simpa [ids] using this

theorem ids_group (i w : Nat) (c : List Nat) : (group i w c).map (·.1) = i :: c := by
  simp [group, Function.comp_def]

theorem tree_member_parked (hL : InvL s) (hM : InvM s)
    (hpc : s.pc g = p) (hg : p.holds = true) (hgt : p.inTree = false) {x : Nat × Nat}
    (hx : x ∈ s.tree.toList) : s.pc x.1 = .parked := by
  have hin := (hM.2.1 x hx).2.1
  have hne : x.1 ≠ g := by intro h; rw [h, hpc, hgt] at hin; simp at hin
  by_cases hp : s.pc x.1 = .parked
  · exact hp
  · have hh : (s.pc x.1).holds = true := by
      revert hin hp; cases s.pc x.1 <;> simp [Pc.inTree, Pc.holds]
    have := ((hL x.1).1 hh).symm.trans (holder_of hL hpc hg)
    simp_all

theorem invM_step (hL : InvL s) (hI : InvM s)
    (h : Step v s e s') : InvM s' := by
  have hz : ∀ m ∈ s.cur, m ≠ 0 := fun m hm => (hI.2.2.1 m hm).2.2
  cases h with
  | silent | tick => exact hI
  | nodeNote f wt sec usec tl hpc hsegs hwt hf =>
    have hcur := cur_nil_of_holder hL hI hpc rfl rfl
    obtain ⟨m1, m2, m3, m4, m5⟩ := hI
    have hnot : f ∉ ids s.tree := fun hm => by
      obtain ⟨x, hx, rfl⟩ := List.mem_map.mp hm
      simpa [hpc, Pc.inTree] using (m2 x hx).2.1
    refine ⟨?_, fun x hx => ?_, by simp [hcur], by simp [hcur], insert_ordered f wt m5⟩
    · simp only [hcur, List.append_nil] at m1 ⊢
      exact (ids_insert_perm s.tree f wt).nodup_iff.mpr (List.nodup_cons.mpr ⟨hnot, m1⟩)
    · simp only [upd]
      rcases mem_insert_toList.mp hx with rfl | hx
      · simp [Pc.inTree, hf]
      · have hxf : x.1 ≠ f := fun h => hnot (h ▸ List.mem_map_of_mem hx)
        simp only [if_neg hxf]; exact m2 x hx
  | remove g r i w c t' hpc hrm =>
    have hcur := cur_nil_of_holder hL hI hpc rfl rfl
    have hhold := holder_of hL hpc rfl
    have hpark : ∀ x ∈ s.tree.toList, s.pc x.1 = .parked := fun x =>
      tree_member_parked hL hI hpc rfl rfl
    have hg : ∀ x ∈ s.tree.toList, x.1 ≠ g := fun x hx h => by simpa [h, hpc] using hpark x hx
    obtain ⟨m1, m2, m3, m4, m5⟩ := hI
    obtain ⟨htl, hlt, -, hord⟩ := removeLt_spec hrm
    refine ⟨?_, fun x hx => ?_, fun m hm => ?_,
      fun _ => ⟨hlt, g, hhold, by simp [upd, Pc.walking]⟩, hord m5⟩
    · simp only [hcur, ids, htl, List.map_append, ids_group, List.append_nil] at m1
      exact List.perm_append_comm.nodup_iff.mp m1
    · have hx' : x ∈ s.tree.toList := htl ▸ List.mem_append_right _ hx
      simp only [upd, if_neg (hg x hx')]; exact m2 x hx'
    · have hmem : (m, w) ∈ s.tree.toList := by
        rw [htl]; apply List.mem_append_left
        simpa [group, eq_comm] using hm
      have := m2 _ hmem
      simp only [upd, if_neg (hg _ hmem)]
      exact ⟨this.1, hpark _ hmem, this.2.2⟩
  | woken g f hf hhd =>
    obtain ⟨rest, hc⟩ : ∃ rest, s.cur = f :: rest := by
      cases hcur : s.cur with
      | nil => simp [hcur] at hhd
      | cons a rest => simp_all
    have hn := List.nodup_append.mp (hc ▸ hI.1)
    exact invM_frame hI rfl (List.tail_suffix _) rfl rfl (fun _ => Nat.le_refl _) (fun _ => rfl) rfl
      (fun h => absurd rfl (hn.2.2 f h f (by simp))) (fun h => by simp_all) (by simp [hf, Pc.walking])
  | wakerLast g f r hpc hx | lateEnd e g r m hx he hpc =>
    -- no node is NULL, so a NULL head means the chain is empty
    have hcur : s.cur = [] := by
      cases hc : s.cur with
      | nil => rfl
      | cons a l => simp [hc] at hx; exact absurd hx (hz a (by simp [hc]))
    exact invM_frame hI rfl (List.suffix_refl _) rfl rfl (fun _ => Nat.le_refl _) (fun _ => rfl) rfl
      (by simp [hpc, Pc.inTree]) (by simp [hpc]) (fun _ => .inr hcur)
  | dropNext e g r m he hpc =>
    exact invM_frame hI rfl List.nil_suffix rfl rfl (by simp) (by simp) rfl
      (by simp [hpc, Pc.inTree]) (by simp) (fun _ => .inr rfl)
  | wTtc g r k y hpc =>
    have hcur := cur_nil_of_holder hL hI hpc rfl rfl
    exact invM_frame hI rfl (List.suffix_refl _) rfl rfl (fun hc => absurd hcur hc) (fun _ => rfl) rfl
      (by simp [hpc, Pc.inTree]) (by simp [hpc]) (by simp [hpc, Pc.walking])
  | acquire g t r k my hpc hfree =>
    exact invM_frame hI rfl (List.suffix_refl _) rfl rfl (fun _ => Nat.le_refl _)
      (fun hc => by obtain ⟨_, _, h2, _⟩ := hI.2.2.2.1 hc; simp [hfree] at h2) rfl
      (by simp [hpc, Pc.inTree]) (by simp [hpc]) (by simp [hpc, Pc.walking])
  | releaseP h t o hh hpc | releaseW h t o hh hpc =>
    have hcur := cur_nil_of_holder hL hI hpc rfl rfl
    exact invM_frame hI rfl (List.suffix_refl _) rfl rfl (fun _ => Nat.le_refl _)
      (fun hc => absurd hcur hc) rfl (by simp [hpc, Pc.inTree]) (by simp [hpc]) (by simp [hpc, Pc.walking])
  | _ =>
    exact invM_frame hI rfl (List.suffix_refl _) rfl rfl (fun _ => Nat.le_refl _) (fun _ => rfl) rfl
      (by simp [*, Pc.inTree]) (by simp [*]) (by simp [*, Pc.walking])

/-! ### S: per-sleeper timing -/

def Pc.inCall : Pc → Bool
  | .called | .inserting | .inserted | .owner | .parkedL | .parked | .woken | .done => true
  | .spin r _ _ | .locked r _ | .addR r _ | .addW r _ _ | .loopHead r | .removing r | .gotNode r _
  | .gotNext r _ _ | .sched r _ | .needNode r _ => r == .sl
  | _ => false
def Pc.hasBase : Pc → Bool
  | .inserting | .inserted | .owner | .parkedL | .parked => true
  | _ => false

/-- ticks of the fiber_sleep call in progress -/
def curTicks (v : Variant) (s : St) (f : Nat) : Nat :=
  match s.segs f with
  | [] => 0
  | (a, b) :: _ => ticks v a b

def InvS1 (v : Variant) (s : St) (f : Nat) : Prop :=
  ((s.pc f).inCall = true →
      (s.stale f = false → s.start f + s.credit f ≤ s.segStart f) ∧ s.segStart f ≤ s.now ∧
      s.credit f + guaranteed v (s.segs f) = s.guar f) ∧
  (s.pc f = .done → s.segs f = []) ∧
  ((s.pc f).hasBase = true → s.stale f = false → s.segStart f / v.period ≤ s.base f) ∧
  ((s.pc f).inTree = true → s.wake f = s.base f + curTicks v s f) ∧
  (s.pc f = .woken → s.stale f = false → s.segStart f + v.period * curTicks v s f ≤ s.now)

def InvS (v : Variant) (s : St) : Prop := ∀ f, InvS1 v s f

theorem invS_init (v : Variant) : InvS v init := by
  intro f; simp [InvS1, init, Pc.inCall, Pc.hasBase, Pc.inTree]

/-- the fields of `f` that `InvS1` reads beside the clock and the pc are the same in `s'` -/
def SameAt (s s' : St) (f : Nat) : Prop :=
  s'.segs f = s.segs f ∧ s'.start f = s.start f ∧ s'.credit f = s.credit f ∧
  s'.segStart f = s.segStart f ∧ s'.base f = s.base f ∧ s'.wake f = s.wake f ∧
  s'.stale f = s.stale f ∧ s'.guar f = s.guar f

theorem InvS1.mono {f : Nat} (h : InvS1 v s f) (e0 : s.now ≤ s'.now) (e9 : s'.pc f = s.pc f)
    (e : SameAt s s' f) : InvS1 v s' f := by
  obtain ⟨e1, e2, e3, e4, e5, e6, e7, e8⟩ := e
  unfold InvS1 curTicks at *
  rw [e1, e2, e3, e4, e5, e6, e7, e8, e9]
  exact ⟨fun hc => ⟨(h.1 hc).1, Nat.le_trans (h.1 hc).2.1 e0, (h.1 hc).2.2⟩, h.2.1, h.2.2.1,
    h.2.2.2.1, fun hw hs => Nat.le_trans (h.2.2.2.2 hw hs) e0⟩

theorem invS_same {v : Variant} {s : St} (hI : InvS v s) (s' : St)
    (e0 : s'.now = s.now) (e1 : s'.segs = s.segs) (e2 : s'.start = s.start) (e3 : s'.credit = s.credit)
    (e4 : s'.segStart = s.segStart) (e5 : s'.base = s.base) (e6 : s'.wake = s.wake)
    (e7 : s'.stale = s.stale) (e8 : s'.guar = s.guar) (e9 : s'.pc = s.pc) : InvS v s' :=
  fun f => (hI f).mono (Nat.le_of_eq e0.symm) (by rw [e9]) (by simp [SameAt, *])

/-- a fiber about to return has been credited the whole guarantee of its call, and all of it
    lies before `now` unless a stale `ttc` was read -/
theorem InvS1.done {f : Nat} (h : InvS1 v s f) (hd : s.pc f = .done) :
    s.segs f = [] ∧ s.credit f = s.guar f ∧ (s.stale f = false → s.start f + s.guar f ≤ s.now) := by
  have h1 := h.1 (by simp [hd, Pc.inCall])
  have h2 := h.2.1 hd
  simp only [h2, guaranteed, Nat.add_zero] at h1
  exact ⟨h2, h1.2.2, fun hs => by have := h1.1 hs; omega⟩

theorem invS_local (hI : InvS v s) (g : Nat) (e0 : s.now ≤ s'.now)
    (e : ∀ f, f ≠ g → s'.pc f = s.pc f ∧ SameAt s s' f) (hg : InvS1 v s' g) : InvS v s' := by
  intro f
  by_cases hf : f = g
  · exact hf ▸ hg
  · exact (hI f).mono e0 (e f hf).1 (e f hf).2

/-- only the pc of `g` changes, to a state that needs no new fact -/
theorem invS_frame (hI : InvS v s) (e0 : s'.now = s.now) (e : ∀ f, SameAt s s' f)
    (e9 : s'.pc = upd s.pc g p') (c1 : p'.inCall = true → (s.pc g).inCall = true)
    (c2 : p' = .done → s.pc g = .done) (c3 : p'.hasBase = true → (s.pc g).hasBase = true)
    (c4 : p'.inTree = true → (s.pc g).inTree = true) (c5 : p' = .woken → s.pc g = .woken) :
    InvS v s' := by
  refine invS_local hI g (Nat.le_of_eq e0.symm) (fun f hf => ⟨by simp [e9, upd, hf], e f⟩) ?_
  have := hI g
  obtain ⟨e1, e2, e3, e4, e5, e6, e7, e8⟩ := e g
  unfold InvS1 curTicks at *
  rw [e0, e1, e2, e3, e4, e5, e6, e7, e8, e9, upd, if_pos rfl]
  exact ⟨fun h => this.1 (c1 h), fun h => this.2.1 (c2 h), fun h => this.2.2.1 (c3 h),
    fun h => this.2.2.2.1 (c4 h), fun h => this.2.2.2.2 (c5 h)⟩

theorem wake_arith {P now seg base T ttc wake : Nat} (hP : 0 < P) (h1 : ttc ≤ now / P)
    (h2 : wake < ttc) (h3 : wake = base + T) (h4 : seg / P ≤ base) : seg + P * T ≤ now := by
  have a1 : P * (now / P) ≤ now := Nat.mul_div_le now P
  have a2 : P * (seg / P + T + 1) ≤ P * (now / P) := Nat.mul_le_mul_left P (by omega)
  have a3 := Nat.div_add_mod seg P
  have a4 := Nat.mod_lt seg hP
  rw [Nat.mul_add, Nat.mul_add, Nat.mul_one] at a2
  omega

theorem invS_step (hP : 0 < v.period) (hT : InvT v s)
    (hM : InvM s) (hI : InvS v s) (h : Step v s e s') : InvS v s' := by
  cases h with
  | silent => exact hI
  | tick d k hk => exact fun f => (hI f).mono (Nat.le_add_right _ _) rfl (by simp [SameAt])
  | call f kind a b hpc hok =>
    refine invS_local hI f (Nat.le_refl _) (fun f' hf => by simp [SameAt, upd, hf]) ?_
    simp [InvS1, upd, Pc.inCall, Pc.hasBase, Pc.inTree]
  | rTtcSleep g k hd hpc | rTtcDone g hpc hnone =>
    refine invS_local hI g (Nat.le_refl _) (fun f' hf => by simp [SameAt, upd, hf]) ?_
    have := (hI g).1 (by simp [hpc, Pc.inCall])
    simp [InvS1, upd, Pc.inCall, Pc.hasBase, Pc.inTree]
    exact ⟨fun hs _ => this.1 hs, this.2⟩
  | nodeNote f wt sec usec tl hpc hsegs hwt hf =>
    refine invS_local hI f (Nat.le_refl _) (fun f' hf => by simp [SameAt, upd, hf]) ?_
    have := hI f
    simp [InvS1, curTicks, upd, hpc, hsegs, Pc.inCall, Pc.hasBase, Pc.inTree] at this ⊢
    exact ⟨this.1, this.2, hwt⟩
  | resumedLast f sec usec hpc hsegs | resumedMore f sec usec rest hpc hsegs hrest =>
    refine invS_local hI f (Nat.le_refl _) (fun f' hf => by simp [SameAt, upd, hf]) ?_
    have := hI f
    simp [InvS1, curTicks, upd, hpc, hsegs, Pc.inCall, Pc.hasBase, Pc.inTree, guaranteed] at this ⊢
    obtain ⟨⟨h1, h2, h3⟩, h5⟩ := this
    exact ⟨fun hs => by have := h1 hs; have := h5 hs; omega, by omega⟩
  | woken g f hf hhd =>
    have hm := List.mem_of_mem_head? hhd
    have hw := (hM.2.2.1 f hm).1
    have hd := (hM.2.2.2.1 (List.ne_nil_of_mem hm)).1
    have hclock : s.ttc ≤ s.now / v.period := by have := hT.1; omega
    refine invS_local hI f (Nat.le_refl _) (fun f' hf => by simp [SameAt, upd, hf]) ?_
    have := hI f
    simp [InvS1, upd, hf, Pc.inCall, Pc.hasBase, Pc.inTree] at this ⊢
    exact ⟨this.1, fun hs => wake_arith hP hclock (by omega) this.2.2 (this.2.1 hs)⟩
  | _ =>
    exact invS_frame hI rfl (fun _ => by simp [SameAt]) rfl (by simp [*, Pc.inCall]) (by simp [*])
      (by simp [*, Pc.hasBase]) (by simp [*, Pc.inTree]) (by simp [*])

/-! ### C: every park is followed by at most one wake, every wake by exactly one resume -/

def InvC (s : St) : Prop := ∀ f,
  s.nWake f = s.nRes f + (if s.pc f = .woken then 1 else 0) ∧
  s.nPark f = s.nWake f + (if s.pc f = .parkedL ∨ s.pc f = .parked then 1 else 0)

theorem invC_init : InvC init := by intro f; simp [init]

theorem invC_frame (hI : InvC s) (e1 : s'.nPark = s.nPark)
    (e2 : s'.nWake = s.nWake) (e3 : s'.nRes = s.nRes) (e4 : s'.pc = upd s.pc g p')
    (c1 : p' = .woken ↔ s.pc g = .woken)
    (c2 : p' = .parkedL ∨ p' = .parked ↔ s.pc g = .parkedL ∨ s.pc g = .parked) : InvC s' := by
  intro f
  rw [e1, e2, e3, e4, upd]
  split
  · subst f; simp only [c1, c2]; exact hI g
  · exact hI f

theorem invC_step (hI : InvC s) (h : Step v s e s') : InvC s' := by
  cases h with
  | silent | tick => exact hI
  | park g hpc | resumedLast f sec usec hpc hsegs | resumedMore f sec usec rest hpc hsegs hrest
  | woken g f hf hhd =>
    intro f'; have := hI f'; simp only [upd]; grind
  | _ => exact invC_frame hI rfl rfl rfl rfl (by simp [*]) (by simp [*])

/-! ### R: what `call sleep` recorded about the request stays while the call is in progress -/

def InvR (v : Variant) (s : St) : Prop := ∀ f, (s.pc f).inCall = true →
  ∃ kind a b, argsOk kind a b = true ∧ s.req f = reqUs kind a b ∧
    s.guar f = guaranteed v (plan v kind a b) ∧ s.ovf f = decide (s.guar f < s.req f)

theorem invR_init (v : Variant) : InvR v init := by intro f h; simp [init, Pc.inCall] at h

theorem invR_frame (hI : InvR v s) (e1 : s'.req = s.req)
    (e2 : s'.guar = s.guar) (e3 : s'.ovf = s.ovf) (e4 : s'.pc = upd s.pc g p')
    (c : p'.inCall = true → (s.pc g).inCall = true) : InvR v s' := by
  intro f hf
  rw [e4, upd] at hf
  rw [e1, e2, e3]
  split at hf
  · subst f; exact hI g (c hf)
  · exact hI f hf

theorem invR_step (hI : InvR v s) (h : Step v s e s') :
    InvR v s' := by
  cases h with
  | silent | tick => exact hI
  | call f kind a b hpc hok =>
    intro f' hf'
    by_cases hff : f' = f
    · subst hff; exact ⟨kind, a, b, hok, by simp [upd]⟩
    · simp only [upd, if_neg hff] at hf' ⊢; exact hI f' hf'
  | _ => exact invR_frame hI rfl rfl rfl rfl (by simp [*, Pc.inCall])

/-! ### N: no sleeper is forgotten, and nothing due stays in the tree once a wake pass is over -/

def Pc.inPass : Pc → Bool
  | .loopHead _ | .removing _ | .gotNode .. | .gotNext .. | .sched .. | .needNode .. => true
  | _ => false

/-- the lock is free, or its owner is not in the middle of a wake pass -/
def Quiet (s : St) : Prop := ∀ g, s.holder = some g → (s.pc g).inPass = false

/-- a wake pass can still reach `f`, or has dropped it -/
def Known (s : St) (f : Nat) : Prop := f ∈ ids s.tree ∨ f ∈ s.cur ∨ f ∈ s.lost

structure InvN (v : Variant) (s : St) : Prop where
  known : ∀ f, (s.pc f).inTree = true → Known s f
  due : Quiet s → ∀ x ∈ s.tree.toList, s.ttc ≤ x.2
  base : ∀ f, s.pc f = .inserting → s.base f = s.ttc
  clean : v.nextFirst = true → s.lost = [] ∧ s.badRead = false ∧ ∀ g r n, s.pc g ≠ .sched r n

theorem invN_init (v : Variant) : InvN v init := by
  constructor <;> simp [init, Pc.inTree, toList]

theorem mem_ids_insert {t : Tree} {f wt x : Nat} : x ∈ ids (insert t f wt) ↔ x = f ∨ x ∈ ids t := by
  rw [(ids_insert_perm t f wt).mem_iff]; simp

theorem known_step (hL : InvL s) (hM : InvM s)
    (hI : ∀ f, (s.pc f).inTree = true → Known s f) (h : Step v s e s') :
    ∀ f, (s'.pc f).inTree = true → Known s' f := by
  cases h with
  | silent | tick => exact hI
  | nodeNote f wt sec usec tl hpc hsegs hwt hf =>
    intro f' hf'
    simp only [upd] at hf'
    split at hf'
    · exact .inl (mem_ids_insert.mpr (.inl ‹_›))
    · exact (hI f' hf').imp_left fun h => mem_ids_insert.mpr (.inr h)
  | remove g r i w c t' hpc hrm =>
    intro f' hf'
    simp only [upd] at hf'
    split at hf'
    · simp [Pc.inTree] at hf'
    · -- the removed group moves from the tree to `cur`
      have hcur := cur_nil_of_holder hL hM hpc rfl rfl
      have hids : ids s.tree = (i :: c) ++ ids t' := by
        simp only [ids, (removeLt_spec hrm).1, List.map_append, ids_group]
      rcases hI f' hf' with h | h | h
      · rw [hids] at h
        exact (List.mem_append.mp h).elim (fun h => .inr (.inl h)) .inl
      · simp [hcur] at h
      · exact .inr (.inr h)
  | dropNext e g r m he hpc =>
    intro f' hf'
    simp only [upd] at hf'
    split at hf'
    · simp [Pc.inTree] at hf'
    · exact (hI f' hf').imp_right fun h => .inr (h.elim (List.mem_append_right _) (List.mem_append_left _))
  | woken g f hf hhd =>
    intro f' hf'
    simp only [upd] at hf'
    split at hf'
    · simp [Pc.inTree] at hf'
    · refine (hI f' hf').imp_right (.imp_left fun h => ?_)
      cases hc : s.cur with
      | nil => simp [hc] at hhd
      | cons a rest => simp_all
  | _ =>
    intro f' hf'
    simp only [upd] at hf'
    split at hf'
    · subst f'; exact hI _ (by simp_all [Pc.inTree])
    · exact hI f' hf'

/-- `Quiet` only looks at the owner's pc -/
theorem quiet_frame (hq : Quiet s') (e7 : s'.pc = upd s.pc g p')
    (e8 : s'.holder = s.holder) (c : p'.inPass = false → (s.pc g).inPass = false) : Quiet s := by
  intro g' hg'
  have := hq g' (e8 ▸ hg')
  rw [e7, upd] at this
  split at this
  · subst g'; exact c this
  · exact this

theorem due_step (hL : InvL s) (hM : InvM s) (hI : InvN v s)
    (h : Step v s e s') (hq : Quiet s') : ∀ x ∈ s'.tree.toList, s'.ttc ≤ x.2 := by
  cases h with
  | silent | tick => exact hI.due hq
  | acquire g t r k my hpc hfree => exact hI.due fun g' hg' => by simp [hfree] at hg'
  | releaseP h t o hh hpc | releaseW h t o hh hpc =>
    exact hI.due fun g' hg' => by simp_all [Pc.inPass]
  | rTtcDone g hpc hnone | unlockOwn g hpc hnone => exact removeLt_none hM.2.2.2.2 hnone
  | nodeNote f wt sec usec tl hpc hsegs hwt hf =>
    intro x hx
    rcases mem_insert_toList.mp hx with rfl | hx
    · have := hI.base f hpc; simp only; omega
    · exact hI.due (quiet_frame hq rfl rfl (by simp [hpc, Pc.inPass])) x hx
  | wTtc g r k y hpc | remove g r i w c t' hpc hrm | lateEnd e g r m hx he hpc
  | lateMore e g r m x he hpc | dropNext e g r m he hpc =>
    -- the owner of the lock is still inside its wake pass
    exact absurd (hq g (holder_of (s := s) hL hpc rfl)) (by simp [upd, Pc.inPass])
  | _ => exact hI.due (quiet_frame hq rfl rfl (by simp [*, Pc.inPass]))

theorem base_step (hL : InvL s)
    (hI : ∀ f, s.pc f = .inserting → s.base f = s.ttc) (h : Step v s e s') :
    ∀ f, s'.pc f = .inserting → s'.base f = s'.ttc := by
  cases h with
  | silent | tick => exact hI
  | rTtcSleep g k hd hpc | rTtcDone g hpc hnone =>
    intro f hf
    simp only [upd] at hf ⊢
    split
    · rfl
    · exact hI f (by simpa [*] using hf)
  | wTtc g r k y hpc =>
    intro f hf
    simp only [upd] at hf
    split at hf
    · simp at hf
    · -- only the owner of the lock is inside fiber_sleep's insertion
      have := (holder_of hL hpc rfl).symm.trans (holder_of hL hf rfl)
      simp_all
  | _ =>
    intro f hf
    simp only [upd] at hf
    split at hf
    · simp_all
    · exact hI f hf

theorem clean_step (hL : InvL s) (hM : InvM s)
    (hv : v.nextFirst = true)
    (hI : s.lost = [] ∧ s.badRead = false ∧ ∀ g r n, s.pc g ≠ .sched r n) (h : Step v s e s') :
    s'.lost = [] ∧ s'.badRead = false ∧ ∀ g r n, s'.pc g ≠ .sched r n := by
  obtain ⟨h1, h2, h3⟩ := hI
  cases h with
  | silent | tick => exact ⟨h1, h2, h3⟩
  | lateEnd e g r m hx he hpc | lateMore e g r m x he hpc | dropNext e g r m he hpc =>
    exact absurd hpc (h3 g r m)
  | wakerAF g f r hv' hpc => simp [hv] at hv'
  | remove g r i w c t' hpc hrm =>
    have hpark : s.pc i = .parked :=
      tree_member_parked hL hM hpc rfl rfl
        (x := (i, w)) (by rw [(removeLt_spec hrm).1]; simp [group])
    refine ⟨h1, by simp [h2, hpark], fun g' r' n' => ?_⟩
    simp only [upd]; split
    · simp
    · exact h3 g' r' n'
  | follow g r n hpc hhd | readNext g r n hpc hhd =>
    have hpark := (hM.2.2.1 n (List.mem_of_mem_head? hhd)).2.1
    refine ⟨h1, by simp [h2, hpark], fun g' r' n' => ?_⟩
    simp only [upd]; split
    · simp
    · exact h3 g' r' n'
  | _ =>
    refine ⟨h1, h2, fun g' r' n' => ?_⟩
    simp only [upd]; split
    · simp
    · exact h3 g' r' n'

theorem invN_step (hL : InvL s) (hM : InvM s) (hI : InvN v s)
    (h : Step v s e s') : InvN v s' :=
  ⟨known_step hL hM hI.known h, due_step hL hM hI h, base_step hL hI.base h,
    fun hv => clean_step hL hM hv (hI.clean hv) h⟩

/-! ### D: with the timer read under the lock (`drains`), fiber_sleep never reads a stale ttc -/

/-- the actor has read the timer under the lock and not yet added the count -/
def Pc.adding : Pc → Bool
  | .addR .. | .addW .. => true
  | _ => false
/-- sleeper inside the wake pass of fiber_sleep, after `ttc` was brought up to date -/
def Pc.passSl : Pc → Bool
  | .loopHead r | .removing r | .gotNode r _ | .gotNext r _ _ | .sched r _ | .needNode r _ => r == .sl
  | _ => false

def InvD (v : Variant) (s : St) : Prop :=
  (s.fl = [] ∨ ∃ g k, s.fl = [(g, k)] ∧ s.holder = some g ∧ (s.pc g).adding = true ∧ (s.pc g).carry = k) ∧
  (∀ f, (s.pc f).inCall = true → (s.pc f).adding = true → s.segStart f / v.period ≤ s.ttc + (s.pc f).carry) ∧
  (∀ f, (s.pc f).passSl = true → s.segStart f / v.period ≤ s.ttc) ∧
  (∀ f, (s.pc f).inCall = true → s.stale f = false)

theorem invD_init (v : Variant) : InvD v init := by
  refine ⟨Or.inl rfl, ?_, ?_, ?_⟩ <;> intro f h <;> simp [init, Pc.inCall, Pc.passSl] at h

theorem invD_same {v : Variant} {s : St} (hI : InvD v s) (s' : St)
    (e1 : s'.fl = s.fl) (e2 : s'.holder = s.holder) (e3 : s'.ttc = s.ttc)
    (e4 : s'.segStart = s.segStart) (e5 : s'.stale = s.stale) (e6 : s'.pc = s.pc) : InvD v s' := by
  unfold InvD at *; rw [e1, e2, e3, e4, e5, e6]; exact hI

/-- the first clause of `InvD`: at most the lock owner's own count is in flight -/
def FlOk (s : St) : Prop :=
  s.fl = [] ∨ ∃ g k, s.fl = [(g, k)] ∧ s.holder = some g ∧ (s.pc g).adding = true ∧ (s.pc g).carry = k

theorem flOk_frame (hI : FlOk s) (e1 : s'.fl = s.fl)
    (e2 : s.fl ≠ [] → s'.holder = s.holder) (e6 : s'.pc = upd s.pc g p')
    (c1 : (s.pc g).adding = true → p'.adding = true ∧ p'.carry = (s.pc g).carry) : FlOk s' := by
  unfold FlOk
  rw [e1]
  refine hI.imp_right fun ⟨g0, k, h1, h2, h3, h4⟩ => ⟨g0, k, h1, e2 (by simp [h1]) ▸ h2, ?_⟩
  rw [e6, upd]
  split
  · subst g0; exact ⟨(c1 h3).1, (c1 h3).2 ▸ h4⟩
  · exact ⟨h3, h4⟩

/-- a step of `g` during which `ttc` does not go back: what the invariant asks of `g` afterwards
    is asked directly (`c2`–`c4`), everybody else keeps what they had -/
theorem invD_frame (hI : InvD v s) (h1 : FlOk s')
    (e3 : s.ttc ≤ s'.ttc) (e4 : ∀ f, f ≠ g → s'.segStart f = s.segStart f)
    (e5 : ∀ f, f ≠ g → s'.stale f = s.stale f) (e6 : s'.pc = upd s.pc g p')
    (c2 : p'.inCall = true → p'.adding = true → s'.segStart g / v.period ≤ s'.ttc + p'.carry)
    (c3 : p'.passSl = true → s'.segStart g / v.period ≤ s'.ttc)
    (c4 : p'.inCall = true → s'.stale g = false) : InvD v s' := by
  obtain ⟨-, d2, d3, d4⟩ := hI
  refine ⟨h1, fun f => ?_, fun f => ?_, fun f => ?_⟩ <;> rw [e6, upd] <;> split
  · subst f; exact c2
  · rw [e4 f ‹_›]; exact fun hc ha => Nat.le_trans (d2 f hc ha) (Nat.add_le_add_right e3 _)
  · subst f; exact c3
  · rw [e4 f ‹_›]; exact fun hp => Nat.le_trans (d3 f hp) e3
  · subst f; exact c4
  · rw [e5 f ‹_›]; exact d4 f

/-- only the pc of `g` changes, to a state that needs no new fact -/
theorem invD_move (hI : InvD v s)
    (e1 : s'.fl = s.fl) (e2 : s.fl ≠ [] → s'.holder = s.holder) (e3 : s'.ttc = s.ttc)
    (e4 : s'.segStart = s.segStart) (e5 : s'.stale = s.stale) (e6 : s'.pc = upd s.pc g p')
    (c1 : (s.pc g).adding = true → p'.adding = true ∧ p'.carry = (s.pc g).carry)
    (c2 : p'.adding = true → (s.pc g).adding = true ∧ p'.carry = (s.pc g).carry)
    (c3 : p'.passSl = true → (s.pc g).passSl = true)
    (c4 : p'.inCall = true → (s.pc g).inCall = true) : InvD v s' :=
  invD_frame hI (flOk_frame hI.1 e1 e2 e6 c1) (Nat.le_of_eq e3.symm) (fun _ _ => by rw [e4])
    (fun _ _ => by rw [e5]) e6
    (fun hc ha => by rw [e3, e4, (c2 ha).2]; exact hI.2.1 g (c4 hc) (c2 ha).1)
    (fun hp => by rw [e3, e4]; exact hI.2.2.1 g (c3 hp)) (fun hc => by rw [e5]; exact hI.2.2.2 g (c4 hc))

theorem fl_nil_of_holder (hL : InvL s) (hI : InvD v s)
    (hpc : s.pc g = p) (hh : p.holds = true) (ha : p.adding = false) : s.fl = [] := by
  rcases hI.1 with h | ⟨g0, k, _, h2, h3, _⟩
  · exact h
  · rw [holder_of hL hpc hh] at h2; simp at h2; subst h2; rw [hpc, ha] at h3; simp at h3

theorem invD_step (hd : v.drains = true) (hL : InvL s)
    (hT : InvT v s) (hS : InvS v s) (hI : InvD v s) (h : Step v s e s') : InvD v s' := by
  cases h with
  | silent | tick => exact hI
  | timerPoll g hd' hpc | rTtcPoll g k hd' hpc | rTtcSleep g k hd' hpc => simp [hd] at hd'
  | call f kind a b hpc hok =>
    exact invD_frame hI (flOk_frame hI.1 rfl (fun _ => rfl) rfl (by simp [hpc, Pc.adding]))
      (Nat.le_refl _) (fun f' hf => by simp [upd, hf]) (fun f' hf => by simp [upd, hf]) rfl
      (by simp [Pc.adding]) (by simp [Pc.passSl]) (by simp [upd])
  | resumedLast f sec usec hpc hsegs | resumedMore f sec usec rest hpc hsegs hrest =>
    exact invD_frame hI (flOk_frame hI.1 rfl (fun _ => rfl) rfl (by simp [hpc, Pc.adding]))
      (Nat.le_refl _) (fun f' hf => by simp [upd, hf]) (fun _ _ => rfl) rfl
      (by simp [Pc.adding]) (by simp [Pc.passSl]) (fun _ => hI.2.2.2 f (by simp [hpc, Pc.inCall]))
  | rTtcDone g hpc hnone =>
    -- fiber_sleep reads ttc after its own wake pass: up to date
    have h3 := hI.2.2.1 g (by simp [hpc, Pc.passSl])
    have h4 := hI.2.2.2 g (by simp [hpc, Pc.inCall])
    exact invD_frame hI (flOk_frame hI.1 rfl (fun _ => rfl) rfl (by simp [hpc, Pc.adding]))
      (Nat.le_refl _) (fun _ _ => rfl) (fun f' hf => by simp [upd, hf]) rfl
      (by simp [Pc.adding]) (by simp [Pc.passSl]) (fun _ => by simp [upd, h4]; omega)
  | acquire g t r k my hpc hfree =>
    -- the lock is free: nothing is in flight
    have hfl : s.fl = [] := hI.1.resolve_right fun ⟨_, _, _, h2, _⟩ => by simp [hfree] at h2
    exact invD_move hI rfl (fun hc => absurd hfl hc) rfl rfl rfl rfl
      (by simp [hpc, Pc.adding]) (by simp [Pc.adding]) (by simp [Pc.passSl]) (by simp [hpc, Pc.inCall])
  | releaseP h t o hh hpc | releaseW h t o hh hpc =>
    have hfl := fl_nil_of_holder hL hI hpc rfl rfl
    exact invD_move hI rfl (fun hc => absurd hfl hc) rfl rfl rfl rfl
      (by simp [hpc, Pc.adding]) (by simp [Pc.adding]) (by simp [Pc.passSl]) (by simp [hpc, Pc.inCall])
  | timerLocked g r hpc =>
    -- the timer is read under the lock: nothing else is in flight
    have hfl := fl_nil_of_holder hL hI hpc rfl rfl
    have hacct := hT.1
    rw [hfl] at hacct; simp [flSum] at hacct
    refine invD_frame hI (.inr ⟨g, _, by rw [hfl], holder_of (s := s) hL hpc rfl,
      by simp [upd, Pc.adding], by simp [upd, Pc.carry]⟩) (Nat.le_refl _) (fun _ _ => rfl)
      (fun _ _ => rfl) rfl (fun hc _ => ?_) (by simp [Pc.passSl])
      (fun hc => hI.2.2.2 g (by simpa [hpc, Pc.inCall] using hc))
    have := Nat.div_le_div_right (c := v.period) ((hS g).1 (by simpa [hpc, Pc.inCall] using hc)).2.1
    simp only [Pc.carry]; omega
  | wTtc g r k y hpc =>
    have hy := hT.2.2 g r k y hpc
    have h2 := hI.2.1 g
    simp only [hpc, Pc.inCall, Pc.adding, Pc.carry] at h2
    refine invD_frame hI (.inl ?_) (by simp only; omega) (fun _ _ => rfl) (fun _ _ => rfl) rfl
      (by simp [Pc.adding]) (fun hp => ?_) (fun hc => hI.2.2.2 g (by simpa [hpc, Pc.inCall] using hc))
    · rcases hI.1 with h | ⟨g0, k0, h1, h2, h3, h4⟩
      · simp [h]
      · have := holder_of hL hpc rfl
        simp_all [Pc.carry]
    · have := h2 (by simpa [Pc.passSl] using hp) trivial
      simp only; omega
  | _ =>
    exact invD_move hI rfl (fun _ => rfl) rfl rfl rfl rfl (by simp [*, Pc.adding, Pc.carry])
      (by simp [*, Pc.adding, Pc.carry]) (by simp [*, Pc.passSl]) (by simp [*, Pc.inCall])

/-! ### the arithmetic of `sleep_ms` and of the shims -/

theorem guaranteed_append (v : Variant) (l1 l2 : List (Nat × Nat)) :
    guaranteed v (l1 ++ l2) = guaranteed v l1 + guaranteed v l2 := by
  induction l1 with
  | nil => simp [guaranteed]
  | cons a l ih => obtain ⟨x, y⟩ := a; simp [guaranteed, ih]; omega

theorem guaranteed_replicate (v : Variant) (q : Nat) (x y : Nat) :
    guaranteed v (List.replicate q (x, y)) = q * (v.period * ticks v x y) := by
  induction q with
  | zero => simp [guaranteed]
  | succ q ih => simp [List.replicate_succ, guaranteed, ih, Nat.succ_mul]; omega

/-- the 32-bit computation of `sleep_ms` does not wrap for this request -/
def noOvf : Kind → Nat → Nat → Prop
  | .fs, a, b => a * 1000 + b / 1000 + 1 < M32
  | .us, _, _ => True
  | .sl, a, _ => a * 1000 + 1 < M32
  | .ns, a, b => a < M32 ∧ a * 1000 + (b / 1000 + 1) / 1000 + 1 < M32

/-- one fiber_sleep(sec, usec) lasts at least sec s + usec µs, with 64-bit arithmetic or as long
    as the 32-bit `sleep_ms` does not wrap -/
theorem seg_ge (v : Variant) (hp : 1000 ≤ v.period) {sec usec : Nat}
    (h : v.widen = true ∨ sec * 1000 + usec / 1000 + 1 < M32) :
    sec * 1000000 + usec ≤ v.period * ticks v sec usec := by
  have h1 : 1000 * ticks v sec usec ≤ v.period * ticks v sec usec := Nat.mul_le_mul_right _ hp
  have ht : ticks v sec usec = sec * 1000 + usec / 1000 + 1 := by
    unfold ticks; split
    · rfl
    · exact Nat.mod_eq_of_lt (h.resolve_left ‹_›)
  rw [ht] at h1 ⊢
  generalize v.period * (sec * 1000 + usec / 1000 + 1) = X at *
  omega

theorem ns_arith (A Q b D E : Nat) (hq : Q ≤ A) (h2 : A - Q + (b / 1000 + 1) ≤ D) (h3 : Q ≤ E) :
    A + (b + 999) / 1000 ≤ E + D := by omega

/-- every request the C types allow is covered by the fiber_sleep calls made: always with
    64-bit arithmetic (F-C09c fixed), and as found as long as `seconds * 1000 + useconds / 1000 + 1`
    does not wrap — in particular for every request below 4 290 672 seconds -/
theorem guaranteed_ge_req (v : Variant) (hp : 1000 ≤ v.period) (kind : Kind) (a b : Nat)
    (hok : argsOk kind a b = true) (hno : v.widen = true ∨ noOvf kind a b) :
    reqUs kind a b ≤ guaranteed v (plan v kind a b) := by
  cases kind with
  | fs =>
    simp only [argsOk, Bool.and_eq_true, decide_eq_true_eq] at hok
    have := seg_ge v hp (sec := a) (usec := b) hno
    simp only [plan, guaranteed, reqUs, Nat.mod_eq_of_lt hok.1, Nat.mod_eq_of_lt hok.2]; omega
  | us =>
    simp only [argsOk, decide_eq_true_eq] at hok
    have := seg_ge v hp (sec := a / 1000000) (usec := a % 1000000) (.inr (by unfold M32 at *; omega))
    simp only [plan, guaranteed, reqUs, Nat.mod_eq_of_lt hok]
    have := Nat.div_add_mod a 1000000
    generalize v.period * ticks v (a / 1000000) (a % 1000000) = X at *
    clear hok
    omega
  | sl =>
    simp only [argsOk, decide_eq_true_eq] at hok
    have := seg_ge v hp (sec := a) (usec := 0) (hno.imp_right fun h : a * 1000 + 1 < M32 => by simpa using h)
    simp only [plan, guaranteed, reqUs, Nat.mod_eq_of_lt hok]
    generalize v.period * ticks v a 0 = X at *
    simp only [Nat.add_zero] at *
    omega
  | ns =>
    by_cases hw : v.widen = true
    · simp only [plan, hw, if_true, reqUs, guaranteed_append, guaranteed_replicate, guaranteed]
      have hq : (a - 1) / U32MAX * U32MAX ≤ a - 1 := Nat.div_mul_le_self _ _
      have h1 := seg_ge v hp (sec := U32MAX) (usec := 0) (.inl hw)
      have h2 := seg_ge v hp (sec := a - (a - 1) / U32MAX * U32MAX) (usec := b / 1000 + 1) (.inl hw)
      have h3 : (a - 1) / U32MAX * (U32MAX * 1000000) ≤ (a - 1) / U32MAX * (v.period * ticks v U32MAX 0) :=
        Nat.mul_le_mul_left _ (by simpa using h1)
      rw [← Nat.mul_assoc] at h3
      generalize ticks v U32MAX 0 = T1 at *
      generalize ticks v (a - (a - 1) / U32MAX * U32MAX) (b / 1000 + 1) = T2 at *
      generalize v.period * T1 = C at *
      generalize v.period * T2 = D at *
      generalize (a - 1) / U32MAX * C = E at *
      generalize (a - 1) / U32MAX * U32MAX = Qm at *
      clear h1 hok
      simp only [Nat.add_zero]
      rw [Nat.sub_mul] at h2
      have hQA : Qm * 1000000 ≤ a * 1000000 := Nat.mul_le_mul_right _ (by omega)
      exact ns_arith _ _ _ _ _ hQA h2 h3
    · obtain ⟨h1, h2⟩ := hno.resolve_left hw
      simp only [argsOk, decide_eq_true_eq] at hok
      have hb : (b / 1000 + 1) % M32 = b / 1000 + 1 := Nat.mod_eq_of_lt (by unfold M32; omega)
      have := seg_ge v hp (.inr h2)
      simp only [plan, hw, reqUs, Nat.mod_eq_of_lt h1, hb, guaranteed, Bool.false_eq_true, if_false]
      generalize v.period * ticks v a (b / 1000 + 1) = X at *
      omega

theorem InvR.req_le (hI : InvR v s) {f : Nat} (hc : (s.pc f).inCall = true)
    (ho : s.ovf f = false) : s.req f ≤ s.guar f := by
  obtain ⟨_, _, _, _, _, _, h⟩ := hI f hc
  simpa [ho] using h.symm

structure AllInv (v : Variant) (s : St) : Prop where
  L : InvL s
  T : InvT v s
  M : InvM s
  S : InvS v s
  N : InvN v s
  C : InvC s
  R : InvR v s
  D : v.drains = true → InvD v s

theorem allInv_init (v : Variant) : AllInv v init :=
  ⟨invL_init, invT_init v, invM_init, invS_init v, invN_init v, invC_init, invR_init v,
    fun _ => invD_init v⟩

theorem allInv_step (v : Variant) (hP : 0 < v.period) (s e s') (hI : AllInv v s)
    (h : step v s e = some s') : AllInv v s' :=
  have one {s e s'} (hI : AllInv v s) (h : Step v s e s') : AllInv v s' :=
    ⟨invL_step hI.L h, invT_step hI.L hI.T h, invM_step hI.L hI.M h, invS_step hP hI.T hI.M hI.S h,
      invN_step hI.L hI.M hI.N h, invC_step hI.C h, invR_step hI.R h,
      fun hd => invD_step hd hI.L hI.T hI.S (hI.D hd) h⟩
  (step_sound h).elim (one hI) fun ⟨_, _, _, _, h1, h2⟩ => one (one hI h1) h2

theorem allInv_of_run (v : Variant) (hP : 0 < v.period) {es : List Ev}
    (h : (sys v).run es = some s) : AllInv v s :=
  Sys.inv_of_run (sys v) (AllInv v) (allInv_init v) (allInv_step v hP) h

def isPark (f : Nat) : Ev → Bool
  | .wState g f' x => g = f ∧ f' = f ∧ x = WAITING
  | _ => false
def isWake (f : Nat) : Ev → Bool
  | .wState _ f' x => f' = f ∧ x = READY
  | _ => false
def isResume (f : Nat) : Ev → Bool
  | .resumed f' => f' = f
  | _ => false

theorem counters_step (h : Step v s e s') (f : Nat) :
    s'.nPark f = s.nPark f + (if e.any (isPark f) then 1 else 0) ∧
    s'.nWake f = s.nWake f + (if e.any (isWake f) then 1 else 0) ∧
    s'.nRes f = s.nRes f + (if e.any (isResume f) then 1 else 0) := by
  cases h with
  | silent e he => cases e <;> simp_all [Ev.silent, isPark, isWake, isResume]
  | lateEnd e g r m hx he hpc | lateMore e g r m x he hpc | dropNext e g r m he hpc =>
    rcases he with rfl | rfl <;> simp [isPark, isWake, isResume]
  | park g hpc | resumedLast f' sec usec hpc hsegs | resumedMore f' sec usec rest hpc hsegs hrest
  | woken g f' hf hhd =>
    simp only [upd, Option.any, isPark, isWake, isResume, WAITING, READY]; grind
  | _ => simp [isPark, isWake, isResume]

theorem counters_count_events (v : Variant) {es : List Ev} (h : (sys v).run es = some s) :
    ∀ f, s.nPark f = es.countP (isPark f) ∧ s.nWake f = es.countP (isWake f) ∧
      s.nRes f = es.countP (isResume f) := by
  refine Sys.hist_inv_of_run (sys v) (fun s es => ∀ f, s.nPark f = es.countP (isPark f) ∧
    s.nWake f = es.countP (isWake f) ∧ s.nRes f = es.countP (isResume f))
    (by intro f; simp [sys, init]) ?_ h
  intro s es e s' hI hstep f
  have := hI f
  simp only [List.countP_append, List.countP_cons, List.countP_nil]
  rcases step_sound hstep with h | ⟨_, _, s₁, _, h1, h2⟩
  · have := counters_step h f
    simp only [Option.any] at this
    omega
  · have := counters_step h1 f
    have := counters_step h2 f
    simp only [Option.any, Bool.false_eq_true, if_false] at *
    omega

end LibfiberVerif.Sleep
