/-
  Proof/Signal.lean — invariants of the token harness (`Signal.step`) on top of the
  fiber_signal_t protocol: a raise is seen or remembered, never lost.  Property C11.

  The harness is a client of the protocol: each fiber's harness pc is tied to its protocol pc
  (`Link`), and while a token is there and every publisher has exchanged, the waiter is covered by the
  word (`PCov`, Proof/SignalProto.lean).  A step moves one fiber, so it has to re-establish the link
  and the coverage for that fiber (`TInv.move`); the steps inside the protocol are `PCov.inner`.
-/
import LibfiberVerif.Proof.SignalProto

namespace LibfiberVerif.Signal

/-- g has published a token and not yet exchanged RAISED into the word -/
def inFlight (s : St) (g : Nat) : Prop :=
  s.tk g = .published ∨ (s.tk g = .raising true ∧ s.p.pc g = .raiseCalled)

/-- w found no token and is on its way to the CAS that would put it to sleep -/
def committed (s : St) (w : Nat) : Prop :=
  s.tk w = .takeSaw 0 ∨ s.p.pc w = .waitCalled ∨ s.p.pc w = .wCleared

/-- w is in the word / parked and nobody has woken it yet -/
def asleep (s : St) (w : Nat) : Prop :=
  (s.p.pc w).sleepy ∧ s.p.wakes w + 1 = s.p.parks w

/-- How the harness pc `t` of fiber `f` and its protocol pc `q` go together: outside `take`'s wait and
    a raise the fiber is outside the protocol; a raiser is not inside the wait; only the signal's one
    waiter (`wid`) takes tokens. -/
def Link (wid : Option Nat) (f : Nat) : TPc → PPc → Prop
  | .takeWaiting, _ => wid = some f
  | .raising _, q => ¬ q.inWait
  | .takeLoop, q | .takeSaw _, q | .takeDone, q => q = .idle ∧ wid = some f
  | .idle, q | .pubCalled, q | .published, q => q = .idle

/-- the waiter is covered by the word; the harness's part: it has loaded no token (`committed`) -/
abbrev Cov (s : St) : Prop := PCov (fun w => s.tk w = .takeSaw 0) s.p

structure TInv (s : St) : Prop where
  pinv : PInv s.p
  fl_nodup : s.fl.Nodup
  fl_inflight : ∀ g, g ∈ s.fl → inFlight s g
  link : ∀ f, Link s.p.waiterId f (s.tk f) (s.p.pc f)
  cov : 0 < s.tokens → s.fl = [] → Cov s

theorem tinv_init : TInv init :=
  ⟨pinv_init, .nil, nofun, fun _ => rfl, fun h => nomatch h⟩

theorem Link.inner {wid : Option Nat} {f : Nat} {t : TPc} {q q' : PPc} (h : Link wid f t q) (hq : q ≠ .idle)
    (hw : q'.inWait ↔ q.inWait) : Link wid f t q' := by
  cases t <;> simp_all [Link]

/-- a fiber inside the protocol has not just loaded the token counter, and is not a publisher in flight
    unless it is about to exchange -/
theorem TInv.busy {s : St} (hi : TInv s) {f : Nat} (h : s.p.pc f ≠ .idle) :
    (∀ v, s.tk f ≠ .takeSaw v) ∧ (s.p.pc f ≠ .raiseCalled → ¬ inFlight s f) := by
  have := hi.link f
  cases ht : s.tk f <;> simp_all [Link, inFlight]

theorem TInv.idle {s : St} (hi : TInv s) {f : Nat} {t : TPc} (h : s.tk f = t)
    (ht : t ≠ .takeWaiting ∧ ∀ b, t ≠ .raising b := by exact ⟨nofun, nofun⟩) : s.p.pc f = .idle := by
  have := hi.link f
  subst h
  cases ht' : s.tk f <;> simp_all [Link]

theorem committed_move {s s' : St} {a : Nat} {t' : TPc} {q' : PPc} (htk : s'.tk = upd s.tk a t')
    (hpc : s'.p.pc = upd s.p.pc a q') (ha : committed s' a → committed s a) (w : Nat) :
    committed s' w → committed s w := by
  by_cases e : w = a
  · exact e ▸ ha
  · simp only [committed, htk, hpc, upd_other _ _ _ _ e]; exact id

theorem Cov.frame {s s' : St} (h : Cov s) (hw : s'.p.word = s.p.word := by rfl)
    (hid : s'.p.waiterId = s.p.waiterId := by rfl) (hc : ∀ w, committed s' w → committed s w) : Cov s' :=
  ⟨hw ▸ h.no_sleeper, fun w a b => hw ▸ h.pre w (hid ▸ a) (hc w b)⟩

/-- The invariant after a step that moves fiber `a` to harness pc `t'` and protocol pc `q'`: the link of
    `a`, the coverage, and `a`'s being in flight if it is in `fl` are to be shown; the other fibers keep
    theirs. -/
theorem TInv.move {s s' : St} (hi : TInv s) (a : Nat) {t' : TPc} {q' : PPc} (hp : PInv s'.p)
    (htk : s'.tk = upd s.tk a t') (hpc : s'.p.pc = upd s.p.pc a q')
    (link : Link s'.p.waiterId a t' q')
    (cov : 0 < s'.tokens → s'.fl = [] → Cov s')
    (hid : ∀ x, s.p.waiterId = some x → s'.p.waiterId = some x := by exact fun _ h => h)
    (nodup : s.fl.Nodup → s'.fl.Nodup := by exact id)
    (infl : ∀ g, g ∈ s'.fl → (g ≠ a ∧ g ∈ s.fl) ∨ (g = a ∧ inFlight s' a)) : TInv s' where
  pinv := hp
  fl_nodup := nodup hi.fl_nodup
  fl_inflight := fun g hg => by
    rcases infl g hg with ⟨hne, hm⟩ | ⟨rfl, h⟩
    · have := hi.fl_inflight g hm
      simp only [inFlight, htk, hpc, upd_other _ _ _ _ hne] at this ⊢; exact this
    · exact h
  link := fun f => by
    rw [htk, hpc]
    by_cases e : f = a
    · rw [e, upd_same, upd_same]; exact link
    · rw [upd_other _ _ _ _ e, upd_other _ _ _ _ e]
      have := hi.link f
      cases ht : s.tk f <;> rw [ht] at this <;> first | exact this | exact hid _ this | exact ⟨this.1, hid _ this.2⟩
  cov := cov

/-- … when the word, the waiter's identity and `fl` stay, and `a` is not a publisher in flight -/
theorem TInv.quiet {s s' : St} (hi : TInv s) (a : Nat) {t' : TPc} {q' : PPc} (hp : PInv s'.p)
    (htk : s'.tk = upd s.tk a t') (hpc : s'.p.pc = upd s.p.pc a q') (link : Link s.p.waiterId a t' q')
    (out : ¬ inFlight s a) (com : 0 < s.tokens → committed s' a → committed s a)
    (hid : s'.p.waiterId = s.p.waiterId := by rfl) (htok : 0 < s'.tokens → 0 < s.tokens := by exact id)
    (hw : s'.p.word = s.p.word := by rfl) (hfl : s'.fl = s.fl := by rfl) : TInv s' :=
  hi.move a hp htk hpc (hid ▸ link)
    (fun ht hfl' => (hi.cov (htok ht) (hfl ▸ hfl')).frame hw hid (committed_move htk hpc (com (htok ht))))
    (hid ▸ fun _ h => h) (hfl ▸ id)
    (infl := fun g hg => .inl ⟨fun e => out (e ▸ hi.fl_inflight g (hfl ▸ hg)), hfl ▸ hg⟩)

section
attribute [local simp] committed inFlight PPc.inWait PPc.sleepy Link

theorem tinv_step (s s' : St) (e : Ev) (hi : TInv s) (hs : step s e = some s') : TInv s' := by
  have hP := hi.pinv
  cases e with
  | callTake f =>
    simp only [step] at hs
    split at hs <;> cases hs
    next h =>
    have hpc := hi.idle h.1
    refine hi.move f (hP.setWaiter f h.2) rfl (upd_self _ _).symm ⟨hpc, rfl⟩
      (fun ht hfl => ⟨(hi.cov ht hfl).no_sleeper, fun w hw hc => ?_⟩) (fun x hx => ?_)
      (infl := fun g hg => .inl ⟨fun e => by have := hi.fl_inflight g hg; simp [e, h.1] at this, hg⟩)
    · cases hw; simp [hpc] at hc
    · rcases h.2 with h | h <;> simp_all
  | ldTokens f v =>
    simp only [step] at hs
    split at hs <;> try cases hs
    next htk =>
    split at hs <;> cases hs
    next hv =>
    have hl := hi.link f; rw [htk] at hl
    exact hi.quiet f hP rfl (upd_self _ _).symm hl (by simp [htk]) (fun ht => by simp [hl.1, hv]; omega)
  | fsubTokens f old =>
    simp only [step] at hs
    split at hs <;> try cases hs
    next v htk =>
    split at hs <;> cases hs
    next h =>
    have hl := hi.link f; rw [htk] at hl
    exact hi.quiet f hP rfl (upd_self _ _).symm hl (by simp [htk]) (fun _ => by simp [hl.1])
      (htok := fun _ => h.2.1 ▸ h.2.2)
  | retTake f | callPublish f =>
    simp only [step] at hs
    split at hs <;> cases hs
    next htk =>
    have hpc := hi.idle htk
    exact hi.quiet f hP rfl (upd_self _ _).symm hpc (by simp [htk]) (fun _ => by simp [hpc])
  | faddTokens f old =>
    simp only [step] at hs
    split at hs <;> try cases hs
    next htk =>
    split at hs <;> cases hs
    have hnf : f ∉ s.fl := fun h => by have := hi.fl_inflight f h; simp [htk] at this
    exact hi.move f hP rfl (upd_self _ _).symm (hi.idle htk) (fun _ h => nomatch h)
      (nodup := fun h => List.nodup_cons.2 ⟨hnf, h⟩)
      (infl := fun g hg => (List.mem_cons.1 hg).elim (fun e => .inr ⟨e, by simp⟩)
        (fun h => .inl ⟨fun e => hnf (e ▸ h), h⟩))
  | p pe =>
    -- inside the protocol the harness pc stays, and the protocol pc stays inside (or outside) the wait
    have inner : ∀ {e p'}, PStep s.p e p' → e.inner = true → TInv { s with p := p' } := fun {e p'} hp he => by
      obtain ⟨a, q', hpc, hne, hrc, hw, hid⟩ := hp.inner_move he
      exact hi.move a (hP.step hp) (upd_self _ _).symm hpc (hid ▸ (hi.link a).inner hne hw)
        (fun ht hfl => (hi.cov ht hfl).inner hP hp he fun w h => hi.idle h) (hid ▸ fun _ h => h)
        (infl := fun g hg => .inl ⟨fun e => (hi.busy hne).2 hrc (e ▸ hi.fl_inflight g hg), hg⟩)
    cases pe with
    | callWait f =>
      simp only [step] at hs
      split at hs <;> try cases hs
      next htk =>
      simp only [Option.map_eq_some_iff] at hs
      obtain ⟨p', hp, rfl⟩ := hs
      have hl := hi.link f; rw [htk] at hl
      cases PStep.of_pstep hp with
      | callWait hpc hid =>
        exact hi.quiet f (hP.step (.callWait hpc hid)) rfl rfl hl.2 (by simp [htk]) (fun _ => by simp [htk])
          hl.2.symm
    | retWait f =>
      simp only [step] at hs
      split at hs <;> try cases hs
      next htk =>
      simp only [Option.map_eq_some_iff] at hs
      obtain ⟨p', hp, rfl⟩ := hs
      have hl := hi.link f; rw [htk] at hl
      cases PStep.of_pstep hp with
      | retWait hpc =>
        exact hi.quiet f (hP.step (.retWait hpc)) rfl rfl ⟨rfl, hl⟩ (by simp [htk]) (fun _ => by simp)
    | callRaise f =>
      simp only [step] at hs
      split at hs <;> try cases hs
      next htk =>
      simp only [Option.map_eq_some_iff] at hs
      obtain ⟨p', hp, rfl⟩ := hs
      cases PStep.of_pstep hp with
      | callRaise hpc =>
        -- a publisher in flight stays in flight: it is now about to exchange
        refine hi.move f (hP.step (.callRaise hpc)) rfl rfl (by simp)
          (fun ht hfl => (hi.cov ht hfl).frame
            (hc := committed_move rfl rfl (by rcases htk with h | h <;> simp [h, hpc])))
          (infl := fun g hg => ?_)
        by_cases e : g = f
        · subst e; have := hi.fl_inflight g hg
          exact .inr ⟨rfl, by rcases htk with h | h <;> simp_all⟩
        · exact .inl ⟨e, hg⟩
    | retRaise f r =>
      simp only [step] at hs
      split at hs <;> try cases hs
      next b htk =>
      simp only [Option.map_eq_some_iff] at hs
      obtain ⟨p', hp, rfl⟩ := hs
      cases PStep.of_pstep hp with
      | retRaise hpc =>
        exact hi.quiet f (hP.step (.retRaise hpc)) rfl rfl rfl (by simp [htk, hpc]) (fun _ => by simp)
    | xchg f old =>
      -- the exchange leaves RAISED in the word, so whoever looks next is covered
      simp only [step, Option.map_eq_some_iff] at hs
      obtain ⟨p', hp, rfl⟩ := hs
      have hp := PStep.of_pstep hp
      have hp' := hP.step hp
      have hl : ∀ q', q' ≠ PPc.idle → ¬ q'.inWait → Link s.p.waiterId f (s.tk f) q' := fun q' h1 h2 => by
        have := hi.link f; cases ht : s.tk f <;> cases hp <;> simp_all
      have hin := fun g (hg : g ∈ s.fl.erase f) => hi.fl_nodup.mem_erase_iff.1 hg
      cases hp with
      | xchgGot hpc hw | xchgNone hpc hw =>
        exact hi.move f hp' (upd_self _ _).symm rfl (hl _ nofun (by simp))
          (fun _ _ => ⟨nofun, fun _ _ _ => rfl⟩) (nodup := fun h => h.erase f)
          (infl := fun g hg => .inl (hin g hg))
    | clrScratch | casWaiter | wStateWaiting | setWait | stNone | rScratch | wStateReady =>
      simp only [step, Option.map_eq_some_iff] at hs
      obtain ⟨p', hp, rfl⟩ := hs
      exact inner (.of_pstep hp) rfl

end

theorem tinv_of_run {es : List Ev} {s : St} (h : sys.run es = some s) : TInv s :=
  Sys.inv_of_run sys TInv tinv_init (fun s e s' hi hs => tinv_step s s' e hi hs) h

theorem covered_of_inv {s : St} (hi : TInv s) (w : Nat) (hw : s.p.waiterId = some w)
    (ht : 0 < s.tokens) :
    (committed s w → s.p.word = .raised ∨ ∃ g, inFlight s g) ∧
    (asleep s w → ∃ g, inFlight s g ∨ (s.p.pc g).targets w) := by
  by_cases hfl : s.fl = []
  · have hc := hi.cov ht hfl
    refine ⟨fun h => Or.inl (hc.pre w hw h), fun ha => ?_⟩
    -- nobody is in the word, so the wake-up the sleeper is owed is held by a raiser
    obtain ⟨g, hg⟩ := (hi.pinv.owed w ha.1 ha.2).resolve_left (hc.no_sleeper w)
    exact ⟨g, Or.inr (hi.pinv.waker_target w g hg)⟩
  · obtain ⟨g, hg⟩ := List.exists_mem_of_ne_nil _ hfl
    exact ⟨fun _ => Or.inr ⟨g, hi.fl_inflight g hg⟩, fun _ => ⟨g, Or.inl (hi.fl_inflight g hg)⟩⟩

theorem not_lost_of_inv {s : St} (hi : TInv s) (w : Nat) (hw : s.p.waiterId = some w)
    (ht : 0 < s.tokens) (hq : ∀ g, g ≠ w → s.tk g = .idle) :
    ¬ asleep s w ∧ (committed s w → s.p.word = .raised) := by
  have hc := covered_of_inv hi w hw ht
  have noflight : ∀ g, inFlight s g → g = w := by
    intro g hg
    by_cases hgw : g = w
    · exact hgw
    · have := hq g hgw
      simp [inFlight, this] at hg
  have hwait : ∀ p : PPc, p.sleepy ∨ p = .waitCalled ∨ p = .wCleared → p.inWait ∧ p ≠ .idle := by
    intro p hp
    simp only [PPc.sleepy, PPc.inWait] at *
    rcases hp with (h | h | h) | h | h <;> subst h <;> simp
  -- whenever w is inside the wait, it is not a publisher in flight
  have wnot : (s.p.pc w).inWait → s.p.pc w ≠ .idle → ¬ inFlight s w := by
    intro hin hne hf
    simp only [inFlight] at hf
    rcases hf with hf | ⟨hf, hpc⟩
    · exact hne (hi.idle hf)
    · have := hi.link w; rw [hf] at this; exact this hin
  constructor
  · intro ha
    obtain ⟨g, hg⟩ := hc.2 ha
    have hsl := hwait _ (Or.inl ha.1)
    rcases hg with hg | hg
    · have := noflight g hg; subst this; exact wnot hsl.1 hsl.2 hg
    · by_cases hgw : g = w
      · subst hgw
        simp only [PPc.targets, asleep, PPc.sleepy] at hg ha
        rcases ha.1 with h | h | h <;> simp [h] at hg
      · have hidle := hi.idle (hq g hgw)
        simp [PPc.targets, hidle] at hg
  · intro hcm
    rcases hc.1 hcm with h | ⟨g, hg⟩
    · exact h
    · have := noflight g hg; subst this
      simp only [committed] at hcm
      rcases hcm with h | h | h
      · simp [inFlight, h] at hg
      · exact absurd hg (wnot (by simp [PPc.inWait, h]) (by simp [h]))
      · exact absurd hg (wnot (by simp [PPc.inWait, h]) (by simp [h]))

theorem single_wake_of_inv {s : PSt} (hp : PInv s) (f : Nat) :
    s.wakes f ≤ s.parks f ∧ s.parks f ≤ s.wakes f + 1 ∧
    (∀ g g', (s.pc g).targets f → (s.pc g').targets f → g = g') := by
  refine ⟨?_, ?_, ?_⟩
  · rcases hp.counts f with h | h <;> omega
  · rcases hp.counts f with h | h <;> omega
  · intro g g' hg hg'
    have a := hp.target_waker f g hg
    have b := hp.target_waker f g' hg'
    rw [a] at b; exact Option.some.inj b

theorem wake_after_marker_of_inv {s s' : PSt} (hp : PInv s) (g f : Nat)
    (hs : pstep s (.wStateReady g f) = some s') :
    s.pc f = .parked ∧ s.scratch f = true ∧ s.wakes f + 1 = s.parks f ∧ s'.wakes f = s'.parks f := by
  cases PStep.of_pstep hs with
  | wake hpc =>
    have hpk := hp.ready_parked g f hpc
    have := hp.waker_sleepy f g (hp.target_waker f g (by simp [PPc.targets, hpc]))
    refine ⟨hpk, (hp.marker f).2 hpk, this.2.1, ?_⟩
    simp [upd]; omega

end LibfiberVerif.Signal
