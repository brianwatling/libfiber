/-
  Proof/SpinTso.lean — invariant of the ticket spinlock on x86-TSO (`Model/SpinTso.lean`).

  The shape of the argument: the model is the abstract ticket lock of `Proof/TicketLock.lean`
  (counters: `gIssued` = unlock stores ISSUED, and the memory cell `users`) times ONE store
  buffer (`BufView`):
    * only the buffer of `owner` (the thread of the most recent plain store) can be non-empty; it
      holds the data stores `ds` of a critical section and then, if `p`, the unlock store that
      ended it; the memory cell `ticket` lags behind `gIssued` by exactly that store;
    * while the unlock store is pending nobody holds the lock; while data stores are pending
      without it, `owner` is the holder;
    * hence a spinner (ticket `my ≥ gIssued`, own buffer empty) that reads `my` from MEMORY proves
      that no release is pending: FIFO draining put the data stores into memory before the
      ticket store, and every buffer is empty;
    * the data cell seen through that one buffer is `lastWrite`.
  The field-by-field `Inv` and `QInv` are views of the two (`Good.inv`, `Good.qinv`).
-/
import LibfiberVerif.Model.SpinTso
import LibfiberVerif.Proof.TicketLock

namespace LibfiberVerif.SpinTso

@[simp] theorem allDat_snoc_dat (b : Buf) (v : Int) : allDat (b ++ [.dat v]) = allDat b := by
  induction b with
  | nil => rfl
  | cons e r ih => cases e <;> simp [allDat, ih]

theorem rel_snoc (b : Buf) (g : Nat) (h : allDat b = true) : rel g (b ++ [.tk g]) = true := by
  induction b with
  | nil => simp [rel]
  | cons e r ih => cases e <;> simp_all [allDat, rel]

theorem rel_tk_cons {g x : Nat} {r : Buf} (h : rel g (.tk x :: r) = true) : x = g ∧ r = [] := by
  simpa [rel] using h

theorem rel_ne_nil {g : Nat} {b : Buf} (h : rel g b = true) : b ≠ [] := by
  cases b <;> simp_all [rel]

theorem rel_hasTk {g : Nat} {b : Buf} (h : rel g b = true) : hasTk b = true := by
  induction b with
  | nil => simp [rel] at h
  | cons e r ih => cases e <;> simp_all [rel, hasTk]

theorem allDat_not_hasTk {b : Buf} (h : allDat b = true) : hasTk b = false := by
  induction b with
  | nil => rfl
  | cons e r ih => cases e <;> simp_all [allDat, hasTk]

theorem rdT_allDat (b : Buf) (d : Nat) (h : allDat b = true) : rdT b d = d := by
  induction b generalizing d with
  | nil => rfl
  | cons e r ih => cases e <;> simp_all [allDat, rdT]

@[simp] theorem rdD_snoc_dat (b : Buf) (v d : Int) : rdD (b ++ [.dat v]) d = v := by
  induction b generalizing d with
  | nil => rfl
  | cons e r ih => cases e <;> simp [rdD, ih]

@[simp] theorem rdD_snoc_tk (b : Buf) (x : Nat) (d : Int) : rdD (b ++ [.tk x]) d = rdD b d := by
  induction b generalizing d with
  | nil => rfl
  | cons e r ih => cases e <;> simp [rdD, ih]

theorem rel_iff (g : Nat) (b : Buf) :
    rel g b = true ↔ ∃ ds : List Int, b = ds.map Entry.dat ++ [.tk g] := by
  induction b with
  | nil => simp [rel]
  | cons e r ih =>
    cases e with
    | tk x =>
      constructor
      · intro h
        obtain ⟨rfl, rfl⟩ := rel_tk_cons h
        exact ⟨[], rfl⟩
      · rintro ⟨ds, h⟩
        cases ds with
        | nil => simp at h; simp [rel, h]
        | cons d ds => simp at h
    | dat v =>
      simp only [rel, ih]
      constructor
      · rintro ⟨ds, rfl⟩; exact ⟨v :: ds, rfl⟩
      · rintro ⟨ds, h⟩
        cases ds with
        | nil => simp at h
        | cons d ds => simp at h; exact ⟨ds, h.2⟩


structure Inv (s : St) : Prop where
  fifo : s.fifoBuf = true
  le1 : s.ticket ≤ s.gIssued
  le2 : s.gIssued ≤ s.users
  le3 : s.gIssued ≤ s.ticket + 1
  spin : ∀ t my, s.pc t = .spinning my → s.gIssued ≤ my ∧ my < s.users ∧ s.buf t = []
  inj : ∀ t1 t2 my, s.pc t1 = .spinning my → s.pc t2 = .spinning my → t1 = t2
  hold : ∀ t, holder (s.pc t) = true →
    s.gIssued < s.users ∧ s.gIssued = s.ticket ∧ allDat (s.buf t) = true
  holdsp : ∀ t t' my, holder (s.pc t) = true → s.pc t' = .spinning my → my ≠ s.gIssued
  excl : ∀ t1 t2, holder (s.pc t1) = true → holder (s.pc t2) = true → t1 = t2
  unl : ∀ t x, s.pc t = .unlockRead x → x = s.ticket
  nh : ∀ t, holder (s.pc t) = false → s.buf t ≠ [] →
    rel s.gIssued (s.buf t) = true ∧ s.gIssued = s.ticket + 1
  own : ∀ t, s.buf t ≠ [] → t = s.owner
  pend : s.gIssued ≠ s.ticket → rel s.gIssued (s.buf s.owner) = true
  lw : rdD (s.buf s.owner) s.data = s.lastWrite

/-- `q` = the waiting `lock` callers (thread, ticket) in the order of their fetch_add -/
structure QInv (s : St) (q : List (Nat × Nat)) : Prop where
  ord : s.order = s.acq ++ q.map Prod.fst
  mem : ∀ t g, (t, g) ∈ q ↔ s.pc t = .spinning g
  sorted : q.Pairwise (fun a b => a.2 < b.2)

/-! ### the one store buffer -/

/-- what `owner`'s buffer holds: the data stores `ds` of a critical section, then, if `p`, the
    unlock store that ended it -/
def pending (g : Nat) (ds : List Int) (p : Bool) : Buf :=
  ds.map .dat ++ (if p then [.tk g] else [])

theorem pending_eq_nil {g : Nat} {ds : List Int} {p : Bool} (h : pending g ds p = []) :
    ds = [] ∧ p = false := by
  cases p <;> simp_all [pending]

theorem allDat_map (ds : List Int) : allDat (ds.map .dat) = true := by
  induction ds <;> simp_all [allDat]

theorem hasTk_pending (g : Nat) (ds : List Int) (p : Bool) : hasTk (pending g ds p) = p := by
  induction ds with
  | nil => cases p <;> rfl
  | cons d ds ih => exact ih

/-- only `owner`'s buffer can be non-empty; it is `pending gIssued ds p`; `h` is the holder of
    the abstract lock -/
structure BufView (s : St) (h : Option Nat) (ds : List Int) (p : Bool) : Prop where
  fifo : s.fifoBuf = true
  buf : ∀ t, s.buf t = if t = s.owner then pending s.gIssued ds p else []
  tk : s.gIssued = s.ticket + p.toNat
  pend : p = true → h = none
  dat : p = false → ds ≠ [] → h = some s.owner
  spin : ∀ my, s.pc s.owner = .spinning my → ds = [] ∧ p = false
  lw : rdD (ds.map .dat) s.data = s.lastWrite
  unl : ∀ t x, s.pc t = .unlockRead x → x = s.ticket

variable {s : St} {h : Option Nat} {q : List Nat} {ds : List Int} {p : Bool}

/-- the holder's buffer holds data stores only, and every other buffer is empty -/
theorem BufView.of_holder (v : BufView s h ds p) {t : Nat} (ht : h = some t) :
    p = false ∧ s.buf t = ds.map .dat ∧ ∀ t', t' ≠ t → s.buf t' = [] := by
  have hp : p = false := by cases p <;> simp_all [v.pend]
  subst hp ht
  by_cases e : t = s.owner
  · refine ⟨rfl, by simp [v.buf, e, pending], fun t' ne => ?_⟩
    rw [v.buf, if_neg (e ▸ ne)]
  · have : ds = [] := Classical.byContradiction fun hne => e (Option.some.inj (v.dat rfl hne))
    subst this
    exact ⟨rfl, by simp [v.buf, pending], fun t' _ => by simp [v.buf, pending]⟩

theorem BufView.free_empty (v : BufView s none ds false) : ds = [] :=
  Classical.byContradiction fun hne => nomatch v.dat rfl hne

theorem BufView.spin_empty (v : BufView s h ds p) {t my : Nat} (hp : s.pc t = .spinning my) :
    s.buf t = [] := by
  rw [v.buf]; split
  · next e => subst e; obtain ⟨rfl, rfl⟩ := v.spin my hp; rfl
  · rfl

/-- a step that moves the pc of `t`, into the spin loop only with an empty buffer (and draws a
    ticket then) -/
theorem BufView.move (v : BufView s h ds p) {t u : Nat} {o : List Nat} {c : Pc}
    (h2 : ∀ my, c = .spinning my → s.buf t = []) (hu : ∀ x, c = .unlockRead x → x = s.ticket) :
    BufView { s with users := u, order := o, pc := upd s.pc t c } h ds p :=
  { v with
    spin := fun my hm => by
      by_cases e : s.owner = t
      · have hb := h2 my (by simpa [upd, e] using hm)
        rw [v.buf, if_pos e.symm] at hb
        exact pending_eq_nil hb
      · exact v.spin my (by simpa [upd, e] using hm)
    unl := forall_upd (P := fun _ c => ∀ x, c = Pc.unlockRead x → x = _) hu fun j _ => v.unl j }

/-- `t` takes the lock, which nobody holds and whose last release has drained: every buffer is
    empty -/
theorem BufView.acquire (v : BufView s none ds p) {t tk' u' : Nat} {c : Pc} {a' : List Nat}
    (hp : p = false) (htk : tk' = s.ticket) (hu : ∀ x, c ≠ .unlockRead x) :
    BufView { s with ticket := tk', users := u', pc := upd s.pc t c, acq := a' } (some t) [] false := by
  subst hp htk
  obtain rfl := v.free_empty
  exact ⟨v.fifo, v.buf, v.tk, nofun, fun _ hne => absurd rfl hne, fun _ _ => ⟨rfl, rfl⟩, v.lw,
    forall_upd (P := fun _ c => ∀ x, c = Pc.unlockRead x → x = _) (fun x e => absurd e (hu x))
      fun j _ => v.unl j⟩

/-- the holder stores to the data cell -/
theorem BufView.csWrite (v : BufView s h ds p) {t : Nat} (ht : h = some t) (hp : s.pc t = .inCs)
    (x : Int) :
    BufView { s with buf := upd s.buf t (s.buf t ++ [.dat x]), lastWrite := x, owner := t } h
      (ds ++ [x]) false := by
  obtain ⟨rfl, hb, he⟩ := v.of_holder ht
  refine ⟨v.fifo, fun t' => ?_, v.tk, nofun, fun _ _ => ht, fun my hm => ?_, by simp, v.unl⟩
  · by_cases e : t' = t
    · simp [e, hb, pending]
    · simp [e, he t' e]
  · rw [hp] at hm; cases hm

/-- the holder issues its unlock store -/
theorem BufView.release (v : BufView s h ds p) {t y : Nat} (ht : h = some t)
    (hp : s.pc t = .unlockRead y) :
    BufView { s with buf := upd s.buf t (s.buf t ++ [.tk (y + 1)]), gIssued := s.gIssued + 1,
                     owner := t, pc := upd s.pc t .unlockDone } none ds true := by
  obtain ⟨rfl, hb, he⟩ := v.of_holder ht
  have hy := v.unl t y hp
  have htk := v.tk
  simp at htk
  refine ⟨v.fifo, fun t' => ?_, by simp [htk], fun _ => rfl, nofun, fun my hm => ?_, v.lw,
    forall_upd (P := fun _ c => ∀ x, c = Pc.unlockRead x → x = _) nofun fun j _ => v.unl j⟩
  · by_cases e : t' = t
    · simp [e, hb, pending, hy, htk]
    · simp [e, he t' e]
  · simp at hm

/-- the oldest store of a buffer reaches memory: a data store, or, after all of them, the unlock
    store (then nobody holds the lock, so nobody is between the two accesses of `unlock`) -/
theorem BufView.flush (v : BufView s h ds p) {t : Nat} {e : Entry} {rest : Buf}
    (hb : s.buf t = e :: rest) (hfree : h = none → ∀ t x, s.pc t ≠ .unlockRead x) :
    (∃ x, e = .tk x ∧ BufView { s with ticket := x, buf := upd s.buf t rest } h [] false) ∨
    (∃ d ds', e = .dat d ∧ BufView { s with data := d, buf := upd s.buf t rest } h ds' p) := by
  obtain rfl : t = s.owner := Classical.byContradiction fun ne => by simp [v.buf, ne] at hb
  have hb' := hb
  rw [v.buf, if_pos rfl] at hb'
  cases ds with
  | nil =>
    cases p <;> simp [pending] at hb'
    obtain ⟨rfl, rfl⟩ := hb'
    refine .inl ⟨_, rfl, v.fifo, fun t' => ?_, by simp, nofun, nofun, fun _ _ => ⟨rfl, rfl⟩, v.lw,
      fun t' x hx => absurd hx (hfree (v.pend rfl) t' x)⟩
    by_cases e : t' = s.owner
    · simp [e, pending]
    · simp [e, v.buf]
  | cons d ds' =>
    simp [pending] at hb'
    obtain ⟨rfl, rfl⟩ := hb'
    refine .inr ⟨d, ds', rfl, v.fifo, fun t' => ?_, v.tk, v.pend, fun hp hne => v.dat hp (by simp),
      fun my hm => by simpa using v.spin my hm, by simpa [rdD] using v.lw, v.unl⟩
    by_cases e : t' = s.owner
    · simp [e, pending]
    · simp [e, v.buf]

/-! ### the model as ticket lock and buffer -/

/-- what a thread is to the lock -/
def role : Pc → TicketRole
  | .spinning g => .wait g
  | c => if holder c then .hold else .out

theorem role_hold {c : Pc} : role c = .hold ↔ holder c = true := by
  cases c <;> try rfl
  case spinning => simp [role, holder]
  all_goals simp [role]

/-- the abstract ticket lock with `gIssued` (unlock stores issued) and the memory cell `users` as
    its counters, and the one buffer -/
structure Good (s : St) (h : Option Nat) (q : List Nat) (ds : List Int) (p : Bool) : Prop where
  lock : TicketLock s.gIssued s.users (fun t => role (s.pc t)) s.order s.acq h q
  view : BufView s h ds p

theorem good_init (v0 : Nat) : Good (init true v0) none [] [] false :=
  ⟨.init v0, by constructor <;> simp [init, pending, rdD]⟩

/-- A spinner that reads its ticket (its own buffer is empty: from memory) holds the ticket being
    served, no release is pending, and nobody holds the lock. -/
theorem Good.served (g : Good s h q ds p) {t my : Nat} (hpc : s.pc t = .spinning my)
    (hx : rdT (s.buf t) s.ticket = my) : my = s.gIssued ∧ h = none ∧ ds = [] ∧ p = false := by
  have := g.lock.wait_bounds (t := t) (g := my) (by rw [hpc]; rfl)
  have htk := g.view.tk
  rw [g.view.spin_empty hpc] at hx
  simp only [rdT] at hx
  obtain rfl : p = false := by cases p <;> simp at htk ⊢; omega
  obtain rfl : my = s.gIssued := by simp at htk; omega
  obtain ⟨rfl, -⟩ := g.lock.enter (t := t) (by rw [hpc]; rfl)
  exact ⟨rfl, rfl, g.view.free_empty, rfl⟩

/-- likewise for `trylock`: memory says idle, so no release is pending and no ticket outstanding -/
theorem Good.idle (g : Good s h q ds p) (hi : s.ticket = s.users) :
    s.gIssued = s.users ∧ h = none ∧ q = [] ∧ ds = [] ∧ p = false := by
  have := g.lock.le
  have htk := g.view.tk
  obtain rfl : p = false := by cases p <;> simp at htk ⊢; omega
  simp at htk
  obtain ⟨rfl, rfl, -⟩ := g.lock.tryAcq (t := 0) (by omega)
  exact ⟨by omega, rfl, rfl, g.view.free_empty, rfl⟩

theorem Good.free (g : Good s none q ds p) (t : Nat) : holder (s.pc t) = false :=
  Bool.eq_false_iff.mpr fun hh => g.lock.free t (role_hold.mpr hh)

theorem Good.drained (g : Good s h q [] false) (t : Nat) : s.buf t = [] := by
  rw [g.view.buf]; split <;> rfl

theorem Good.step {s' : St} {e : Ev} (g : Good s h q ds p) (hs : step s e = some s') :
    ∃ h' q' ds' p', Good s' h' q' ds' p' := by
  obtain ⟨l, v⟩ := g
  cases e <;> simp only [SpinTso.step] at hs
  case flushAny t i => simp [v.fifo] at hs
  case faddUsers t old =>
    split at hs <;> simp at hs
    obtain ⟨⟨hb, rfl⟩, rfl⟩ := hs
    rename_i hpc
    exact ⟨h, q ++ [t], ds, p, .of_upd (r := role) (l.draw (by rw [hpc]; rfl)), v.move (fun _ _ => hb) nofun⟩
  case ldTicket t x =>
    split at hs <;> simp at hs
    · obtain ⟨h1, hs⟩ := hs
      rename_i my hpc
      split at hs <;> simp at hs <;> subst hs
      · next hmy =>
        obtain ⟨rfl, rfl, rfl, rfl⟩ := Good.served ⟨l, v⟩ hpc (h1 ▸ hmy)
        obtain ⟨-, rest, -, l'⟩ := l.enter (t := t) (by rw [hpc]; rfl)
        exact ⟨some t, rest, [], false, .of_upd (r := role) l', v.acquire rfl rfl nofun⟩
      · exact ⟨h, q, ds, p, l, v⟩
    · obtain ⟨h1, rfl⟩ := hs
      rename_i hpc
      -- the load of `unlock`: the holder's buffer has no ticket store, it reads memory
      obtain ⟨rfl, hb, -⟩ := v.of_holder ((l.hold t).mp (by rw [hpc]; rfl))
      refine ⟨h, q, ds, false, l.move (r := role) (by rw [hpc]; rfl), v.move nofun fun y e => ?_⟩
      cases e
      rw [h1, hb]; exact rdT_allDat _ _ (allDat_map ds)
  case casBlob t ftk fus etk eus dtk dus ok =>
    split at hs <;> simp at hs
    obtain ⟨⟨h0, h1, h2, h3, h4, h5, h6, h7⟩, hs⟩ := hs
    rename_i hpc
    subst h1 h2 h3 h4 h5 h6
    cases ok with
    | false =>
      simp at hs; subst hs
      exact ⟨h, q, ds, p, l.move (r := role) (by rw [hpc]; rfl), v.move nofun nofun⟩
    | true =>
      simp at hs h7
      obtain ⟨h8, rfl⟩ := h7
      subst hs
      obtain ⟨hi, rfl, rfl, rfl, rfl⟩ := Good.idle ⟨l, v⟩ h8
      obtain ⟨-, -, l'⟩ := l.tryAcq (t := t) hi
      exact ⟨some t, [], [], false, .of_upd (r := role) l', v.acquire rfl h8.symm nofun⟩
  case stTicket t x =>
    split at hs <;> simp at hs
    obtain ⟨rfl, rfl⟩ := hs
    rename_i y hpc
    have hr : role (s.pc t) = .hold := by rw [hpc]; rfl
    exact ⟨none, q, ds, true, .of_upd (r := role) (l.release hr), v.release ((l.hold t).mp hr) hpc⟩
  case flush t =>
    have hfree : h = none → ∀ t x, s.pc t ≠ .unlockRead x := fun e t x hx =>
      (e ▸ l).free t (by rw [hx]; rfl)
    split at hs <;> simp at hs <;> subst hs <;> rename_i hb
    · obtain ⟨x, e, v'⟩ | ⟨d, ds', e, -⟩ := v.flush hb hfree <;> cases e
      exact ⟨h, q, [], false, l, v'⟩
    · obtain ⟨x, e, -⟩ | ⟨d, ds', e, v'⟩ := v.flush hb hfree <;> cases e
      exact ⟨h, q, ds', p, l, v'⟩
  case csWrite t x =>
    split at hs <;> simp at hs
    subst hs
    rename_i hpc
    exact ⟨h, q, _, false, l, v.csWrite ((l.hold t).mp (by rw [hpc]; rfl)) hpc x⟩
  case csRead t x =>
    split at hs <;> simp at hs
    subst hs; exact ⟨h, q, ds, p, l, v⟩
  case ldBlob t tk us =>
    split at hs <;> simp at hs; subst hs; rename_i hpc
    exact ⟨h, q, ds, p, l.move (r := role) (by rw [hpc.1]; rfl), v.move nofun nofun⟩
  case retTry t r =>
    split at hs <;> simp at hs
    all_goals
      obtain ⟨-, rfl⟩ := hs; rename_i hpc
      exact ⟨h, q, ds, p, l.move (r := role) (by rw [hpc]; rfl), v.move nofun nofun⟩
  all_goals
    split at hs <;> simp at hs; subst hs; rename_i hpc
    exact ⟨h, q, ds, p, l.move (r := role) (by rw [hpc]; rfl), v.move nofun nofun⟩

theorem good_of_run {v0 : Nat} {es : List Ev} {s : St} (hr : (sys true v0).run es = some s) :
    ∃ h q ds p, Good s h q ds p :=
  Sys.inv_of_run (sys true v0) (fun s => ∃ h q ds p, Good s h q ds p) ⟨_, _, _, _, good_init v0⟩
    (fun _ _ _ ⟨_, _, _, _, g⟩ hs => g.step hs) hr

/-! ### `Inv` and `QInv` are views of `Good` -/

theorem Good.inv (g : Good s h q ds p) : Inv s := by
  obtain ⟨l, v⟩ := g
  have hh : ∀ t, holder (s.pc t) = true → h = some t := fun t ht => (l.hold t).mp (role_hold.mpr ht)
  have htk := v.tk
  -- a non-holder's non-empty buffer is `owner`'s, with the unlock store pending
  have nh : ∀ t, holder (s.pc t) = false → s.buf t ≠ [] → t = s.owner ∧ p = true := fun t ht hne => by
    have ho : t = s.owner := Classical.byContradiction fun ne => hne (by simp [v.buf, ne])
    refine ⟨ho, Classical.byContradiction fun hp => ?_⟩
    simp at hp
    subst hp ho
    have : ds ≠ [] := fun e => hne (by simp [v.buf, pending, e])
    have := (l.hold _).mpr (v.dat rfl this)
    rw [role_hold, ht] at this; cases this
  have rel_pending : rel s.gIssued (pending s.gIssued ds true) = true :=
    rel_snoc _ _ (allDat_map ds)
  exact {
    fifo := v.fifo
    le1 := by omega
    le2 := l.le
    le3 := by cases p <;> simp at htk <;> omega
    spin := fun t my ht =>
      have := l.wait_bounds (t := t) (g := my) (by rw [ht]; rfl)
      ⟨this.1, this.2.1, v.spin_empty ht⟩
    inj := fun t1 t2 my h1 h2 => l.wait_inj (g := my) (by rw [h1]; rfl) (by rw [h2]; rfl)
    hold := fun t ht => by
      obtain ⟨rfl, hb, -⟩ := v.of_holder (hh t ht)
      exact ⟨l.lt_of_hold (role_hold.mpr ht), by simpa using htk, by rw [hb]; exact allDat_map ds⟩
    holdsp := fun t t' my ht hp =>
      (l.wait_bounds (t := t') (g := my) (by rw [hp]; rfl)).2.2 t (role_hold.mpr ht)
    excl := fun t1 t2 h1 h2 => l.excl (role_hold.mpr h1) (role_hold.mpr h2)
    unl := v.unl
    nh := fun t ht hne => by
      obtain ⟨rfl, rfl⟩ := nh t ht hne
      exact ⟨by rw [v.buf, if_pos rfl]; exact rel_pending, by simpa using htk⟩
    own := fun t hne => Classical.byContradiction fun ne => hne (by simp [v.buf, ne])
    pend := fun hne => by
      have : p = true := by cases p <;> simp at htk ⊢; exact hne htk
      subst this
      rw [v.buf, if_pos rfl]; exact rel_pending
    lw := by
      rw [v.buf, if_pos rfl, ← v.lw]
      cases p <;> simp [pending] }

theorem Good.qinv (g : Good s h q ds p) : QInv s (q.zipIdx (s.gIssued + h.toList.length)) :=
  ⟨by rw [List.zipIdx_map_fst]; exact g.lock.ord,
    fun t k => (g.lock.mem t k).symm.trans (by cases hp : s.pc t <;> simp [role] <;> split <;> simp),
    TicketLock.sorted _ _⟩

theorem inv_of_run {v0 : Nat} {es : List Ev} {s : St} (hr : (sys true v0).run es = some s) :
    Inv s :=
  let ⟨_, _, _, _, g⟩ := good_of_run hr
  g.inv

end LibfiberVerif.SpinTso
