/-
  Proof/ChanTry.lean — `*_try_receive` (property C11): a try_receive reports "empty" only if
  the channel was empty at some instant of the call, or the send of the message NEXT IN LINE was
  in flight (bounded: slot claimed by the CAS on `high`, message not yet written; unbounded / sp:
  tail swapped, `prev->next` not yet written).  Both the state form (at the deciding read) and
  the history form (`SinceCall`: an instant since the call began) are proved, for channels with
  and without a ready_signal.
-/
import LibfiberVerif.Proof.ChanQueue
import LibfiberVerif.Proof.ChanBounded

namespace LibfiberVerif.Chan

theorem empty_bounded_of_inv {s s' : St} (hk : s.kind = .bounded) (hb : BInv s) (hi : BI s)
    (f i x h l : Nat) (hpc : s.pc f = .rLdLow h l) (hs : step s (.rBuf f i x) = some s')
    (hnone : ¬ (x ≠ 0 ∧ h > l)) :
    s.emptySeen = true ∨
    (x = 0 ∧ s.low < s.high ∧ s.pc (qown s s.low) = .sClaimed (qval s s.low) s.low) := by
  obtain ⟨hh, rfl⟩ := hb.rLdLow_eq f h l hpc
  by_cases hle : h ≤ s.low
  · exact Or.inl ((hpc ▸ hi.copy f : BCopy s (.rLdLow h s.low)).2 hle)
  have hlt : s.low < s.high := by omega
  have hx0 : x = 0 := Classical.byContradiction fun hx => hnone ⟨hx, by omega⟩
  -- `x` is what the slot of sequence number `low` holds
  have hxb : x = s.buf (s.low % s.cap) := by
    rcases step_cases hs with ⟨pe, hpe⟩ | h' | ⟨_, h'⟩ | ⟨hq, _⟩
    · cases hpe
    · cases h'
    · cases h' <;> rename_i hpc' <;> rw [hpc] at hpc' <;> cases hpc' <;> rfl
    · exact absurd hk hq
  have hnocl : ∀ g m, s.pc g ≠ .rCleared s.low m := fun g m hg => by
    have := recv_unique hb.recv_id (f := f) (g := g) (by rw [hpc]; rfl) (by rw [hg]; rfl)
    subst this; rw [hpc] at hg; cases hg
  rcases hb.slots s.low (Nat.le_refl _) hlt hnocl with h' | ⟨_, h'⟩
  · exact absurd (h'.symm.trans (hxb.symm.trans hx0)) (qval_ne_zero hb.vnz (hb.len ▸ hlt))
  · exact Or.inr ⟨hx0, hlt, h'⟩

def Ev.isRecvCall : Ev → Bool
  | .callRecv _ => true
  | .callTry _ => true
  | _ => false

/-- `SinceCall M es P`: P held at some instant s1 of the run, and no receive operation has
    begun since — so if a receive operation is in progress at the end of `es`, s1 is an instant
    of THAT operation -/
def SinceCall (M : Sys St Ev) (es : List Ev) (P : St → Prop) : Prop :=
  ∃ es1 es2 s1, es = es1 ++ es2 ∧ M.run es1 = some s1 ∧ (∀ e, e ∈ es2 → e.isRecvCall = false) ∧ P s1

theorem call_resets (s s' : St) (e : Ev) (hc : e.isRecvCall = true) (hs : step s e = some s') :
    s'.emptySeen = false := by
  rcases step_cases hs with ⟨pe, rfl⟩ | h | ⟨_, h⟩ | ⟨_, h⟩
  · cases hc
  · cases h with
    | callRecv hpc hg | callTry hpc hg => rfl
    | _ => cases hc
  all_goals cases h <;> cases hc

/-- `emptySeen` becomes true only by the receiver's load of `high`, at an instant when the
    channel is empty (`high = low`) -/
theorem emptySeen_set (s s' : St) (e : Ev) (h0 : s.emptySeen = false) (h1 : s'.emptySeen = true)
    (hs : step s e = some s') : s.high = s.low := by
  rcases step_cases hs with ⟨pe, rfl⟩ | h | ⟨_, h⟩ | ⟨_, h⟩
  · rcases proto_shape s s' pe hs with ⟨p', rfl⟩ | ⟨p', X, rfl, ht⟩ <;> simp [h0] at h1
  all_goals cases h <;> dsimp only at h1 <;> grind only

theorem no_call_while_recv (s s' : St) (e : Ev) (f : Nat) (hrid : ∀ g, (s.pc g).isRecv = true → s.receiver = some g)
    (hf : (s.pc f).isRecv = true) (hs : step s e = some s') : e.isRecvCall = false := by
  have hr := hrid f hf
  rcases step_cases hs with ⟨pe, rfl⟩ | h | ⟨_, h⟩ | ⟨_, h⟩
  · rfl
  · cases h with
    | callRecv hpc hg | callTry hpc hg =>
      -- the caller would be the receiver `f`, which is not idle
      rcases hg.1 with h' | h' <;> rw [hr] at h' <;> cases h'
      rw [hpc] at hf; cases hf
    | _ => rfl
  all_goals cases h <;> rfl

theorem tEmpty_enter (s s' : St) (e : Ev) (f : Nat) (h1 : s.pc f ≠ .tEmpty) (h2 : s'.pc f = .tEmpty)
    (hs : step s e = some s') :
    (∃ i x h l, e = .rBuf f i x ∧ s.kind = .bounded ∧ s.pc f = .rLdLow h l ∧ ¬ (x ≠ 0 ∧ h > l)) ∨
    (∃ n h, e = .rNext f n 0 ∧ s.kind ≠ .bounded ∧ s.pc f = .rGotHead h ∧ headNext s = 0) := by
  rcases step_cases hs with ⟨pe, rfl⟩ | h | ⟨hk, h⟩ | ⟨hk, h⟩
  · exfalso
    rcases proto_shape s s' pe hs with ⟨p', rfl⟩ | ⟨p', X, rfl, ht⟩
    · exact h1 h2
    · simp only [upd] at h2
      split at h2
      · rename_i hf; subst h2; generalize s.pc (pactor pe) = a at ht; cases ht
      · exact h1 h2
  · exfalso; cases h <;> dsimp only at h2 <;> grind only [upd_apply]
  · cases h with
    | @rBufEmpty g h l hpc hx =>
      have : f = g := by dsimp only at h2; grind only [upd_apply]
      subst this; exact .inl ⟨_, _, h, l, rfl, hk, hpc, hx⟩
    | _ => exfalso; dsimp only at h2; grind only [upd_apply, pubPc]
  · cases h with
    | @rNextEmpty g h hpc h0 =>
      have : f = g := by dsimp only at h2; grind only [upd_apply]
      subst this; exact .inr ⟨_, h, rfl, hk, hpc, h0⟩
    | _ => exfalso; dsimp only at h2; grind only [upd_apply, pubPc]

/-- bounded: the channel is empty — everything sent (claimed) so far has been received — or the
    send of the message next in line is in flight (claimed, not yet written) -/
def emptyOrInflightB (s : St) : Prop :=
  s.sent.length = s.recvd.length ∨ (s.low < s.high ∧ ∃ g v, s.pc g = .sClaimed v s.low)

/-- queues: the channel is empty — everything sent (swapped into the tail) so far has been
    received — or the send of the message next in line is in flight (swapped, not yet linked) -/
def emptyOrInflightQ (s : St) : Prop :=
  s.sent.length = s.recvd.length ∨ (s.hd < s.sent.length ∧ ∃ g v prev, s.pc g = .qSwapped v prev s.hd)

theorem recvd_len_b {s : St} (hb : BInv s) : s.recvd.length = s.low := by
  rw [hb.recvd_eq]; simp [hb.len]; exact Nat.min_eq_left hb.lowhigh.1

theorem recvd_len_q {s : St} (hq : QI s) : s.recvd.length = s.hd := by
  rw [hq.recvd_eq]; simp; exact Nat.min_eq_left hq.hd_le

/-- The latch: the receiver has seen `high = low` in this operation, or `f` is about to report
    "empty".  It is set by the load of `high` from an empty channel or by the deciding read, which
    either rests on that load or finds the slot next in line claimed and not written. -/
theorem try_hist_bounded (spin : Bool) (cap : Nat) (es : List Ev) (s : St) (f : Nat)
    (h : (sysM spin .bounded cap).run es = some s) (hf : s.pc f = .tEmpty) :
    SinceCall (sysM spin .bounded cap) es emptyOrInflightB := by
  refine Sys.Since.of_latch_pre (L := fun s => s.emptySeen = true ∨ s.pc f = .tEmpty) (by simp [sysM, initM]) ?_ h
    (.inr hf)
  intro es s e s' hr hs hl'
  have hb := binv_of_run hr
  have hs0 : step s e = some s' := hs
  refine .inr ?_
  by_cases hold : s.pc f = .tEmpty
  · exact ⟨.inl (.inr hold), no_call_while_recv s s' e f hb.recv_id (by rw [hold]; rfl) hs0⟩
  rcases hl' with hes' | hf'
  · have hnc : e.isRecvCall = false := by
      cases hc : e.isRecvCall
      · rfl
      · rw [call_resets s s' e hc hs0] at hes'; cases hes'
    cases h0 : s.emptySeen
    · exact ⟨.inr (.inl (by rw [recvd_len_b hb, hb.len]; exact emptySeen_set s s' e h0 hes' hs0)), hnc⟩
    · exact ⟨.inl (.inl rfl), hnc⟩
  · rcases tEmpty_enter s s' e f hold hf' hs0 with ⟨i, x, hh, l, rfl, hk, hpc, hnone⟩ | ⟨n, hh, rfl, hk', _⟩
    · rcases empty_bounded_of_inv hk hb (bi_of_run hr) f i x hh l hpc hs0 hnone with hes | ⟨_, hlt, hcl⟩
      · exact ⟨.inl (.inl hes), rfl⟩
      · exact ⟨.inr (.inr ⟨hlt, _, _, hcl⟩), rfl⟩
    · exact absurd (params_of_run hr).1 hk'

theorem try_hist_queue (spin : Bool) (k : Kind) (hk : k ≠ .bounded) (cap : Nat) (es : List Ev) (s : St)
    (h : (sysM spin k cap).run es = some s) (f : Nat) (hf : s.pc f = .tEmpty) :
    SinceCall (sysM spin k cap) es emptyOrInflightQ := by
  refine Sys.Since.of_latch_pre (L := fun s => s.pc f = .tEmpty) (by simp [sysM, initM]) ?_ h hf
  intro es s e s' hr hs hf'
  have hq := qi_of_run hk hr
  have hs0 : step s e = some s' := hs
  refine .inr ?_
  by_cases hold : s.pc f = .tEmpty
  · exact ⟨.inl hold, no_call_while_recv s s' e f (ctl_of_run hr).rid (by rw [hold]; rfl) hs0⟩
  rcases tEmpty_enter s s' e f hold hf' hs0 with ⟨i, x, hh, l, rfl, hkb, _, _⟩ | ⟨n, hh, rfl, _, hpc, h0⟩
  · rw [(params_of_run hr).1] at hkb; exact absurd hkb hk
  · rcases empty_queue_of_inv hq h0 with hemp | ⟨hlt, _, hsw⟩
    · exact ⟨.inr (.inl (by rw [recvd_len_q hq]; exact hemp.symm)), rfl⟩
    · obtain ⟨v, prev, hsw⟩ := (swappedAt_iff _ _).1 hsw
      exact ⟨.inr (.inr ⟨hlt, _, v, prev, hsw⟩), rfl⟩

end LibfiberVerif.Chan
