/-
  Proof/ChanBounded.lean — the bounded channel (fiber_bounded_channel_t): a ring with a claim
  counter `high` advanced by CAS (many senders) and a consume counter `low` (one receiver);
  NULL = "not written yet".  Invariant: every claimed index is written exactly once by its
  claimer, into a slot that holds NULL, never more than `size` indices are outstanding, and
  the receiver takes the messages in claim order.  Property C11.

  `BI` is what the ring adds to `Ctl` (single receiver) and `Log` (linearisation): the counters
  against the log, what a fiber's copies of `low` / `high` are worth at its pc (`BCopy`), and the
  slots (`BRing`).  `BInv`, the invariant the results are read from, is the three together.
-/
import LibfiberVerif.Proof.ChanCtl
import LibfiberVerif.Proof.ChanLog

namespace LibfiberVerif.Chan

theorem mod_ne_of_lt {a b c : Nat} (h1 : a < b) (h2 : b - a < c) : a % c ≠ b % c := by
  intro h
  have h3 := Nat.sub_mod_eq_zero_of_mod_eq h.symm
  rw [Nat.mod_eq_of_lt h2] at h3
  omega

structure BInv (s : St) : Prop where
  len : s.sent.length = s.high
  lowhigh : s.low ≤ s.high ∧ s.high - s.low ≤ s.cap
  vnz : ∀ p, p ∈ s.sent → p.2 ≠ 0
  recvd_eq : s.recvd = (s.sent.map Prod.snd).take s.low
  calls_eq : ∀ f, sentBy s f ++ (s.pc f).pending = s.calls f
  pend_nz : ∀ f v, v ∈ (s.pc f).pending → v ≠ 0
  recv_id : ∀ f, (s.pc f).isRecv = true → s.receiver = some f
  claimed : ∀ f v h, s.pc f = .sClaimed v h →
    s.low ≤ h ∧ h < s.high ∧ qown s h = f ∧ qval s h = v ∧ s.buf (h % s.cap) = 0
  slots : ∀ i, s.low ≤ i → i < s.high → (∀ f m, s.pc f ≠ .rCleared i m) →
    s.buf (i % s.cap) = qval s i ∨
    (s.buf (i % s.cap) = 0 ∧ s.pc (qown s i) = .sClaimed (qval s i) i)
  free : ∀ j, j < s.cap → (∀ i, s.low ≤ i → i < s.high → i % s.cap ≠ j) → s.buf j = 0
  sLdLow_le : ∀ f v l, s.pc f = .sLdLow v l → l ≤ s.low
  sLdHigh_le : ∀ f v l h, s.pc f = .sLdHigh v l h → l ≤ s.low ∧ h ≤ s.high
  sRdBuf_le : ∀ f v l h x, s.pc f = .sRdBuf v l h x → l ≤ s.low ∧ h ≤ s.high
  rLdHigh_le : ∀ f h, s.pc f = .rLdHigh h → h ≤ s.high
  rLdLow_eq : ∀ f h l, s.pc f = .rLdLow h l → h ≤ s.high ∧ l = s.low
  rRdBuf_eq : ∀ f h l x, s.pc f = .rRdBuf h l x →
    l = s.low ∧ s.low < s.high ∧ x = qval s s.low ∧ s.buf (s.low % s.cap) = x ∧ x ≠ 0 ∧
    ∀ g v, s.pc g ≠ .sClaimed v s.low
  rCleared_eq : ∀ f l m, s.pc f = .rCleared l m →
    l = s.low ∧ s.low < s.high ∧ m = qval s s.low ∧ s.buf (s.low % s.cap) = 0 ∧
    ∀ g v, s.pc g ≠ .sClaimed v s.low

/-- the message with sequence number `low` is in its slot -/
def bavail (s : St) : Prop := s.buf (s.low % s.cap) ≠ 0

/-- the copies of `low` and `high` a fiber holds are not ahead of the counters; the receiver's copy
    of `high` does not exceed `low` only if it was read, in this operation, while `high = low`
    (`emptySeen`) -/
def BCopy (s : St) : Pc → Prop
  | .sLdLow _ l => l ≤ s.low
  | .sLdHigh _ l h => l ≤ s.low ∧ h ≤ s.high
  | .sRdBuf _ l h _ => l ≤ s.low ∧ h ≤ s.high
  | .rLdHigh h => h ≤ s.high ∧ (h ≤ s.low → s.emptySeen = true)
  | .rLdLow h l => (h ≤ s.high ∧ l = s.low) ∧ (h ≤ l → s.emptySeen = true)
  | _ => True

structure BRing (s : St) : Prop where
  claimed : ∀ f v h, s.pc f = .sClaimed v h →
    s.low ≤ h ∧ h < s.high ∧ qown s h = f ∧ qval s h = v ∧ s.buf (h % s.cap) = 0
  slots : ∀ i, s.low ≤ i → i < s.high → (∀ f m, s.pc f ≠ .rCleared i m) →
    s.buf (i % s.cap) = qval s i ∨
    (s.buf (i % s.cap) = 0 ∧ s.pc (qown s i) = .sClaimed (qval s i) i)
  free : ∀ j, j < s.cap → (∀ i, s.low ≤ i → i < s.high → i % s.cap ≠ j) → s.buf j = 0
  rRdBuf_eq : ∀ f h l x, s.pc f = .rRdBuf h l x →
    l = s.low ∧ s.low < s.high ∧ x = qval s s.low ∧ s.buf (s.low % s.cap) = x ∧ x ≠ 0 ∧
    ∀ g v, s.pc g ≠ .sClaimed v s.low
  rCleared_eq : ∀ f l m, s.pc f = .rCleared l m →
    l = s.low ∧ s.low < s.high ∧ m = qval s s.low ∧ s.buf (s.low % s.cap) = 0 ∧
    ∀ g v, s.pc g ≠ .sClaimed v s.low

structure BI (s : St) : Prop where
  len : s.sent.length = s.high
  lowhigh : s.low ≤ s.high ∧ s.high - s.low ≤ s.cap
  recvd_eq : s.recvd = (s.sent.map Prod.snd).take s.low
  copy : ∀ f, BCopy s (s.pc f)
  ring : BRing s

theorem bi_init (spin : Bool) (cap : Nat) : BI (initM spin .bounded cap) := by
  refine ⟨rfl, ⟨Nat.le_refl _, Nat.zero_le _⟩, rfl, fun _ => trivial, ?_⟩
  constructor <;> simp [initM]

theorem BI.binv {s : St} (hc : Ctl s) (hl : Log s) (hb : BI s) : BInv s :=
  have hcp : ∀ f c, s.pc f = c → BCopy s c := fun f _ e => e ▸ hb.copy f
  ⟨hb.len, hb.lowhigh, hl.vnz, hb.recvd_eq, fun f => (hl.loc f).2, fun f v hv => ((hl.loc f).1 v hv).1, hc.rid,
    hb.ring.claimed, hb.ring.slots, hb.ring.free, fun f _ _ h => hcp f _ h, fun f _ _ _ h => hcp f _ h,
    fun f _ _ _ _ h => hcp f _ h, fun f _ h => (hcp f _ h).1, fun f _ _ h => (hcp f _ h).1, hb.ring.rRdBuf_eq,
    hb.ring.rCleared_eq⟩

/-- the counters grow; a receive pc keeps what it says about `low` and `emptySeen` only if they stay -/
theorem BCopy.mono {s t : St} {c : Pc} (hl : s.low ≤ t.low) (hh : s.high ≤ t.high)
    (hr : c.isRecv = true → t.low = s.low ∧ t.emptySeen = s.emptySeen) (h : BCopy s c) : BCopy t c := by
  cases c <;> simp only [BCopy] at h ⊢ <;> first | trivial | omega | skip
  · obtain ⟨e1, e2⟩ := hr rfl; rw [e1, e2]; exact ⟨by omega, h.2⟩
  · obtain ⟨e1, e2⟩ := hr rfl; rw [e1, e2]; exact ⟨⟨by omega, h.1.2⟩, h.2⟩

theorem bcopy_emptyPc (s t : St) : BCopy t (emptyPc s) := by
  unfold emptyPc; split
  · trivial
  · split <;> trivial

theorem bcopy_pubPc (s t : St) (v : Nat) : BCopy t (pubPc s v) := by
  unfold pubPc; split <;> trivial

/-- pcs at which a fiber owns a slot: claimed and not written, or cleared and not released -/
def Pc.inRing : Pc → Bool
  | .sClaimed _ _ => true
  | .rCleared _ _ => true
  | _ => false

theorem Pc.not_claimed {c : Pc} (h : c.inRing = false) (v i : Nat) : c ≠ .sClaimed v i :=
  fun e => by rw [e] at h; cases h

theorem Pc.not_cleared {c : Pc} (h : c.inRing = false) (l m : Nat) : c ≠ .rCleared l m :=
  fun e => by rw [e] at h; cases h

theorem inRing_emptyPc (s : St) : (emptyPc s).inRing = false := by
  unfold emptyPc; split
  · rfl
  · split <;> rfl

theorem inRing_pubPc (s : St) (v : Nat) : (pubPc s v).inRing = false := by
  unfold pubPc; split <;> rfl

/-- `f` moves between pcs at which it owns no slot; the ring and the counters stay.  If it
    arrives at `rRdBuf` what the ring says there has to be shown. -/
theorem BRing.move {s : St} (hr : BRing s) {f : Nat} {X : Pc} (ha : (s.pc f).inRing = false)
    (hX : X.inRing = false)
    (hXb : ∀ h l x, X = .rRdBuf h l x →
      l = s.low ∧ s.low < s.high ∧ x = qval s s.low ∧ s.buf (s.low % s.cap) = x ∧ x ≠ 0 ∧
      ∀ g v, s.pc g ≠ .sClaimed v s.low)
    {p' : Signal.PSt} {c' : Nat → List Nat} {u' : List Nat} {sp' r' : Option Nat} {tm es : Bool} {te : Nat} :
    BRing { s with p := p', calls := c', used := u', spSender := sp', receiver := r', tryMode := tm,
                   emptySeen := es, tryEmpty := te, pc := upd s.pc f X } := by
  have hnc : ∀ g v i, upd s.pc f X g = .sClaimed v i → s.pc g = .sClaimed v i := by
    intro g v i hg; simp only [upd] at hg; split at hg
    · exact absurd hg (X.not_claimed hX v i)
    · exact hg
  refine ⟨fun g v h hg => hr.claimed g v h (hnc g v h hg), fun i h1 h2 h3 => ?_, hr.free,
    fun g h l x hg => ?_, fun g l m hg => ?_⟩
  · have h3' : ∀ g m, s.pc g ≠ .rCleared i m := by
      intro g m hg
      by_cases hgf : g = f
      · subst hgf; exact (s.pc g).not_cleared ha i m hg
      · have := h3 g m; simp only [upd, hgf, if_false] at this; exact this hg
    rcases hr.slots i h1 h2 h3' with h | ⟨h, hc⟩
    · exact Or.inl h
    · refine Or.inr ⟨h, ?_⟩
      show upd s.pc f X (qown s i) = _
      simp only [upd]; split
      · rename_i he; rw [he] at hc; exact absurd hc ((s.pc f).not_claimed ha _ _)
      · exact hc
  · simp only [upd] at hg; split at hg
    · obtain ⟨a, b, c, d, e, k⟩ := hXb h l x hg
      exact ⟨a, b, c, d, e, fun g' v hg' => k g' v (hnc g' v _ hg')⟩
    · obtain ⟨a, b, c, d, e, k⟩ := hr.rRdBuf_eq g h l x hg
      exact ⟨a, b, c, d, e, fun g' v hg' => k g' v (hnc g' v _ hg')⟩
  · simp only [upd] at hg; split at hg
    · exact absurd hg (X.not_cleared hX l m)
    · obtain ⟨a, b, c, d, k⟩ := hr.rCleared_eq g l m hg
      exact ⟨a, b, c, d, fun g' v hg' => k g' v (hnc g' v _ hg')⟩

/-- receiver reads a non-NULL slot at `low`: it is the message with sequence number `low` -/
theorem bring_rRead {s : St} (hb : BInv s) {f h l : Nat} (hpc : s.pc f = .rLdLow h l)
    (hne : s.buf (l % s.cap) ≠ 0) (hgt : h > l) :
    l = s.low ∧ s.low < s.high ∧ s.buf (l % s.cap) = qval s s.low ∧ s.buf (s.low % s.cap) = s.buf (l % s.cap) ∧
      s.buf (l % s.cap) ≠ 0 ∧ ∀ g v, s.pc g ≠ .sClaimed v s.low := by
  obtain ⟨hh, hl⟩ := hb.rLdLow_eq f h l hpc
  subst hl
  have hlt : s.low < s.high := by omega
  have hnocl : ∀ g m, s.pc g ≠ .rCleared s.low m := by
    intro g m hg
    have := recv_unique hb.recv_id (f := f) (g := g) (by rw [hpc]; rfl) (by rw [hg]; rfl)
    subst this; rw [hpc] at hg; cases hg
  refine ⟨rfl, hlt, ?_, rfl, hne, fun g v hg => hne (hb.claimed g v s.low hg).2.2.2.2⟩
  rcases hb.slots s.low (Nat.le_refl _) hlt hnocl with h' | ⟨h', _⟩
  · exact h'
  · exact absurd h' hne

theorem BInv.alone {s : St} (hb : BInv s) {f : Nat} (hf : (s.pc f).isRecv = true) {g : Nat} (hg : g ≠ f)
    (hgr : (s.pc g).isRecv = true) : False :=
  hg (recv_unique hb.recv_id hgr hf)

theorem bring_rClear {s : St} (hb : BInv s) {f h l x : Nat} (hpc : s.pc f = .rRdBuf h l x) :
    BRing { s with buf := upd s.buf (l % s.cap) 0, pc := upd s.pc f (.rCleared l x) } := by
  obtain ⟨hl, hlt, hval, hbuf, hne, hnoclaim⟩ := hb.rRdBuf_eq f h l x hpc
  subst hl
  have hfr : (s.pc f).isRecv = true := by rw [hpc]; rfl
  have hother : ∀ i, s.low ≤ i → i < s.high → i ≠ s.low → i % s.cap ≠ s.low % s.cap := by
    intro i h1 h2 h3
    have := hb.lowhigh
    exact (mod_ne_of_lt (by omega) (by omega)).symm
  have hnc : ∀ g v i, upd s.pc f (Pc.rCleared s.low x) g = .sClaimed v i → s.pc g = .sClaimed v i := by
    intro g v i hg; simp only [upd] at hg; split at hg
    · cases hg
    · exact hg
  refine ⟨fun g v h' hg => ?_, fun i h1 h2 h3 => ?_, fun j hj hfree => ?_, fun g h' l x' hg => ?_,
    fun g l m hg => ?_⟩
  · obtain ⟨a, b, c, d, e⟩ := hb.claimed g v h' (hnc g v h' hg)
    refine ⟨a, b, c, d, ?_⟩
    show upd s.buf _ 0 _ = 0
    simp only [upd]; split
    · rfl
    · exact e
  · have hil : i ≠ s.low := by
      intro e; subst e; exact h3 f x (by simp [upd])
    have h3' : ∀ g m, s.pc g ≠ .rCleared i m := by
      intro g m hg
      by_cases hgf : g = f
      · subst hgf; rw [hpc] at hg; cases hg
      · exact hb.alone hfr hgf (by rw [hg]; rfl)
    have hne' := hother i h1 h2 hil
    rcases hb.slots i h1 h2 h3' with h' | ⟨h', hc⟩
    · left; show upd s.buf _ 0 _ = _; rw [upd_other _ _ _ _ hne']; exact h'
    · right
      refine ⟨by show upd s.buf _ 0 _ = _; rw [upd_other _ _ _ _ hne']; exact h', ?_⟩
      show upd s.pc f _ (qown s i) = _
      simp only [upd]; split
      · rename_i he; rw [he, hpc] at hc; cases hc
      · exact hc
  · show upd s.buf _ 0 j = 0
    simp only [upd]; split
    · rfl
    · exact hb.free j hj hfree
  · simp only [upd] at hg; split at hg
    · cases hg
    · rename_i hgf; exact (hb.alone hfr hgf (by rw [hg]; rfl)).elim
  · simp only [upd] at hg; split at hg
    · cases hg
      exact ⟨rfl, hlt, hval, by simp [upd], fun g' v hg' => hnoclaim g' v (hnc g' v _ hg')⟩
    · rename_i hgf; exact (hb.alone hfr hgf (by rw [hg]; rfl)).elim

theorem bring_stLow {s : St} (hb : BInv s) {f l m : Nat} (hpc : s.pc f = .rCleared l m) :
    BRing { s with low := l + 1, recvd := s.recvd ++ [m], pc := upd s.pc f (.rDone m) } := by
  obtain ⟨hl, hlt, hval, hbuf, hnoclaim⟩ := hb.rCleared_eq f l m hpc
  subst hl
  have hfr : (s.pc f).isRecv = true := by rw [hpc]; rfl
  have hnc : ∀ g v i, upd s.pc f (Pc.rDone m) g = .sClaimed v i → s.pc g = .sClaimed v i := by
    intro g v i hg; simp only [upd] at hg; split at hg
    · cases hg
    · exact hg
  refine ⟨fun g v h' hg => ?_, fun i h1 h2 h3 => ?_, fun j hj hfree => ?_, fun g h' l x' hg => ?_,
    fun g l m' hg => ?_⟩
  · have hg := hnc g v h' hg
    obtain ⟨a, b, c, d, e⟩ := hb.claimed g v h' hg
    have : h' ≠ s.low := by intro e'; subst e'; exact hnoclaim g v hg
    exact ⟨by simp only; omega, b, c, d, e⟩
  · simp only at h1 h2
    have h3' : ∀ g m', s.pc g ≠ .rCleared i m' := by
      intro g m' hg
      by_cases hgf : g = f
      · subst hgf; rw [hpc] at hg; cases hg; omega
      · exact hb.alone hfr hgf (by rw [hg]; rfl)
    rcases hb.slots i (by omega) h2 h3' with h' | ⟨h', hc⟩
    · exact Or.inl h'
    · refine Or.inr ⟨h', ?_⟩
      show upd s.pc f _ (qown s i) = _
      simp only [upd]; split
      · rename_i he; rw [he, hpc] at hc; cases hc
      · exact hc
  · simp only at hfree
    by_cases hjl : s.low % s.cap = j
    · rw [← hjl]; exact hbuf
    · apply hb.free j hj
      intro i h1 h2
      by_cases hil : i = s.low
      · subst hil; exact hjl
      · exact hfree i (by omega) h2
  · simp only [upd] at hg; split at hg
    · cases hg
    · rename_i hgf; exact (hb.alone hfr hgf (by rw [hg]; rfl)).elim
  · simp only [upd] at hg; split at hg
    · cases hg
    · rename_i hgf; exact (hb.alone hfr hgf (by rw [hg]; rfl)).elim

/-- the claimer writes its message into its slot and goes on to a pc at which it owns no slot -/
theorem bring_sWrite {s : St} (hb : BInv s) {f v h : Nat} (hpc : s.pc f = .sClaimed v h) {X : Pc}
    (hX : X.inRing = false) (hXb : ∀ h l x, X ≠ .rRdBuf h l x) :
    BRing { s with buf := upd s.buf (h % s.cap) v, pc := upd s.pc f X } := by
  obtain ⟨hlo, hhi, hown, hval, hbuf⟩ := hb.claimed f v h hpc
  have hlh := hb.lowhigh
  have hother : ∀ i, s.low ≤ i → i < s.high → i ≠ h → i % s.cap ≠ h % s.cap := by
    intro i h1 h2 h3
    rcases Nat.lt_or_gt_of_ne h3 with h4 | h4
    · exact mod_ne_of_lt h4 (by omega)
    · exact (mod_ne_of_lt h4 (by omega)).symm
  have hnc : ∀ g v' i, upd s.pc f X g = .sClaimed v' i → g ≠ f ∧ s.pc g = .sClaimed v' i := by
    intro g v' i hg; simp only [upd] at hg; split at hg
    · exact absurd hg (X.not_claimed hX v' i)
    · rename_i e; exact ⟨e, hg⟩
  refine ⟨fun g v' h' hg => ?_, fun i h1 h2 h3 => ?_, fun j hj hfree => ?_, fun g h' l x' hg => ?_,
    fun g l m hg => ?_⟩
  · obtain ⟨hgf, hg⟩ := hnc g v' h' hg
    obtain ⟨a, b, c, d, e⟩ := hb.claimed g v' h' hg
    have hne : h' ≠ h := by
      intro e'; subst e'; rw [hown] at c; exact hgf c.symm
    refine ⟨a, b, c, d, ?_⟩
    show upd s.buf _ v _ = 0
    rw [upd_other _ _ _ _ (hother h' a b hne)]; exact e
  · have h3' : ∀ g m, s.pc g ≠ .rCleared i m := by
      intro g m hg
      have := h3 g m; simp only [upd] at this; split at this
      · rename_i hgf; subst hgf; rw [hpc] at hg; cases hg
      · exact this hg
    by_cases hih : i = h
    · subst hih
      left; show upd s.buf (i % s.cap) v (i % s.cap) = qval s i; rw [hval]; simp [upd]
    · have hne' := hother i h1 h2 hih
      rcases hb.slots i h1 h2 h3' with h' | ⟨h', hc⟩
      · left; show upd s.buf _ v _ = _; rw [upd_other _ _ _ _ hne']; exact h'
      · right
        refine ⟨by show upd s.buf _ v _ = _; rw [upd_other _ _ _ _ hne']; exact h', ?_⟩
        show upd s.pc f _ (qown s i) = _
        simp only [upd]; split
        · rename_i he; rw [he, hpc] at hc; cases hc; exact absurd rfl hih
        · exact hc
  · have hjn : h % s.cap ≠ j := hfree h hlo hhi
    show upd s.buf _ v j = 0
    rw [upd_other _ _ _ _ (fun e => hjn e.symm)]; exact hb.free j hj hfree
  · simp only [upd] at hg; split at hg
    · exact absurd hg (hXb h' l x')
    · obtain ⟨a, b, c, d, e, k⟩ := hb.rRdBuf_eq g h' l x' hg
      have hne : h ≠ s.low := fun e' => k f v (e' ▸ hpc)
      refine ⟨a, b, c, ?_, e, fun g' v' hg' => k g' v' (hnc g' v' _ hg').2⟩
      show upd s.buf _ v _ = _
      rw [upd_other _ _ _ _ (hother s.low (Nat.le_refl _) b (fun e' => hne e'.symm))]; exact d
  · simp only [upd] at hg; split at hg
    · exact absurd hg (X.not_cleared hX l m)
    · obtain ⟨a, b, c, d, k⟩ := hb.rCleared_eq g l m hg
      have hne : h ≠ s.low := fun e' => k f v (e' ▸ hpc)
      refine ⟨a, b, c, ?_, fun g' v' hg' => k g' v' (hnc g' v' _ hg').2⟩
      show upd s.buf _ v _ = _
      rw [upd_other _ _ _ _ (hother s.low (Nat.le_refl _) b (fun e' => hne e'.symm))]; exact d

theorem bring_claim {s : St} (hb : BInv s) {f v l x : Nat} (hpc : s.pc f = .sRdBuf v l s.high x)
    (hlt : s.high - l < s.cap) :
    BRing { s with high := s.high + 1, sent := s.sent ++ [(f, v)], pc := upd s.pc f (.sClaimed v s.high) } := by
  obtain ⟨hl, _⟩ := hb.sRdBuf_le f v l s.high x hpc
  have b1 := hb.len
  have b2 := hb.lowhigh
  have hqv : ∀ i, i < s.high → lval (s.sent ++ [(f, v)]) i = qval s i := fun i hi =>
    lval_append_lt _ _ i (by omega)
  have hqo : ∀ i, i < s.high →
      ((((s.sent ++ [(f, v)])[i]?).map Prod.fst).getD 0) = qown s i := fun i hi =>
    lown_append_lt _ _ i (by omega)
  have e1 : ((((s.sent ++ [(f, v)])[s.high]?).map Prod.fst).getD 0) = f := by rw [← b1]; simp
  have e2 : lval (s.sent ++ [(f, v)]) s.high = v := by rw [← b1]; exact lval_append_len _ _
  have hfree : s.buf (s.high % s.cap) = 0 := by
    apply hb.free _ (Nat.mod_lt _ (by omega))
    intro i h1 h2
    exact mod_ne_of_lt h2 (by omega)
  have hnc : ∀ g v' i, upd s.pc f (Pc.sClaimed v s.high) g = .sClaimed v' i →
      i = s.high ∨ s.pc g = .sClaimed v' i := by
    intro g v' i hg; simp only [upd] at hg; split at hg
    · cases hg; exact .inl rfl
    · exact .inr hg
  refine ⟨fun g v' h' hg => ?_, fun i h1 h2 h3 => ?_, fun j hj hfr => ?_, fun g h' l' x' hg => ?_,
    fun g l' m hg => ?_⟩
  · simp only [upd] at hg; split at hg
    · rename_i hgf
      cases hg; rw [hgf]
      exact ⟨b2.1, by simp only; omega, e1, e2, hfree⟩
    · obtain ⟨a, b, c, d, e⟩ := hb.claimed g v' h' hg
      refine ⟨a, by simp only; omega, ?_, ?_, e⟩
      · show ((((s.sent ++ [(f, v)])[h']?).map Prod.fst).getD 0) = g
        rw [hqo h' b]; exact c
      · show lval (s.sent ++ [(f, v)]) h' = v'
        rw [hqv h' b]; exact d
  · simp only at h1 h2
    have h3' : ∀ g m, s.pc g ≠ .rCleared i m := by
      intro g m hg
      have := h3 g m; simp only [upd] at this; split at this
      · rename_i hgf; subst hgf; rw [hpc] at hg; cases hg
      · exact this hg
    by_cases hih : i = s.high
    · subst hih
      right
      refine ⟨hfree, ?_⟩
      show upd s.pc f _ ((((s.sent ++ [(f, v)])[s.high]?).map Prod.fst).getD 0) =
        .sClaimed (lval (s.sent ++ [(f, v)]) s.high) s.high
      rw [e1, e2]; simp [upd]
    · have hi : i < s.high := by omega
      rcases hb.slots i h1 hi h3' with h' | ⟨h', hc⟩
      · left
        show s.buf (i % s.cap) = lval (s.sent ++ [(f, v)]) i
        rw [hqv i hi]; exact h'
      · right
        refine ⟨h', ?_⟩
        show upd s.pc f _ ((((s.sent ++ [(f, v)])[i]?).map Prod.fst).getD 0) =
          .sClaimed (lval (s.sent ++ [(f, v)]) i) i
        rw [hqo i hi, hqv i hi]
        simp only [upd]; split
        · rename_i he; rw [he, hpc] at hc; cases hc
        · exact hc
  · simp only at hfr
    exact hb.free j hj (fun i h1 h2 => hfr i h1 (by omega))
  · simp only [upd] at hg; split at hg
    · cases hg
    · obtain ⟨a, b, c, d, e, k⟩ := hb.rRdBuf_eq g h' l' x' hg
      refine ⟨a, by simp only; omega, ?_, d, e, fun g' v' hg' => ?_⟩
      · show x' = lval (s.sent ++ [(f, v)]) s.low
        rw [hqv s.low b]; exact c
      · rcases hnc g' v' _ hg' with h | h
        · have : s.low = s.high := h; omega
        · exact k g' v' h
  · simp only [upd] at hg; split at hg
    · cases hg
    · obtain ⟨a, b, c, d, k⟩ := hb.rCleared_eq g l' m hg
      refine ⟨a, by simp only; omega, ?_, d, fun g' v' hg' => ?_⟩
      · show m = lval (s.sent ++ [(f, v)]) s.low
        rw [hqv s.low b]; exact c
      · rcases hnc g' v' _ hg' with h | h
        · have : s.low = s.high := h; omega
        · exact k g' v' h

theorem emptyPc_ne_rRdBuf (s : St) (h l x : Nat) : emptyPc s ≠ .rRdBuf h l x := by
  unfold emptyPc; split
  · exact Pc.noConfusion
  · split <;> exact Pc.noConfusion

theorem pubPc_ne_rRdBuf (s : St) (v h l x : Nat) : pubPc s v ≠ .rRdBuf h l x := by
  unfold pubPc; split <;> exact Pc.noConfusion

/-- frame: `f` moves between pcs at which it owns no slot; counters, `emptySeen`, ring and log stay -/
theorem BI.move {s : St} (hb : BI s) {f : Nat} {X : Pc} (hc : BCopy s X) (ha : (s.pc f).inRing = false)
    (hX : X.inRing = false)
    (hXb : ∀ h l x, X = .rRdBuf h l x →
      l = s.low ∧ s.low < s.high ∧ x = qval s s.low ∧ s.buf (s.low % s.cap) = x ∧ x ≠ 0 ∧
      ∀ g v, s.pc g ≠ .sClaimed v s.low)
    {p' : Signal.PSt} {c' : Nat → List Nat} {u' : List Nat} {sp' r' : Option Nat} {tm : Bool} {te : Nat} :
    BI { s with p := p', calls := c', used := u', spSender := sp', receiver := r', tryMode := tm,
                tryEmpty := te, pc := upd s.pc f X } :=
  ⟨hb.len, hb.lowhigh, hb.recvd_eq, forall_upd hc fun g _ => hb.copy g, hb.ring.move ha hX hXb⟩

/-- the receiver `f` resets or sets `emptySeen` on its way to a pc that owns no slot: nobody else
    holds a copy that speaks of it -/
theorem BI.seen {s : St} (hb : BI s) {f : Nat} {X : Pc} {es : Bool} (hnr : ∀ g, g ≠ f → (s.pc g).isRecv = false)
    (hc : BCopy { s with emptySeen := es } X) (ha : (s.pc f).inRing = false) (hX : X.inRing = false)
    (hXb : ∀ h l x, X ≠ .rRdBuf h l x) {r' : Option Nat} {tm : Bool} :
    BI { s with receiver := r', tryMode := tm, emptySeen := es, pc := upd s.pc f X } :=
  ⟨hb.len, hb.lowhigh, hb.recvd_eq,
    forall_upd hc fun g hg => BCopy.mono (s := s) (Nat.le_refl _) (Nat.le_refl _)
      (fun e => by rw [hnr g hg] at e; cases e) (hb.copy g),
    hb.ring.move ha hX (fun h l x e => absurd e (hXb h l x))⟩

theorem BI.step {s s' : St} {e : Ev} (hk : s.kind = .bounded) (hc : Ctl s) (hl : Log s) (hi : BI s)
    (hs : step s e = some s') : BI s' := by
  have hb := hi.binv hc hl
  rcases step_cases hs with ⟨pe, rfl⟩ | h | ⟨_, h⟩ | ⟨hq, _⟩
  · rcases proto_shape s s' pe hs with ⟨p', rfl⟩ | ⟨p', X, rfl, ht⟩
    · exact ⟨hi.len, hi.lowhigh, hi.recvd_eq, hi.copy, ⟨hi.ring.claimed, hi.ring.slots, hi.ring.free, hi.ring.rRdBuf_eq,
        hi.ring.rCleared_eq⟩⟩
    · have key : BCopy s X ∧ (s.pc (pactor pe)).inRing = false ∧ X.inRing = false ∧ ∀ h l x, X ≠ .rRdBuf h l x := by
        generalize s.pc (pactor pe) = a at ht
        cases ht <;> exact ⟨trivial, rfl, rfl, fun _ _ _ => Pc.noConfusion⟩
      exact hi.move key.1 key.2.1 key.2.2.1 (fun h l x e => absurd e (key.2.2.2 h l x))
  · cases h with
    | callSend hpc hg =>
      rw [if_pos hk]; exact hi.move (by trivial) (by rw [hpc]; rfl) (by rfl) (fun _ _ _ e => by cases e)
    | @callRecv f hpc hg | @callTry f hpc hg =>
      -- `f` is, or becomes, the receiver: nobody else is at a receive pc
      refine hi.seen (fun g hgf => ?_) (by trivial) (by rw [hpc]; rfl) (by rfl) (fun _ _ _ => Pc.noConfusion)
      cases h : (s.pc g).isRecv
      · rfl
      · have := hc.rid g h
        rcases hg.1 with h' | h' <;> rw [h'] at this
        · cases this
        · exact absurd (Option.some.inj this).symm hgf
    | _ =>
      have hpc := ‹s.pc _ = _›
      exact hi.move (by trivial) (by rw [hpc]; rfl) (by rfl) (fun _ _ _ e => by cases e)
  · cases h with
    | ldLowS hpc | ldLowRetry hpc _ =>
      exact hi.move (by exact Nat.le_refl _) (by rw [hpc]; rfl) (by rfl) (fun _ _ _ e => by cases e)
    | ldLowR hpc =>
      have h1 : BCopy s (.rLdHigh _) := hpc ▸ hi.copy _
      exact hi.move (by exact ⟨⟨h1.1, rfl⟩, h1.2⟩) (by rw [hpc]; rfl) (by rfl) (fun _ _ _ e => by cases e)
    | ldHighS hpc =>
      exact hi.move (by exact ⟨hb.sLdLow_le _ _ _ hpc, Nat.le_refl _⟩) (by rw [hpc]; rfl) (by rfl)
        (fun _ _ _ e => by cases e)
    | ldHighR hpc =>
      -- a copy of `high` that does not exceed `low` is read while the channel is empty
      exact hi.seen (fun g hgf => hc.alone (by rw [hpc]; rfl) hgf)
        (by exact ⟨Nat.le_refl _, fun h => decide_eq_true (Nat.le_antisymm h hi.lowhigh.1)⟩) (by rw [hpc]; rfl) (by rfl)
        (fun _ _ _ => Pc.noConfusion)
    | rBufS hpc =>
      exact hi.move (by exact hb.sLdHigh_le _ _ _ _ hpc) (by rw [hpc]; rfl) (by rfl) (fun _ _ _ e => by cases e)
    | rBufTake hpc hx =>
      exact hi.move (by trivial) (by rw [hpc]; rfl) (by rfl) (fun _ _ _ e => by cases e; exact bring_rRead hb hpc hx.1 hx.2)
    | rBufEmpty hpc hx =>
      exact hi.move (bcopy_emptyPc s s) (by rw [hpc]; rfl) (inRing_emptyPc s)
        (fun h l x e => absurd e (emptyPc_ne_rRdBuf s h l x))
    | casFail hpc _ _ => exact hi.move (by trivial) (by rw [hpc]; rfl) (by rfl) (fun _ _ _ e => by cases e)
    | @casOk f v l x hpc hx hroom =>
      have hcp := hb.sRdBuf_le f v l s.high x hpc
      refine ⟨by simp [hi.len], by have := hi.lowhigh; simp only; omega, ?_,
        forall_upd trivial fun g _ => BCopy.mono (s := s) (Nat.le_refl _) (Nat.le_succ _) (fun _ => ⟨rfl, rfl⟩)
          (hi.copy g),
        bring_claim hb hpc hroom⟩
      show s.recvd = ((s.sent ++ [(f, v)]).map Prod.snd).take s.low
      rw [List.map_append, List.take_append_of_le_length (by have := hi.len; have := hi.lowhigh; simp; omega)]
      exact hi.recvd_eq
    | wBufS hpc =>
      exact ⟨hi.len, hi.lowhigh, hi.recvd_eq, forall_upd (bcopy_pubPc s _ _) fun g _ => hi.copy g,
        bring_sWrite hb hpc (inRing_pubPc s _) (pubPc_ne_rRdBuf s _)⟩
    | wBufR hpc =>
      exact ⟨hi.len, hi.lowhigh, hi.recvd_eq, forall_upd trivial fun g _ => hi.copy g, bring_rClear hb hpc⟩
    | @stLow f l m hpc =>
      obtain ⟨hlo, hlt, hval, _, _⟩ := hb.rCleared_eq f l m hpc
      subst hlo
      have hlen : s.low < s.sent.length := by rw [hi.len]; exact hlt
      refine ⟨hi.len, by have := hi.lowhigh; simp only; omega, ?_,
        forall_upd trivial fun g hgf => BCopy.mono (s := s) (Nat.le_succ _) (Nat.le_refl _)
          (fun e => by rw [hc.alone (by rw [hpc]; rfl) hgf] at e; cases e) (hi.copy g),
        bring_stLow hb hpc⟩
      show s.recvd ++ [m] = (s.sent.map Prod.snd).take (s.low + 1)
      rw [hi.recvd_eq, List.take_add_one, hval]
      simp [qval, List.getElem?_map, List.getElem?_eq_getElem hlen]
  · exact absurd hk hq

theorem bi_of_run {spin : Bool} {cap : Nat} {es : List Ev} {s : St}
    (h : (sysM spin .bounded cap).run es = some s) : BI s :=
  Sys.inv_of_run_on _ BI (bi_init spin cap)
    (fun _ _ _ _ hr hi hs => hi.step (params_of_run hr).1 (ctl_of_run hr) (log_of_run hr) hs) h

theorem binv_of_run {spin : Bool} {cap : Nat} {es : List Ev} {s : St}
    (h : (sysM spin .bounded cap).run es = some s) : BInv s :=
  (bi_of_run h).binv (ctl_of_run h) (log_of_run h)

theorem bavail_lt {s : St} (hb : BInv s) (hcap : 0 < s.cap) (ha : bavail s) : s.low < s.high := by
  by_cases h : s.low < s.high
  · exact h
  · exfalso
    apply ha
    apply hb.free _ (Nat.mod_lt _ hcap)
    intro i h1 h2
    omega

/-- the receive loop takes an available message in its next pass -/
theorem receive_takes_bounded {s : St} (hk : s.kind = .bounded) (hb : BInv s) (hcap : 0 < s.cap)
    (f : Nat) (hpc : s.pc f = .rTop) (ha : bavail s) :
    ∃ s', (sysM s.spin s.kind s.cap).runFrom s
        [.ldHigh f s.high, .ldLow f s.low, .rBuf f (s.low % s.cap) (s.buf (s.low % s.cap)),
         .wBuf f (s.low % s.cap) 0, .stLow f (s.low + 1), .retRecv f (s.buf (s.low % s.cap))] = some s' ∧
      s'.pc f = .idle ∧ s'.recvd = s.recvd ++ [s.buf (s.low % s.cap)] ∧ s'.low = s.low + 1 := by
  have hlt := bavail_lt hb hcap ha
  simp only [bavail] at ha
  simp [Sys.runFrom, sysM, step, hk, hpc, upd, ha, hlt]

end LibfiberVerif.Chan
