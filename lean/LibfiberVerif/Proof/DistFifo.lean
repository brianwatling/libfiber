/-
  Proof/DistFifo.lean — the inductive invariant of Model/DistFifo.lean (dist_fifo.h) and its
  preservation by every step, for any number of popping threads and nodes.

  ABA argument as an invariant (same shape as Proof/Lifo.lean): the counter only grows, so
  "my loaded counter still equals the counter" means no successful CAS2 since the load;
  then the node read AFTER the counter is still the stub, the stub's `next` — once
  non-NULL — is never rewritten while it is the stub (only the single pusher writes `next`
  cells: of its own node, or of `tail`, whose `next` is NULL), and the `data` of the
  successor is not rewritten while it is linked.  A popper whose counter moved may have read
  anything (its node may have been popped, handed back, terminated and linked again); its
  CAS2 then fails even if the head pointer is the same node again.
-/
import LibfiberVerif.Model.DistFifo
import LibfiberVerif.Proof.NodeList

namespace LibfiberVerif.DistFifo
open NodeList

def isPush : Pc → Bool
  | .pushCalled _ => true
  | .pushReady _ => true
  | .pushGotTail _ _ => true
  | .pushZeroed _ _ => true
  | .pushFenced _ _ => true
  | .pushLinked _ => true
  | .pushDone => true
  | _ => false

/-- the node a thread at this pc privately owns -/
def claim : Pc → Option Nat
  | .pushReady n => some n
  | .pushGotTail n _ => some n
  | .pushZeroed n _ => some n
  | .pushFenced n _ => some n
  | .popWon h _ => some h
  | .popWrote h _ => some h
  | _ => none

/-- the pusher's local copy of `tail` -/
def pushTl : Pc → Option Nat
  | .pushGotTail _ tl => some tl
  | .pushZeroed _ tl => some tl
  | .pushFenced _ tl => some tl
  | _ => none

/-- the new node has been terminated -/
def zeroed : Pc → Option Nat
  | .pushZeroed n _ => some n
  | .pushFenced n _ => some n
  | _ => none

def snapC : Pc → Option Nat
  | .popGotCounter c => some c
  | .popFenced c => some c
  | .popGotNode c _ => some c
  | .popGotNext c _ _ => some c
  | .popGotData c _ _ _ => some c
  | _ => none

def snapH : Pc → Option Nat
  | .popGotNode _ h => some h
  | .popGotNext _ h _ => some h
  | .popGotData _ h _ _ => some h
  | _ => none

def snapX : Pc → Option Nat
  | .popGotNext _ _ x => some x
  | .popGotData _ _ x _ => some x
  | _ => none

structure Inv (s : St) : Prop where
  /-- the cells spell the abstract node list: stub first, following `next`, NULL-terminated -/
  chain : Chain s.next s.head s.chain
  ne : s.chain ≠ []
  nodup : s.chain.Nodup
  /-- a node is linked iff nobody owns it -/
  own : ∀ n, n ∈ s.chain ↔ s.owner n = none
  /-- client obligation carried along: only the distinguished thread is ever inside push -/
  pusherOnly : ∀ t, isPush (s.pc t) = true → t = s.pusher
  claimOk : ∀ t n, claim (s.pc t) = some n → n ≠ 0 ∧ s.owner n = some t
  /-- outside the link→tail-store window `tail` is the last node -/
  tailOk : (∀ t n, s.pc t ≠ .pushLinked n) → s.tail ∈ s.chain ∧ s.next s.tail = 0
  linkedOk : ∀ t n, s.pc t = .pushLinked n → n ∈ s.chain ∧ s.next n = 0
  tlOk : ∀ t tl, pushTl (s.pc t) = some tl → tl = s.tail
  zeroOk : ∀ t n, zeroed (s.pc t) = some n → s.next n = 0
  cLe : ∀ t c, snapC (s.pc t) = some c → c ≤ s.counter
  /-- counter unchanged since the read ⇒ the node read afterwards is still the stub -/
  hOk : ∀ t c h, snapC (s.pc t) = some c → snapH (s.pc t) = some h → s.counter = c → s.head = h
  xNZ : ∀ t x, snapX (s.pc t) = some x → x ≠ 0
  /-- … ⇒ the stub's successor is still the one read -/
  xOk : ∀ t c h x, snapC (s.pc t) = some c → snapH (s.pc t) = some h → snapX (s.pc t) = some x →
    s.counter = c → s.next h = x
  /-- … ⇒ the successor's data is still the one read -/
  dOk : ∀ t c h x d, s.pc t = .popGotData c h x d → s.counter = c → s.data x = d
  /-- the ghost linearisation is a legal sequential FIFO history ending in the current content -/
  lin : fifoReplay s.lin = some (s.chain.tail.map s.data)

theorem inv_init (pusher stub : Nat) (own0 : Nat → Nat) (hstub : stub ≠ 0) :
    Inv (init pusher stub own0) := by
  constructor <;> simp [init, isPush, claim, pushTl, zeroed, snapC, snapH, snapX, fifoReplay,
    fifoReplayFrom, hstub]

/-- what thread `t` knows at each program counter: the per-thread clauses of `Inv`, by pc -/
def Local (s : St) (t : Nat) : Pc → Prop
  | .pushCalled _ | .pushDone => t = s.pusher
  | .pushReady n => t = s.pusher ∧ n ≠ 0 ∧ s.owner n = some t
  | .pushGotTail n tl => t = s.pusher ∧ (n ≠ 0 ∧ s.owner n = some t) ∧ tl = s.tail
  | .pushZeroed n tl | .pushFenced n tl =>
    t = s.pusher ∧ (n ≠ 0 ∧ s.owner n = some t) ∧ tl = s.tail ∧ s.next n = 0
  | .pushLinked n => t = s.pusher ∧ n ∈ s.chain ∧ s.next n = 0
  | .popGotCounter c | .popFenced c => Since s.counter c True
  | .popGotNode c h => Since s.counter c (s.head = h)
  | .popGotNext c h x => Since s.counter c (s.head = h ∧ s.next h = x) ∧ x ≠ 0
  | .popGotData c h x d => Since s.counter c (s.head = h ∧ s.next h = x ∧ s.data x = d) ∧ x ≠ 0
  | .popWon h _ | .popWrote h _ => h ≠ 0 ∧ s.owner h = some t
  | _ => True

/-- outside the link→tail-store window `tail` is the last node -/
def TailOk (s : St) : Prop :=
  (∀ t n, s.pc t ≠ .pushLinked n) → s.tail ∈ s.chain ∧ s.next s.tail = 0

theorem inv_iff {s : St} : Inv s ↔ Linked s.next s.head s.chain s.owner ∧ s.chain ≠ [] ∧
    TailOk s ∧ fifoReplay s.lin = some (s.chain.tail.map s.data) ∧ ∀ t, Local s t (s.pc t) := by
  constructor
  · intro hI
    refine ⟨⟨hI.chain, hI.nodup, hI.own⟩, hI.ne, hI.tailOk, hI.lin, fun t => ?_⟩
    have h0 := hI.pusherOnly t; have h1 := hI.claimOk t; have h2 := hI.linkedOk t
    have h3 := hI.tlOk t; have h4 := hI.zeroOk t; have h5 := hI.cLe t; have h6 := hI.hOk t
    have h7 := hI.xNZ t; have h8 := hI.xOk t; have h9 := hI.dOk t
    cases hpc : s.pc t <;> rw [hpc] at h0 h1 h2 h3 h4 h5 h6 h7 h8 h9 <;> simp only [Local]
    case pushCalled v => exact h0 rfl
    case pushReady n => exact ⟨h0 rfl, h1 n rfl⟩
    case pushGotTail n tl => exact ⟨h0 rfl, h1 n rfl, h3 tl rfl⟩
    case pushZeroed n tl => exact ⟨h0 rfl, h1 n rfl, h3 tl rfl, h4 n rfl⟩
    case pushFenced n tl => exact ⟨h0 rfl, h1 n rfl, h3 tl rfl, h4 n rfl⟩
    case pushLinked n => exact ⟨h0 rfl, h2 n rfl⟩
    case pushDone => exact h0 rfl
    case popGotCounter c => exact ⟨h5 c rfl, fun _ => trivial⟩
    case popFenced c => exact ⟨h5 c rfl, fun _ => trivial⟩
    case popGotNode c h => exact ⟨h5 c rfl, h6 c h rfl rfl⟩
    case popGotNext c h x =>
      exact ⟨⟨h5 c rfl, fun e => ⟨h6 c h rfl rfl e, h8 c h x rfl rfl rfl e⟩⟩, h7 x rfl⟩
    case popGotData c h x d =>
      exact ⟨⟨h5 c rfl, fun e => ⟨h6 c h rfl rfl e, h8 c h x rfl rfl rfl e, h9 c h x d rfl e⟩⟩, h7 x rfl⟩
    case popWon h d => exact h1 h rfl
    case popWrote h d => exact h1 h rfl
    all_goals trivial
  · rintro ⟨hL, hne, htail, hlin, hloc⟩
    refine ⟨hL.chain, hne, hL.nodup, hL.own, ?_, ?_, htail, ?_, ?_, ?_, ?_, ?_, ?_, ?_, ?_, hlin⟩ <;>
      intro t <;> have h := hloc t <;> generalize s.pc t = pc at h ⊢ <;>
      clear hloc hL hlin htail hne <;> cases pc <;>
      simp_all [Local, Since, isPush, claim, pushTl, zeroed, snapC, snapH, snapX]
    intro c h' x d rfl rfl rfl rfl e; exact (h.1.2 e).2.2

theorem Inv.linked {s : St} (hI : Inv s) : Linked s.next s.head s.chain s.owner :=
  ⟨hI.chain, hI.nodup, hI.own⟩

theorem Inv.loc {s : St} (hI : Inv s) {t : Nat} {pc : Pc} (hpc : s.pc t = pc) : Local s t pc :=
  hpc ▸ (inv_iff.1 hI).2.2.2.2 t

theorem head_mem {s : St} (hI : Inv s) : s.head ∈ s.chain ∧ s.head ≠ 0 := by
  have hc := hI.chain
  cases hl : s.chain with
  | nil => exact absurd hl hI.ne
  | cons a l => rw [hl] at hc; simp at hc; simp [hc.1, hc.2.1]

/-- the successor of the stub, once linked, is the second node -/
theorem succ_mem {s : St} (hI : Inv s) (hx0 : s.next s.head ≠ 0) :
    ∃ l, s.chain = s.head :: s.next s.head :: l := by
  obtain ⟨l', hl', hc'⟩ := chain_nonzero hI.chain (head_mem hI).2
  obtain ⟨l'', hl'', _⟩ := chain_nonzero hc' hx0
  exact ⟨l'', by rw [hl', hl'']⟩

/-- What a step of one thread leaves of what another thread `t` relies on: the nodes `t` owns
    and their `next`; a counter that only grows and, while it stands still, the stub, its
    successor (once linked) and the successor's data; for the pusher `tail` and the last node. -/
structure Frame (s s' : St) (t : Nat) : Prop where
  pusher : s'.pusher = s.pusher
  own : ∀ n, s.owner n = some t → s'.owner n = some t ∧ s'.next n = s.next n
  ver : Since s'.counter s.counter (s'.head = s.head ∧ (s.next s.head ≠ 0 →
    s'.next s.head = s.next s.head ∧ s'.data (s.next s.head) = s.data (s.next s.head)))
  push : t = s.pusher →
    s'.tail = s.tail ∧ ∀ n ∈ s.chain, s.next n = 0 → n ∈ s'.chain ∧ s'.next n = 0

theorem Local.frame {s s' : St} {t : Nat} {pc : Pc} (h : Local s t pc) (f : Frame s s' t) :
    Local s' t pc := by
  have ow : ∀ n, n ≠ 0 ∧ s.owner n = some t → n ≠ 0 ∧ s'.owner n = some t :=
    fun n h => ⟨h.1, (f.own n h.2).1⟩
  cases pc <;> simp only [Local] at h ⊢
  case pushCalled v => exact f.pusher ▸ h
  case pushDone => exact f.pusher ▸ h
  case pushReady n => exact ⟨f.pusher ▸ h.1, ow n h.2⟩
  case pushGotTail n tl => exact ⟨f.pusher ▸ h.1, ow n h.2.1, h.2.2.trans (f.push h.1).1.symm⟩
  case pushZeroed n tl =>
    exact ⟨f.pusher ▸ h.1, ow n h.2.1, h.2.2.1.trans (f.push h.1).1.symm,
      (f.own n h.2.1.2).2.trans h.2.2.2⟩
  case pushFenced n tl =>
    exact ⟨f.pusher ▸ h.1, ow n h.2.1, h.2.2.1.trans (f.push h.1).1.symm,
      (f.own n h.2.1.2).2.trans h.2.2.2⟩
  case pushLinked n => exact ⟨f.pusher ▸ h.1, (f.push h.1).2 n h.2.1 h.2.2⟩
  case popGotCounter c => exact h.trans f.ver fun _ => id
  case popFenced c => exact h.trans f.ver fun _ => id
  case popGotNode c x => exact h.trans f.ver fun q hh => q.1.trans hh
  case popGotNext c x y =>
    refine ⟨h.1.trans f.ver fun q hh => ?_, h.2⟩
    obtain ⟨rfl, rfl⟩ := hh
    exact ⟨q.1, (q.2 h.2).1⟩
  case popGotData c x y d =>
    refine ⟨h.1.trans f.ver fun q hh => ?_, h.2⟩
    obtain ⟨rfl, rfl, rfl⟩ := hh
    exact ⟨q.1, q.2 h.2⟩
  case popWon x d => exact ow x h
  case popWrote x d => exact ow x h
  all_goals trivial

/-- a step of thread `t`: the container ghost, the linearisation and `t`'s new knowledge are
    established by hand, everybody else is framed -/
theorem inv_step_of {s s' : St} {t : Nat} {new : Pc} (hI : Inv s) (hpc : s'.pc = upd s.pc t new)
    (hL : Linked s'.next s'.head s'.chain s'.owner) (hne : s'.chain ≠ []) (htail : TailOk s')
    (hlin : fifoReplay s'.lin = some (s'.chain.tail.map s'.data)) (hnew : Local s' t new)
    (hfr : ∀ t', t' ≠ t → Frame s s' t') : Inv s' := by
  exact inv_iff.2 ⟨hL, hne, htail, hlin, hpc ▸ forall_upd hnew fun t' e => (hI.loc rfl).frame (hfr t' e)⟩

theorem nolink_of_upd {pc : Nat → Pc} {t : Nat} {new : Pc}
    (h : ∀ t' n, upd pc t new t' ≠ .pushLinked n) (h0 : ∀ n, pc t ≠ .pushLinked n) :
    ∀ t' n, pc t' ≠ .pushLinked n := by
  intro t' n
  by_cases e : t' = t
  · subst e; exact h0 n
  · have := h t' n; simpa [upd, e] using this

/-- a step that only moves `pc t`, not out of the link→tail-store window -/
theorem Inv.move {s : St} (hI : Inv s) {t : Nat} {new : Pc} (hold : ∀ n, s.pc t ≠ .pushLinked n)
    (hnew : Local s t new) : Inv { s with pc := upd s.pc t new } :=
  inv_step_of hI rfl hI.linked hI.ne (fun hno => hI.tailOk (nolink_of_upd hno hold)) hI.lin hnew
    (fun _ _ => ⟨rfl, fun _ h => ⟨h, rfl⟩, .now ⟨rfl, fun _ => ⟨rfl, rfl⟩⟩,
      fun _ => ⟨rfl, fun _ hn h0 => ⟨hn, h0⟩⟩⟩)

/-- a store to the `data` of an owned node: nothing anybody relies on reads it, the values
    queued are those of linked nodes -/
theorem Inv.wrData {s : St} (hI : Inv s) {t n v : Nat} {new : Pc}
    (hold : ∀ n, s.pc t ≠ .pushLinked n) (hn : s.owner n = some t)
    (hnew : Local { s with data := upd s.data n v, pc := upd s.pc t new } t new) :
    Inv { s with data := upd s.data n v, pc := upd s.pc t new } := by
  have hnotin := hI.linked.not_mem hn
  refine inv_step_of hI rfl hI.linked hI.ne (fun hno => hI.tailOk (nolink_of_upd hno hold)) ?_ hnew
    (fun _ _ => ⟨rfl, fun _ h => ⟨h, rfl⟩, .now ⟨rfl, fun hx => ⟨rfl, ?_⟩⟩,
      fun _ => ⟨rfl, fun _ hn h0 => ⟨hn, h0⟩⟩⟩)
  · show fifoReplay s.lin = some (s.chain.tail.map (fun m => upd s.data n v m))
    rw [map_upd_notin (fun _ d => d) (fun hm => hnotin (List.mem_of_mem_tail hm))]; exact hI.lin
  · obtain ⟨l, hl⟩ := succ_mem hI hx
    exact upd_other _ _ _ _ fun e => hnotin (by rw [hl, ← e]; simp)

theorem inv_step (s s' : St) (e : Ev) (hI : Inv s) (h : step s e = some s') : Inv s' := by
  cases e <;> simp only [step] at h
  case callPush t v =>
    split at h <;> simp at h
    rename_i hc; subst h
    exact hI.move (by simp [hc.1]) hc.2.2
  case rdTail t x =>
    split at h <;> simp at h
    rename_i n hpc
    obtain ⟨rfl, rfl⟩ := h
    exact hI.move (by simp [hpc]) ⟨(hI.loc hpc).1, (hI.loc hpc).2, rfl⟩
  case fence t k =>
    split at h <;> simp at h <;> rename_i hpc <;> obtain ⟨rfl, rfl⟩ := h <;>
      have h1 := hI.loc hpc <;> exact hI.move (by simp [hpc]) h1
  case rdCounter t c =>
    split at h <;> simp at h
    rename_i hpc
    obtain ⟨rfl, rfl⟩ := h
    exact hI.move (by simp [hpc]) (.now trivial)
  case rdNode t hd =>
    split at h <;> simp at h
    rename_i c hpc
    obtain ⟨rfl, rfl⟩ := h
    exact hI.move (by simp [hpc]) ((hI.loc hpc).imp fun _ => rfl)
  case rdNext t n x =>
    split at h <;> simp at h
    rename_i c hd hpc
    obtain ⟨⟨rfl, rfl⟩, h⟩ := h
    split at h <;> simp at h <;> subst h
    · exact hI.move (by simp [hpc]) trivial
    · rename_i hx0
      exact hI.move (by simp [hpc]) ⟨(hI.loc hpc).imp fun hh => ⟨hh, rfl⟩, hx0⟩
  case rdData t n v =>
    split at h <;> simp at h
    · rename_i c hd x hpc
      obtain ⟨⟨rfl, rfl⟩, rfl⟩ := h
      obtain ⟨h1, h3⟩ := hI.loc hpc
      exact hI.move (by simp [hpc]) ⟨h1.imp fun hh => ⟨hh.1, hh.2, rfl⟩, h3⟩
    · rename_i hd d hpc
      obtain ⟨⟨rfl, rfl⟩, rfl⟩ := h
      exact hI.move (by simp [hpc]) trivial
  case wrTail t x =>
    split at h <;> simp at h
    rename_i n hpc
    obtain ⟨rfl, rfl⟩ := h
    obtain ⟨h1, h2⟩ := hI.loc hpc
    -- nobody else holds a local copy of tail: only the pusher is inside push
    exact inv_step_of hI rfl hI.linked hI.ne (fun _ => h2) hI.lin h1
      (fun t' ht' => ⟨rfl, fun _ h => ⟨h, rfl⟩, .now ⟨rfl, fun _ => ⟨rfl, rfl⟩⟩,
        fun e => absurd (e.trans h1.symm) ht'⟩)
  case give t n =>
    split at h <;> simp at h
    rename_i hc; subst h
    have hpc : s.pc = upd s.pc t .idle := by
      funext j; by_cases e : j = t <;> simp [upd, e, hc.1]
    exact inv_step_of hI hpc (hI.linked.upd_owner hc.2 _) hI.ne hI.tailOk hI.lin trivial
      (fun t' ht' => ⟨rfl, fun m hm => ⟨(upd_other _ _ _ _ (ne_of_owned ht' hc.2 hm)).trans hm, rfl⟩,
        .now ⟨rfl, fun _ => ⟨rfl, rfl⟩⟩, fun _ => ⟨rfl, fun _ hn h0 => ⟨hn, h0⟩⟩⟩)
  case wrData t n v =>
    split at h <;> simp at h
    · -- the pusher fills its own node
      rename_i v' hpc
      obtain ⟨⟨rfl, hn0, hown_n⟩, rfl⟩ := h
      exact hI.wrData (by simp [hpc]) hown_n ⟨hI.loc hpc, hn0, hown_n⟩
    · -- a popper copies the data into the node it unlinked
      rename_i hd d hpc
      obtain ⟨⟨rfl, rfl⟩, rfl⟩ := h
      have h1 := hI.loc hpc
      exact hI.wrData (by simp [hpc]) h1.2 h1
  case wrNext t m x =>
    split at h <;> simp at h
    · -- terminate the new node
      rename_i n tl hpc
      obtain ⟨⟨rfl, rfl⟩, rfl⟩ := h
      obtain ⟨h1, h2, h3⟩ := hI.loc hpc
      have hnotin := hI.linked.not_mem h2.2
      have hoth : ∀ k ∈ s.chain, upd s.next m 0 k = s.next k :=
        fun k hk => upd_other _ _ _ _ fun e => hnotin (e ▸ hk)
      refine inv_step_of hI rfl (hI.linked.upd_next h2.2 0) hI.ne ?_ hI.lin ⟨h1, h2, h3, upd_same _ _ _⟩
        (fun t' ht' => ⟨rfl, fun k hk => ⟨hk, upd_other _ _ _ _ (ne_of_owned ht' h2.2 hk)⟩,
          .now ⟨rfl, fun _ => ⟨hoth _ (head_mem hI).1, rfl⟩⟩,
          fun e => absurd (e.trans h1.symm) ht'⟩)
      intro hno
      have := hI.tailOk (nolink_of_upd hno (by simp [hpc]))
      exact ⟨this.1, (hoth _ this.1).trans this.2⟩
    · -- link it behind tail: the linearisation point of push
      rename_i n tl hpc
      obtain ⟨⟨rfl, rfl⟩, rfl⟩ := h
      obtain ⟨h1, h2, h3, h4⟩ := hI.loc hpc
      have hnotin := hI.linked.not_mem h2.2
      -- nobody is between link and tail store: that would be the pusher, and it is here
      have htm := hI.tailOk fun t' n' hq => by
        have := (hI.loc hq).1; rw [this, ← h1, hpc] at hq; cases hq
      rw [← h3] at htm
      have hmx : x ≠ m := fun e => hnotin (e ▸ htm.1)
      refine inv_step_of hI rfl (hI.linked.link htm.1 htm.2 h2.1 h2.2 h4) (by simp)
        (fun hno => absurd (upd_same _ _ _) (hno t x)) ?_
        ⟨h1, by simp, (upd_other _ _ _ _ hmx).trans h4⟩
        (fun t' ht' => ⟨rfl, fun k hk =>
            ⟨(upd_other _ _ _ _ (ne_of_owned ht' h2.2 hk)).trans hk, upd_other _ _ _ _ ?_⟩,
          .now ⟨rfl, fun hx => ⟨upd_other _ _ _ _ ?_, rfl⟩⟩,
          fun e => absurd (e.trans h1.symm) ht'⟩)
      · refine fifoReplay_snoc hI.lin ?_
        cases hl : s.chain with
        | nil => exact absurd hl hI.ne
        | cons a l => simp [fifoStep]
      · intro e; exact hI.linked.not_mem hk (e ▸ htm.1)
      · -- the stub has a successor, `tail` has none
        intro e; exact hx (e ▸ htm.2)
  case cas2 t el eh nl nh ok =>
    split at h
    · rename_i c hd x d hpc
      split at h
      case isFalse => simp at h
      rename_i hcond
      obtain ⟨rfl, rfl, rfl, rfl, hok⟩ := hcond
      split at h <;> simp at h <;> subst h
      · -- success: counter unchanged since the read, so `eh` is the stub and `nh` its successor
        rename_i hoktrue
        simp [hoktrue] at hok
        obtain ⟨hc, hh⟩ := hok
        obtain ⟨h1, hx0⟩ := hI.loc hpc
        have hx := (h1.2 hc).2.1
        obtain ⟨hl, hL⟩ := hI.linked.pop (head_mem hI).2 t
        rw [hh] at hl hL; rw [hx] at hL
        obtain ⟨l, hl2⟩ := succ_mem hI (by rw [hh, hx]; exact hx0)
        rw [hh, hx] at hl2
        -- the last node is not the stub, which has a successor
        have hlast : ∀ k ∈ s.chain, s.next k = 0 → k ∈ s.chain.tail ∧ s.next k = 0 := by
          intro k hk hk0
          rw [hl] at hk
          rcases List.mem_cons.1 hk with e | e
          · rw [e, hx] at hk0; exact absurd hk0 hx0
          · exact ⟨e, hk0⟩
        refine inv_step_of hI rfl hL (by rw [hl2]; simp) ?_ ?_ ⟨hh ▸ (head_mem hI).2, upd_same _ _ _⟩
          (fun t' ht' => ⟨rfl, fun k hk => ⟨(upd_other _ _ _ _ ?_).trans hk, rfl⟩,
            hc ▸ .succ,
            fun _ => ⟨rfl, hlast⟩⟩)
        · intro hno
          have := hI.tailOk (nolink_of_upd hno (by simp [hpc]))
          exact hlast _ this.1 this.2
        · exact fifoReplay_snoc hI.lin (by rw [hl2]; simp [fifoStep])
        · intro e; exact hI.linked.not_mem hk (by rw [e, hl]; simp)
      · exact hI.move (by simp [hpc]) trivial
    · simp at h
  -- call and return notes: the new pc carries no knowledge
  all_goals
    (repeat' split at h) <;> simp at h <;> (try obtain ⟨_, h⟩ := h) <;> (try subst h) <;>
      exact hI.move (by simp [*]) trivial

theorem inv_of_run {pusher stub : Nat} {own0 : Nat → Nat} (hstub : stub ≠ 0) {es : List Ev} {s : St}
    (h : (sys pusher stub own0).run es = some s) : Inv s :=
  Sys.inv_of_run (sys pusher stub own0) Inv (inv_init pusher stub own0 hstub)
    (fun s e s' hI hs => inv_step s s' e hI hs) h

def casOk : Ev → Bool
  | .cas2 _ _ _ _ _ true => true
  | _ => false

theorem counter_step {s s' : St} {e : Ev} (h : step s e = some s') :
    s'.counter = s.counter + (if casOk e then 1 else 0) := by
  cases e <;> simp only [step] at h
  case cas2 t el eh nl nh ok =>
    cases ok <;> (repeat' split at h) <;> simp at h <;> (try subst h) <;> simp_all [casOk]
  all_goals (repeat' split at h) <;> simp at h <;> (try obtain ⟨_, h⟩ := h) <;> (try subst h) <;> simp [casOk]

/-! ### the snapshot a popper holds is the one of its LAST counter read -/

theorem snapC_step {s s' : St} {e : Ev} {t : Nat} (h : step s e = some s')
    (hne : ∀ c, e ≠ .rdCounter t c) :
    ∀ c, snapC (s'.pc t) = some c → snapC (s.pc t) = some c := by
  intro c0
  cases e <;> simp only [step] at h
  case rdCounter t1 c1 =>
    have ht : t1 ≠ t := by intro e; subst e; exact hne c1 rfl
    (repeat' split at h) <;> simp at h <;> obtain ⟨_, rfl⟩ := h <;> simp [upd, Ne.symm ht]
  case give t1 n1 =>
    (repeat' split at h) <;> simp at h <;> subst h <;> simp
  all_goals
    (repeat' split at h) <;> simp at h <;> (try obtain ⟨_, h⟩ := h) <;> (try subst h) <;>
      simp only [upd] <;> split <;> (try rename_i e; subst e) <;> simp_all [snapC]

theorem empty_justified {s s' : St} {t c h : Nat} (hI : Inv s)
    (hpc : s.pc t = .popGotNode c h) (hrd : step s (.rdNext t h 0) = some s') (hcnt : s.counter = c) :
    s.chain = [h] := by
  simp only [step, hpc] at hrd
  split at hrd
  · rename_i hc
    obtain rfl := (hI.loc hpc).2 hcnt
    obtain ⟨l', hl', hc'⟩ := chain_nonzero hI.chain (head_mem hI).2
    rw [← hc.2] at hc'
    rw [hl', chain_zero hc']
  · simp at hrd

end LibfiberVerif.DistFifo
