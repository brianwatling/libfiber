/-
  The data path of the fiber mutex's hand-off (property C03): enqueued nodes are non-NULL (`NZ`),
  and the invariant `DP`: every non-NULL node has one claimant (a fiber, a queue entry, the stub,
  a popper), and what each claimant knows of the `data` / `mpsc_fifo_node` cells it may write.
  Consequence: the fiber a waker wakes is the fiber that was handed the mutex.
-/
import LibfiberVerif.Proof.Mutex

namespace LibfiberVerif.Mutex

/-- the node a locker is about to enqueue; non-zero at every other pc, so that `NZ.pcs` needs no
    guard (`Pc.preN` below is the same with 0 elsewhere) -/
def Pc.preNode : Pc → Nat
  | .waitGotNode n | .waitWroteData n | .waitClearedNode n | .pushCleared n => n
  | _ => 1

/-- enqueued nodes are non-NULL (the wait function asserts `this_fiber->mpsc_fifo_node`) -/
structure NZ (s : St) : Prop where
  pcs : ∀ f, (s.pc f).preNode ≠ 0
  ord : ∀ (i n f : Nat), s.order[i]? = some (n, f) → n ≠ 0

theorem nz_step {s s' : St} {e : Ev} (hz : NZ s) (hs : step s e = some s') : NZ s' := by
  have hupd : ∀ {f p}, p.preNode ≠ 0 → ∀ g, (upd s.pc f p g).preNode ≠ 0 := fun hp g => by
    simp only [upd]; split
    · exact hp
    · exact hz.pcs g
  have hpc : ∀ {f p}, s.pc f = p → p.preNode ≠ 0 := fun h => h ▸ hz.pcs _
  cases Step.of_step hs with
  | csEnter | csExit => exact ⟨hz.pcs, hz.ord⟩
  | xchgTail h =>
    refine ⟨hupd (by simp [Pc.preNode]), fun i n g => ?_⟩
    simp only [getElem?_snoc]; split
    · intro hg; cases hg; exact hpc h
    · exact hz.ord i n g
  | rNode _ h1 h2 => exact ⟨hupd (h1 ▸ h2), hz.ord⟩
  | wDataSelf h | wNodeClear h | wNextClear h => have := hpc h; exact ⟨hupd this, hz.ord⟩
  | _ => exact ⟨hupd (by simp [Pc.preNode]), hz.ord⟩

theorem nz_of_run {stub : Nat} {nodeOf : Nat → Nat} {es : List Ev} {s : St}
    (h : (sys stub nodeOf).run es = some s) : NZ s :=
  Sys.inv_of_run (sys stub nodeOf) NZ ⟨by simp [sys, init, Pc.preNode], by simp [sys, init]⟩
    (fun _ _ _ hz hs => nz_step hz hs) h

theorem Inv.retry_justified {s s' : St} (hi : Inv s) (hz : NZ s) {w h : Nat}
    (hs : step s (.rNext w h 0) = some s') :
    s'.pc w = .wakeLoop ∧ ∃ g, (s.pc g).isPre = true ∨ ∃ m p i, s.pc g = .pushXchgd m p i := by
  cases Step.of_step hs with
  | rNextSome _ _ h0 => exact absurd rfl h0
  | rNextNone hpc h0 =>
  refine ⟨by simp, ?_⟩
  rcases hi.wake_has_waiter (w := w) (by rw [hpc]; rfl) with hlt | ⟨g, hg⟩
  · -- the oldest entry is there and not linked: its fiber is between `xchg` and the link
    obtain ⟨⟨n, g⟩, hsome⟩ : ∃ x, s.order[s.hd]? = some x := ⟨_, List.getElem?_eq_getElem hlt⟩
    have hl : s.linked s.hd = false := Bool.eq_false_iff.2 fun hl =>
      hz.ord _ _ _ hsome (by simpa [headNext, hsome, hl] using h0.symm)
    rcases hi.q_ent s.hd n g (Nat.le_refl _) hsome with hk | hk
    · obtain ⟨q, hq⟩ := (k_xchgd _ _ _).1 hk
      exact ⟨g, Or.inr ⟨_, _, _, hq⟩⟩
    · rw [hl] at hk; simp at hk
  · exact ⟨g, Or.inl hg⟩

/-! ### data path: the fiber a waker wakes is the fiber that was handed the mutex -/

/-- node carried by a locker between reading its `mpsc_fifo_node` and its `xchg(&tail)` -/
def Pc.preN : Pc → Nat
  | .waitGotNode n | .waitWroteData n | .waitClearedNode n | .pushCleared n => n
  | _ => 0

/-- node a popper owns between its `head := next` and handing it to the woken fiber -/
def Pc.popN : Pc → Nat
  | .popMoved h _ | .popGotData h _ _ | .popWrote h _ | .wakeGotFiber h _ => h
  | _ => 0

/-- the fiber a waker is about to wake, once it has read it from the node -/
def Pc.woken : Pc → Option Nat
  | .popGotData _ _ g | .popWrote _ g | .wakeGotFiber _ g | .wakeGaveNode _ g
  | .wakeReadState g _ => some g
  | _ => none

def Pc.fnSame : Pc → Bool
  | .waitGotNode _ | .waitWroteData _ => true
  | _ => false
def Pc.fnZero : Pc → Bool
  | .waitClearedNode _ | .pushCleared _ => true
  | _ => false
def Pc.dataSet : Pc → Bool
  | .waitWroteData _ | .waitClearedNode _ | .pushCleared _ => true
  | _ => false
def Pc.headRd : Pc → Option Nat
  | .popGotHead h | .popGotNext h _ => some h
  | _ => none
def Pc.nextRd : Pc → Option Nat
  | .popGotNext _ x => some x
  | _ => none
def Pc.movedX : Pc → Option Nat
  | .popMoved _ x => some x
  | _ => none

/-- everything the data-path invariant reads of a pc -/
def Pc.v (p : Pc) : Nat × Nat × Option Nat × Bool × Bool × Bool × Option Nat × Option Nat × Option Nat :=
  (p.preN, p.popN, p.woken, p.fnSame, p.fnZero, p.dataSet, p.headRd, p.nextRd, p.movedX)

/-- who may currently write a node: a fiber (own `mpsc_fifo_node` or the node it is
    enqueueing), a queue entry not yet popped, the queue's stub, a popper -/
inductive Claim
  | fib (f : Nat) | ent (i : Nat) | stub | pop (w : Nat)
  deriving DecidableEq

def claimF (s : St) (f : Nat) : Nat := if (s.pc f).preN = 0 then s.fnode f else (s.pc f).preN

def entN (s : St) (i : Nat) : Nat :=
  if s.hd ≤ i then (match s.order[i]? with | some (n, _) => n | none => 0) else 0

def claim (s : St) : Claim → Nat
  | .fib f => claimF s f
  | .ent i => entN s i
  | .stub => s.headNode
  | .pop w => (s.pc w).popN

def ClaimInj (s : St) : Prop := ∀ c c', claim s c ≠ 0 → claim s c = claim s c' → c = c'

/-- claims may be dropped or move from one claimant to another -/
theorem ClaimInj.map {s s' : St} (hinj : ClaimInj s) (σ : Claim → Claim)
    (hσ : ∀ c c', σ c = σ c' → c = c')
    (h : ∀ c, claim s' c = 0 ∨ claim s' c = claim s (σ c)) : ClaimInj s' := by
  intro c c' h1 h2
  rcases h c with hc | hc
  · exact absurd hc h1
  · rcases h c' with hc' | hc'
    · rw [hc'] at h2; exact absurd h2 h1
    · apply hσ; apply hinj
      · rw [← hc]; exact h1
      · rw [← hc, ← hc']; exact h2

theorem ClaimInj.sub {s s' : St} (hinj : ClaimInj s)
    (h : ∀ c, claim s' c = 0 ∨ claim s' c = claim s c) : ClaimInj s' :=
  hinj.map id (fun _ _ h => h) h

def Claim.swap (a b c : Claim) : Claim := if c = a then b else if c = b then a else c

theorem Claim.swap_inj (a b : Claim) : ∀ c c', Claim.swap a b c = Claim.swap a b c' → c = c' := by
  intro c c' h; unfold Claim.swap at h; grind

/-- hypotheses on the initial node assignment: every fiber starts with its own node, none is
    the queue's stub (harness: `F<k>` owns `N<k>`, stub `S`) -/
structure NodesOk (stub : Nat) (nodeOf : Nat → Nat) : Prop where
  stub_nz : stub ≠ 0
  ne_stub : ∀ f, nodeOf f ≠ stub
  inj : ∀ f g, nodeOf f = nodeOf g → nodeOf f ≠ 0 → f = g

structure DP.Loc (s : St) (f : Nat) (p : Pc) : Prop where
  fn_pre : p.fnSame = true → s.fnode f = p.preN
  fn_zero : p.fnZero = true → s.fnode f = 0
  pre_data : p.dataSet = true → s.ndata p.preN = f
  got_head : ∀ h, p.headRd = some h → h = s.headNode
  got_next : ∀ x, p.nextRd = some x → ∃ g, s.order[s.hd]? = some (x, g)
  moved : ∀ x, p.movedX = some x → x = s.headNode ∧ ∃ g, s.owner = some g ∧ s.ndata x = g
  woke : ∀ g, p.woken = some g → s.owner = some g

structure DP (s : St) : Prop where
  inj : ClaimInj s
  stub_nz : s.headNode ≠ 0
  loc : ∀ f, DP.Loc s f (s.pc f)
  ent_data : ∀ (i n f : Nat), s.hd ≤ i → s.order[i]? = some (n, f) → s.ndata n = f

/-- a pc outside the wait / wake functions' node handling: nothing is claimed of it -/
theorem DP.Loc.quiet {s : St} {f : Nat} {p : Pc}
    (h : p.v.2.2 = (none, false, false, false, none, none, none)) : DP.Loc s f p := by
  simp only [Pc.v, Prod.mk.injEq] at h
  obtain ⟨h1, h2, h3, h4, h5, h6, h7⟩ := h
  constructor <;> simp [*]

theorem dp_init {stub : Nat} {nodeOf : Nat → Nat} (hn : NodesOk stub nodeOf) :
    DP (init stub nodeOf) := by
  obtain ⟨n1, n2, n3⟩ := hn
  refine ⟨fun c c' h1 h2 => ?_, n1, fun f => .quiet rfl, by simp [init]⟩
  cases c <;> cases c' <;> simp [claim, claimF, entN, init, Pc.preN, Pc.popN] at h1 h2 ⊢ <;> grind

/-- the claims after `f` moved to `p` with the same (or no) node in hand, `fnode` possibly
    rewritten at `f` only -/
theorem claim_move {s s' : St} {f : Nat} {p : Pc} (hpc : s'.pc = upd s.pc f p)
    (hfn : ∀ g, g ≠ f → s'.fnode g = s.fnode g) (hor : s'.order = s.order) (hhd : s'.hd = s.hd)
    (hhn : s'.headNode = s.headNode) (hpre : claimF s' f = claimF s f)
    (hpop : p.popN = 0 ∨ p.popN = (s.pc f).popN) (c : Claim) :
    claim s' c = 0 ∨ claim s' c = claim s c := by
  cases c with
  | fib g =>
    by_cases hg : g = f
    · subst hg; exact .inr hpre
    · right; simp only [claim, claimF, hpc, hfn g hg, upd_other _ _ _ _ hg]
  | ent i => right; simp only [claim, entN, hor, hhd]
  | stub => exact .inr hhn
  | pop w =>
    by_cases hw : w = f
    · subst hw; simpa only [claim, hpc, upd_same] using hpop
    · right; simp only [claim, hpc, upd_other _ _ _ _ hw]

/-- a step that changes only the pc of `f`, and possibly the owner when no fiber is past
    its pop -/
theorem DP.pcMove {s : St} (hd : DP s) {f : Nat} {p : Pc} {o : Option Nat}
    (ho : o = s.owner ∨ ∀ w, (s.pc w).movedX = none ∧ (s.pc w).woken = none)
    (hpre : (if p.preN = 0 then s.fnode f else p.preN) = claimF s f)
    (hpop : p.popN = 0 ∨ p.popN = (s.pc f).popN) (hloc : DP.Loc { s with owner := o } f p) :
    DP { s with owner := o, pc := upd s.pc f p } where
  inj := hd.inj.sub (claim_move rfl (fun _ _ => rfl) rfl rfl rfl (by simpa [claimF] using hpre) hpop)
  stub_nz := hd.stub_nz
  loc := forall_upd { hloc with } fun g _ =>
    { hd.loc g with
      moved := fun x hx => by
        rcases ho with rfl | ho
        · exact (hd.loc g).moved x hx
        · rw [(ho g).1] at hx; cases hx
      woke := fun x hx => by
        rcases ho with rfl | ho
        · exact (hd.loc g).woke x hx
        · rw [(ho g).2] at hx; cases hx }
  ent_data := hd.ent_data

theorem v_upd_same {pc : Nat → Pc} {f0 : Nat} {p : Pc} (h : p.v = (pc f0).v) (f : Nat) :
    (upd pc f0 p f).v = (pc f).v := by
  simp only [upd]; split
  · next h' => rw [h', h]
  · rfl

theorem preN_eq_preNode {p : Pc} (h : p.preN ≠ 0) : p.preN = p.preNode := by
  cases p <;> simp_all [Pc.preN, Pc.preNode]

theorem dataSet_preN {p : Pc} (h : p.dataSet = true) : p.preN = p.preNode := by
  cases p <;> simp_all [Pc.preN, Pc.preNode, Pc.dataSet]

theorem popN_isPop {p : Pc} (hp : p.popN ≠ 0) : p.k.isPop := by
  cases p <;> simp_all [Pc.popN, Pc.k, K.isPop]

theorem DP.pre_excl {s : St} (hd : DP s) (hz : NZ s) {f : Nat}
    (hf : (s.pc f).dataSet = true ∨ (s.pc f).fnSame = true) :
    (s.pc f).preN ≠ 0 ∧ ∀ c, claim s c = (s.pc f).preN → c = .fib f := by
  have h0 : (s.pc f).preN ≠ 0 := by
    have := hz.pcs f
    rcases hf with hf | hf <;> (cases hp : s.pc f <;> simp_all [Pc.preN, Pc.preNode, Pc.dataSet, Pc.fnSame])
  refine ⟨h0, fun c hc => ?_⟩
  have : claim s (.fib f) = (s.pc f).preN := by simp [claim, claimF, h0]
  exact (hd.inj (.fib f) c (by rw [this]; exact h0) (by rw [this, hc])).symm

/-- a write to the `data` field of a node that a fiber or a popper (`c0`) claims leaves what
    the invariant says about the others, and about the queue entries, alone -/
theorem DP.ndataWrite {s : St} (hd : DP s) (hz : NZ s) {c0 : Claim} {n : Nat} (v : Nat)
    (hn : claim s c0 = n) (hs : c0 ≠ .stub) (he : ∀ i, c0 ≠ .ent i) :
    (∀ g, c0 ≠ .fib g → DP.Loc { s with ndata := upd s.ndata n v } g (s.pc g)) ∧
    ∀ i m g, s.hd ≤ i → s.order[i]? = some (m, g) → upd s.ndata n v m = g := by
  have key : ∀ c, c0 ≠ c → claim s c ≠ 0 → claim s c ≠ n := fun c hc hc0 h =>
    hc (hd.inj c c0 hc0 (h.trans hn.symm)).symm
  refine ⟨fun g hg => { hd.loc g with pre_data := fun h => ?_, moved := fun x hx => ?_ },
    fun i m g hi hg => ?_⟩
  · have h0 := (hd.pre_excl hz (.inl h)).1
    have := key (.fib g) hg
    simp only [claim, claimF, if_neg h0] at this
    exact (upd_other _ _ _ _ (this h0)).trans ((hd.loc g).pre_data h)
  · obtain ⟨e1, e2⟩ := (hd.loc g).moved x hx
    have hx : x ≠ n := e1 ▸ key .stub hs hd.stub_nz
    exact ⟨e1, e2.imp fun g h => ⟨h.1, (upd_other _ _ _ _ hx).trans h.2⟩⟩
  · have := key (.ent i) (he i)
    simp only [claim, entN, if_pos hi, hg] at this
    exact (upd_other _ _ _ _ (this (hz.ord _ _ _ hg))).trans (hd.ent_data i m g hi hg)

/-- `node->data = this_fiber` -/
theorem DP.wDataSelf {s : St} (hd : DP s) (hz : NZ s) {f n : Nat} (hf : s.pc f = .waitGotNode n) :
    DP { s with ndata := upd s.ndata n f, pc := upd s.pc f (.waitWroteData n) } := by
  have hn0 : n ≠ 0 := by have := (hd.pre_excl hz (f := f) (.inr (by rw [hf]; rfl))).1; rwa [hf] at this
  obtain ⟨hloc, hent⟩ := hd.ndataWrite hz (c0 := .fib f) (n := n) f (by simp [claim, claimF, hf, Pc.preN, hn0])
    (by simp) (by simp)
  have hl := hd.loc f; rw [hf] at hl
  exact {
    inj := hd.inj.sub (claim_move rfl (fun _ _ => rfl) rfl rfl rfl (by simp [claimF, hf, Pc.preN])
      (by simp [Pc.popN]))
    stub_nz := hd.stub_nz
    loc := forall_upd
      { hl with pre_data := fun _ => upd_same _ _ _, moved := nofun }
      fun g hg => { hloc g (by simpa using Ne.symm hg) with }
    ent_data := hent }

theorem notPop_view {p : Pc} (h : ¬ p.k.isPop) :
    p.headRd = none ∧ p.nextRd = none ∧ p.movedX = none ∧ p.woken = none ∧ p.popN = 0 := by
  cases p <;> simp_all [Pc.k, K.isPop, Pc.headRd, Pc.nextRd, Pc.movedX, Pc.woken, Pc.popN]

/-- `prev_head->data = prev_head_next->data` inside `mpsc_fifo_trypop` -/
theorem DP.wDataPop {s : St} (hd : DP s) (hz : NZ s) {w h x g : Nat}
    (hf : s.pc w = .popGotData h x g) :
    DP { s with ndata := upd s.ndata h g, pc := upd s.pc w (.popWrote h g) } := by
  obtain ⟨hloc, hent⟩ := hd.ndataWrite hz (c0 := .pop w) (n := h) g (by simp [claim, hf, Pc.popN])
    (by simp) (by simp)
  have hl := hd.loc w; rw [hf] at hl
  exact {
    inj := hd.inj.sub (claim_move rfl (fun _ _ => rfl) rfl rfl rfl (by simp [claimF, hf, Pc.preN])
      (by simp [Pc.popN, hf]))
    stub_nz := hd.stub_nz
    loc := forall_upd
      { hl with pre_data := nofun, moved := nofun } fun u _ => { hloc u (by simp) with }
    ent_data := hent }

/-- `this_fiber->mpsc_fifo_node = NULL` -/
theorem DP.wNodeClear {s : St} (hd : DP s) {f m : Nat} (hf : s.pc f = .waitWroteData m) :
    DP { s with fnode := upd s.fnode f 0, pc := upd s.pc f (.waitClearedNode m) } := by
  have hl := hd.loc f; rw [hf] at hl
  have hfm : s.fnode f = m := hl.fn_pre rfl
  exact {
    inj := hd.inj.sub (claim_move rfl (fun g hg => upd_other _ _ _ _ hg) rfl rfl rfl
      (by simp [claimF, hf, Pc.preN, hfm]; exact fun h => h.symm) (by simp [Pc.popN]))
    stub_nz := hd.stub_nz
    loc := forall_upd
      { hl with fn_pre := nofun, fn_zero := fun _ => upd_same _ _ _ }
      fun g hg => { hd.loc g with
        fn_pre := fun h => (upd_other _ _ _ _ hg).trans ((hd.loc g).fn_pre h)
        fn_zero := fun h => (upd_other _ _ _ _ hg).trans ((hd.loc g).fn_zero h) }
    ent_data := hd.ent_data }

/-- `to_schedule->mpsc_fifo_node = out`: the popped node goes to the woken fiber -/
theorem DP.wNodeGive {s : St} (hd : DP s) (hi : Inv s) {w h g : Nat}
    (hf : s.pc w = .wakeGotFiber h g) :
    DP { s with fnode := upd s.fnode g h, pc := upd s.pc w (.wakeGaveNode h g) } := by
  have hl := hd.loc w; rw [hf] at hl
  have hog : s.owner = some g := hl.woke g rfl
  obtain ⟨g', e1, e2⟩ := hi.waking_owner (hi.post_waking w (congrArg Pc.k hf))
  rw [hog] at e1; cases e1
  have hgp : s.pc g = .parked := (k_parked _).1 e2
  have hgw : g ≠ w := by intro he; rw [he, hf] at hgp; cases hgp
  refine {
    inj := hd.inj.map _ (Claim.swap_inj (.fib g) (.pop w)) fun c => ?_
    stub_nz := hd.stub_nz
    loc := forall_upd
      { hl with fn_pre := nofun, fn_zero := nofun } fun u _ => ?_
    ent_data := hd.ent_data }
  · cases c <;> simp only [claim, claimF, entN, Claim.swap, upd] <;> grind [Pc.preN, Pc.popN]
  · by_cases hug : u = g
    · subst hug; rw [hgp]; exact .quiet rfl
    · exact { hd.loc u with
        fn_pre := fun h => (upd_other _ _ _ _ hug).trans ((hd.loc u).fn_pre h)
        fn_zero := fun h => (upd_other _ _ _ _ hug).trans ((hd.loc u).fn_zero h) }

/-- `xchg(&tail, node)`: the locker's node becomes the newest queue entry -/
theorem DP.xchg {s : St} (hd : DP s) (hi : Inv s) {f m q : Nat} (hf : s.pc f = .pushCleared m) :
    DP { s with order := s.order ++ [(m, f)], pc := upd s.pc f (.pushXchgd m q s.order.length) } := by
  have hl := hd.loc f; rw [hf] at hl
  have hf0 : s.fnode f = 0 := hl.fn_zero rfl
  have hle := hi.hd_le
  refine {
    inj := hd.inj.map _ (Claim.swap_inj (.fib f) (.ent s.order.length)) fun c => ?_
    stub_nz := hd.stub_nz
    loc := forall_upd (.quiet rfl) fun u _ => { hd.loc u with
      got_next := fun x hx => ((hd.loc u).got_next x hx).imp fun g hg => by
        rw [getElem?_snoc, hg, if_neg]; intro h; rw [h] at hg; simp at hg }
    ent_data := fun i n g hi' hg => ?_ }
  · cases c <;> simp only [claim, claimF, entN, Claim.swap, upd, getElem?_snoc] <;>
      grind [Pc.preN, Pc.popN]
  · rw [getElem?_snoc] at hg; split at hg
    · cases hg; exact hl.pre_data rfl
    · exact hd.ent_data i n g hi' hg

/-- the rotation of claims at a pop: entry `hd` ↦ stub ↦ popper -/
def popMap (w i : Nat) (c : Claim) : Claim :=
  if c = .stub then .ent i else if c = .pop w then .stub else if c = .ent i then .pop w else c

theorem popMap_inj (w i : Nat) : ∀ c c', popMap w i c = popMap w i c' → c = c' := by
  intro c c' h; unfold popMap at h; grind

/-- `head := next` -/
theorem DP.pop {s : St} (hd : DP s) (hi : Inv s) (hz : NZ s) {w h x n g : Nat}
    (hf : s.pc w = .popGotNext h x) (hq : s.order[s.hd]? = some (n, g)) :
    DP { s with headNode := x, hd := s.hd + 1, owner := some g, pc := upd s.pc w (.popMoved h x) } := by
  have hl := hd.loc w; rw [hf] at hl
  have hh : h = s.headNode := hl.got_head h rfl
  obtain ⟨g', hg'⟩ := hl.got_next x rfl
  rw [hq] at hg'; cases hg'
  have hone : ∀ u, u ≠ w → ¬ (s.pc u).k.isPop := fun u hu hp =>
    hu (hi.pop_one u w hp (by rw [hf]; simp [Pc.k, K.isPop]))
  refine {
    inj := hd.inj.map _ (popMap_inj w s.hd) fun c => ?_
    stub_nz := hz.ord _ _ _ hq
    loc := forall_upd
      { hl with
        got_head := nofun, got_next := nofun, woke := nofun
        moved := fun y hy => by cases hy; exact ⟨rfl, g, rfl, hd.ent_data s.hd _ g (Nat.le_refl _) hq⟩ }
      fun u hu => by
        obtain ⟨v1, v2, v3, v4, -⟩ := notPop_view (hone u hu)
        exact { hd.loc u with
          got_head := by simp [v1], got_next := by simp [v2], moved := by simp [v3]
          woke := by simp [v4] }
    ent_data := fun i m u hi' => hd.ent_data i m u (Nat.le_of_succ_le hi') }
  cases c <;> simp only [claim, claimF, entN, popMap, upd] <;> grind [Pc.preN, Pc.popN]

/-- the invariant looks at a pc through `Pc.v` only -/
theorem DP.Loc.congr {s : St} {f : Nat} {p q : Pc} (hv : p.v = q.v) (h : DP.Loc s f q) :
    DP.Loc s f p := by
  simp only [Pc.v, Prod.mk.injEq] at hv
  obtain ⟨h1, -, h3, h4, h5, h6, h7, h8, h9⟩ := hv
  exact ⟨h4 ▸ h1 ▸ h.fn_pre, h5 ▸ h.fn_zero, h6 ▸ h1 ▸ h.pre_data, h7 ▸ h.got_head,
    h8 ▸ h.got_next, h9 ▸ h.moved, h3 ▸ h.woke⟩

theorem DP.pcMoveSame {s : St} (hd : DP s) {f : Nat} {p : Pc} (hv : p.v = (s.pc f).v) :
    DP { s with pc := upd s.pc f p } := by
  have h1 : p.preN = (s.pc f).preN := congrArg (·.1) hv
  have h2 : p.popN = (s.pc f).popN := congrArg (·.2.1) hv
  exact hd.pcMove (.inl rfl) (by rw [h1]; rfl) (.inr h2) ((hd.loc f).congr hv)

/-- the data path reads none of `counter`, `linked`, `inCs`, `waking`, `data`, `seen` -/
theorem DP.frame {s : St} (hd : DP s) {c : Int} {l : Nat → Bool} {cs : List Nat} {wk : Bool}
    {d : Nat} {sn : Nat → Nat} :
    DP { s with counter := c, linked := l, inCs := cs, waking := wk, data := d, seen := sn } :=
  { hd with loc := fun f => { hd.loc f with } }

theorem noPop_post {s : St} (h : ∀ g, ¬ (s.pc g).k.isPop) (w : Nat) :
    (s.pc w).movedX = none ∧ (s.pc w).woken = none :=
  let v := notPop_view (h w); ⟨v.2.2.1, v.2.2.2.1⟩

theorem dp_step {s s' : St} {e : Ev} (hi : Inv s) (hz : NZ s) (hd : DP s)
    (hs : step s e = some s') : DP s' := by
  cases Step.of_step hs with
  | csEnter | csExit => exact hd.frame
  | callLock h | fsubWait h | wStateSelf h | wNextLink h | retLock h | retLockWoken h | callTry h
  | casFail h | retTryOk h | retTryFail h | callUnlock h | retUnlock h | wNextClear h
  | rDataOut h | rStateWaiting h =>
    exact (hd.pcMoveSame (by rw [h]; rfl)).frame
  | rNextNone h | wStateWake h | rStateSaving h =>
    exact (hd.pcMove (.inl rfl) (by simp [claimF, h, Pc.preN]) (.inl rfl) (.quiet rfl)).frame
  | fsubAcq h h1 h2 | casOk h h1 h2 =>
    exact (hd.pcMove (.inr (noPop_post (hi.at_free (h1 ▸ h2)).2.2.2))
      (by simp [claimF, h, Pc.preN]) (.inl rfl) (.quiet rfl)).frame
  | @faddFree f _ h | @faddWake f _ h =>
    have hk : (s.pc f).k = .hold := congrArg Pc.k h
    exact (hd.pcMove (.inr (noPop_post (hi.at_hold hk).2.2.1))
      (by simp [claimF, h, Pc.preN]) (.inl rfl) (.quiet rfl)).frame
  | @rNode f n h h1 h2 =>
    have hl := hd.loc f; rw [h] at hl
    exact (hd.pcMove (p := .waitGotNode n) (.inl rfl) (by simp [claimF, h, Pc.preN, h1]) (.inl rfl)
      { hl with fn_pre := fun _ => h1.symm, pre_data := nofun }).frame
  | @rHead f n h h1 =>
    have hl := hd.loc f; rw [h] at hl
    exact (hd.pcMove (p := .popGotHead n) (.inl rfl) (by simp [claimF, h, Pc.preN]) (.inl rfl)
      { hl with got_head := fun _ e => by cases e; exact h1 }).frame
  | @rNextSome f n x h h1 h0 =>
    have hl := hd.loc f; rw [h] at hl
    exact (hd.pcMove (p := .popGotNext n x) (.inl rfl) (by simp [claimF, h, Pc.preN]) (.inl rfl)
      { hl with got_next := fun _ e => by cases e; exact (headNext_some h1 h0).1 }).frame
  | @rDataNext f n x g h h1 =>
    have hl := hd.loc f; rw [h] at hl
    obtain ⟨-, g', e2, e3⟩ := hl.moved _ rfl
    exact (hd.pcMove (p := .popGotData n x g) (.inl rfl) (by simp [claimF, h, Pc.preN])
      (.inr (by simp [h, Pc.popN]))
      { hl with moved := nofun, woke := fun _ e => by cases e; rw [h1, e3]; exact e2 }).frame
  | xchgTail h => exact hd.xchg hi h
  | wHead h hq => exact (hd.pop hi hz h hq).frame
  | wDataSelf h => exact hd.wDataSelf hz h
  | wDataPop h => exact hd.wDataPop hz h
  | wNodeClear h => exact hd.wNodeClear h
  | wNodeGive h => exact hd.wNodeGive hi h

theorem dp_of_run {stub : Nat} {nodeOf : Nat → Nat} (hn : NodesOk stub nodeOf) {es : List Ev}
    {s : St} (h : (sys stub nodeOf).run es = some s) : DP s :=
  (Sys.inv_of_run (sys stub nodeOf) (fun s => Inv s ∧ NZ s ∧ DP s)
    ⟨inv_init stub nodeOf, nz_of_run (es := []) rfl, dp_init hn⟩
    (fun _ _ _ ⟨hi, hz, hd⟩ hs => ⟨inv_step hi hs, nz_step hz hs, dp_step hi hz hd hs⟩) h).2.2

/-- the harness's node assignment: fiber `F<k>` starts with node `N<k>` (id `k + 2`), stub `S` (id 1) -/
theorem nodesOk_harness : NodesOk 1 (· + 2) :=
  ⟨by decide, fun f => by simp, fun f g h _ => by simpa using h⟩

end LibfiberVerif.Mutex
