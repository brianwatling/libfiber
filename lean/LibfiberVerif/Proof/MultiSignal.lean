/-
  Proof/MultiSignal.lean — the invariant of the multi-waiter signal model along every run, and
  the lemmas behind the multi-signal clause of C20 (Props/C20.lean, section MultiSignal).

  Preservation is proved on `View`.  Most steps only move one fiber's pc between pcs the
  invariant cannot tell apart (`View.move`); a write to a node field is a frame lemma followed
  by such a move; a CAS2 on an empty list is `View.bump` followed by one.  Only the transitions
  of the list and of the wake hand-shake (push, pop, park, wake, resume) are argued conjunct by
  conjunct.
-/
import LibfiberVerif.Proof.MultiSignalInv
import LibfiberVerif.Proof.SignalProto
import LibfiberVerif.Proof.NodeList

namespace LibfiberVerif.MultiSignal

/-- the invariant cannot tell the two pcs apart (but for what `PcOk` says of them) -/
def Pc.alike (p q : Pc) : Prop :=
  (p.sleepy ↔ q.sleepy) ∧ (p = .parked ↔ q = .parked) ∧ ∀ g, p.targets g ↔ q.targets g

/-- the fields the invariant does not read -/
theorem View.frame {s : St} (hv : View s) (st : Nat → Bool) (k : Nat) (t : Nat → TPc) :
    View { s with strict := st, tokens := k, tk := t } :=
  { hv with sleep := { hv.sleep with } }

/-- A step of fiber `f` that changes nothing but its pc (and fields the invariant does not read)
    keeps the invariant if the new pc is of the same kind and what it claims holds. -/
theorem View.move {s : St} (hv : View s) (f : Nat) {p' : Pc} (st : Nat → Bool) (k : Nat) (t : Nat → TPc)
    (hk : p'.alike (s.pc f)) (hok : PcOk s f p') :
    View { s with pc := upd s.pc f p', strict := st, tokens := k, tk := t } :=
  have hs := hv.sleep
  { hv with
    pcok := forall_upd (P := PcOk _) hok fun x _ => hv.pcok x
    sleep := {
      listed := fun n hn => (hs.listed n hn).imp_left (upd_pc_iff hk.1 n).2
      waker_target := fun x g h => (upd_pc_iff (C := (Pc.targets · x)) (hk.2.2 x) g).2 (hs.waker_target x g h)
      waker_sleepy := fun x g h => (hs.waker_sleepy x g h).imp_left (upd_pc_iff hk.1 x).2
      owed := fun x h => hs.owed x ((upd_pc_iff hk.1 x).1 h)
      counts := fun x => (hs.counts x).imp_right (And.imp_left (upd_pc_iff hk.1 x).2)
      woken_parked := fun x h e =>
        (upd_pc_iff (C := (· = Pc.parked)) hk.2.1 x).2 (hs.woken_parked x ((upd_pc_iff hk.1 x).1 h) e)
      marker := fun x => (hs.marker x).trans (upd_pc_iff (C := (· = Pc.parked)) hk.2.1 x).symm } }

/-- `PcOk` survives a step that leaves the fiber's own node alone, keeps the wake-up it owes
    pending, and either increments the counter or keeps `head` and the `next` of the head node. -/
theorem PcOk.frame {s s' : St} {x : Nat} {p : Pc} (h : PcOk s x p)
    (hnd : s.ndata x = x → s'.ndata x = x) (hnx : (∀ n c h, p ≠ .wNext n c h) ∨ s'.next x = s.next x)
    (hc : s.counter ≤ s'.counter)
    (hh : s'.counter = s.counter → s'.head = s.head ∧ ∀ n, s.head = .node n → s'.next n = s.next n)
    (hw : ∀ g, s.waker g = some x → s'.waker g = some x ∧ (s.scratch g = true → s'.scratch g = true)) :
    PcOk s' x p := by
  cases p <;> simp only [PcOk] at h ⊢ <;> grind

/-- … in particular one that touches neither the two words nor `ndata` and `next` -/
theorem PcOk.frame' {s s' : St} {x : Nat} {p : Pc} (h : PcOk s x p) (hnd : s'.ndata = s.ndata)
    (hnx : s'.next = s.next) (hc : s'.counter = s.counter) (hh : s'.head = s.head)
    (hw : ∀ g, s.waker g = some x → s'.waker g = some x ∧ (s.scratch g = true → s'.scratch g = true)) :
    PcOk s' x p :=
  h.frame (fun e => hnd ▸ e) (.inr (hnx ▸ rfl)) (Nat.le_of_eq hc.symm) (fun _ => ⟨hh, fun _ _ => hnx ▸ rfl⟩) hw

/-- … and one by a successful CAS2 that leaves the wake-ups owed pending -/
theorem PcOk.bump {s s' : St} {x : Nat} {p : Pc} (h : PcOk s x p) (hnd : s'.ndata = s.ndata)
    (hnx : s'.next = s.next) (hc : s'.counter = s.counter + 1)
    (hw : ∀ g, s.waker g = some x → s'.waker g = some x ∧ (s.scratch g = true → s'.scratch g = true)) :
    PcOk s' x p :=
  h.frame (fun e => hnd ▸ e) (.inr (hnx ▸ rfl)) (hc ▸ Nat.le_succ _)
    (fun e => absurd (hc ▸ e) (Nat.succ_ne_self _)) hw

theorem View.head_mem {s : St} (hv : View s) {n : Nat} (h : s.head = .node n) : n ∈ s.stack := by
  rcases hv.head_stack with h' | h'
  · obtain ⟨rest, hr⟩ := headOf_eq_node (h'.symm.trans h)
    simp [hr]
  · simp [h'.2] at h

theorem View.not_mem {s : St} (hv : View s) {f : Nat} (h : ¬ (s.pc f).sleepy) : f ∉ s.stack :=
  fun hm => h (hv.sleep.listed f hm).1

theorem View.setNdata {s : St} (hv : View s) (f : Nat) : View { s with ndata := upd s.ndata f f } :=
  have hnd : ∀ x, s.ndata x = x → upd s.ndata f f x = x := fun x h => by
    unfold upd; split <;> simp [*]
  have hs := hv.sleep
  { hv with
    pcok := fun x => (hv.pcok x).frame (hnd x) (.inr rfl) (Nat.le_refl _) (fun _ => ⟨rfl, fun _ _ => rfl⟩)
      (fun _ h => ⟨h, id⟩)
    sleep := { hs with
      listed := fun n hn => (hs.listed n hn).imp_right (And.imp_right (And.imp_right (hnd n)))
      waker_sleepy := fun x g h =>
        (hs.waker_sleepy x g h).imp_right (And.imp_right (And.imp_right (hnd x))) } }

theorem View.setFnode {s : St} (hv : View s) (g : Nat) : View { s with fnode := upd s.fnode g g } :=
  { hv with
    fnode_id := fun x => by show upd s.fnode g g x = x; unfold upd; split <;> simp [*, hv.fnode_id x]
    pcok := fun x => (hv.pcok x).frame' rfl rfl rfl rfl (fun _ h => ⟨h, id⟩)
    sleep := { hv.sleep with } }

/-- a fiber that is not listed and claims nothing about its node's `next` may write it -/
theorem View.setNext {s : St} (hv : View s) (f : Nat) (h : H) (hsl : ¬ (s.pc f).sleepy)
    (hpc : ∀ n c x, s.pc f ≠ .wNext n c x) : View { s with next := upd s.next f h } :=
  have hne : ∀ x, x ∈ s.stack → upd s.next f h x = s.next x := fun x hx => by
    have : x ≠ f := fun e => hv.not_mem hsl (e ▸ hx)
    simp [upd, this]
  { hv with
    chain := chain_upd_of_not_mem s.next f h s.stack (hv.not_mem hsl) hv.chain
    pcok := fun x =>
      have hnx : (∀ n c y, s.pc x ≠ .wNext n c y) ∨ upd s.next f h x = s.next x := by
        by_cases hx : x = f
        · exact .inl (hx ▸ hpc)
        · exact .inr (by simp [upd, hx])
      (hv.pcok x).frame id hnx (Nat.le_refl _) (fun _ => ⟨rfl, fun n hn => hne n (hv.head_mem hn)⟩)
        (fun _ h => ⟨h, id⟩)
    sleep := { hv.sleep with } }

/-- a successful CAS2 on an empty list: the counter moves on, `head` stays NULL or RAISED -/
theorem View.bump {s : St} (hv : View s) (h' : H) (hst : s.stack = []) (hh : h' = .nil ∨ h' = .raised)
    (l c k : Nat) :
    View { s with counter := s.counter + 1, head := h', updates := s.updates + 1, latched := l,
                  coalesced := c, consumed := k } :=
  { hv with
    cnt := congrArg (· + 1) hv.cnt
    head_stack := by
      show h' = headOf s.stack ∨ s.stack = [] ∧ h' = .raised
      rcases hh with rfl | rfl
      · exact .inl (hst ▸ rfl)
      · exact .inr ⟨hst, rfl⟩
    pcok := fun x => (hv.pcok x).bump rfl rfl rfl (fun _ h => ⟨h, id⟩)
    sleep := { hv.sleep with } }

attribute [local simp] Pc.alike Pc.sleepy Pc.targets

/-- After a transition of the sleep / wake hand-shake each conjunct of `Sleep` follows from the
    same conjunct before it, by cases on whether the fiber meant is the actor, the sleeper it
    deals with, or neither. -/
local macro "carry " h:term : tactic =>
  `(tactic| (have := $h; grind [upd, Pc.sleepy, Pc.targets]))

local macro "carry_sleep " hs:ident : tactic =>
  `(tactic| exact {
      listed := by carry Sleep.listed $hs
      waker_target := by carry Sleep.waker_target $hs
      waker_sleepy := by carry Sleep.waker_sleepy $hs
      owed := by carry Sleep.owed $hs
      counts := by carry Sleep.counts $hs
      woken_parked := by carry Sleep.woken_parked $hs
      marker := by carry Sleep.marker $hs })

theorem view_step {s s' : St} {e : Ev} (hv : View s) (hs : step s e = some s') : View s' := by
  cases e with
  | callWait f =>
    simp only [step] at hs
    split at hs <;> cases hs
    next h => exact hv.move f _ _ _ (by simp [h.1]) trivial
  | retWait f =>
    simp only [step] at hs
    split at hs <;> try cases hs
    next h =>
      split at hs <;> cases hs
      all_goals exact hv.move f _ _ _ (by simp [h]) trivial
  | callRaise f st =>
    simp only [step] at hs
    split at hs <;> try cases hs
    next h =>
      have hk : Pc.rLoop.alike (s.pc f) := by simp [h]
      split at hs <;> try split at hs
      all_goals cases hs
      all_goals exact hv.move f _ _ _ hk trivial
  | retRaise f st r =>
    simp only [step] at hs
    split at hs <;> try cases hs
    next h =>
      have hk : Pc.idle.alike (s.pc f) := by simp [h]
      split at hs <;> try split at hs
      all_goals cases hs
      all_goals exact hv.move f _ _ _ hk trivial
  | rNode f g n =>
    simp only [step] at hs
    split at hs <;> try cases hs
    next h =>
      split at hs <;> cases hs
      next hg =>
        exact hv.move f _ _ _ (by simp [h]) (hg.2.1.trans (hv.fnode_id f))
  | ldC f c =>
    simp only [step] at hs
    split at hs <;> try cases hs
    all_goals (split at hs <;> cases hs)
    · next n h hc =>
      exact hv.move f _ _ _ (by simp [h])
        ⟨(hv.at h).1, (hv.at h).2, Nat.le_of_eq hc⟩
    · next h hc =>
      exact hv.move f _ _ _ (by simp [h]) (Nat.le_of_eq hc)
  | ldH f x =>
    simp only [step] at hs
    split at hs <;> try cases hs
    · next n c h =>
      split at hs <;> cases hs
      next hx =>
        obtain ⟨a, b, d⟩ := hv.at h
        exact hv.move f _ _ _ (by simp [h]) ⟨a, b, d, fun _ => hx.symm⟩
    · next c h =>
      split at hs <;> try cases hs
      next hx =>
        have hk : ∀ p, p = Pc.rLoop ∨ p = .rLdH c x → p.alike (s.pc f) := by
          rintro p (rfl | rfl) <;> simp [h]
        split at hs <;> cases hs
        · exact hv.move f _ _ _ (hk _ (.inr rfl)) ⟨hv.at h, fun _ => hx.symm⟩
        · exact hv.move f _ _ _ (hk _ (.inr rfl)) ⟨hv.at h, fun _ => hx.symm⟩
        · exact hv.move f _ _ _ (hk _ (.inl rfl)) trivial
  | rNext f n x =>
    simp only [step] at hs
    split at hs <;> try cases hs
    next c m h =>
      split at hs <;> cases hs
      next hx =>
        obtain ⟨a, b⟩ := hv.at h
        exact hv.move f _ _ _ (by simp [h]) ⟨a, fun e => ⟨b e, hx.2⟩⟩
  | wStateWaiting f =>
    simp only [step] at hs
    split at hs <;> cases hs
    next h =>
      exact hv.move f _ _ _ (by simp [h]) trivial
  | rData f n g =>
    simp only [step] at hs
    split at hs <;> try cases hs
    next m h =>
      split at hs <;> cases hs
      next hx =>
        have hw : s.waker m = some f := hv.at h
        have hg : g = m := hx.2.1.trans (hv.sleep.waker_sleepy m f hw).2.2.2
        subst hg
        exact hv.move f _ _ _ (by simp [h]) ⟨rfl, hw⟩
  | rScratch f g ready =>
    simp only [step] at hs
    split at hs <;> try cases hs
    next g' h =>
      split at hs <;> try cases hs
      next hx =>
        obtain ⟨rfl, hr⟩ := hx
        split at hs <;> cases hs
        · next ht => exact hv.move f _ _ _ (by simp [h]) ⟨hv.at h, hr ▸ ht⟩
        · exact hv
  | callTake f => simp only [step] at hs; split at hs <;> cases hs; exact hv.frame _ _ _
  | took f => simp only [step] at hs; split at hs <;> cases hs; exact hv.frame _ _ _
  | retTake f => simp only [step] at hs; split at hs <;> cases hs; exact hv.frame _ _ _
  | callPublish f => simp only [step] at hs; split at hs <;> cases hs; exact hv.frame _ _ _
  | ldTokens f v =>
    simp only [step] at hs
    split at hs <;> try cases hs
    split at hs <;> cases hs <;> exact hv.frame _ _ _
  | casTokens f a b c ok =>
    simp only [step] at hs
    split at hs <;> try cases hs
    split at hs <;> try cases hs
    split at hs <;> cases hs <;> exact hv.frame _ _ _
  | faddTokens f old =>
    simp only [step] at hs
    split at hs <;> try cases hs
    split at hs <;> cases hs
    exact hv.frame _ _ _
  | peekHead f h => simp only [step] at hs; split at hs <;> cases hs; exact hv
  | wData f n g =>
    simp only [step] at hs
    split at hs <;> try cases hs
    next m h =>
      split at hs <;> cases hs
      next hx =>
        obtain ⟨rfl, -⟩ := hx
        obtain rfl : n = f := hv.at h
        exact (hv.setNdata n).move n _ _ _ (by simp [h]) ⟨rfl, upd_same ..⟩
  | wNext f n x =>
    simp only [step] at hs
    split at hs <;> try cases hs
    next m c y h =>
      split at hs <;> cases hs
      next hx =>
        obtain ⟨rfl, rfl, hr⟩ := hx
        obtain ⟨rfl, a, b, d⟩ := hv.at h
        exact (hv.setNext n x (by simp [h]) (by simp [h])).move n _ _ _
          (by simp [h]) ⟨rfl, a, b, d, upd_same .., hr⟩
  | wNode f g n =>
    simp only [step] at hs
    split at hs <;> try cases hs
    next m g' h =>
      split at hs <;> cases hs
      next hx =>
        obtain ⟨rfl, rfl⟩ := hx
        obtain ⟨rfl, hw⟩ := hv.at h
        exact (hv.setFnode n).move f _ _ _ (by simp [h]) hw
  | clrScratch f =>
    simp only [step] at hs
    split at hs <;> try cases hs
    · next h =>
      have e : upd s.scratch f false = s.scratch := funext fun x => by
        have := hv.sleep.marker f
        unfold upd; split <;> simp_all
      rw [e]
      exact hv.move f _ _ _ (by simp [h]) trivial
    · next h =>
      split at hs <;> cases hs
      next hw =>
        have hs := hv.sleep
        have hnw : ∀ g, s.waker f ≠ some g := fun g e => by have := (hs.waker_sleepy f g e).2.1; omega
        have hnl : f ∉ s.stack := fun e => by have := (hs.listed f e).2.1; omega
        exact { hv with
          pcok := forall_upd (P := PcOk _) trivial fun x hx => (hv.pcok x).frame' rfl rfl rfl rfl
            fun g hg => ⟨hg, by have := hnw x; grind [upd]⟩
          sleep := by carry_sleep hs }
  | setWait g f =>
    simp only [step] at hs
    split at hs <;> cases hs
    next h =>
      have hs := hv.sleep
      exact { hv with
        pcok := forall_upd (P := PcOk _) trivial fun x hx => (hv.pcok x).frame' rfl rfl rfl rfl
          fun g hg => ⟨hg, by grind [upd]⟩
        sleep := by carry_sleep hs }
  | wStateReady f g =>
    simp only [step] at hs
    split at hs <;> try cases hs
    next g' h =>
      split at hs <;> cases hs
      next hg =>
        subst hg
        obtain ⟨hw, hsc⟩ := hv.at h
        have hs := hv.sleep
        have hpk := (hs.marker g).1 hsc
        obtain ⟨-, hcnt, hnl, -⟩ := hs.waker_sleepy g f hw
        exact { hv with
          pcok := forall_upd (P := PcOk _) trivial fun x hx => (hv.pcok x).frame' rfl rfl rfl rfl
            fun g' hg' => ⟨by grind [upd], id⟩
          sleep := by carry_sleep hs }
  | cas2 f ec eh nc nh ok =>
    simp only [step] at hs
    split at hs <;> try cases hs
    next hpre =>
    simp only [not_or, Decidable.not_not, casOk] at hpre
    obtain ⟨hok, rfl⟩ := hpre
    split at hs <;> try cases hs
    · -- wait: consume RAISED
      next n c h =>
      obtain ⟨hn, hd, -⟩ := hv.at h
      split at hs <;> try cases hs
      next hg =>
      obtain ⟨rfl, rfl, rfl⟩ := hg
      split at hs <;> cases hs
      · next ht =>
        obtain ⟨rfl, hhead⟩ : s.counter = ec ∧ s.head = .raised := by simpa [ht] using hok
        exact (hv.bump .nil ((stack_of_head hv.inv).1 hhead) (.inl rfl) _ _ _).move f _ _ _
          (by simp [h]) trivial
      · exact hv.move f _ _ _ (by simp [h]) ⟨hn, hd⟩
    · -- wait: push the own node
      next n c x h =>
      obtain ⟨rfl, hd, -, hsnap, hnx, hxr⟩ := hv.at h
      split at hs <;> try cases hs
      next hg =>
      obtain ⟨rfl, rfl, rfl⟩ := hg
      split at hs <;> cases hs
      · next ht =>
        obtain ⟨rfl, hhead⟩ : s.counter = ec ∧ s.head = eh := by simpa [ht] using hok
        have hs := hv.sleep
        have hnsl : ¬ (s.pc n).sleepy := by simp [h]
        have hnl := hv.not_mem hnsl
        have hhs : eh = headOf s.stack := by
          rcases hv.head_stack with h' | h'
          · exact hhead ▸ h'
          · exact absurd (hhead ▸ h'.2) hxr
        have hwk : s.wakes n = s.parks n := (hv.sleep.counts n).resolve_right fun e => hnsl e.1
        have hnw : ∀ g, s.waker n ≠ some g := fun g e => hnsl (hv.sleep.waker_sleepy n g e).1
        exact {
          cnt := congrArg (· + 1) hv.cnt, fnode_id := hv.fnode_id, head_stack := .inl rfl
          chain := ⟨hnx.trans hhs, hv.chain⟩
          nodup := List.nodup_cons.2 ⟨hnl, hv.nodup⟩
          pcok := forall_upd (P := PcOk _) trivial fun y _ => (hv.pcok y).bump rfl rfl rfl fun _ h => ⟨h, id⟩
          sleep := by carry_sleep hs }
      · exact hv.move n _ _ _ (by simp [h]) ⟨rfl, hd⟩
    · -- raise: latch / coalesce
      next c x h =>
      split at hs <;> try cases hs
      next hg =>
      obtain ⟨-, rfl, rfl, hx, rfl⟩ := hg
      split at hs <;> cases hs
      · next ht =>
        obtain ⟨rfl, hhead⟩ : s.counter = ec ∧ s.head = eh := by simpa [ht] using hok
        have hst : s.stack = [] := by
          rcases hx with rfl | rfl
          · exact (stack_of_head hv.inv).2.1 hhead
          · exact (stack_of_head hv.inv).1 hhead
        exact (hv.bump .raised hst (.inr rfl) _ _ _).move f _ _ _
          (by simp [h]) trivial
      · exact hv.move f _ _ _ (by simp [h]) trivial
    · -- raise: pop the top waiter
      next c n x h =>
      obtain ⟨-, hsnap⟩ := hv.at h
      split at hs <;> try cases hs
      next hg =>
      obtain ⟨rfl, rfl, rfl⟩ := hg
      split at hs <;> cases hs
      · next ht =>
        obtain ⟨rfl, hhead⟩ : s.counter = ec ∧ s.head = .node n := by simpa [ht] using hok
        obtain ⟨-, rfl⟩ := hsnap rfl
        obtain ⟨rest, hstk, hnx, hch, hnr, hnd⟩ := (stack_of_head hv.inv).2.2 n hhead
        have hs := hv.sleep
        have hl := hs.listed n (by simp [hstk])
        have hfl := hv.not_mem (f := f) (by simp [h])
        have hdrop : s.stack.drop 1 = rest := by simp [hstk]
        have hwn : upd s.waker n (some f) n = some f := upd_same ..
        rw [hdrop]
        exact {
          cnt := congrArg (· + 1) hv.cnt, fnode_id := hv.fnode_id
          head_stack := .inl (by simp [hnx])
          chain := hch
          nodup := hnd
          pcok := forall_upd (P := PcOk _) (upd_same ..) fun y _ => (hv.pcok y).bump rfl rfl rfl
            fun g hg => ⟨by have := hl.2.2.1 y; grind [upd], id⟩
          sleep := by carry_sleep hs }
      · exact hv.move f _ _ _ (by simp [h]) trivial

theorem inv_step (s s' : St) (e : Ev) (hi : Inv s) (hs : step s e = some s') : Inv s' :=
  (view_step hi.view hs).inv

theorem inv_of_run {es : List Ev} {s : St} (h : (sys (fun k => k)).run es = some s) : Inv s :=
  Sys.inv_of_run (sys (fun k => k)) Inv inv_init (fun s e s' hi hs => inv_step s s' e hi hs) h

/-- the pcs of fiber_multi_signal_raise / _raise_strict from which the CAS2 is issued -/
def Pc.raiseCas (p : Pc) : Prop := (∃ c h, p = .rLdH c h) ∨ (∃ c n x, p = .rNext c n x)

/-- the pcs of fiber_multi_signal_wait from which the CAS2 is issued -/
def Pc.waitCas (p : Pc) : Prop := (∃ n c h, p = .wLdH n c h) ∨ (∃ n c h, p = .wNext n c h)

theorem raise_cas_ok {s s' : St} (hi : Inv s) (f ec : Nat) (eh : H) (nc : Nat) (nh : H)
    (hr : (s.pc f).raiseCas) (hs : step s (.cas2 f ec eh nc nh true) = some s') :
    (∃ n rest, s.stack = n :: rest ∧ eh = .node n ∧ s'.stack = rest ∧ s'.head = headOf rest ∧
        s'.pc f = .rPopped n ∧ s'.waker n = some f ∧ s'.released = s.released + 1) ∨
    (s.stack = [] ∧ (eh = .nil ∨ eh = .raised) ∧ s'.stack = [] ∧ s'.head = .raised ∧
        s'.pc f = .rDone false ∧ s'.released = s.released ∧ s'.waker = s.waker ∧ s'.wakes = s.wakes) := by
  obtain ⟨hraised, hnil, hnode⟩ := stack_of_head hi
  by_cases hpre : true ≠ casOk s ec eh ∨ nc ≠ ec + 1
  · simp only [step, if_pos hpre] at hs; simp at hs
  simp only [step, if_neg hpre] at hs
  simp only [not_or, Decidable.not_not, casOk] at hpre
  obtain ⟨hok, hnc⟩ := hpre
  simp at hok
  obtain ⟨hcnt, hhead⟩ := hok
  simp only [Pc.raiseCas] at hr
  rcases hr with ⟨c, h, hpc⟩ | ⟨c, n, x, hpc⟩
  · right
    simp only [hpc] at hs
    split at hs <;> simp at hs
    rename_i hc
    obtain ⟨_, hec, heh, hh, hnh⟩ := hc
    subst hec heh hnh hs
    have hempty : s.stack = [] := by
      rcases hh with h' | h'
      · exact hnil (by rw [hhead, h'])
      · exact hraised (by rw [hhead, h'])
    simp [hempty, upd, hh]
  · left
    simp only [hpc] at hs
    split at hs <;> simp at hs
    rename_i hc
    obtain ⟨hec, heh, hnh⟩ := hc
    subst hec heh hnh hs
    obtain ⟨_, hsnap⟩ := hi.snapR3 f ec n nh hpc
    obtain ⟨_, hx⟩ := hsnap hcnt.symm
    obtain ⟨rest, hstk, hnx, _⟩ := hnode n hhead
    exact ⟨n, rest, hstk, rfl, by simp [hstk], by simp [hx, hnx], by simp [upd], by simp [upd], rfl⟩

theorem wait_cas_ok {s s' : St} (hi : Inv s) (f ec : Nat) (eh : H) (nc : Nat) (nh : H)
    (hw : (s.pc f).waitCas) (hs : step s (.cas2 f ec eh nc nh true) = some s') :
    (eh = .raised ∧ s.head = .raised ∧ s.stack = [] ∧ s'.head = .nil ∧ s'.stack = [] ∧
        s'.pc f = .waitDone ∧ s'.parks = s.parks ∧ s'.consumed = s.consumed + 1) ∨
    (eh ≠ .raised ∧ s'.head = .node f ∧ s'.stack = f :: s.stack ∧ s'.pc f = .wListed ∧
        s'.parks f = s.parks f + 1) := by
  obtain ⟨hraised, hnil, hnode⟩ := stack_of_head hi
  by_cases hpre : true ≠ casOk s ec eh ∨ nc ≠ ec + 1
  · simp only [step, if_pos hpre] at hs; simp at hs
  simp only [step, if_neg hpre] at hs
  simp only [not_or, Decidable.not_not, casOk] at hpre
  obtain ⟨hok, hnc⟩ := hpre
  simp at hok
  obtain ⟨hcnt, hhead⟩ := hok
  simp only [Pc.waitCas] at hw
  rcases hw with ⟨n, c, h, hpc⟩ | ⟨n, c, h, hpc⟩
  · simp only [hpc] at hs
    split at hs
    · left
      split at hs <;> simp at hs
      rename_i hc
      obtain ⟨hec, heh, hnh⟩ := hc
      subst hec heh hnh hs
      exact ⟨rfl, hhead, hraised hhead, rfl, hraised hhead, by simp [upd], rfl, rfl⟩
    all_goals (first | (simp at hs; done) | (rename_i hq; simp at hq))
  · right
    simp only [hpc] at hs
    split at hs <;> simp at hs
    rename_i hc
    obtain ⟨hec, heh, hnh⟩ := hc
    subst hec heh hnh hs
    obtain ⟨_, _, hnf, _, hnr⟩ := hi.snapW3 f n ec eh hpc
    subst hnf
    exact ⟨hnr, rfl, rfl, by simp [upd], by simp [upd]⟩

theorem single_wake_of_inv {s : St} (hi : Inv s) (f : Nat) :
    s.wakes f ≤ s.parks f ∧ s.parks f ≤ s.wakes f + 1 ∧
    (∀ g g', (s.pc g).targets f → (s.pc g').targets f → g = g') := by
  refine ⟨?_, ?_, ?_⟩
  · rcases hi.counts f with h | h <;> omega
  · rcases hi.counts f with h | h <;> omega
  · intro g g' hg hg'
    have tw : ∀ g, (s.pc g).targets f → s.waker f = some g := by
      intro g hg
      rcases hg with h | h | h | h
      · exact hi.target_waker1 f g h
      · exact hi.target_waker2 f g h
      · exact hi.target_waker3 f g h
      · exact hi.target_waker4 f g h
    have a := tw g hg
    have b := tw g' hg'
    rw [a] at b; exact Option.some.inj b

theorem wake_after_marker_of_inv {s s' : St} (hi : Inv s) (g f : Nat)
    (hs : step s (.wStateReady g f) = some s') :
    s.pc f = .parked ∧ s.scratch f = true ∧ s.wakes f + 1 = s.parks f ∧ f ∉ s.stack ∧
    s'.wakes f = s'.parks f := by
  simp only [step] at hs
  split at hs <;> simp at hs
  rename_i g' hpc
  obtain ⟨hg, hs⟩ := hs
  subst hg hs
  have hpk := hi.ready_parked g f hpc
  have hw := hi.target_waker4 f g hpc
  have := hi.waker_sleepy f g hw
  refine ⟨hpk, (hi.marker f).2 hpk, this.2.1, this.2.2.1, ?_⟩
  simp [upd]; omega

theorem asleep_accounted {s : St} (hi : Inv s) (f : Nat) (hsl : (s.pc f).sleepy)
    (hun : s.wakes f + 1 = s.parks f) :
    (f ∈ s.stack ∧ ∀ g, ¬ (s.pc g).targets f) ∨ (f ∉ s.stack ∧ ∃ g, (s.pc g).targets f) := by
  rcases hi.owed f hsl hun with h | ⟨g, h⟩
  · left
    refine ⟨h, fun g hg => ?_⟩
    have := (hi.listed f h).2.2.1 g
    rcases hg with h' | h' | h' | h'
    · exact this (hi.target_waker1 f g h')
    · exact this (hi.target_waker2 f g h')
    · exact this (hi.target_waker3 f g h')
    · exact this (hi.target_waker4 f g h')
  · right
    exact ⟨(hi.waker_sleepy f g h).2.2.1, g, hi.waker_target f g h⟩

/-- the successful double-word CASes of a trace -/
def casOkEv : Ev → Bool
  | .cas2 _ _ _ _ _ true => true
  | _ => false

theorem updates_step (s : St) (e : Ev) (s' : St) (hs : step s e = some s') :
    s'.updates = s.updates + (if casOkEv e then 1 else 0) := by
  cases e with
  | cas2 f ec eh nc nh ok =>
    by_cases hpre : ok ≠ casOk s ec eh ∨ nc ≠ ec + 1
    · simp only [step, if_pos hpre] at hs; simp at hs
    simp only [step, if_neg hpre] at hs
    cases ok <;> simp only [casOkEv] <;> (repeat' (split at hs))
    all_goals (first | contradiction | skip)
    all_goals (try simp at hs)
    all_goals (first | (subst hs; simp) | (obtain ⟨_, hs⟩ := hs; subst hs; simp))
  | _ =>
    simp only [step] at hs
    all_goals (repeat' (split at hs))
    all_goals (try simp at hs)
    all_goals (first | (subst hs; simp [casOkEv]) | (obtain ⟨_, hs⟩ := hs; subst hs; simp [casOkEv]))

theorem updates_of_run {es : List Ev} {s : St} (h : (sys (fun k => k)).run es = some s) :
    s.updates = (es.filter casOkEv).length :=
  (NodeList.runFrom_count _ (·.updates) casOkEv updates_step h).trans (Nat.zero_add _)

end LibfiberVerif.MultiSignal
