/-
  Proof/JoinCasBase.lean — the program-counter predicates, the accepted steps as a relation, and
  the invariants (statements) of the CANDIDATE FIX of the join / tryjoin / detach / completion
  protocol (Model/JoinCas.lean, docs/fix-C04.diff), property C04; preservation is in
  Proof/JoinCas.lean.

  Same structure and names as Proof/JoinBase.lean (the predicates are described there), but
  nothing is conditional: with every transition of detach_state a compare-and-swap there is no
  window to exclude.
    Inv0  simple facts about detach_state and the ghost fields
    Inv1  the mailbox discipline (a parked fiber is in its mailbox or in the hands of exactly
          one holder) and the values that travel
    Inv2  the protocol proper
    Inv3  no post-swap access to a destroyed fiber
-/
import LibfiberVerif.Model.JoinCas

namespace LibfiberVerif.JoinCas
open LibfiberVerif.Join (NONE WFJ WTJ DET READY WAITING DONE)

@[simp, grind] def finX : Pc → Bool
  | .fPark0 | .fParking | .fParked | .fWoken | .fTake | .fGot _ | .fGotRes _ _ | .fGave _ | .fMark | .fDone => true
  | _ => false

@[simp, grind] def stored : Pc → Bool
  | .fStored | .fCas _ => true
  | .fPark0 | .fParking | .fParked | .fWoken | .fTake | .fGot _ | .fGotRes _ _ | .fGave _ | .fMark | .fDone => true
  | _ => false

@[simp, grind] def parkF : Pc → Bool
  | .fPark0 | .fParking | .fParked => true
  | _ => false

@[simp, grind] def joinerPark (c : Pc) (g : Nat) : Bool :=
  match c with
  | .jPark0 t | .jParking t | .jParked t => t == g
  | _ => false

@[simp, grind] def joinerPath (c : Pc) (g : Nat) : Bool :=
  match c with
  | .jPark0 t | .jParking t | .jParked t | .jWoken t | .jGotRes t _ => t == g
  | _ => false

@[simp, grind] def takePh (c : Pc) (g : Nat) : Bool :=
  match c with
  | .take0 _ t | .take _ t _ | .wake _ t _ _ => t == g
  | _ => false

@[simp, grind] def claimPath (c : Pc) (g : Nat) : Bool :=
  match c with
  | .jPark0 t | .jParking t | .jParked t | .jWoken t | .jGotRes t _ => t == g
  | .take0 _ t | .take _ t _ | .wake _ t _ _ => t == g
  | .retn op t ok _ => t == g && ok && op != .detach
  | _ => false

/-- the claim has been made: the state is DETACHED for good -/
@[simp, grind] def postClaim (c : Pc) (g : Nat) : Bool :=
  match c with
  | .take0 _ t | .take _ t _ | .wake _ t _ _ | .jWoken t | .jGotRes t _ => t == g
  | .retn op t ok _ => t == g && ok && op != .detach
  | _ => false

@[simp, grind] def detTake (c : Pc) (g : Nat) : Bool :=
  match c with
  | .take .detach t _ | .wake .detach t _ _ => t == g
  | _ => false

@[simp, grind] def holds (c : Pc) (p : Nat) : Bool :=
  match c with
  | .wake _ _ _ q | .fGot q | .fGotRes q _ | .fGave q => q == p
  | _ => false

/-- unlike `Join.holdsFAny` this includes `fTake`: here the finishing fiber's CAS WAIT_TO_JOIN →
    DETACHED is itself the claim (`finTake` sets `claimed`), before the mailbox is emptied -/
@[simp, grind] def holdsFAny : Pc → Bool
  | .fTake | .fGot _ | .fGotRes _ _ | .fGave _ => true
  | _ => false

@[simp, grind] def parkedIn (c : Pc) (q g : Nat) : Bool :=
  match c with
  | .jParked t => t == g
  | .fParked => q == g
  | _ => false

@[simp, grind] def delivering (c : Pc) (p : Nat) : Bool :=
  match c with
  | .fTake => true
  | .fGot q | .fGotRes q _ | .fGave q => q == p
  | _ => false

@[grind →] theorem jpk_jp {c g} (h : joinerPark c g = true) : joinerPath c g = true := by
  cases c <;> simp_all
@[grind →] theorem jp_cp {c g} (h : joinerPath c g = true) : claimPath c g = true := by
  cases c <;> simp_all
@[grind →] theorem tp_cp {c g} (h : takePh c g = true) : claimPath c g = true := by
  cases c <;> simp_all
@[grind →] theorem parkedIn_inv {c q g} (h : parkedIn c q g = true) : c = .jParked g ∨ (c = .fParked ∧ q = g) := by
  cases c <;> simp_all
@[grind →] theorem holds_inv {c p} (h : holds c p = true) :
    (∃ op g v, c = .wake op g v p) ∨ c = .fGot p ∨ (∃ v, c = .fGotRes p v) ∨ c = .fGave p := by
  cases c <;> simp_all
@[grind →] theorem detTake_inv {c g} (h : detTake c g = true) :
    (∃ v, c = .take .detach g v) ∨ (∃ v p, c = .wake .detach g v p) := by
  cases c with
  | take op t v => cases op <;> simp_all
  | wake op t v p => cases op <;> simp_all
  | _ => simp_all
@[grind →] theorem fx_st {c} (h : finX c = true) : stored c = true := by
  cases c <;> simp_all
@[grind →] theorem pf_fx {c} (h : parkF c = true) : finX c = true := by
  cases c <;> simp_all

theorem step_some {s : St} {e : Ev} {s' : St} (h : step s e = some s') :
    ∃ s1, stepCore s e = some s1 ∧
      s' = { s1 with late := if e.counted ∧ s1.destroyed e.cellOf then upd s1.late e.cellOf (s1.late e.cellOf + 1) else s1.late } := by
  unfold step at h
  cases hc : stepCore s e with
  | none => simp [hc] at h
  | some s1 => simp [hc] at h; exact ⟨s1, rfl, h.symm⟩

/-- The accepted steps of `stepCore` that change the state, one constructor per branch, each with the
    successor state as the model writes it.  The guards keep what the invariants need: the acting
    fiber's program counter and what it found in `detach_state`.  In the three CAS loops the two
    entry points (first attempt, retry from the value found) share a constructor, the values the
    guards determine (`desired`, `ok`) are filled in, and the ERROR exit of join, tryjoin and detach
    is one constructor with the operation as a parameter (`casFail`). -/
inductive Trans (s : St) : Ev → St → Prop
  | call a op g (hp : s.pc a = .idle) : Trans s (.call a op g) { s with pc := upd s.pc a (.called op g) }
  | retNone a op g ok v (hp : s.pc a = .retn op g ok v) (hn : op = .detach ∨ ok = false) :
      Trans s (.ret a op g ok v) { s with pc := upd s.pc a .idle }
  | retOk a op g ok v (hp : s.pc a = .retn op g ok v) (ho : op ≠ .detach) (hk : ok = true) :
      Trans s (.ret a op g ok v) { s with pc := upd s.pc a .idle, succ := upd s.succ g (v :: s.succ g) }
  | fnRet f v (hp : s.pc f = .idle) (hr : s.retval f = none) :
      Trans s (.fnRet f v) { s with pc := upd s.pc f (.fRet v), retval := upd s.retval f (some v) }
  -- fiber_join's CAS loop
  | joinPark a g fd ex (hp : s.pc a = .called .join g ∨ s.pc a = .jCas g NONE) (hd : s.det g = NONE) :
      Trans s (.casDet a g fd ex WTJ true)
        { s with det := upd s.det g WTJ, pc := upd s.pc a (.jPark0 g), first := upd s.first g (some a) }
  | joinTake a g fd ex (hp : s.pc a = .jCas g (s.det g)) (hd : s.det g ≠ NONE) :
      Trans s (.casDet a g fd ex DET true)
        { s with det := upd s.det g DET, pc := upd s.pc a (.take0 .join g), claimed := upd s.claimed g true,
                 taker := upd s.taker g (some a) }
  | joinRetry a g fd ex des (hp : s.pc a = .called .join g ∨ s.pc a = .jCas g ex) (hf : fd = s.det g)
      (hd : ¬(fd = WTJ ∨ fd = DET)) :
      Trans s (.casDet a g fd ex des false) { s with pc := upd s.pc a (.jCas g fd) }
  -- fiber_tryjoin's single CAS
  | tryTake a g fd ex (hp : s.pc a = .called .tryjoin g) (hd : s.det g = WFJ) :
      Trans s (.casDet a g fd ex DET true)
        { s with det := upd s.det g DET, pc := upd s.pc a (.take0 .tryjoin g), claimed := upd s.claimed g true,
                 taker := upd s.taker g (some a) }
  -- fiber_detach's CAS loop
  | detTake a g fd ex (hp : s.pc a = .dCas g WFJ) (hd : s.det g = WFJ) :
      Trans s (.casDet a g fd ex DET true)
        { s with det := upd s.det g DET, pc := upd s.pc a (.take .detach g 0), detX := upd s.detX g true,
                 taker := upd s.taker g (some a) }
  | detDone a g fd ex (hp : (s.pc a = .called .detach g ∧ s.det g = NONE) ∨ s.pc a = .dCas g (s.det g))
      (hd : s.det g ≠ WFJ) :
      Trans s (.casDet a g fd ex DET true)
        { s with det := upd s.det g DET, pc := upd s.pc a (.retn .detach g true 0), detX := upd s.detX g true }
  | detRetry a g fd ex des (hp : s.pc a = .called .detach g ∨ s.pc a = .dCas g ex) (hf : fd = s.det g)
      (hd : ¬(fd = WTJ ∨ fd = DET)) :
      Trans s (.casDet a g fd ex des false) { s with pc := upd s.pc a (.dCas g fd) }
  -- the ERROR exit of the three calls: the CAS failed and what it found ends the call
  | casFail a g fd ex des op
      (hp : s.pc a = .called op g ∨ s.pc a = .jCas g ex ∧ op = .join ∨ s.pc a = .dCas g ex ∧ op = .detach) :
      Trans s (.casDet a g fd ex des false) { s with pc := upd s.pc a (.retn op g false 0) }
  -- fiber_mark_completed's CAS loop
  | finPark a fd ex (hp : s.pc a = .fStored ∨ s.pc a = .fCas NONE) (hd : s.det a = NONE) :
      Trans s (.casDet a a fd ex WFJ true)
        { s with det := upd s.det a WFJ, pc := upd s.pc a .fPark0, first := upd s.first a (some a) }
  | finTake a fd ex (hp : s.pc a = .fCas (s.det a)) (hd : s.det a ≠ NONE) :
      Trans s (.casDet a a fd ex DET true)
        { s with det := upd s.det a DET, pc := upd s.pc a .fTake, claimed := upd s.claimed a true }
  | finMark a fd ex des (hp : s.pc a = .fStored ∨ s.pc a = .fCas ex) (hd : s.det a = DET) :
      Trans s (.casDet a a fd ex des false) { s with pc := upd s.pc a .fMark }
  | finRetry a fd ex des (hp : s.pc a = .fStored ∨ s.pc a = .fCas ex) (hf : fd = s.det a) (hd : fd ≠ DET) :
      Trans s (.casDet a a fd ex des false) { s with pc := upd s.pc a (.fCas fd) }
  | jParking a g v t (hp : s.pc a = .jPark0 t) (hg : g = a ∧ v = WAITING) :
      Trans s (.wState a g v) { s with pc := upd s.pc a (.jParking t) }
  | fParking a g v (hp : s.pc a = .fPark0) (hg : g = a ∧ v = WAITING) :
      Trans s (.wState a g v) { s with pc := upd s.pc a .fParking }
  | wakeFin a g v op t val p (hp : s.pc a = .wake op t val p) (hg : g = p ∧ v = READY ∧ p ≠ a) (hq : s.pc p = .fParked) :
      Trans s (.wState a g v)
        { s with pc := upd (upd s.pc p .fWoken) a (.retn op t true val), holder := upd s.holder p none }
  | wakeJoiner a g v p t (hp : s.pc a = .fGave p) (hg : g = p ∧ v = READY ∧ p ≠ a) (hq : s.pc p = .jParked t) :
      Trans s (.wState a g v)
        { s with pc := upd (upd s.pc p (.jWoken t)) a .fMark, holder := upd s.holder p none }
  | fDone a g v (hp : s.pc a = .fMark ∨ s.pc a = .fWoken) (hg : g = a ∧ v = DONE) :
      Trans s (.wState a g v) { s with pc := upd s.pc a .fDone }
  -- the deferred store into the mailbox, done by the next fiber `a` on behalf of `v`
  | postJoiner a g v (hp : s.pc v = .jParking g) (hv : ¬(v = 0 ∨ a = v)) :
      Trans s (.wJi a g v) { s with ji := upd s.ji g v, pc := upd s.pc v (.jParked g) }
  | postFin a g v (hp : s.pc v = .fParking) (hg : v = g) (hv : ¬(v = 0 ∨ a = v)) :
      Trans s (.wJi a g v) { s with ji := upd s.ji g v, pc := upd s.pc v .fParked }
  | xchgTake a g old op t v (hp : s.pc a = .take op t v) (hg : g = t) (ho : old = s.ji g) (hj : old ≠ 0) :
      Trans s (.xchgJi a g old)
        { s with ji := upd s.ji g 0, pc := upd s.pc a (.wake op t v old), holder := upd s.holder old (some a) }
  | xchgFin a g old (hp : s.pc a = .fTake) (hg : g = a) (ho : old = s.ji g) (hj : old ≠ 0) :
      Trans s (.xchgJi a g old)
        { s with ji := upd s.ji g 0, pc := upd s.pc a (.fGot old), holder := upd s.holder old (some a) }
  | ldTake a g v op t (hp : s.pc a = .take0 op t) (hg : g = t) (hv : v = s.res g) :
      Trans s (.ldRes a g v) { s with pc := upd s.pc a (.take op t v) }
  | ldFin a g v p (hp : s.pc a = .fGot p) (hg : g = a) (hv : v = s.res g) :
      Trans s (.ldRes a g v) { s with pc := upd s.pc a (.fGotRes p v) }
  | ldJoiner a g v t (hp : s.pc a = .jWoken t) (hg : g = a) (hv : v = s.res g) :
      Trans s (.ldRes a g v) { s with pc := upd s.pc a (.jGotRes t v) }
  | stFin a g v (hp : s.pc a = .fRet v) (hg : g = a) :
      Trans s (.stRes a g v) { s with res := upd s.res g v, pc := upd s.pc a .fStored }
  | stGive a g v p (hp : s.pc a = .fGotRes p v) (hg : g = p) :
      Trans s (.stRes a g v) { s with res := upd s.res g v, pc := upd s.pc a (.fGave p) }
  | stJoiner a g v t w (hp : s.pc a = .jGotRes t w) (hg : g = a ∧ v = 0) :
      Trans s (.stRes a g v) { s with res := upd s.res g 0, pc := upd s.pc a (.retn .join t true w) }
  | destroy a g (hp : s.pc g = .fDone) (hd : s.destroyed g = false) (hn : a ≠ g) :
      Trans s (.destroy a g) { s with destroyed := upd s.destroyed g true }

/-- The accepted steps that leave the state as it is: a switch to another fiber, and an exchange
    that finds the mailbox still empty (the deferred store has not been made yet). -/
inductive Stay (s : St) : Ev → Prop
  | touch a g : Stay s (.touch a g)
  | xchgNone a g (hp : (∃ op v, s.pc a = .take op g v) ∨ (s.pc a = .fTake ∧ g = a)) (hj : s.ji g = 0) :
      Stay s (.xchgJi a g 0)

variable {s s1 : St} {a g fd ex des : Nat} {ok : Bool}

theorem joinCas_trans (hp : s.pc a = .called .join g ∧ ex = NONE ∨ s.pc a = .jCas g ex) (hf : fd = s.det g)
    (h : joinCas s a g fd ex des ok = some s1) : Trans s (.casDet a g fd ex des ok) s1 := by
  unfold joinCas at h
  by_cases hg : des ≠ (if ex = NONE then WTJ else DET) ∨ ok ≠ decide (fd = ex)
  · rw [if_pos hg] at h; cases h
  rw [if_neg hg] at h
  obtain ⟨hdes, hok⟩ := not_or.mp hg
  replace hdes := Decidable.not_not.mp hdes
  replace hok := Decidable.not_not.mp hok
  split at h <;> split at h <;> cases h <;> rename_i hk hc
  · rw [if_pos hc] at hdes; subst hdes hk hc
    obtain rfl := of_decide_eq_true hok.symm
    exact .joinPark a g _ _ (hp.imp (·.1) id) hf.symm
  · rw [if_neg hc] at hdes; subst hdes hk
    obtain rfl := of_decide_eq_true hok.symm
    subst hf
    exact .joinTake a g _ _ (hp.resolve_left (fun h => hc h.2)) hc
  · obtain rfl := Bool.eq_false_iff.2 hk
    exact .casFail a g _ ex des _ (hp.imp (·.1) fun h => .inl ⟨h, rfl⟩)
  · obtain rfl := Bool.eq_false_iff.2 hk
    exact .joinRetry a g fd ex des (hp.imp (·.1) id) hf hc

theorem detCas_trans (hp : s.pc a = .called .detach g ∧ ex = NONE ∨ s.pc a = .dCas g ex) (hf : fd = s.det g)
    (h : detCas s a g fd ex des ok = some s1) : Trans s (.casDet a g fd ex des ok) s1 := by
  unfold detCas at h
  by_cases hg : des ≠ DET ∨ ok ≠ decide (fd = ex)
  · rw [if_pos hg] at h; cases h
  rw [if_neg hg] at h
  obtain ⟨hdes, hok⟩ := not_or.mp hg
  obtain rfl := Decidable.not_not.mp hdes
  replace hok := Decidable.not_not.mp hok
  split at h <;> split at h <;> cases h <;> rename_i hk hc
  · subst hk hc
    obtain rfl := of_decide_eq_true hok.symm
    exact .detTake a g _ _ (hp.resolve_left (fun h => absurd h.2 (by decide))) hf.symm
  · subst hk
    obtain rfl := of_decide_eq_true hok.symm
    subst hf
    exact .detDone a g _ _ (hp.imp (fun h => ⟨h.1, h.2⟩) id) hc
  · obtain rfl := Bool.eq_false_iff.2 hk
    exact .casFail a g _ ex _ _ (hp.imp (·.1) fun h => .inr ⟨h, rfl⟩)
  · obtain rfl := Bool.eq_false_iff.2 hk
    exact .detRetry a g fd ex _ (hp.imp (·.1) id) hf hc

theorem finCas_trans (hp : s.pc a = .fStored ∧ ex = NONE ∨ s.pc a = .fCas ex) (hf : fd = s.det a)
    (h : finCas s a fd ex des ok = some s1) : Trans s (.casDet a a fd ex des ok) s1 := by
  unfold finCas at h
  by_cases hg : des ≠ (if ex = NONE then WFJ else DET) ∨ ok ≠ decide (fd = ex)
  · rw [if_pos hg] at h; cases h
  rw [if_neg hg] at h
  obtain ⟨hdes, hok⟩ := not_or.mp hg
  replace hdes := Decidable.not_not.mp hdes
  replace hok := Decidable.not_not.mp hok
  split at h <;> split at h <;> cases h <;> rename_i hk hc
  · rw [if_pos hc] at hdes; subst hdes hk hc
    obtain rfl := of_decide_eq_true hok.symm
    exact .finPark a _ _ (hp.imp (·.1) id) hf.symm
  · rw [if_neg hc] at hdes; subst hdes hk
    obtain rfl := of_decide_eq_true hok.symm
    subst hf
    exact .finTake a _ _ (hp.resolve_left (fun h => hc h.2)) hc
  · obtain rfl := Bool.eq_false_iff.2 hk
    exact .finMark a fd ex des (hp.imp (·.1) id) (hf ▸ hc)
  · obtain rfl := Bool.eq_false_iff.2 hk
    exact .finRetry a fd ex des (hp.imp (·.1) id) hf hc

theorem stepCore_trans {e : Ev} (hc : stepCore s e = some s1) : Trans s e s1 ∨ (Stay s e ∧ s1 = s) := by
  cases e
  case touch a g => cases hc; exact .inr ⟨.touch a g, rfl⟩
  case xchgJi a g old =>
    simp only [stepCore] at hc
    split at hc
    · cases hc
    rename_i ho
    replace ho := Decidable.not_not.mp ho
    split at hc <;> try split at hc
    all_goals first | cases hc | skip
    all_goals
      rename_i hp hg
      obtain rfl := Decidable.not_not.mp hg
      split at hc <;> cases hc <;> rename_i h0
    · subst h0; exact .inr ⟨.xchgNone a g (.inl ⟨_, _, hp⟩) ho.symm, rfl⟩
    · exact .inl (.xchgTake a g old _ _ _ hp rfl ho h0)
    · subst h0; exact .inr ⟨.xchgNone _ _ (.inr ⟨hp, rfl⟩) ho.symm, rfl⟩
    · exact .inl (.xchgFin _ _ old hp rfl ho h0)
  case casDet a g fd ex des ok =>
    left
    simp only [stepCore] at hc
    split at hc
    · cases hc
    rename_i hf
    replace hf := Decidable.not_not.mp hf
    split at hc <;> try split at hc
    all_goals first | cases hc | skip
    all_goals rename_i hp hg
    · exact joinCas_trans (.inl ⟨hg.1 ▸ hp, hg.2⟩) hf hc
    · exact joinCas_trans (.inr (hg.1 ▸ hg.2 ▸ hp)) hf hc
    · simp only [ne_eq, not_or, Decidable.not_not] at hg
      obtain ⟨rfl, rfl, rfl, hok⟩ := hg
      split at hc <;> cases hc <;> rename_i hk
      · subst hk; exact .tryTake a _ _ _ hp (hf ▸ of_decide_eq_true hok.symm)
      · obtain rfl := Bool.eq_false_iff.2 hk; exact .casFail a _ _ _ _ _ (.inl hp)
    · exact detCas_trans (.inl ⟨hg.1 ▸ hp, hg.2⟩) hf hc
    · exact detCas_trans (.inr (hg.1 ▸ hg.2 ▸ hp)) hf hc
    · obtain ⟨rfl, he⟩ := hg; exact finCas_trans (.inl ⟨hp, he⟩) hf hc
    · obtain ⟨rfl, rfl⟩ := hg; exact finCas_trans (.inr hp) hf hc
  all_goals
    left
    simp only [stepCore] at hc
    repeat' split at hc
    all_goals try simp at hc
    all_goals try subst hc
    all_goals (constructor <;> simp_all)

structure Inv0 (s : St) : Prop where
  dr : ∀ g, s.det g ≤ 3
  wfj : ∀ g, s.det g = WFJ → parkF (s.pc g) = true
  detx : ∀ g, s.det g = DET → (s.detX g = true ∨ s.claimed g = true)
  fret : ∀ g v, s.pc g = .fRet v → s.retval g = some v
  cxj : ∀ a g x, s.pc a = .jCas g x → x ≠ WTJ ∧ x ≠ DET
  cxd : ∀ a g x, s.pc a = .dCas g x → x ≠ WTJ ∧ x ≠ DET
  cxf : ∀ a x, s.pc a = .fCas x → x ≠ DET
  cpn : ∀ a g, claimPath (s.pc a) g = true → s.det g ≠ NONE
  scn : ∀ g, s.succ g ≠ [] → s.det g ≠ NONE
  fxn : ∀ g, finX (s.pc g) = true → s.det g ≠ NONE
  dst : ∀ g, s.destroyed g = true → s.pc g = .fDone
  fj : ∀ p g, joinerPath (s.pc p) g = true → s.first g = some p
  ff : ∀ g, (parkF (s.pc g) = true ∨ s.pc g = .fWoken) → s.first g = some g
  tcl : ∀ b g, takePh (s.pc b) g = true → (s.claimed g = true ∨ s.detX g = true)
  fc : ∀ g, holdsFAny (s.pc g) = true → s.claimed g = true

structure Inv1 (s : St) : Prop where
  mb : ∀ g, s.ji g ≠ 0 → parkedIn (s.pc (s.ji g)) (s.ji g) g = true ∧ s.holder (s.ji g) = none
  hw : ∀ a op g v p, s.pc a = .wake op g v p → s.holder p = some a ∧ parkedIn (s.pc p) p g = true
  hf : (∀ a p, s.pc a = .fGot p → s.holder p = some a ∧ s.pc p = .jParked a) ∧ (∀ a p v, s.pc a = .fGotRes p v → s.holder p = some a ∧ s.pc p = .jParked a) ∧ (∀ a p, s.pc a = .fGave p → s.holder p = some a ∧ s.pc p = .jParked a)
  hh : ∀ p, s.holder p = none ∨ ∃ a, s.holder p = some a ∧ holds (s.pc a) p = true
  st : ∀ g, stored (s.pc g) = true → s.retval g = some (s.res g)
  t0 : ∀ a op g, s.pc a = .take0 op g → finX (s.pc g) = true
  tv : ∀ a op g v, s.pc a = .take op g v → op ≠ .detach → s.retval g = some v
  wv : ∀ a op g v p, s.pc a = .wake op g v p → op ≠ .detach → s.retval g = some v
  gr : ∀ g p v, s.pc g = .fGotRes p v → s.retval g = some v
  gv : ∀ g p, s.pc g = .fGave p → s.retval g = some (s.res p)
  dj : ∀ g, (s.pc g = .fWoken ∨ s.pc g = .fMark ∨ s.pc g = .fDone) → (s.claimed g = true ∨ s.detX g = true)

structure Inv2 (s : St) : Prop where
  k3 : ∀ g a, claimPath (s.pc a) g = true → s.det g ≠ WFJ
  k6 : ∀ g a, postClaim (s.pc a) g = true → s.det g = DET
  k7 : ∀ g, holdsFAny (s.pc g) = true → s.det g = DET
  k4 : ∀ g, s.succ g ≠ [] → s.det g = DET
  k5 : ∀ g p, joinerPark (s.pc p) g = true → ((s.det g = WTJ ∧ finX (s.pc g) = false) ∨ (s.det g = DET ∧ finX (s.pc g) = true))
  wtj : ∀ g, s.det g = WTJ → finX (s.pc g) = false
  uq : ∀ g a a', claimPath (s.pc a) g = true → claimPath (s.pc a') g = true → a = a'
  sq : ∀ g a, s.succ g ≠ [] → claimPath (s.pc a) g = false
  sl : ∀ g, (s.succ g).length ≤ 1
  cv1 : ∀ g p, s.pc p = .jWoken g → s.retval g = some (s.res p)
  cv2 : ∀ g p v, s.pc p = .jGotRes g v → s.retval g = some v
  cv3 : ∀ g a op v, s.pc a = .retn op g true v → op ≠ .detach → s.retval g = some v
  sv : ∀ g v, v ∈ s.succ g → s.retval g = some v
  c1 : ∀ g b, takePh (s.pc b) g = true → parkF (s.pc g) = true
  c9 : ∀ g, s.det g = WTJ → (s.first g ≠ none ∧ ∀ p, s.first g = some p → joinerPark (s.pc p) g = true)
  ii : ∀ g, s.pc g = .fTake → (s.first g ≠ none ∧ ∀ p, s.first g = some p → joinerPark (s.pc p) g = true)
  iii : ∀ g p, joinerPark (s.pc p) g = true → finX (s.pc g) = true → delivering (s.pc g) p = true
  iv : ∀ g, parkF (s.pc g) = true → s.det g ≠ WFJ → (s.taker g ≠ none ∧ ∀ b, s.taker g = some b → takePh (s.pc b) g = true)
  t4 : ∀ g, s.detX g = true → s.det g = DET
  dx1 : ∀ g, s.detX g = true → s.succ g = []
  dx2 : ∀ g a, s.detX g = true → claimPath (s.pc a) g = true → detTake (s.pc a) g = true

def Inv3 (s : St) : Prop := ∀ g, s.late g = 0

structure Inv (s : St) : Prop where
  i0 : Inv0 s
  i1 : Inv1 s
  i2 : Inv2 s
  i3 : Inv3 s

end LibfiberVerif.JoinCas
