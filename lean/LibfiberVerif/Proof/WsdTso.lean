/-
  Proof/WsdTso.lean — the inductive invariant of the deque on TSO with the seq_cst store
  (`Model/WsdTso.lean`, `fenced = true`).

  Only the owner stores, so only the owner's buffer is ever non-empty; the thieves read memory,
  i.e. some PARTIAL DRAIN of the owner's buffer.  `ViewOk` is what every partial drain `μ`
  (with `suf` still buffered behind it) satisfies:
    * its `bottom` is at most the ghost end `hb` of the logical contents;
    * for every index in `[top, μ bottom)` the slot already holds the value of that index
      (FIFO: a push's slot write drains before its `bottom` store);
    * every slot write still buffered behind it is for an index `i ≥ μ bottom`, `i ≥ top`,
      `i < wf` (so it cannot clobber a slot a thief is entitled to read).
  The fence enters in exactly one place: at pop_bottom's load of `top` the buffer is empty, so
  memory `bottom` IS the lowered value and the owner's decision (`t < b`: take without CAS) is
  based on a `top` that no thief can move past `b` any more.
  The invariant and the ledger `Acc` (values won, not yet handed back: `Wsd.Ledger`) are carried
  through `step` together (`ok_step`).
-/
import LibfiberVerif.Model.WsdTso
import LibfiberVerif.Proof.Tso
import LibfiberVerif.Proof.Wsd

namespace LibfiberVerif.WsdTso
open LibfiberVerif.Tso
open LibfiberVerif.Wsd (Res seg seg_congr seg_head perm_push perm_take Ledger of_ite_some
  of_ite_ite_some eq_of_emod_eq upd_cases)

theorem cSlot_ne_top (n : Nat) (i : Int) : cSlot n i ≠ cTop := by simp [cSlot, cTop]
theorem cSlot_ne_bot (n : Nat) (i : Int) : cSlot n i ≠ cBot := by simp [cSlot, cBot]; omega
theorem cBot_ne_top : cBot ≠ cTop := by simp [cBot, cTop]

theorem cSlot_ne {n : Nat} {i j : Int} (h1 : i < j) (h2 : j - i < n) : cSlot n i ≠ cSlot n j := by
  intro h
  have hn0 : (n : Int) ≠ 0 := by omega
  have hi := Int.emod_nonneg i hn0
  have hj := Int.emod_nonneg j hn0
  have := eq_of_emod_eq (n := n) (i := i) (j := j) (by simp only [cSlot, pslot] at h; omega)
    (by omega) h2
  omega

/-- what every partial drain `μ` of the owner's buffer satisfies, `suf` being still buffered -/
def ViewOk (n : Nat) (T H W : Int) (vals : Int → Int) (μ : Nat → Int) (suf : Buf) : Prop :=
  μ cBot ≤ H ∧
  (∀ i, T ≤ i → i < μ cBot → μ (cSlot n i) = vals i) ∧
  (∀ c v, (c, v) ∈ suf → c ≠ cBot →
    ∃ i, T ≤ i ∧ μ cBot ≤ i ∧ i < W ∧ c = cSlot n i ∧ v = vals i)

def ownerOk (n : Nat) (m : Mem) (H W : Int) (vals : Int → Int) : Pc → Prop
  | .idle | .pushCalled _ | .pushDone | .popCalled => m.view 0 cBot = H ∧ W = H
  | .pushGotB _ b => b = H ∧ m.view 0 cBot = H ∧ W = H
  | .pushPut _ b => b = H ∧ m.view 0 cBot = H ∧ W = H ∧ b + 1 ≤ m.mem cTop + n
  | .pushWritten v b => b = H ∧ m.view 0 cBot = H ∧ W = H + 1 ∧ vals b = v
  | .popGotB b => b + 1 = H ∧ m.view 0 cBot = H ∧ W = H
  | .popStored b => m.view 0 cBot = b ∧ H = b + 1 ∧ W = H
  | .popEmpty t => m.buf 0 = [] ∧ H = t ∧ m.mem cTop = t ∧ m.mem cBot + 1 = H ∧ W = H
  | .popTake b t => m.buf 0 = [] ∧ m.mem cBot = b ∧ t ≤ m.mem cTop ∧ W = H ∧
      ((t < b ∧ H = b ∧ m.mem (cSlot n b) = vals b) ∨ (t = b ∧ H = b + 1))
  | .popRead b t x => m.buf 0 = [] ∧ t = b ∧ m.mem cBot = b ∧ H = b + 1 ∧ W = H ∧ t ≤ m.mem cTop ∧
      (m.mem cTop = t → x = vals b)
  | .popCased t _ => m.buf 0 = [] ∧ m.mem cBot = t ∧ H = t + 1 ∧ m.mem cTop = H ∧ W = H
  | .popDone _ => m.view 0 cBot = H ∧ W = H
  | _ => False

/-- what a thief's program counter promises: if `top` still is what I loaded, then … -/
def thiefOk (n : Nat) (m : Mem) (H : Int) (vals : Int → Int) : Pc → Prop
  | .idle | .stealCalled | .stealDone _ => True
  | .stealGotT t => t ≤ m.mem cTop
  | .stealTake t => t ≤ m.mem cTop ∧
      (m.mem cTop = t → t < H ∧ m.mem (cSlot n t) = vals t ∧ ∀ e ∈ m.buf 0, e.1 ≠ cSlot n t)
  | .stealRead t x => t ≤ m.mem cTop ∧
      (m.mem cTop = t → t < H ∧ x = vals t ∧ ∀ e ∈ m.buf 0, e.1 ≠ cSlot n t)
  | _ => False

/-- the logical contents: the values of indices `[top, hb)` -/
def logical (s : St) : List Int := seg s.vals (s.m.mem cTop) (s.hb - s.m.mem cTop).toNat

structure Inv (s : St) : Prop where
  fen : s.fenced = true
  bufs : ∀ u, u ≠ 0 → s.m.buf u = []
  views : AllViews s.m 0 (ViewOk s.n (s.m.mem cTop) s.hb s.wf s.vals)
  own : ∀ i, s.m.mem cTop ≤ i → i < s.wf → s.m.view 0 (cSlot s.n i) = s.vals i
  tle : s.m.mem cTop ≤ s.hb
  cap : s.wf ≤ s.m.mem cTop + s.n
  owner : ownerOk s.n s.m s.hb s.wf s.vals (s.pc 0)
  thief : ∀ u, u ≠ 0 → thiefOk s.n s.m s.hb s.vals (s.pc u)
  perm : s.pushed.Perm (s.taken ++ logical s)

/-- the value a thread has won but not yet handed back to its caller -/
def holdsPc (vals : Int → Int) : Pc → Option Int
  | .popTake b t => if t < b then some (vals b) else none
  | .popCased _ (.val x) => some x
  | .popDone (.val x) => some x
  | .stealDone (.val x) => some x
  | _ => none

theorem holdsPc_popDone (vals : Int → Int) (t : Int) (r : Res) :
    holdsPc vals (.popDone r) = holdsPc vals (.popCased t r) := by cases r <;> rfl

def holds (s : St) (u : Nat) : Option Int := holdsPc s.vals (s.pc u)

abbrev Acc (s : St) : Prop :=
  Ledger (fun u => holdsPc s.vals (s.pc u)) s.owed s.taken s.returned

abbrev Ok (s : St) : Prop := Inv s ∧ Acc s

theorem inv_init (n : Nat) : Inv (init true n) := by
  refine ⟨rfl, fun _ _ => rfl, ?_, fun i h1 h2 => ?_, Int.le_refl _, ?_, ⟨rfl, rfl⟩,
    fun _ _ => trivial, List.Perm.refl _⟩
  · exact AllViews.of_drained rfl
      ⟨Int.le_refl _, fun i h1 h2 => absurd h2 (Int.not_lt.mpr h1), fun c v hcv => nomatch hcv⟩
  · exact absurd h2 (Int.not_lt.mpr h1)
  · show (0 : Int) ≤ 0 + n; omega

theorem acc_init (f : Bool) (n : Nat) : Acc (init f n) := by
  refine ⟨?_, ?_, ?_⟩ <;> simp [init, holdsPc]

theorem Inv.ownerAt {s : St} (hI : Inv s) {p : Pc} (hpc : s.pc 0 = p) :
    ownerOk s.n s.m s.hb s.wf s.vals p := hpc ▸ hI.owner

theorem Inv.thiefAt {s : St} (hI : Inv s) {t : Nat} (ht : t ≠ 0) {p : Pc} (hpc : s.pc t = p) :
    thiefOk s.n s.m s.hb s.vals p := hpc ▸ hI.thief t ht

theorem tid_zero {s : St} (hI : Inv s) {t : Nat} {p : Pc} (hpc : s.pc t = p)
    (hp : ∀ n m H vals, ¬ thiefOk n m H vals p) : t = 0 :=
  Classical.byContradiction fun hne => hp _ _ _ _ (hI.thiefAt hne hpc)

theorem tid_ne_zero {s : St} (hI : Inv s) {t : Nat} {p : Pc} (hpc : s.pc t = p)
    (hp : ∀ n m H W vals, ¬ ownerOk n m H W vals p) : t ≠ 0 := by
  rintro rfl; exact hp _ _ _ _ _ (hI.ownerAt hpc)

theorem buf_cell_ne_top {s : St} (hI : Inv s) : ∀ e ∈ s.m.buf 0, e.1 ≠ cTop := by
  intro e he
  by_cases hb : e.1 = cBot
  · rw [hb]; exact cBot_ne_top
  · obtain ⟨i, _, _, _, hc, _⟩ := hI.views.now.2.2 e.1 e.2 he hb
    rw [hc]; exact cSlot_ne_top _ _

theorem load_top {s : St} (hI : Inv s) (t : Nat) : s.m.load t cTop = s.m.mem cTop := by
  by_cases ht : t = 0
  · subst ht
    rw [load_eq_view, Mem.view, applyAll_of_not_mem _ _ _ (buf_cell_ne_top hI)]
  · exact load_of_drained (hI.bufs t ht) _

theorem owner_W {n m H W vals p} (h : ownerOk n m H W vals p) : H ≤ W ∧ W ≤ H + 1 := by
  cases p <;> simp only [ownerOk] at h <;> omega

theorem Inv.move {s : St} (hI : Inv s) (t : Nat) (p' : Pc)
    (hown : t = 0 → ownerOk s.n s.m s.hb s.wf s.vals p')
    (hth : t ≠ 0 → thiefOk s.n s.m s.hb s.vals p') : Inv { s with pc := upd s.pc t p' } := by
  refine ⟨hI.fen, hI.bufs, hI.views, hI.own, hI.tle, hI.cap, ?_, fun w hw => ?_, hI.perm⟩
  · exact upd_cases (P := ownerOk s.n s.m s.hb s.wf s.vals) 0 (fun _ => hI.owner)
      fun h0 => hown h0.symm
  · exact upd_cases (P := thiefOk s.n s.m s.hb s.vals) w (fun _ => hI.thief w hw)
      fun h => hth (h ▸ hw)

theorem ownerMove {s : St} (h : Ok s) {p : Pc} (hpc : s.pc 0 = p) (p' : Pc)
    (hown : ownerOk s.n s.m s.hb s.wf s.vals p') (hh : holdsPc s.vals p' = holdsPc s.vals p) :
    Ok { s with pc := upd s.pc 0 p' } :=
  ⟨h.1.move 0 p' (fun _ => hown) (fun h0 => absurd rfl h0), h.2.move 0 (hpc ▸ hh)⟩

theorem thiefMove {s : St} (h : Ok s) {t : Nat} (ht : t ≠ 0) {p : Pc} (hpc : s.pc t = p)
    (p' : Pc) (hth : thiefOk s.n s.m s.hb s.vals p') (hh : holdsPc s.vals p' = holdsPc s.vals p) :
    Ok { s with pc := upd s.pc t p' } :=
  ⟨h.1.move t p' (fun h0 => absurd h0 ht) (fun _ => hth), h.2.move t (hpc ▸ hh)⟩

theorem ok_ret {s : St} (h : Ok s) {t : Nat} {r : Res} {p : Pc} (hpc : s.pc t = p)
    (hown : t = 0 → ownerOk s.n s.m s.hb s.wf s.vals .idle)
    (hh : holdsPc s.vals p = (match r with | .val x => some x | _ => none)) :
    Ok { s with pc := upd s.pc t .idle, returned := s.returned ++ r.vals,
                 owed := r.settle t s.owed } := by
  -- taken apart and put together again, as in `Wsd.ok_ret`
  obtain ⟨a, b, c, d, e, f, g, i, j⟩ := h.1.move t .idle hown (fun _ => trivial)
  exact ⟨⟨a, b, c, d, e, f, g, i, j⟩, h.2.ret t r (hpc ▸ hh) rfl⟩

theorem ok_ldBottom {s s' : St} {t : Nat} {x : Int} (h : Ok s)
    (hs : step s (.ldBottom t x) = some s') : Ok s' := by
  simp only [step] at hs
  split at hs
  -- push_bottom's and pop_bottom's load: the owner reads its own `bottom`
  iterate 2
    rename_i hpc
    obtain rfl := tid_zero h.1 hpc (by simp [thiefOk])
    obtain ⟨hx, rfl⟩ := of_ite_some hs
    rw [load_eq_view] at hx
    have ho := h.1.ownerAt hpc; simp only [ownerOk] at ho
    exact ownerMove h hpc _ (by simp only [ownerOk]; omega) rfl
  · next tt hpc =>
    have ht := tid_ne_zero h.1 hpc (by simp [ownerOk])
    obtain ⟨hx, ⟨-, rfl⟩ | ⟨hgt, rfl⟩⟩ := of_ite_ite_some hs
    · exact thiefMove h ht hpc _ trivial rfl
    · rw [load_of_drained (h.1.bufs t ht)] at hx
      have hth : tt ≤ s.m.mem cTop := h.1.thiefAt ht hpc
      refine thiefMove h ht hpc _ ⟨hth, fun hT => ?_⟩ rfl
      obtain ⟨v1, v2, v3⟩ := h.1.views.now
      have hcap := h.1.cap
      refine ⟨by omega, v2 tt (by omega) (by omega), fun e he => ?_⟩
      by_cases hb : e.1 = cBot
      · rw [hb]; exact (cSlot_ne_bot _ _).symm
      · obtain ⟨i, i1, i2, i3, i4, -⟩ := v3 e.1 e.2 he hb
        rw [i4]; exact (cSlot_ne (by omega) (by omega)).symm
  · cases hs

theorem ok_rdSlot {s s' : St} {t : Nat} {i : Nat} {x : Int} (h : Ok s)
    (hs : step s (.rdSlot t i x) = some s') : Ok s' := by
  simp only [step] at hs
  split at hs
  · next b tt hpc =>
    obtain rfl := tid_zero h.1 hpc (by simp [thiefOk])
    obtain ⟨hE, hBM, htT, hWH, hcase⟩ := h.1.ownerAt hpc
    have hown := h.1.own b
    rw [view_of_drained hE] at hown
    obtain ⟨⟨-, hx⟩, ⟨hlt, rfl⟩ | ⟨hnlt, rfl⟩⟩ := of_ite_ite_some hs <;>
      rw [load_of_drained hE] at hx
    · have hv : x = s.vals b := hx.trans (hcase.elim (fun h1 => h1.2.2) (fun h1 => by omega))
      refine ownerMove h hpc _ ?_ (by simp only [holdsPc, hlt, if_true, hv])
      simp only [ownerOk]; rw [view_of_drained hE]; omega
    · refine ownerMove h hpc _ ?_ (by simp only [holdsPc, hnlt, if_false])
      simp only [ownerOk]
      exact ⟨hE, by omega, hBM, by omega, hWH, htT, fun _ => hx.trans (hown (by omega) (by omega))⟩
  · next tt hpc =>
    have ht := tid_ne_zero h.1 hpc (by simp [ownerOk])
    obtain ⟨hth1, hth2⟩ := h.1.thiefAt ht hpc
    obtain ⟨⟨-, hx⟩, rfl⟩ := of_ite_some hs
    rw [load_of_drained (h.1.bufs t ht)] at hx
    refine thiefMove h ht hpc _ ⟨hth1, fun hT => ?_⟩ rfl
    obtain ⟨a, b, c⟩ := hth2 hT
    exact ⟨a, hx.trans b, c⟩
  · cases hs

/-- a thief's promise speaks of `top` and, if `top` is the index it is after, of that index
    only: that it is below `hb`, its value, its slot in memory, the buffered stores to that slot -/
theorem thiefOk_frame {n m m' H H' vals vals' p} (h : thiefOk n m H vals p)
    (hT : m'.mem cTop = m.mem cTop)
    (hhead : m.mem cTop < H → (∀ e ∈ m.buf 0, e.1 ≠ cSlot n (m.mem cTop)) →
      m.mem cTop < H' ∧ vals' (m.mem cTop) = vals (m.mem cTop) ∧
      m'.mem (cSlot n (m.mem cTop)) = m.mem (cSlot n (m.mem cTop)) ∧
      ∀ e ∈ m'.buf 0, e.1 ≠ cSlot n (m.mem cTop)) :
    thiefOk n m' H' vals' p := by
  cases p <;> simp only [thiefOk, hT] at h ⊢ <;> try exact h
  all_goals
    refine ⟨h.1, fun hTt => ?_⟩
    obtain ⟨a, b, c⟩ := h.2 hTt
    subst hTt
    obtain ⟨a', b', c', d'⟩ := hhead a c
  · exact ⟨a', by rw [b', c']; exact b, d'⟩
  · exact ⟨a', by rw [b']; exact b, d'⟩

theorem ownerOk_flush {n m m' H W vals p} (h : ownerOk n m H W vals p)
    (hf : m.flush 0 = some m') (hT : m'.mem cTop = m.mem cTop) : ownerOk n m' H W vals p := by
  have hv := view_flush_self hf
  obtain ⟨e, rest, hb, hm, hbuf⟩ := flush_some hf
  cases p <;> simp only [ownerOk] at h ⊢ <;> (try rw [hv]) <;> (try rw [hT]) <;>
    first | exact h | (simp [hb] at h)

theorem ok_flush {s s' : St} {t : Nat} (h : Ok s)
    (hs : step s (.flush t) = some s') : Ok s' := by
  obtain ⟨hI, hA⟩ := h
  simp only [step] at hs
  split at hs
  · next m' hf =>
    cases hs
    have ht : t = 0 := Classical.byContradiction fun hne => by
      rw [flush_none_of_drained (hI.bufs t hne)] at hf; cases hf
    subst ht
    have hT : m'.mem cTop = s.m.mem cTop := flush_mem_of_not_mem hf (buf_cell_ne_top hI)
    refine ⟨⟨hI.fen, fun u hu => ?_, ?_, ?_, ?_, ?_, ownerOk_flush hI.owner hf hT, fun u hu => ?_, ?_⟩,
      hA⟩
    · rw [flush_buf_other hf hu]; exact hI.bufs u hu
    · simp only [hT]; exact hI.views.flush hf
    · simp only [hT, view_flush_self hf]; exact hI.own
    · simp only [hT]; exact hI.tle
    · simp only [hT]; exact hI.cap
    · refine thiefOk_frame (hI.thief u hu) hT fun a c => ⟨a, rfl, flush_mem_of_not_mem hf c, ?_⟩
      exact fun e he => c e (flush_buf_subset hf e he)
    · simp only [logical, hT]; exact hI.perm
  · cases hs

theorem ownerOk_top_succ {n m H W vals p} (h : ownerOk n m H W vals p) (hlt : m.mem cTop < H) :
    ownerOk n (m.poke cTop (m.mem cTop + 1)) H W vals p := by
  cases p <;> simp only [ownerOk, poke_mem_same, poke_mem_other _ _ cBot_ne_top, poke_mem_other _ _ (cSlot_ne_top _ _), poke_buf,
    view_poke_other _ _ _ _ _ cBot_ne_top] at h ⊢ <;> first | exact h | omega | grind

theorem thiefOk_top_succ {n m H vals p} (h : thiefOk n m H vals p) :
    thiefOk n (m.poke cTop (m.mem cTop + 1)) H vals p := by
  cases p <;> simp only [thiefOk, poke_mem_same, poke_mem_other _ _ (cSlot_ne_top _ _), poke_buf] at h ⊢ <;>
    first | exact h | omega | (exact ⟨by omega, fun h' => by omega⟩)

theorem ok_cas {s : St} (h : Ok s) (u : Nat) (p' : Pc)
    (hlt : s.m.mem cTop < s.hb)
    (hfree : ∀ e ∈ s.m.buf 0, e.1 ≠ cSlot s.n (s.m.mem cTop))
    (hown : u = 0 → ownerOk s.n (s.m.poke cTop (s.m.mem cTop + 1)) s.hb s.wf s.vals p')
    (hth : u ≠ 0 → thiefOk s.n (s.m.poke cTop (s.m.mem cTop + 1)) s.hb s.vals p')
    (hold : holdsPc s.vals (s.pc u) = none)
    (hnew : holdsPc s.vals p' = some (s.vals (s.m.mem cTop))) :
    Ok { s with m := s.m.poke cTop (s.m.mem cTop + 1),
                 taken := s.taken ++ [s.vals (s.m.mem cTop)],
                 owed := s.owed ++ [(u, s.vals (s.m.mem cTop))], pc := upd s.pc u p' } := by
  obtain ⟨hI, hA⟩ := h
  refine ⟨⟨hI.fen, hI.bufs, ?_, ?_, ?_, ?_, ?_, fun w hw => ?_, ?_⟩, hA.commit u hold hnew⟩
  · show AllViews _ 0 (ViewOk s.n ((s.m.poke cTop _).mem cTop) s.hb s.wf s.vals)
    rw [poke_mem_same]
    refine hI.views.poke ?_
    intro μ μ' suf hsuf hμ ⟨v1, v2, v3⟩
    have hb : μ' cBot = μ cBot := hμ _ cBot_ne_top
    refine ⟨by rw [hb]; exact v1, ?_, ?_⟩
    · intro i h1 h2
      rw [hμ _ (cSlot_ne_top _ _)]
      exact v2 i (by omega) (by rw [← hb]; exact h2)
    · intro c v hcv hc
      obtain ⟨i, i1, i2, i3, i4, i5⟩ := v3 c v hcv hc
      refine ⟨i, ?_, by rw [hb]; exact i2, i3, i4, i5⟩
      have : i ≠ s.m.mem cTop := by
        intro hi; subst hi
        exact hfree (c, v) (hsuf _ hcv) i4
      omega
  · intro i h1 h2
    simp only [poke_mem_same] at h1
    simp only [view_poke_other _ _ _ _ _ (cSlot_ne_top _ _)]; exact hI.own i (by omega) h2
  · simp only [poke_mem_same]; omega
  · simp only [poke_mem_same]; have := hI.cap; omega
  · exact upd_cases (P := ownerOk s.n (s.m.poke cTop (s.m.mem cTop + 1)) s.hb s.wf s.vals) 0
      (fun _ => ownerOk_top_succ hI.owner hlt) fun h0 => hown h0.symm
  · exact upd_cases (P := thiefOk s.n (s.m.poke cTop (s.m.mem cTop + 1)) s.hb s.vals) w
      (fun _ => thiefOk_top_succ (hI.thief w hw)) fun h => hth (h ▸ hw)
  · have hp := hI.perm
    simp only [logical, poke_mem_same] at hp ⊢
    rw [seg_head _ _ _ hlt] at hp
    rw [List.append_assoc]; exact hp

theorem ok_casTop {s s' : St} {t : Nat} {found exp des : Int} {ok : Bool} (h : Ok s)
    (hs : step s (.casTop t found exp des ok) = some s') : Ok s' := by
  simp only [step] at hs
  split at hs
  · next b tt x hpc =>
    obtain rfl := tid_zero h.1 hpc (by simp [thiefOk])
    obtain ⟨hE, rfl, hBM, hH, hW, htT, hx⟩ := h.1.ownerAt hpc
    obtain ⟨⟨-, rfl, rfl, rfl, rfl⟩, ⟨hwon, rfl⟩ | ⟨hlost, rfl⟩⟩ := of_ite_ite_some hs
    · obtain rfl : s.m.mem cTop = exp := by simpa using hwon
      obtain rfl := hx rfl
      refine ok_cas h 0 _ (by omega) (by simp [hE]) (fun _ => ?_) (fun h0 => absurd rfl h0)
        (by rw [hpc]; rfl) rfl
      simp only [ownerOk, poke_mem_same, poke_mem_other _ _ cBot_ne_top, poke_buf]
      exact ⟨hE, hBM, hH, hH.symm, hW⟩
    · have hT : s.m.mem cTop ≠ exp := by simpa using hlost
      have htle := h.1.tle
      refine ownerMove h hpc _ ?_ rfl
      simp only [ownerOk]
      exact ⟨hE, hBM, hH, by omega, hW⟩
  · next tt x hpc =>
    have ht := tid_ne_zero h.1 hpc (by simp [ownerOk])
    obtain ⟨hth1, hth2⟩ := h.1.thiefAt ht hpc
    obtain ⟨⟨-, rfl, rfl, rfl, rfl⟩, ⟨hwon, rfl⟩ | ⟨-, rfl⟩⟩ := of_ite_ite_some hs
    · obtain rfl : s.m.mem cTop = exp := by simpa using hwon
      obtain ⟨a, rfl, c⟩ := hth2 rfl
      exact ok_cas h t _ a c (fun h0 => absurd h0 ht) (fun _ => trivial) (by rw [hpc]; rfl) rfl
    · exact thiefMove h ht hpc _ trivial rfl
  · cases hs

theorem ok_ldTop {s s' : St} {t : Nat} {x : Int} (h : Ok s)
    (hs : step s (.ldTop t x) = some s') : Ok s' := by
  obtain ⟨hI, hA⟩ := h
  simp only [step, load_top hI] at hs
  split at hs
  · next v b hpc =>
    obtain rfl := tid_zero hI hpc (by simp [thiefOk])
    obtain ⟨⟨rfl, hcap⟩, rfl⟩ := of_ite_some hs
    have ho := hI.ownerAt hpc; simp only [ownerOk] at ho
    exact ownerMove ⟨hI, hA⟩ hpc _ (by simp only [ownerOk]; omega) rfl
  · next b hpc =>
    obtain rfl := tid_zero hI hpc (by simp [thiefOk])
    obtain ⟨hB, hH, hW⟩ := hI.ownerAt hpc
    have htle := hI.tle
    split at hs
    · next hc =>
      obtain ⟨rfl, hfence⟩ := hc
      -- the one place where the fence is used
      have hE : s.m.buf 0 = [] := hfence hI.fen
      rw [view_of_drained hE] at hB
      split at hs
      · next hlt =>
        cases hs
        refine ownerMove ⟨hI, hA⟩ hpc _ ?_ rfl
        simp only [ownerOk]; exact ⟨hE, by omega, trivial, by omega, hW⟩
      · split at hs
        · next hlt =>
          -- commit: the owner takes element b without a CAS; memory `bottom` is already `b`
          cases hs
          have hown := hI.own
          rw [view_of_drained hE] at hown
          refine ⟨⟨hI.fen, hI.bufs, ?_, ?_, ?_, ?_, ?_, fun u hu => ?_, ?_⟩, ?_⟩
          · refine AllViews.of_drained (P := ViewOk s.n (s.m.mem cTop) b b s.vals) hE ?_
            obtain ⟨v1, v2, v3⟩ := hI.views.now
            exact ⟨Int.le_of_eq hB, v2, fun c v hcv => nomatch hcv⟩
          · intro i h1 h2; exact hI.own i h1 (by simp only at h2; omega)
          · simp only; omega
          · have := hI.cap; simp only; omega
          · simp only [upd_same, ownerOk]
            exact ⟨hE, hB, Int.le_refl _, trivial,
              Or.inl ⟨hlt, trivial, hown b (by omega) (by omega)⟩⟩
          · simp only [upd_other _ _ _ _ hu]
            exact thiefOk_frame (hI.thief u hu) rfl fun _ c => ⟨hlt, rfl, rfl, c⟩
          · have hp := hI.perm
            simp only [logical, hH] at hp
            exact perm_take hp (Int.le_of_lt hlt)
          · exact hA.commit 0 (by rw [hpc]; rfl)
              (by simp only [holdsPc, hlt, if_true])
        · next hnlt2 =>
          cases hs
          refine ownerMove ⟨hI, hA⟩ hpc _ ?_ (by simp only [holdsPc, hnlt2, if_false])
          simp only [ownerOk]
          exact ⟨hE, hB, Int.le_refl _, hW, Or.inr ⟨by omega, hH⟩⟩
    · cases hs
  · next hpc =>
    have ht := tid_ne_zero hI hpc (by simp [ownerOk])
    obtain ⟨rfl, rfl⟩ := of_ite_some hs
    exact thiefMove ⟨hI, hA⟩ ht hpc _ (Int.le_refl _) rfl
  · cases hs

theorem mem_store_buf {m : Mem} {c : Nat} {v : Int} {e : Nat × Int}
    (he : e ∈ (m.store 0 c v).buf 0) : e ∈ m.buf 0 ∨ e = (c, v) := by
  rw [store_buf_self] at he; simpa using he

theorem ok_stBot {s : St} (h : Ok s) {p : Pc} (hpc : s.pc 0 = p) (x H' : Int) (p' : Pc)
    (P' : List Int) (hHle : s.hb ≤ H') (hx1 : x ≤ H') (hx2 : x ≤ s.wf)
    (hown : ownerOk s.n (s.m.store 0 cBot x) H' s.wf s.vals p')
    (hperm : P'.Perm (s.taken ++ seg s.vals (s.m.mem cTop) (H' - s.m.mem cTop).toNat))
    (hh : holdsPc s.vals p' = holdsPc s.vals p) :
    Ok { s with m := s.m.store 0 cBot x, hb := H', pushed := P', pc := upd s.pc 0 p' } := by
  obtain ⟨hI, hA⟩ := h
  refine ⟨⟨hI.fen, fun u hu => ?_, ?_, ?_, ?_, hI.cap, ?_, fun u hu => ?_, hperm⟩,
    hA.move 0 (hpc ▸ hh)⟩
  · simp only [store_buf_other _ _ _ _ _ hu]; exact hI.bufs u hu
  · simp only [store_mem]
    refine hI.views.store ?_ ?_
    · intro μ suf _ ⟨v1, v2, v3⟩
      refine ⟨by omega, v2, fun c v hcv hc => ?_⟩
      rcases List.mem_append.mp hcv with h1 | h1
      · exact v3 c v h1 hc
      · simp at h1; exact absurd h1.1 hc
    · refine ⟨by simp [upd]; exact hx1, fun i h1 h2 => ?_, fun c v hcv => nomatch hcv⟩
      simp only [upd_same] at h2
      rw [upd_other _ _ _ _ (cSlot_ne_bot _ _)]
      exact hI.own i h1 (by omega)
  · simp only [store_mem]
    intro i h1 h2
    rw [view_store_self, upd_other _ _ _ _ (cSlot_ne_bot _ _)]
    exact hI.own i h1 h2
  · simp only [store_mem]; have := hI.tle; omega
  · simp only [upd_same]; exact hown
  · simp only [upd_other _ _ _ _ hu]
    refine thiefOk_frame (hI.thief u hu) rfl fun a c => ⟨by omega, rfl, rfl, fun e he => ?_⟩
    rcases mem_store_buf he with h1 | h1
    · exact c e h1
    · rw [h1]; exact (cSlot_ne_bot _ _).symm

theorem ok_stBottom {s s' : St} {t : Nat} {x : Int} (h : Ok s)
    (hs : step s (.stBottom t x) = some s') : Ok s' := by
  simp only [step] at hs
  split at hs
  · next v b hpc =>
    obtain rfl := tid_zero h.1 hpc (by simp [thiefOk])
    obtain ⟨rfl, hB, hW, hv⟩ := h.1.ownerAt hpc
    obtain ⟨rfl, rfl⟩ := of_ite_some hs
    refine ok_stBot h hpc (s.hb + 1) (s.hb + 1) .pushDone (s.pushed ++ [v]) (by omega) (Int.le_refl _)
      (by omega) ?_ ?_ rfl
    · simp only [ownerOk, view_store_self, upd_same]; exact ⟨trivial, by omega⟩
    · rw [← hv]; exact perm_push h.1.perm h.1.tle
  · next b hpc =>
    obtain rfl := tid_zero h.1 hpc (by simp [thiefOk])
    have ho := h.1.ownerAt hpc; simp only [ownerOk] at ho
    obtain ⟨rfl, rfl⟩ := of_ite_some hs
    exact ok_stBot h hpc x s.hb _ s.pushed (Int.le_refl _) (by omega) (by omega)
      (by simp only [ownerOk, view_store_self, upd_same]; exact ⟨trivial, by omega, by omega⟩)
      h.1.perm rfl
  · next tt hpc =>
    obtain rfl := tid_zero h.1 hpc (by simp [thiefOk])
    have ho := h.1.ownerAt hpc; simp only [ownerOk] at ho
    obtain ⟨rfl, rfl⟩ := of_ite_some hs
    exact ok_stBot h hpc x s.hb _ s.pushed (Int.le_refl _) (by omega) (by omega)
      (by simp only [ownerOk, view_store_self, upd_same]; exact ⟨by omega, by omega⟩) h.1.perm rfl
  · next tt r hpc =>
    obtain rfl := tid_zero h.1 hpc (by simp [thiefOk])
    have ho := h.1.ownerAt hpc; simp only [ownerOk] at ho
    obtain ⟨rfl, rfl⟩ := of_ite_some hs
    exact ok_stBot h hpc _ s.hb _ s.pushed (Int.le_refl _) (by omega) (by omega)
      (by simp only [ownerOk, view_store_self, upd_same]; exact ⟨by omega, by omega⟩) h.1.perm
      (holdsPc_popDone s.vals tt r)
  · cases hs

/-- slot writes happen only while the owner is inside push_bottom: nobody holds a value whose
    identity depends on `vals` -/
theorem holdsPc_thief {n m H vals vals' p} (h : thiefOk n m H vals p) :
    holdsPc vals' p = holdsPc vals p := by
  cases p with
  | stealDone r => cases r <;> rfl
  | _ => first | rfl | exact h.elim

theorem ok_wrSlot {s s' : St} {t : Nat} {i : Nat} {x : Int} (h : Ok s)
    (hs : step s (.wrSlot t i x) = some s') : Ok s' := by
  obtain ⟨hI, hA⟩ := h
  simp only [step] at hs
  split at hs
  · next v b hpc =>
    obtain rfl := tid_zero hI hpc (by simp [thiefOk])
    obtain ⟨rfl, hB, hW, hcap⟩ := hI.ownerAt hpc
    obtain ⟨⟨-, rfl⟩, rfl⟩ := of_ite_some hs
    have htle := hI.tle
    have hvals : ∀ i, i ≠ s.hb → setVal s.vals s.hb x i = s.vals i := fun i hi => by
      simp [setVal, hi]
    refine ⟨⟨hI.fen, fun u hu => ?_, ?_, ?_, hI.tle, ?_, ?_, fun u hu => ?_, ?_⟩, ?_⟩
    · simp only [store_buf_other _ _ _ _ _ hu]; exact hI.bufs u hu
    · simp only [store_mem]
      refine hI.views.store ?_ ?_
      · intro μ suf _ ⟨v1, v2, v3⟩
        refine ⟨v1, fun i h1 h2 => ?_, fun c w hcw hc => ?_⟩
        · rw [hvals i (by omega)]; exact v2 i h1 h2
        · rcases List.mem_append.mp hcw with h1 | h1
          · obtain ⟨i, i1, i2, i3, i4, i5⟩ := v3 c w h1 hc
            exact ⟨i, i1, i2, by omega, i4, by rw [hvals i (by omega)]; exact i5⟩
          · simp at h1
            exact ⟨s.hb, by omega, by omega, by omega, h1.1, by simp [setVal, h1.2]⟩
      · refine ⟨?_, fun i h1 h2 => ?_, fun c v hcv => nomatch hcv⟩
        · rw [upd_other _ _ _ _ (cSlot_ne_bot _ _).symm]; omega
        · rw [upd_other _ _ _ _ (cSlot_ne_bot _ _).symm] at h2
          rw [upd_other _ _ _ _ (cSlot_ne (by omega) (by omega)), hvals i (by omega)]
          exact hI.own i h1 (by omega)
    · simp only [store_mem, view_store_self]
      intro i h1 h2
      by_cases hib : i = s.hb
      · subst hib; simp [setVal]
      · rw [upd_other _ _ _ _ (cSlot_ne (by omega) (by omega)), hvals i hib]
        exact hI.own i h1 (by omega)
    · simp only [store_mem]; omega
    · simp only [upd_same, ownerOk, view_store_self, upd_other _ _ _ _ (cSlot_ne_bot _ _).symm]
      exact ⟨trivial, hB, trivial, by simp [setVal]⟩
    · simp only [upd_other _ _ _ _ hu]
      refine thiefOk_frame (hI.thief u hu) rfl fun a c =>
        ⟨a, hvals _ (by omega), rfl, fun e he => ?_⟩
      rcases mem_store_buf he with h1 | h1
      · exact c e h1
      · rw [h1]; exact (cSlot_ne (by omega) (by omega)).symm
    · have hp := hI.perm
      simp only [logical, store_mem] at hp ⊢
      rw [seg_congr (g := s.vals) fun i h1 h2 => hvals i (by omega)]
      exact hp
    · refine hA.congr fun u => ?_
      by_cases hu : u = 0
      · subst hu; simp only [upd_same, hpc]; rfl
      · simp only [upd_other _ _ _ _ hu]; exact holdsPc_thief (hI.thief u hu)
  · cases hs

theorem ok_step {s s' : St} {e : Ev} (h : Ok s) (hs : step s e = some s') :
    Ok s' := by
  cases e with
  | callPush t v | callPop t =>
    obtain ⟨⟨rfl, hpc⟩, rfl⟩ := of_ite_some hs
    exact ownerMove h hpc _ (h.1.ownerAt hpc :) rfl
  | callSteal t =>
    obtain ⟨⟨ht, hpc⟩, rfl⟩ := of_ite_some hs
    exact thiefMove h ht hpc _ trivial rfl
  | retPush t =>
    simp only [step] at hs
    split at hs
    · next hpc =>
      cases hs
      obtain rfl := tid_zero h.1 hpc (by simp [thiefOk])
      exact ownerMove h hpc _ (h.1.ownerAt hpc :) rfl
    · cases hs
  | retPop t r =>
    simp only [step] at hs
    split at hs
    · next r' hpc =>
      obtain ⟨-, rfl⟩ := of_ite_some hs
      obtain rfl := tid_zero h.1 hpc (by simp [thiefOk])
      exact ok_ret h hpc (fun _ => (h.1.ownerAt hpc :)) (by cases r' <;> rfl)
    · cases hs
  | retSteal t r =>
    simp only [step] at hs
    split at hs
    · next r' hpc =>
      obtain ⟨-, rfl⟩ := of_ite_some hs
      have ht := tid_ne_zero h.1 hpc (by simp [ownerOk])
      exact ok_ret h hpc (fun h0 => absurd h0 ht) (by cases r' <;> rfl)
    · cases hs
  | ldBottom t x => exact ok_ldBottom h hs
  | stBottom t x => exact ok_stBottom h hs
  | ldTop t x => exact ok_ldTop h hs
  | casTop t f e d ok => exact ok_casTop h hs
  | rdSlot t i x => exact ok_rdSlot h hs
  | wrSlot t i x => exact ok_wrSlot h hs
  | flush t => exact ok_flush h hs

theorem inv_acc_of_run {n : Nat} {es : List Ev} {s : St} (h : (sys true n).run es = some s) :
    Inv s ∧ Acc s :=
  Sys.inv_of_run (sys true n) Ok ⟨inv_init n, acc_init true n⟩
    (fun _ _ _ hIA hs => ok_step hIA hs) h

theorem inv_of_run {n : Nat} {es : List Ev} {s : St} (h : (sys true n).run es = some s) : Inv s :=
  (inv_acc_of_run h).1

end LibfiberVerif.WsdTso
