/-
  Proof/JoinCas.lean — the invariants Inv0..Inv3 of Proof/JoinCasBase.lean hold in every reachable
  state of the CANDIDATE FIX of the join / tryjoin / detach / completion protocol
  (Model/JoinCas.lean, docs/fix-C04.diff), property C04.  Same structure and names as Proof/Join.lean.

  Preservation is proved conjunct by conjunct, by cases on the step (`Trans`, Proof/JoinCasBase.lean).
  Each proof fixes the conjunct's variables, keeps the pre-state's instance of the conjunct at those
  variables (`h`), and unfolds `upd`, so that the step shows as a pointwise `if` on the one fiber
  that moves.  It then names the steps that need other conjuncts of the pre-state, and which; in
  every other case the conjunct follows from `h` alone, because the step moves one program counter
  to a place the conjunct does not speak of, or writes fields it does not read.
-/
import LibfiberVerif.Proof.JoinCasBase

namespace LibfiberVerif.JoinCas
open LibfiberVerif.Join (NONE WFJ WTJ DET)

variable {s s1 : St} {e : Ev}

theorem inv0_dr (h0 : Inv0 s) (ht : Trans s e s1) :
    ∀ g, s1.det g ≤ 3 := by
  intro g
  have h := h0.dr g
  cases ht <;> dsimp only [upd]
  all_goals grind only [WFJ, DET, WTJ]

theorem inv0_wfj (h0 : Inv0 s) (h1 : Inv1 s) (h2 : Inv2 s) (ht : Trans s e s1) :
    ∀ g, s1.det g = WFJ → parkF (s1.pc g) = true := by
  intro g
  have h := h0.wfj g
  cases ht <;> dsimp only [upd]
  case wakeFin =>
    have k3 := h2.k3
    have hw := h1.hw
    grind only [parkF, claimPath, parkedIn, WFJ, DET, WTJ]
  all_goals grind only [parkF, WFJ, DET, WTJ]

theorem inv0_detx (h0 : Inv0 s) (ht : Trans s e s1) :
    ∀ g, s1.det g = DET → (s1.detX g = true ∨ s1.claimed g = true) := by
  intro g
  have h := h0.detx g
  cases ht <;> dsimp only [upd]
  all_goals grind only [WFJ, DET, WTJ]

theorem inv0_fret (h0 : Inv0 s) (ht : Trans s e s1) :
    ∀ g v, s1.pc g = .fRet v → s1.retval g = some v := by
  intro g v
  have h := h0.fret g v
  cases ht <;> dsimp only [upd]
  all_goals grind only []

theorem inv0_cxj (h0 : Inv0 s) (ht : Trans s e s1) :
    ∀ a g x, s1.pc a = .jCas g x → x ≠ WTJ ∧ x ≠ DET := by
  intro a g x
  have h := h0.cxj a g x
  cases ht <;> dsimp only [upd]
  all_goals grind only []

theorem inv0_cxd (h0 : Inv0 s) (ht : Trans s e s1) :
    ∀ a g x, s1.pc a = .dCas g x → x ≠ WTJ ∧ x ≠ DET := by
  intro a g x
  have h := h0.cxd a g x
  cases ht <;> dsimp only [upd]
  all_goals grind only []

theorem inv0_cxf (h0 : Inv0 s) (ht : Trans s e s1) :
    ∀ a x, s1.pc a = .fCas x → x ≠ DET := by
  intro a x
  have h := h0.cxf a x
  cases ht <;> dsimp only [upd]
  all_goals grind only []

theorem inv0_cpn (h0 : Inv0 s) (ht : Trans s e s1) :
    ∀ a g, claimPath (s1.pc a) g = true → s1.det g ≠ NONE := by
  intro a g
  have h := h0.cpn a g
  cases ht <;> dsimp only [upd]
  all_goals grind only [claimPath, DET, NONE, WTJ]

theorem inv0_scn (h0 : Inv0 s) (ht : Trans s e s1) :
    ∀ g, s1.succ g ≠ [] → s1.det g ≠ NONE := by
  intro g
  have h := h0.scn g
  cases ht <;> dsimp only [upd]
  case retOk =>
    have cpn := h0.cpn
    grind only [claimPath, DET, NONE]
  all_goals grind only [DET, NONE]

theorem inv0_fxn (h0 : Inv0 s) (ht : Trans s e s1) :
    ∀ g, finX (s1.pc g) = true → s1.det g ≠ NONE := by
  intro g
  have h := h0.fxn g
  cases ht <;> dsimp only [upd]
  all_goals grind only [finX, WFJ, DET, NONE]

theorem inv0_dst (h0 : Inv0 s) (ht : Trans s e s1) :
    ∀ g, s1.destroyed g = true → s1.pc g = .fDone := by
  intro g
  have h := h0.dst g
  cases ht <;> dsimp only [upd]
  all_goals grind only []

theorem inv0_fj (h0 : Inv0 s) (ht : Trans s e s1) :
    ∀ p g, joinerPath (s1.pc p) g = true → s1.first g = some p := by
  intro p g
  have h := h0.fj p g
  cases ht <;> dsimp only [upd]
  case joinPark | finPark =>
    have cpn := h0.cpn
    grind only [joinerPath, claimPath, → jp_cp]
  all_goals grind only [joinerPath]

theorem inv0_ff (h0 : Inv0 s) (ht : Trans s e s1) :
    ∀ g, (parkF (s1.pc g) = true ∨ s1.pc g = .fWoken) → s1.first g = some g := by
  intro g
  have h := h0.ff g
  cases ht <;> dsimp only [upd]
  case joinPark =>
    have fxn := h0.fxn
    grind only [finX, parkF, → pf_fx]
  all_goals grind only [parkF]

theorem inv0_tcl (h0 : Inv0 s) (ht : Trans s e s1) :
    ∀ b g, takePh (s1.pc b) g = true → (s1.claimed g = true ∨ s1.detX g = true) := by
  intro b g
  have h := h0.tcl b g
  cases ht <;> dsimp only [upd]
  all_goals grind only [takePh]

theorem inv0_fc (h0 : Inv0 s) (ht : Trans s e s1) :
    ∀ g, holdsFAny (s1.pc g) = true → s1.claimed g = true := by
  intro g
  have h := h0.fc g
  cases ht <;> dsimp only [upd]
  all_goals grind only [holdsFAny]

theorem inv0_trans (h0 : Inv0 s) (h1 : Inv1 s) (h2 : Inv2 s) (ht : Trans s e s1) : Inv0 s1 :=
  ⟨inv0_dr h0 ht,
   inv0_wfj h0 h1 h2 ht,
   inv0_detx h0 ht,
   inv0_fret h0 ht,
   inv0_cxj h0 ht,
   inv0_cxd h0 ht,
   inv0_cxf h0 ht,
   inv0_cpn h0 ht,
   inv0_scn h0 ht,
   inv0_fxn h0 ht,
   inv0_dst h0 ht,
   inv0_fj h0 ht,
   inv0_ff h0 ht,
   inv0_tcl h0 ht,
   inv0_fc h0 ht⟩

theorem inv1_mb (h1 : Inv1 s) (ht : Trans s e s1) :
    ∀ g, s1.ji g ≠ 0 → parkedIn (s1.pc (s1.ji g)) (s1.ji g) g = true ∧ s1.holder (s1.ji g) = none := by
  intro g
  have h := h1.mb g
  cases ht <;> dsimp only [upd]
  case wakeFin =>
    have hw := h1.hw
    grind only [parkedIn]
  case wakeJoiner =>
    have hf := h1.hf
    grind only [parkedIn]
  case postJoiner | postFin =>
    have hh := h1.hh
    have hw := h1.hw
    have hf := h1.hf
    grind only [holds, parkedIn, → holds_inv]
  case xchgTake | xchgFin =>
    have mb := h1.mb
    grind only [parkedIn, → parkedIn_inv]
  all_goals grind only [parkedIn]

theorem inv1_hw (h1 : Inv1 s) (ht : Trans s e s1) :
    ∀ a op g v p, s1.pc a = .wake op g v p → s1.holder p = some a ∧ parkedIn (s1.pc p) p g = true := by
  intro a op g v p
  have h := h1.hw a op g v p
  cases ht <;> dsimp only [upd]
  case wakeFin =>
    have hw := h1.hw
    grind only [parkedIn]
  case wakeJoiner =>
    have hf := h1.hf
    grind only [parkedIn]
  case xchgTake | xchgFin =>
    have mb := h1.mb
    grind only [parkedIn]
  all_goals grind only [parkedIn]

theorem inv1_hf (h1 : Inv1 s) (ht : Trans s e s1) :
    (∀ a p, s1.pc a = .fGot p → s1.holder p = some a ∧ s1.pc p = .jParked a) ∧ (∀ a p v, s1.pc a = .fGotRes p v → s1.holder p = some a ∧ s1.pc p = .jParked a) ∧ (∀ a p, s1.pc a = .fGave p → s1.holder p = some a ∧ s1.pc p = .jParked a) := by
  have hf := h1.hf
  cases ht <;> dsimp only [upd]
  case xchgTake =>
    have mb := h1.mb
    grind only [parkedIn]
  case xchgFin =>
    have mb := h1.mb
    grind only [parkedIn, → parkedIn_inv]
  all_goals grind only []

theorem inv1_hh (h1 : Inv1 s) (ht : Trans s e s1) :
    ∀ p, s1.holder p = none ∨ ∃ a, s1.holder p = some a ∧ holds (s1.pc a) p = true := by
  intro p
  have h := h1.hh p
  cases ht <;> dsimp only [upd]
  all_goals grind only [holds]

theorem inv1_st (h0 : Inv0 s) (h1 : Inv1 s) (ht : Trans s e s1) :
    ∀ g, stored (s1.pc g) = true → s1.retval g = some (s1.res g) := by
  intro g
  have h := h1.st g
  cases ht <;> dsimp only [upd]
  case stFin =>
    have fret := h0.fret
    grind only [stored]
  case stGive =>
    have hf := h1.hf
    grind only [stored]
  all_goals grind only [stored]

theorem inv1_t0 (h0 : Inv0 s) (h1 : Inv1 s) (ht : Trans s e s1) :
    ∀ a op g, s1.pc a = .take0 op g → finX (s1.pc g) = true := by
  intro a op g
  have h := h1.t0 a op g
  cases ht <;> dsimp only [upd]
  case joinTake =>
    have wfj := h0.wfj
    have cxj := h0.cxj
    have dr := h0.dr
    grind only [finX, parkF, → pf_fx, WFJ, DET, NONE, WTJ]
  case tryTake =>
    have wfj := h0.wfj
    grind only [finX, parkF, → pf_fx, WFJ, DET, NONE, WTJ]
  all_goals grind only [finX]

theorem inv1_tv (h1 : Inv1 s) (ht : Trans s e s1) :
    ∀ a op g v, s1.pc a = .take op g v → op ≠ .detach → s1.retval g = some v := by
  intro a op g v
  have h := h1.tv a op g v
  cases ht <;> dsimp only [upd]
  case ldTake =>
    have st := h1.st
    have t0 := h1.t0
    grind only [finX, stored, → fx_st]
  all_goals grind only []

theorem inv1_wv (h1 : Inv1 s) (ht : Trans s e s1) :
    ∀ a op g v p, s1.pc a = .wake op g v p → op ≠ .detach → s1.retval g = some v := by
  intro a op g v p
  have h := h1.wv a op g v p
  cases ht <;> dsimp only [upd]
  case xchgTake =>
    have tv := h1.tv
    grind only []
  all_goals grind only []

theorem inv1_gr (h1 : Inv1 s) (ht : Trans s e s1) :
    ∀ g p v, s1.pc g = .fGotRes p v → s1.retval g = some v := by
  intro g p v
  have h := h1.gr g p v
  cases ht <;> dsimp only [upd]
  case ldFin =>
    have st := h1.st
    grind only [stored]
  all_goals grind only []

theorem inv1_gv (h1 : Inv1 s) (ht : Trans s e s1) :
    ∀ g p, s1.pc g = .fGave p → s1.retval g = some (s1.res p) := by
  intro g p
  have h := h1.gv g p
  cases ht <;> dsimp only [upd]
  case stFin | stJoiner =>
    have hf := h1.hf
    grind only []
  case stGive =>
    have gr := h1.gr
    have hf := h1.hf
    grind only []
  all_goals grind only []

theorem inv1_dj (h0 : Inv0 s) (h1 : Inv1 s) (ht : Trans s e s1) :
    ∀ g, (s1.pc g = .fWoken ∨ s1.pc g = .fMark ∨ s1.pc g = .fDone) → (s1.claimed g = true ∨ s1.detX g = true) := by
  intro g
  have h := h1.dj g
  cases ht <;> dsimp only [upd]
  case finMark =>
    have detx := h0.detx
    grind only []
  case wakeFin =>
    have tcl := h0.tcl
    have hw := h1.hw
    grind only [takePh, parkedIn]
  case wakeJoiner =>
    have fc := h0.fc
    grind only [holdsFAny]
  all_goals grind only []

theorem inv1_trans (h0 : Inv0 s) (h1 : Inv1 s) (ht : Trans s e s1) : Inv1 s1 :=
  ⟨inv1_mb h1 ht,
   inv1_hw h1 ht,
   inv1_hf h1 ht,
   inv1_hh h1 ht,
   inv1_st h0 h1 ht,
   inv1_t0 h0 h1 ht,
   inv1_tv h1 ht,
   inv1_wv h1 ht,
   inv1_gr h1 ht,
   inv1_gv h1 ht,
   inv1_dj h0 h1 ht⟩

theorem inv2_k3 (h0 : Inv0 s) (h2 : Inv2 s) (ht : Trans s e s1) :
    ∀ g a, claimPath (s1.pc a) g = true → s1.det g ≠ WFJ := by
  intro g a
  have h := h2.k3 g a
  cases ht <;> dsimp only [upd]
  case finPark =>
    have cpn := h0.cpn
    grind only [claimPath, WFJ, DET, WTJ]
  all_goals grind only [claimPath, WFJ, DET, WTJ]

theorem inv2_k6 (h1 : Inv1 s) (h2 : Inv2 s) (ht : Trans s e s1) :
    ∀ g a, postClaim (s1.pc a) g = true → s1.det g = DET := by
  intro g a
  have h := h2.k6 g a
  cases ht <;> dsimp only [upd]
  case wakeJoiner =>
    have k7 := h2.k7
    have hf := h1.hf
    grind only [postClaim, holdsFAny, DET, NONE]
  all_goals grind only [postClaim, DET, NONE]

theorem inv2_k7 (h2 : Inv2 s) (ht : Trans s e s1) :
    ∀ g, holdsFAny (s1.pc g) = true → s1.det g = DET := by
  intro g
  have h := h2.k7 g
  cases ht <;> dsimp only [upd]
  all_goals grind only [holdsFAny, DET, NONE]

theorem inv2_k4 (h2 : Inv2 s) (ht : Trans s e s1) :
    ∀ g, s1.succ g ≠ [] → s1.det g = DET := by
  intro g
  have h := h2.k4 g
  cases ht <;> dsimp only [upd]
  case retOk =>
    have k6 := h2.k6
    grind only [postClaim, DET, NONE]
  all_goals grind only [DET, NONE]

theorem inv2_k5 (h0 : Inv0 s) (h2 : Inv2 s) (ht : Trans s e s1) :
    ∀ g p, joinerPark (s1.pc p) g = true → ((s1.det g = WTJ ∧ finX (s1.pc g) = false) ∨ (s1.det g = DET ∧ finX (s1.pc g) = true)) := by
  intro g p
  have h := h2.k5 g p
  cases ht <;> dsimp only [upd]
  case joinPark =>
    have fxn := h0.fxn
    grind only [finX, joinerPark, WFJ, NONE, WTJ]
  case joinTake =>
    have cxj := h0.cxj
    grind only [finX, joinerPark, WFJ, NONE, WTJ]
  case detDone =>
    have cxd := h0.cxd
    grind only [finX, joinerPark, WFJ, NONE, WTJ]
  all_goals grind only [finX, joinerPark, WFJ, NONE, WTJ]

theorem inv2_wtj (h0 : Inv0 s) (h2 : Inv2 s) (ht : Trans s e s1) :
    ∀ g, s1.det g = WTJ → finX (s1.pc g) = false := by
  intro g
  have h := h2.wtj g
  cases ht <;> dsimp only [upd]
  case joinPark =>
    have fxn := h0.fxn
    grind only [finX, WFJ, DET, WTJ]
  all_goals grind only [finX, WFJ, DET, WTJ]

theorem inv2_uq (h0 : Inv0 s) (h2 : Inv2 s) (ht : Trans s e s1) :
    ∀ g a a', claimPath (s1.pc a) g = true → claimPath (s1.pc a') g = true → a = a' := by
  intro g a a'
  have h := h2.uq g a a'
  cases ht <;> dsimp only [upd]
  case joinPark =>
    have cpn := h0.cpn
    grind only [claimPath, WFJ, DET, NONE, WTJ]
  case joinTake =>
    have k3 := h2.k3
    have cxj := h0.cxj
    have dr := h0.dr
    grind only [claimPath, WFJ, DET, NONE, WTJ]
  case tryTake | detTake =>
    have k3 := h2.k3
    grind only [claimPath, WFJ, DET, NONE, WTJ]
  all_goals grind only [claimPath]

theorem inv2_sq (h0 : Inv0 s) (h2 : Inv2 s) (ht : Trans s e s1) :
    ∀ g a, s1.succ g ≠ [] → claimPath (s1.pc a) g = false := by
  intro g a
  have h := h2.sq g a
  cases ht <;> dsimp only [upd]
  case retOk =>
    have uq := h2.uq
    grind only [claimPath]
  case joinPark | tryTake | detTake =>
    have k4 := h2.k4
    grind only [claimPath, WFJ, DET, NONE]
  case joinTake =>
    have k4 := h2.k4
    have cxj := h0.cxj
    grind only [claimPath, WFJ, DET, NONE]
  all_goals grind only [claimPath]

theorem inv2_sl (h2 : Inv2 s) (ht : Trans s e s1) :
    ∀ g, (s1.succ g).length ≤ 1 := by
  intro g
  have h := h2.sl g
  cases ht <;> dsimp only [upd]
  case retOk =>
    have sq := h2.sq
    grind only [claimPath, List.length_cons, List.length_nil]
  all_goals grind only [List.length_cons, List.length_nil]

theorem inv2_cv1 (h1 : Inv1 s) (h2 : Inv2 s) (ht : Trans s e s1) :
    ∀ g p, s1.pc p = .jWoken g → s1.retval g = some (s1.res p) := by
  intro g p
  have h := h2.cv1 g p
  cases ht <;> dsimp only [upd]
  case wakeJoiner =>
    have gv := h1.gv
    have hf := h1.hf
    grind only []
  case stGive =>
    have hf := h1.hf
    grind only []
  all_goals grind only []

theorem inv2_cv2 (h2 : Inv2 s) (ht : Trans s e s1) :
    ∀ g p v, s1.pc p = .jGotRes g v → s1.retval g = some v := by
  intro g p v
  have h := h2.cv2 g p v
  cases ht <;> dsimp only [upd]
  case ldJoiner =>
    have cv1 := h2.cv1
    grind only []
  all_goals grind only []

theorem inv2_cv3 (h1 : Inv1 s) (h2 : Inv2 s) (ht : Trans s e s1) :
    ∀ g a op v, s1.pc a = .retn op g true v → op ≠ .detach → s1.retval g = some v := by
  intro g a op v
  have h := h2.cv3 g a op v
  cases ht <;> dsimp only [upd]
  case wakeFin =>
    have wv := h1.wv
    grind only []
  case stJoiner =>
    have cv2 := h2.cv2
    grind only []
  all_goals grind only []

theorem inv2_sv (h2 : Inv2 s) (ht : Trans s e s1) :
    ∀ g v, v ∈ s1.succ g → s1.retval g = some v := by
  intro g v
  have h := h2.sv g v
  cases ht <;> dsimp only [upd]
  case retOk =>
    have cv3 := h2.cv3
    grind only [List.mem_cons]
  all_goals grind only [List.mem_cons]

theorem inv2_c1 (h0 : Inv0 s) (h1 : Inv1 s) (h2 : Inv2 s) (ht : Trans s e s1) :
    ∀ g b, takePh (s1.pc b) g = true → parkF (s1.pc g) = true := by
  intro g b
  have h := h2.c1 g b
  cases ht <;> dsimp only [upd]
  case joinTake =>
    have wfj := h0.wfj
    have cxj := h0.cxj
    have dr := h0.dr
    grind only [parkF, takePh, WFJ, DET, NONE, WTJ]
  case tryTake | detTake =>
    have wfj := h0.wfj
    grind only [parkF, takePh, WFJ, DET, NONE, WTJ]
  case wakeFin =>
    have uq := h2.uq
    have hw := h1.hw
    grind only [parkF, takePh, claimPath, parkedIn, → tp_cp]
  all_goals grind only [parkF, takePh]

theorem inv2_c9 (h1 : Inv1 s) (h2 : Inv2 s) (ht : Trans s e s1) :
    ∀ g, s1.det g = WTJ → (s1.first g ≠ none ∧ ∀ p, s1.first g = some p → joinerPark (s1.pc p) g = true) := by
  intro g
  have h := h2.c9 g
  cases ht <;> dsimp only [upd]
  case wakeJoiner =>
    have hf := h1.hf
    have k5 := h2.k5
    grind only [finX, joinerPark, WFJ, DET, WTJ]
  all_goals grind only [joinerPark, WFJ, DET, WTJ]

theorem inv2_ii (h0 : Inv0 s) (h1 : Inv1 s) (h2 : Inv2 s) (ht : Trans s e s1) :
    ∀ g, s1.pc g = .fTake → (s1.first g ≠ none ∧ ∀ p, s1.first g = some p → joinerPark (s1.pc p) g = true) := by
  intro g
  have h := h2.ii g
  cases ht <;> dsimp only [upd]
  case finTake =>
    have c9 := h2.c9
    have wfj := h0.wfj
    have cxf := h0.cxf
    have dr := h0.dr
    grind only [parkF, joinerPark, WFJ, DET, NONE, WTJ]
  case wakeJoiner =>
    have hf := h1.hf
    grind only [joinerPark]
  all_goals grind only [joinerPark]

theorem inv2_iii (h0 : Inv0 s) (h1 : Inv1 s) (h2 : Inv2 s) (ht : Trans s e s1) :
    ∀ g p, joinerPark (s1.pc p) g = true → finX (s1.pc g) = true → delivering (s1.pc g) p = true := by
  intro g p
  have h := h2.iii g p
  cases ht <;> dsimp only [upd]
  case joinPark =>
    have fxn := h0.fxn
    grind only [finX, joinerPark, delivering, DET, NONE, WTJ]
  case finPark | finMark =>
    have k5 := h2.k5
    grind only [finX, joinerPark, delivering, DET, NONE, WTJ]
  case xchgFin =>
    have mb := h1.mb
    have uq := h2.uq
    grind only [finX, joinerPark, claimPath, parkedIn, delivering, → jpk_jp, → jp_cp, → parkedIn_inv]
  all_goals grind only [finX, joinerPark, delivering]

theorem inv2_iv (h1 : Inv1 s) (h2 : Inv2 s) (ht : Trans s e s1) :
    ∀ g, parkF (s1.pc g) = true → s1.det g ≠ WFJ → (s1.taker g ≠ none ∧ ∀ b, s1.taker g = some b → takePh (s1.pc b) g = true) := by
  intro g
  have h := h2.iv g
  cases ht <;> dsimp only [upd]
  case wakeFin =>
    have hw := h1.hw
    grind only [parkF, takePh, parkedIn, WFJ, NONE]
  all_goals grind only [parkF, takePh, WFJ, NONE]

theorem inv2_t4 (h2 : Inv2 s) (ht : Trans s e s1) :
    ∀ g, s1.detX g = true → s1.det g = DET := by
  intro g
  have h := h2.t4 g
  cases ht <;> dsimp only [upd]
  all_goals grind only [DET, NONE]

theorem inv2_dx1 (h0 : Inv0 s) (h2 : Inv2 s) (ht : Trans s e s1) :
    ∀ g, s1.detX g = true → s1.succ g = [] := by
  intro g
  have h := h2.dx1 g
  cases ht <;> dsimp only [upd]
  case retOk =>
    have dx2 := h2.dx2
    grind only [claimPath, detTake, WFJ, DET, NONE]
  case detTake =>
    have k4 := h2.k4
    grind only [WFJ, DET, NONE]
  case detDone =>
    have k4 := h2.k4
    have cxd := h0.cxd
    grind only [WFJ, DET, NONE]
  all_goals grind only [WFJ, DET, NONE]

theorem inv2_dx2 (h0 : Inv0 s) (h2 : Inv2 s) (ht : Trans s e s1) :
    ∀ g a, s1.detX g = true → claimPath (s1.pc a) g = true → detTake (s1.pc a) g = true := by
  intro g a
  have h := h2.dx2 g a
  cases ht <;> dsimp only [upd]
  case joinPark | tryTake =>
    have t4 := h2.t4
    grind only [claimPath, detTake, WFJ, DET, NONE, WTJ]
  case joinTake =>
    have t4 := h2.t4
    have cxj := h0.cxj
    grind only [claimPath, detTake, WFJ, DET, NONE, WTJ]
  case detTake =>
    have k3 := h2.k3
    grind only [claimPath, detTake, WFJ, DET, NONE, WTJ]
  case detDone =>
    have cpn := h0.cpn
    have cxd := h0.cxd
    have dr := h0.dr
    grind only [claimPath, detTake, WFJ, DET, NONE, WTJ]
  case wakeFin | xchgTake =>
    grind only [claimPath, detTake, → detTake_inv, WFJ, DET, NONE, WTJ]
  all_goals grind only [claimPath, detTake, WFJ, DET, NONE, WTJ]

theorem inv2_trans (h0 : Inv0 s) (h1 : Inv1 s) (h2 : Inv2 s) (ht : Trans s e s1) : Inv2 s1 :=
  ⟨inv2_k3 h0 h2 ht,
   inv2_k6 h1 h2 ht,
   inv2_k7 h2 ht,
   inv2_k4 h2 ht,
   inv2_k5 h0 h2 ht,
   inv2_wtj h0 h2 ht,
   inv2_uq h0 h2 ht,
   inv2_sq h0 h2 ht,
   inv2_sl h2 ht,
   inv2_cv1 h1 h2 ht,
   inv2_cv2 h2 ht,
   inv2_cv3 h1 h2 ht,
   inv2_sv h2 ht,
   inv2_c1 h0 h1 h2 ht,
   inv2_c9 h1 h2 ht,
   inv2_ii h0 h1 h2 ht,
   inv2_iii h0 h1 h2 ht,
   inv2_iv h1 h2 ht,
   inv2_t4 h2 ht,
   inv2_dx1 h0 h2 ht,
   inv2_dx2 h0 h2 ht⟩

theorem Trans.late (ht : Trans s e s1) : s1.late = s.late := by
  cases ht <;> rfl

theorem Trans.destroyed (ht : Trans s e s1) (hcnt : e.counted = true) : s1.destroyed = s.destroyed := by
  cases ht
  case destroy => cases hcnt
  all_goals rfl

/-- a counted (post-swap) access never hits a destroyed fiber -/
theorem Trans.no_late (h0 : Inv0 s) (h1 : Inv1 s) (h2 : Inv2 s) (ht : Trans s e s1) (hcnt : e.counted = true)
    (hd : s.destroyed e.cellOf = true) : False := by
  have dst := h0.dst
  have c1 := h2.c1
  have iii : ∀ g p, s.pc p = .jParking g → finX (s.pc g) = true → delivering (s.pc g) p = true :=
    fun g p hp => h2.iii g p (by simp [hp])
  have hw := h1.hw
  have hf := h1.hf
  cases ht <;> simp only [Ev.counted, Bool.false_eq_true] at hcnt <;> dsimp only [Ev.cellOf] at hd <;>
    grind only [takePh, parkF, finX, delivering, parkedIn]

theorem Stay.no_late (h0 : Inv0 s) (h2 : Inv2 s) (ht : Stay s e) (hcnt : e.counted = true)
    (hd : s.destroyed e.cellOf = true) : False := by
  cases ht
  case touch => cases hcnt
  case xchgNone a g hp hj =>
    have := h0.dst g hd
    have := h2.c1 g a
    grind only [takePh, parkF]

theorem inv0_late {s : St} (l : Nat → Nat) (h : Inv0 s) : Inv0 { s with late := l } := by
  cases h; constructor <;> assumption
theorem inv1_late {s : St} (l : Nat → Nat) (h : Inv1 s) : Inv1 { s with late := l } := by
  cases h; constructor <;> assumption
theorem inv2_late {s : St} (l : Nat → Nat) (h : Inv2 s) : Inv2 { s with late := l } := by
  cases h; constructor <;> assumption

theorem inv_init (isT : Nat → Bool) : Inv (init isT) := by
  refine ⟨?_, ?_, ?_, ?_⟩
  · constructor <;> intros <;> simp_all [init, DET, NONE, WFJ] <;> grind
  · constructor <;> intros <;> simp_all [init, DET, NONE]
  · constructor <;> intros <;> simp_all [init, DET, NONE, WTJ] <;> grind
  · intro g; rfl

theorem inv_step (isT : Nat → Bool) (s : St) (e : Ev) (s' : St) (hI : Inv s)
    (h : (sys isT).step s e = some s') : Inv s' := by
  obtain ⟨s1, hc, rfl⟩ := step_some h
  obtain ⟨h0, h1, h2, h3⟩ := hI
  -- `late` stays as it is: the step's own access is counted only if it hits a destroyed fiber
  have hl : s1.late = s.late ∧ ¬(e.counted = true ∧ s1.destroyed e.cellOf = true) := by
    rcases stepCore_trans hc with ht | ⟨hs, rfl⟩
    · exact ⟨ht.late, fun hcd => ht.no_late h0 h1 h2 hcd.1 (ht.destroyed hcd.1 ▸ hcd.2)⟩
    · exact ⟨rfl, fun hcd => hs.no_late h0 h2 hcd.1 hcd.2⟩
  have h3' : Inv3 { s1 with late := if e.counted ∧ s1.destroyed e.cellOf then upd s1.late e.cellOf (s1.late e.cellOf + 1) else s1.late } := by
    intro g
    show (if e.counted = true ∧ s1.destroyed e.cellOf = true then _ else s1.late) g = 0
    rw [if_neg hl.2, hl.1]
    exact h3 g
  rcases stepCore_trans hc with ht | ⟨_, rfl⟩
  · exact ⟨inv0_late _ (inv0_trans h0 h1 h2 ht), inv1_late _ (inv1_trans h0 h1 ht), inv2_late _ (inv2_trans h0 h1 h2 ht), h3'⟩
  · exact ⟨inv0_late _ h0, inv1_late _ h1, inv2_late _ h2, h3'⟩

theorem inv_of_run {isT : Nat → Bool} {es : List Ev} {s : St} (h : (sys isT).run es = some s) : Inv s :=
  Sys.inv_of_run (sys isT) Inv (inv_init isT) (inv_step isT) h

end LibfiberVerif.JoinCas
