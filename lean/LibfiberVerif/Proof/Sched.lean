/-
  Proof/Sched.lean — fairness of fiber_yield on one kernel thread (property C10).

  * `step_*`, `Popped` : what an accepted event does, once per event; `Popped` is
                  fiber_scheduler_next as a relation on the two deques (shared with Proof/SchedN).
  * `rank f s`  : a measure on states in which `f` is queued that every context switch to
                  another fiber strictly decreases (storeTo variant) — bounded bypass.
                  `rank_pop` is the list-level fact behind it, also used for N threads.
  * `Wf`        : no fiber is queued twice, the running fiber is not queued (both variants).
  * `credit g f s` : how often `g` can still be switched to before `f` is (≤ 2).
  * `pingpong`  : the starvation trace of the scheduleFrom variant.
-/
import LibfiberVerif.Model.Sched

namespace LibfiberVerif.Sched

/-- `f` is ready: it sits in one of the two run queues of the thread. -/
def Queued (f : Nat) (s : St) : Prop := f ∈ s.frm ∨ f ∈ s.to

instance (f : Nat) (s : St) : Decidable (Queued f s) := by unfold Queued; infer_instance

/-- index of the first occurrence of `f` (= number of entries popped before it) -/
def pos (f : Nat) : List Nat → Nat
  | [] => 0
  | x :: xs => if x = f then 0 else pos f xs + 1

/-- The bypass measure: the number of pops before `f` in `schedule_from`; for a fiber in
    `store_to`, the `|frm|` pops until the swap, the up to `|frm|` re-queued yielders that land
    in front of it, and the entries already in front of it. -/
def rank (f : Nat) (s : St) : Nat :=
  if f ∈ s.frm then pos f s.frm else 2 * s.frm.length + pos f s.to

def isSwitch : Ev → Bool
  | .switch _ => true
  | _ => false

def isSched : Ev → Bool
  | .sched _ => true
  | _ => false

def switches (es : List Ev) : Nat := es.countP isSwitch

/-- number of `sched` events (newly created fibers) in an event list -/
def scheds (es : List Ev) : Nat := es.countP isSched

theorem pos_lt_length {f : Nat} {l : List Nat} (h : f ∈ l) : pos f l < l.length := by
  induction l with
  | nil => simp at h
  | cons x xs ih =>
    simp only [pos, List.length_cons]
    split
    · omega
    · have := ih (by grind)
      omega

theorem pos_append_of_mem {f : Nat} {r : List Nat} (t : List Nat) (h : f ∈ r) :
    pos f (r ++ t) = pos f r := by
  induction r with
  | nil => simp at h
  | cons x r ih =>
    simp only [List.cons_append, pos]
    split
    · rfl
    · rw [ih (by grind)]

theorem pos_append_of_not_mem {f : Nat} {c : List Nat} (l : List Nat) (h : f ∉ c) :
    pos f (c ++ l) = c.length + pos f l := by
  induction c with
  | nil => simp
  | cons x c ih =>
    simp only [List.mem_cons, not_or] at h
    simp only [List.cons_append, pos, if_neg (Ne.symm h.1), ih h.2, List.length_cons]
    omega

theorem pos_append_le (f : Nat) (c l : List Nat) : pos f (c ++ l) ≤ c.length + pos f l := by
  induction c with
  | nil => simp
  | cons x c ih => simp only [List.cons_append, pos, List.length_cons]; split <;> omega

theorem rank_lt {f : Nat} {s : St} (h : Queued f s) :
    rank f s < 2 * s.frm.length + s.to.length := by
  unfold rank
  split
  · have := pos_lt_length ‹_›
    omega
  · have := pos_lt_length (h.resolve_left ‹_›)
    omega

def Popped (frm to : List Nat) (g : Nat) (frm' to' : List Nat) : Prop :=
  (frm = g :: frm' ∧ to' = to) ∨ (frm = [] ∧ to = g :: frm' ∧ to' = [])

theorem Popped.append_eq {frm to frm' to' : List Nat} {g : Nat} (h : Popped frm to g frm' to') :
    frm ++ to = g :: (frm' ++ to') := by
  rcases h with ⟨rfl, rfl⟩ | ⟨rfl, rfl, rfl⟩ <;> simp

theorem next_some {s s1 : St} {g : Nat} (h : next s = (some g, s1)) :
    Popped s.frm s.to g s1.frm s1.to ∧ s1.cur = s.cur ∧ s1.phase = s.phase := by
  obtain ⟨frm, to, cur, ph⟩ := s
  cases frm <;> cases to <;> simp [next] at h <;> obtain ⟨rfl, rfl⟩ := h <;> simp [Popped]

theorem next_none {s s1 : St} (h : next s = (none, s1)) : s.frm = [] ∧ s.to = [] ∧ s1 = s := by
  obtain ⟨frm, to, cur, ph⟩ := s
  cases frm <;> cases to <;> simp [next] at h <;> simp [h]

/-- What an accepted event does.  `yield`, `finish`, `resumed` only change the phase, and never
    out of `ending`; `ys` is the yielder, re-queued by its successor (nothing when the previous
    fiber has finished). -/
inductive Step (tgt : Target) (s : St) : Ev → St → Prop
  | sched {f : Nat} : f ≠ s.cur → f ∉ s.frm → f ∉ s.to → Step tgt s (.sched f) (push tgt s f)
  | switch {g : Nat} {frm' to' ys : List Nat} : Popped s.frm s.to g frm' to' →
      ((s.phase = .yielding ∧ ys = [s.cur]) ∨ (s.phase = .ending ∧ ys = [])) →
      Step tgt s (.switch g) (match (generalizing := false) tgt with
        | .storeTo => ⟨frm', ys ++ to', g, .running⟩
        | .scheduleFrom => ⟨ys ++ frm', to', g, .running⟩)
  | quiet {e : Ev} {ph : Phase} : isSwitch e = false → isSched e = false →
      (ph ≠ .ending → s.phase ≠ .ending) → Step tgt s e { s with phase := ph }

theorem Step.of_step {tgt : Target} {s s' : St} {e : Ev} (h : step tgt s e = some s') :
    Step tgt s e s' := by
  cases e <;> simp only [step] at h
  case sched f =>
    split at h <;> cases h
    exact .sched (by grind) (by grind) (by grind)
  case yield f => split at h <;> cases h; exact .quiet rfl rfl (by grind)
  case finish f => split at h <;> cases h; exact .quiet rfl rfl (by grind)
  case resumed f =>
    obtain ⟨frm, to, cur, ph⟩ := s
    split at h
    · cases h
    · split at h
      · cases h; exact .quiet rfl rfl id
      · split at h
        · obtain ⟨_, _, rfl⟩ := next_none ‹_›
          cases h; exact .quiet rfl rfl (by simp_all)
        · cases h
      · cases h
  case switch g =>
    split at h
    · cases h
    · split at h
      · split at h <;> cases h
        obtain ⟨hp, _, _⟩ := next_some ‹_›
        subst_vars
        have := Step.switch (tgt := tgt) hp (Or.inl ⟨‹_›, rfl⟩)
        cases tgt <;> exact this
      · cases h
    · split at h
      · split at h <;> cases h
        obtain ⟨hp, _, _⟩ := next_some ‹_›
        subst_vars
        have := Step.switch (tgt := tgt) hp (Or.inr ⟨‹_›, rfl⟩)
        cases tgt <;> exact this
      · cases h

/-- `fiber_scheduler_next` pops another fiber `g` and at most one fiber (`ys`: the re-queued
    yielder) is pushed onto `store_to`: a queued `f` stays queued and loses at least one unit of
    rank. -/
theorem rank_pop {f g : Nat} {s s' : St} {frm' to' ys : List Nat}
    (hp : Popped s.frm s.to g frm' to') (hgf : g ≠ f) (hq : Queued f s) (hlen : ys.length ≤ 1)
    (hf : s'.frm = frm') (ht : s'.to = ys ++ to') :
    Queued f s' ∧ rank f s' + 1 ≤ rank f s := by
  have hle := pos_append_le f ys to'
  simp only [Queued, rank, hf, ht] at hq ⊢
  rcases hp with ⟨h1, rfl⟩ | ⟨h1, h2, rfl⟩
  · by_cases hf' : f ∈ frm'
    · simp [h1, hf', pos, hgf]
    · have hft : f ∈ s.to := by simpa [h1, Ne.symm hgf, hf'] using hq
      simp only [h1, hf', List.mem_cons, Ne.symm hgf, or_self, if_false, List.length_cons,
        List.mem_append, hft, or_true, true_and]
      omega
  · have hf' : f ∈ frm' := by simpa [h1, h2, Ne.symm hgf] using hq
    simp [h1, h2, hf', pos, hgf]

/-- One step of the `storeTo` scheduler, seen from a queued fiber `f` that is not the one
    switched to: `f` stays queued; a `switch` costs at least one unit of rank, a `sched`
    adds at most one, everything else leaves it alone. -/
theorem rank_step {f : Nat} {s s' : St} {e : Ev} (hq : Queued f s)
    (h : step .storeTo s e = some s') (hne : e ≠ .switch f) :
    Queued f s' ∧
      rank f s' + (if isSwitch e then 1 else 0) ≤ rank f s + (if isSched e then 1 else 0) := by
  cases Step.of_step h with
  | @sched g _ _ _ =>
    have := pos_append_le f [g] s.to
    simp only [Queued, rank, push, isSwitch, isSched, List.mem_cons] at hq ⊢
    refine ⟨hq.imp_right Or.inr, ?_⟩
    split <;> simp_all <;> omega
  | quiet h1 h2 _ => exact ⟨hq, by simp [h1, h2, rank]⟩
  | @switch g frm' to' ys hp hys =>
    have hlen : ys.length ≤ 1 := by rcases hys with ⟨_, rfl⟩ | ⟨_, rfl⟩ <;> simp
    simpa [isSwitch, isSched] using rank_pop hp (fun e => hne (e ▸ rfl)) hq hlen rfl rfl

theorem rank_run {f : Nat} : ∀ (es : List Ev) (s s' : St), Queued f s →
    (sys .storeTo).runFrom s es = some s' → (∀ e ∈ es, e ≠ .switch f) →
    Queued f s' ∧ rank f s' + switches es ≤ rank f s + scheds es
  | [], s, s', hq, h, _ => by cases Sys.runFrom_nil_some.mp h; exact ⟨hq, Nat.le_refl _⟩
  | e :: es, s, s', hq, h, hne => by
    obtain ⟨s1, hst, h⟩ := Sys.runFrom_cons_some.mp h
    have h1 := rank_step hq hst (hne e (by simp))
    have h2 := rank_run es s1 s' h1.1 h (fun e' he' => hne e' (by simp [he']))
    refine ⟨h2.1, ?_⟩
    simp only [switches, scheds, List.countP_cons] at h2 ⊢
    omega

/-! ### well-formedness: nothing is queued twice, the running fiber is not queued -/

structure Wf (s : St) : Prop where
  nodup : (s.frm ++ s.to).Nodup
  cur : s.cur ∉ s.frm ∧ s.cur ∉ s.to

theorem wf_init : Wf init := by
  constructor <;> simp [init]

theorem wf_step (tgt : Target) {s s' : St} {e : Ev} (hw : Wf s) (h : step tgt s e = some s') :
    Wf s' := by
  obtain ⟨hn, hc1, hc2⟩ := hw
  cases Step.of_step h with
  | sched _ _ _ => cases tgt <;> constructor <;> simp [push] <;> grind
  | quiet => exact ⟨hn, hc1, hc2⟩
  | @switch g frm' to' ys hp hys =>
    rw [hp.append_eq] at hn
    have hm : ∀ x, x ∈ s.frm ∨ x ∈ s.to ↔ x = g ∨ x ∈ frm' ∨ x ∈ to' := by
      intro x; rw [← List.mem_append, hp.append_eq]; simp
    rcases hys with ⟨_, rfl⟩ | ⟨_, rfl⟩ <;> cases tgt <;> constructor <;> simp <;> grind

theorem wf_of_run (tgt : Target) {es : List Ev} {s : St} (h : (sys tgt).run es = some s) :
    Wf s :=
  Sys.inv_of_run (sys tgt) Wf wf_init (fun _ _ _ hi hs => wf_step tgt hi hs) h

theorem wf_runFrom (tgt : Target) : ∀ (es : List Ev) (s s' : St), Wf s →
    (sys tgt).runFrom s es = some s' → Wf s' := by
  intro es s s' hw h
  exact Sys.runFrom_inv Wf (fun _ => True) (fun _ _ _ hi _ hs => wf_step tgt hi hs) es s s' hw h
    (fun _ _ => trivial)

theorem Popped.mem_iff {frm to frm' to' : List Nat} {g : Nat} (h : Popped frm to g frm' to')
    (x : Nat) : x ∈ frm ∨ x ∈ to ↔ x = g ∨ x ∈ frm' ∨ x ∈ to' := by
  rw [← List.mem_append, h.append_eq]; simp

theorem queued_step (tgt : Target) {f : Nat} {s s' : St} {e : Ev} (hq : Queued f s)
    (h : step tgt s e = some s') (hne : e ≠ .switch f) : Queued f s' := by
  cases Step.of_step h with
  | sched _ _ _ => cases tgt <;> simp only [Queued, push, List.mem_cons] <;> grind [Queued]
  | quiet => exact hq
  | @switch g frm' to' ys hp _ =>
    have hm := (hp.mem_iff f).mp hq
    have hgf : f ≠ g := fun e => hne (e ▸ rfl)
    cases tgt <;> simp only [Queued, List.mem_append] <;> grind

theorem queued_run (tgt : Target) {f : Nat} : ∀ (es : List Ev) (s s' : St), Queued f s →
    (sys tgt).runFrom s es = some s' → (∀ e ∈ es, e ≠ .switch f) → Queued f s' :=
  Sys.runFrom_inv (Queued f) (· ≠ Ev.switch f) (fun _ _ _ hq hne h => queued_step tgt hq h hne)

/-! ### per-fiber bound: while `f` waits, any other fiber runs at most twice -/

/-- 1 if `g` occurs in `l` before the first `f`, else 0 -/
def bef (g f : Nat) : List Nat → Nat
  | [] => 0
  | x :: xs => if x = f then 0 else if x = g then 1 else bef g f xs

/-- How many more times `g` can be switched to before `f` is:
    `f` in `schedule_from`: once if `g` is in front of it;
    `f` in `store_to`: twice if `g` is still in `schedule_from` (now, and again after it is
    re-queued in front of `f`), once if it is in front of `f` in `store_to` or is the running
    fiber (which will be re-queued in front of `f`);
    `f` not queued (it runs): everybody else may still get 2 turns. -/
def credit (g f : Nat) (s : St) : Nat :=
  if f ∈ s.frm then bef g f s.frm
  else if f ∈ s.to then (if g ∈ s.frm then 2 else 0) + bef g f s.to +
       (if g = s.cur ∧ s.phase ≠ .ending then 1 else 0)
  else 2

/-- `f` is still in the game: ready, or running and not finished. -/
def Alive (f : Nat) (s : St) : Prop := Queued f s ∨ (s.cur = f ∧ s.phase ≠ .ending)

theorem bef_le_one (g f : Nat) (l : List Nat) : bef g f l ≤ 1 := by
  induction l with
  | nil => simp [bef]
  | cons x xs ih => simp only [bef]; split <;> (try split) <;> omega

theorem bef_of_not_mem {g f : Nat} {l : List Nat} (h : g ∉ l) : bef g f l = 0 := by
  induction l with
  | nil => rfl
  | cons x xs ih =>
    simp only [List.mem_cons, not_or] at h
    simp only [bef, if_neg (Ne.symm h.1), ih h.2, ite_self]

theorem credit_le_two {g f : Nat} {s : St} (hw : Wf s) : credit g f s ≤ 2 := by
  obtain ⟨hn, hc1, hc2⟩ := hw
  have hb1 := bef_le_one g f s.frm
  have hb2 := bef_le_one g f s.to
  simp only [credit]
  split
  · omega
  split
  · by_cases hg : g ∈ s.frm
    · have h1 : g ∉ s.to := by grind
      have h2 : g ≠ s.cur := by grind
      simp [hg, bef_of_not_mem h1, h2]
    · simp [hg]; split <;> omega
  · omega

/-- One step seen from `f`, still there afterwards, and another fiber `g`: a switch to `g`
    consumes one unit of `g`'s credit, nothing else (short of a `sched` or `switch f`) increases
    it. -/
theorem credit_step {g f : Nat} {s s' : St} {e : Ev} (hw : Wf s) (ha' : Alive f s')
    (hgf : g ≠ f) (h : step .storeTo s e = some s') (hne : e ≠ .switch f)
    (hns : isSched e = false) :
    credit g f s' + (if e = .switch g then 1 else 0) ≤ credit g f s := by
  obtain ⟨hn, hc1, hc2⟩ := hw
  cases Step.of_step h with
  | sched => simp [isSched] at hns
  | quiet h1 _ hph =>
    have : e ≠ .switch g := by rintro rfl; simp [isSwitch] at h1
    simp only [credit, this, if_false]
    grind
  | @switch h' frm' to' ys hp hys =>
    obtain ⟨frm, to, cur, ph⟩ := s
    have hhf : h' ≠ f := fun e => hne (e ▸ rfl)
    have hb := @bef_of_not_mem g f
    -- `h'` is popped and the yielder `cur`, if there is one, lands in front of `f` in `store_to`.
    -- If `h' = g`: `g` leaves the place it was counted in (worth 1 in front of `f`, 2 in
    -- `schedule_from` when `f` waits in `store_to`) and is counted once more as the running
    -- fiber; by `Wf` it is nowhere else.  If `h' ≠ g`: the only new entry in front of `f` is
    -- `cur`, which was counted as the running fiber.
    rcases hp with ⟨rfl, rfl⟩ | ⟨rfl, rfl, rfl⟩ <;> rcases hys with ⟨rfl, rfl⟩ | ⟨rfl, rfl⟩ <;>
      simp only [Alive, Queued, credit, bef, Ev.switch.injEq, List.cons_append, List.nil_append]
        at hn hc1 hc2 ha' ⊢ <;>
      grind

/-! ### the `scheduleFrom` variant: two fibers ping-pong, the others starve -/

/-- main fiber 0 has created fibers 3, 2, 1 (in that order) -/
def ppStart : List Ev := [.sched 3, .sched 2, .sched 1]

def ppState : St := { frm := [1, 2, 3], to := [], cur := 0, phase := .running }

/-- 0 yields to 1, 1 yields back to 0 -/
def ppCycle : List Ev :=
  [.yield 0, .switch 1, .resumed 1, .yield 1, .switch 0, .resumed 0]

def pingpong (k : Nat) : List Ev := rep ppCycle k

theorem ppStart_run : (sys .scheduleFrom).run ppStart = some ppState := by decide

theorem ppCycle_run : (sys .scheduleFrom).runFrom ppState ppCycle = some ppState := by decide

theorem pingpong_run (k : Nat) :
    (sys .scheduleFrom).runFrom ppState (pingpong k) = some ppState := by
  obtain ⟨_, h, rfl, _⟩ := Sys.runFrom_rep (· = ppState) (fun _ _ => True) (fun _ => trivial)
    (fun _ _ _ _ _ _ _ => trivial) (fun _ hs => by cases hs; exact ⟨_, ppCycle_run, rfl, trivial⟩)
    k ppState rfl
  exact h

theorem ppCycle_props : ∀ e ∈ ppCycle, isSched e = false ∧ e ≠ .switch 3 := by decide

/-! ### between two consecutive runs of `f` -/

theorem switch_queued {tgt : Target} {g : Nat} {s s' : St}
    (h : step tgt s (.switch g) = some s') : Queued g s := by
  cases Step.of_step h with
  | switch hp _ => exact (hp.mem_iff g).mpr (Or.inl rfl)
  | quiet h1 => cases h1

/-- Without `sched`, a fiber that finished (or never existed) does not come back. -/
theorem dead_step {f : Nat} {s s' : St} {e : Ev} (hd : ¬ Alive f s)
    (h : step .storeTo s e = some s') (hns : isSched e = false) : ¬ Alive f s' := by
  cases Step.of_step h with
  | sched => simp [isSched] at hns
  | quiet _ _ hph => grind [Alive, Queued]
  | @switch g frm' to' ys hp hys =>
    have hm := hp.mem_iff f
    simp only [Alive, Queued, List.mem_append] at hd ⊢
    grind

theorem credit_run {g f : Nat} (hgf : g ≠ f) : ∀ (es : List Ev) (s s' : St), Wf s →
    (sys .storeTo).runFrom s es = some s' → Alive f s' →
    (∀ e ∈ es, e ≠ .switch f) → (∀ e ∈ es, isSched e = false) →
    credit g f s' + es.count (.switch g) ≤ credit g f s
  | [], s, s', _, h, _, _, _ => by cases Sys.runFrom_nil_some.mp h; exact Nat.le_refl _
  | e :: es, s, s', hw, h, ha', hne, hns => by
    obtain ⟨s1, hst, h⟩ := Sys.runFrom_cons_some.mp h
    have hns' : ∀ e' ∈ es, isSched e' = false := fun e' he' => hns e' (by simp [he'])
    -- a fiber that is gone does not come back, and `f` is there in the end
    have ha1 : Alive f s1 := Classical.byContradiction fun hd =>
      Sys.runFrom_inv (¬ Alive f ·) _ (fun _ _ _ hd hns h => dead_step hd h hns) es s1 s' hd h hns' ha'
    have h1 := credit_step hw ha1 hgf hst (hne e (by simp)) (hns e (by simp))
    have h2 := credit_run hgf es s1 s' (wf_step _ hw hst) h ha'
      (fun e' he' => hne e' (by simp [he'])) hns'
    simp only [List.count_cons, beq_iff_eq]
    omega

end LibfiberVerif.Sched
