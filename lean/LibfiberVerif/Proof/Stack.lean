/-
  Proof/Stack.lean — the inductive invariant of Model/Stack.lean (mpmc_stack.h) and its
  preservation by every step, for any number of threads and nodes.

  Why the single-word CAS push is ABA-safe here: a pusher only needs "my node's `next` is
  the head at the CAS instant".  It wrote `next := h` into a node only it owns, and the CAS
  succeeds iff `head = h` right now — whatever happened to `h` in between (flushed, walked,
  pushed again), `h` IS the current top, so consing is correct.  Removal is only ever
  "take everything" by an atomic exchange, which cannot be fooled by a stale pointer.
  The reversal and the walk run on nodes the flusher owns exclusively.
-/
import LibfiberVerif.Model.Stack
import LibfiberVerif.Proof.NodeList

namespace LibfiberVerif.Stack
open NodeList

/-- in-place reversal, loop invariant: `todo` hangs off `hd`, `done` hangs off `acc`, all
    nodes are the flusher's, and un-reversing gives the list to hand out -/
structure RevOk (next : Nat → Nat) (owner : Nat → Option Nat) (res : List Nat)
    (t hd acc : Nat) (todo done : List Nat) : Prop where
  hd0 : hd ≠ 0
  ctodo : Chain next hd todo
  cdone : Chain next acc done
  otodo : ∀ n ∈ todo, owner n = some t
  odone : ∀ n ∈ done, owner n = some t
  nodup : (todo ++ done).Nodup
  res : todo.reverse ++ done = res

/-- walking the private result: `rest` hangs off `p` and is the not-yet-handed-out suffix -/
structure WalkOk (next : Nat → Nat) (owner : Nat → Option Nat) (res : List Nat)
    (t p k : Nat) (rest : List Nat) : Prop where
  crest : Chain next p rest
  orest : ∀ n ∈ rest, owner n = some t
  res : rest = res.drop k

/-- what thread `t` knows at each program counter -/
def Local (s : St) (t : Nat) : Pc → Prop
  | .pushReady n => n ≠ 0 ∧ s.owner n = some t
  | .pushGotHead n _ => n ≠ 0 ∧ s.owner n = some t
  | .pushWroteNext n h => n ≠ 0 ∧ s.owner n = some t ∧ s.next n = h
  | .toReady n _ => n ≠ 0 ∧ s.owner n = some t
  | .toGotHead n _ _ => n ≠ 0 ∧ s.owner n = some t
  | .toWroteNext n h _ => n ≠ 0 ∧ s.owner n = some t ∧ s.next n = h
  -- a push_timeout that gave up still owns its node
  | .toGaveUp n => n ≠ 0 ∧ s.owner n = some t
  | .revLoop hd acc todo done => RevOk s.next s.owner (s.res t) t hd acc todo done
  | .revGotNext hd acc x todo done => RevOk s.next s.owner (s.res t) t hd acc todo done ∧ s.next hd = x
  | .walk p k rest => WalkOk s.next s.owner (s.res t) t p k rest
  | .walkGotData p k _ rest => p ≠ 0 ∧ WalkOk s.next s.owner (s.res t) t p k rest
  | .walkItem p k rest => p ≠ 0 ∧ WalkOk s.next s.owner (s.res t) t p k rest
  | _ => True

structure Inv (s : St) : Prop where
  /-- the cells spell the abstract stack -/
  chain : Chain s.next s.head s.stk
  nodup : s.stk.Nodup
  /-- a node is in the container iff nobody owns it -/
  own : ∀ n, n ∈ s.stk ↔ s.owner n = none
  loc : ∀ t, Local s t (s.pc t)
  /-- the ghost linearisation is a legal sequential push / take-everything history -/
  lin : stackReplay s.lin = some (s.stk.map (fun n => (n, s.data n)))

theorem inv_init (own0 : Nat → Nat) : Inv (init own0) := by
  constructor <;> simp [init, Local, stackReplay, stackReplayFrom]

theorem Inv.linked {s : St} (hI : Inv s) : Linked s.next s.head s.stk s.owner :=
  ⟨hI.chain, hI.nodup, hI.own⟩

theorem Inv.locAt {s : St} (hI : Inv s) {t : Nat} {pc : Pc} (hpc : s.pc t = pc) : Local s t pc :=
  hpc ▸ hI.loc t

section Frame
variable {next next' : Nat → Nat} {owner owner' : Nat → Option Nat} {res : List Nat} {t : Nat}
  (hfr : ∀ n, owner n = some t → next' n = next n ∧ owner' n = some t)
include hfr

theorem RevOk.frame {hd acc : Nat} {todo done : List Nat}
    (h : RevOk next owner res t hd acc todo done) : RevOk next' owner' res t hd acc todo done :=
  ⟨h.hd0, chain_of_eq (fun n hn => (hfr n (h.otodo n hn)).1) h.ctodo,
    chain_of_eq (fun n hn => (hfr n (h.odone n hn)).1) h.cdone,
    fun n hn => (hfr n (h.otodo n hn)).2, fun n hn => (hfr n (h.odone n hn)).2, h.nodup, h.res⟩

theorem WalkOk.frame {p k : Nat} {rest : List Nat} (h : WalkOk next owner res t p k rest) :
    WalkOk next' owner' res t p k rest :=
  ⟨chain_of_eq (fun n hn => (hfr n (h.orest n hn)).1) h.crest,
    fun n hn => (hfr n (h.orest n hn)).2, h.res⟩

end Frame

/-- `Local` of a thread only depends on the `next`/`owner` cells of the nodes it owns and on
    its own `res` -/
theorem local_frame {s s' : St} {t : Nat} {pc : Pc} (h : Local s t pc)
    (hfr : ∀ n, s.owner n = some t → s'.next n = s.next n ∧ s'.owner n = some t)
    (hres : s'.res t = s.res t) : Local s' t pc := by
  have ow : ∀ n, n ≠ 0 ∧ s.owner n = some t → n ≠ 0 ∧ s'.owner n = some t :=
    fun n h => ⟨h.1, (hfr n h.2).2⟩
  have nx : ∀ n x, n ≠ 0 ∧ s.owner n = some t ∧ s.next n = x →
      n ≠ 0 ∧ s'.owner n = some t ∧ s'.next n = x :=
    fun n x h => ⟨h.1, (hfr n h.2.1).2, (hfr n h.2.1).1.trans h.2.2⟩
  cases pc <;> simp only [Local, hres] at h ⊢
  case pushReady n => exact ow n h
  case pushGotHead n x => exact ow n h
  case pushWroteNext n x => exact nx n x h
  case toReady n b => exact ow n h
  case toGotHead n x b => exact ow n h
  case toWroteNext n x b => exact nx n x h
  case toGaveUp n => exact ow n h
  case revLoop hd acc todo done => exact h.frame hfr
  case revGotNext hd acc x todo done =>
    exact ⟨h.1.frame hfr,
      (hfr hd (h.1.otodo hd (chain_head_mem h.1.ctodo h.1.hd0))).1.trans h.2⟩
  case walk p k rest => exact h.frame hfr
  case walkGotData p k v rest => exact ⟨h.1, h.2.frame hfr⟩
  case walkItem p k rest => exact ⟨h.1, h.2.frame hfr⟩
  all_goals trivial

/-- after a step of `t` that leaves the nodes and result lists of the others alone -/
theorem loc_step {s s' : St} {t : Nat} {new : Pc} (hI : Inv s) (hpc : s'.pc = upd s.pc t new)
    (hnew : Local s' t new) (hres : ∀ t', t' ≠ t → s'.res t' = s.res t')
    (hfr : ∀ t', t' ≠ t → ∀ n, s.owner n = some t' → s'.next n = s.next n ∧ s'.owner n = some t') :
    ∀ t', Local s' t' (s'.pc t') :=
  hpc ▸ forall_upd hnew fun t' e => local_frame (hI.loc t') (hfr t' e) (hres t' e)

/-- a step that moves `pc t` (and the attempt ghosts) and leaves every cell and every container
    ghost alone -/
theorem Inv.move {s : St} (hI : Inv s) {t : Nat} {new : Pc} {tr a : Nat → Nat}
    (hnew : Local s t new) : Inv { s with pc := upd s.pc t new, tries0 := tr, att := a } :=
  ⟨hI.chain, hI.nodup, hI.own,
    loc_step hI rfl (local_frame hnew (fun _ h => ⟨rfl, h⟩) rfl) (fun _ _ => rfl)
      (fun _ _ _ hn => ⟨rfl, hn⟩), hI.lin⟩

theorem step_wrNext (s s' : St) (t m x : Nat) (hI : Inv s)
    (h : step s (.wrNext t m x) = some s') : Inv s' := by
  -- in all three cases `m` is a node `t` owns: nobody else relies on its `next`
  have wr : ∀ {new : Pc}, s.owner m = some t →
      Local { s with next := upd s.next m x, pc := upd s.pc t new } t new →
      Inv { s with next := upd s.next m x, pc := upd s.pc t new } := fun ho hnew =>
    ⟨(hI.linked.upd_next ho x).chain, hI.nodup, hI.own,
      loc_step hI rfl hnew (fun _ _ => rfl)
        (fun t' ht' n hn => ⟨upd_other _ _ _ _ (ne_of_owned ht' ho hn), hn⟩), hI.lin⟩
  simp only [step] at h
  split at h <;> simp at h
  · -- push: n->next = head (own node)
    rename_i n hd hpc
    obtain ⟨⟨rfl, rfl⟩, rfl⟩ := h
    have h1 := hI.locAt hpc
    exact wr h1.2 ⟨h1.1, h1.2, upd_same _ _ _⟩
  · -- push_timeout: n->next = head (own node)
    rename_i n hd b hpc
    obtain ⟨⟨rfl, rfl⟩, rfl⟩ := h
    have h1 := hI.locAt hpc
    exact wr h1.2 ⟨h1.1, h1.2, upd_same _ _ _⟩
  · -- reverse: head->next = fifo (own node)
    rename_i hd acc nx todo done hpc
    obtain ⟨⟨rfl, rfl⟩, rfl⟩ := h
    obtain ⟨hr, hnx⟩ := hI.locAt hpc
    obtain ⟨todo', htodo, hc'⟩ := chain_nonzero hr.ctodo hr.hd0
    have hownm : s.owner m = some t := hr.otodo m (by rw [htodo]; simp)
    have hnd : (m :: (todo' ++ done)).Nodup := by have := hr.nodup; rwa [htodo] at this
    have hm1 : m ∉ todo' := fun h => (List.nodup_cons.1 hnd).1 (List.mem_append_left _ h)
    have hm2 : m ∉ done := fun h => (List.nodup_cons.1 hnd).1 (List.mem_append_right _ h)
    -- the new chains
    have c1 : Chain (upd s.next m x) nx todo' := hnx ▸ chain_upd_notin hm1 hc'
    have c2 : Chain (upd s.next m x) m (m :: done) :=
      ⟨rfl, hr.hd0, by rw [upd_same]; exact chain_upd_notin hm2 hr.cdone⟩
    have o1 : ∀ n ∈ todo', s.owner n = some t := fun n hn => hr.otodo n (by rw [htodo]; simp [hn])
    have o2 : ∀ n ∈ m :: done, s.owner n = some t := by
      intro n hn; rcases List.mem_cons.1 hn with e | e
      · exact e ▸ hownm
      · exact hr.odone n e
    have r1 : todo'.reverse ++ (m :: done) = s.res t := by
      rw [← hr.res, htodo]; simp
    refine wr hownm ?_
    by_cases hnx0 : nx = 0
    · -- the loop ends: the reversed list is complete
      simp only [hnx0, if_true, Local]
      obtain rfl : todo' = [] := chain_zero (hnx0 ▸ c1)
      exact ⟨c2, o2, by simpa using r1⟩
    · simp only [hnx0, if_false, Local]
      rw [show todo.tail = todo' by rw [htodo]; rfl]
      exact ⟨hnx0, c1, c2, o1, o2, List.perm_middle.nodup_iff.2 hnd, r1⟩

/-- the success branch of the CAS, shared by `mpmc_stack_push` and `mpmc_stack_push_timeout`:
    `des` is a node `t` owns whose `next` is the head right now -/
theorem inv_cas_success {s : St} {t des : Nat} {new : Pc} {att : Nat → Nat} (hI : Inv s)
    (hn0 : des ≠ 0) (hown : s.owner des = some t) (hnext : s.next des = s.head)
    (hnew : ∀ s' : St, Local s' t new) :
    Inv { s with head := des, owner := upd s.owner des none, stk := des :: s.stk,
                 lin := s.lin ++ [.push des (s.data des)], pc := upd s.pc t new, att := att } := by
  obtain ⟨hc, hnd, ho⟩ := hI.linked.push hn0 hown hnext
  refine ⟨hc, hnd, ho, loc_step hI rfl (hnew _) (fun _ _ => rfl)
    (fun t' ht' n hn => ⟨rfl, (upd_other _ _ _ _ (ne_of_owned ht' hown hn)).trans hn⟩), ?_⟩
  exact stackReplay_snoc hI.lin rfl

theorem step_cas (s s' : St) (t found exp des : Nat) (ok : Bool) (hI : Inv s)
    (h : step s (.cas t found exp des ok) = some s') : Inv s' := by
  simp only [step] at h
  split at h
  · rename_i n hd hpc
    split at h
    case isFalse => simp at h
    rename_i hcond
    obtain ⟨rfl, rfl, rfl, hok⟩ := hcond
    have h1 := hI.locAt hpc
    split at h <;> simp at h <;> subst h
    · -- success: `exp` is the head right now, whatever happened to that node meanwhile
      rename_i hoktrue
      simp [hoktrue] at hok
      exact inv_cas_success (att := s.att) hI h1.1 h1.2.1 (by rw [h1.2.2, hok]) (fun _ => trivial)
    · exact hI.move ⟨h1.1, h1.2.1⟩
  · -- push_timeout
    rename_i n hd b hpc
    split at h
    case isFalse => simp at h
    rename_i hcond
    obtain ⟨rfl, rfl, rfl, hok⟩ := hcond
    have h1 := hI.locAt hpc
    split at h <;> simp at h <;> subst h
    · rename_i hoktrue
      simp [hoktrue] at hok
      exact inv_cas_success hI h1.1 h1.2.1 (by rw [h1.2.2, hok]) (fun _ => trivial)
    · -- failure: retry with the refreshed head or give up; nothing but the pc (and the ghost
      -- attempt counter) changes, the node stays with its owner
      refine hI.move ?_
      by_cases hb : b - 1 = 0 <;> simp only [hb, if_true, if_false] <;> exact ⟨h1.1, h1.2.1⟩
  · simp at h

theorem step_xchg (s s' : St) (t old : Nat) (hI : Inv s)
    (h : step s (.xchg t old) = some s') : Inv s' := by
  simp only [step] at h
  split at h <;> simp at h
  rename_i fifo hpc
  obtain ⟨rfl, rfl⟩ := h
  have hownd : ∀ n ∈ s.stk, (if n ∈ s.stk then some t else s.owner n) = some t :=
    fun n hn => if_pos hn
  refine ⟨rfl, List.nodup_nil, fun n => ?_, loc_step hI rfl ?_ (fun t' ht' => upd_other _ _ _ _ ht')
    (fun t' _ m hm => ⟨rfl, (if_neg (hI.linked.not_mem hm)).trans hm⟩), ?_⟩
  · show n ∈ [] ↔ (if n ∈ s.stk then some t else s.owner n) = none
    by_cases hn : n ∈ s.stk
    · simp [hn]
    · simp [hn, ← hI.own n]
  · by_cases hb : fifo = true ∧ s.head ≠ 0
    · simp only [hb, if_true, Local, upd_same]
      exact ⟨hb.2, hI.chain, rfl, hownd, by simp, by simpa using hI.nodup, by simp⟩
    · simp only [hb, if_false, Local, upd_same]
      refine ⟨hI.chain, hownd, ?_⟩
      by_cases hf : fifo = true
      · -- a fifo flush of the empty stack: nothing to reverse
        have : s.stk = [] := chain_zero (Classical.not_not.1 (fun hh => hb ⟨hf, hh⟩) ▸ hI.chain)
        simp [hf, this]
      · simp [hf]
  · exact stackReplay_snoc hI.lin (by simp [stackStep])

theorem inv_step (s s' : St) (e : Ev) (hI : Inv s) (h : step s e = some s') : Inv s' := by
  cases e
  case wrNext t n x => exact step_wrNext s s' t n x hI h
  case cas t f e d ok => exact step_cas s s' t f e d ok hI h
  case xchg t old => exact step_xchg s s' t old hI h
  all_goals simp only [step] at h
  case wrData t n v =>
    -- push and push_timeout: the same store into the own node
    split at h <;> simp at h <;> obtain ⟨⟨rfl, hn0, hown_n⟩, rfl⟩ := h <;>
      refine ⟨hI.chain, hI.nodup, hI.own,
        loc_step hI rfl ⟨hn0, hown_n⟩ (fun _ _ => rfl) (fun _ _ _ hn => ⟨rfl, hn⟩), ?_⟩ <;>
      (show stackReplay s.lin = some (s.stk.map (fun m => (m, upd s.data n v m)))
       rw [map_upd_notin (fun m d => (m, d)) (hI.linked.not_mem hown_n)]; exact hI.lin)
  case ldHead t hd =>
    split at h <;> simp at h <;> rename_i hpc <;> obtain ⟨rfl, rfl⟩ := h <;>
      have h1 := hI.locAt hpc <;> exact hI.move h1
  case rdData t n v =>
    split at h <;> simp at h
    rename_i p k rest hpc
    obtain ⟨⟨hp, rfl, rfl⟩, rfl⟩ := h
    exact hI.move ⟨hp, hI.locAt hpc⟩
  case item t v =>
    split at h <;> simp at h
    rename_i p k v' rest hpc
    obtain ⟨rfl, rfl⟩ := h
    have h1 := hI.locAt hpc
    exact hI.move h1
  case rdNext t n x =>
    split at h <;> simp at h
    · rename_i hd acc todo done hpc
      obtain ⟨⟨rfl, rfl⟩, rfl⟩ := h
      exact hI.move ⟨hI.locAt hpc, rfl⟩
    · -- the walk moves on to the rest of the result list
      rename_i p k rest hpc
      obtain ⟨⟨rfl, rfl⟩, rfl⟩ := h
      obtain ⟨hp, hw⟩ := hI.locAt hpc
      obtain ⟨rest', hrest, hc'⟩ := chain_nonzero hw.crest hp
      exact hI.move
        ⟨hrest ▸ hc', fun m hm => hw.orest m (List.mem_of_mem_tail hm),
          by rw [hw.res, List.tail_drop]⟩
  -- call and return notes: the new pc carries no knowledge
  all_goals
    (repeat' split at h) <;> simp at h <;> (try obtain ⟨_, h⟩ := h) <;> (try subst h) <;>
      exact hI.move trivial

theorem inv_of_run {own0 : Nat → Nat} {es : List Ev} {s : St} (h : (sys own0).run es = some s) : Inv s :=
  Sys.inv_of_run (sys own0) Inv (inv_init own0) (fun s e s' hI hs => inv_step s s' e hI hs) h

/-! ### mpmc_stack_push_timeout -/

def tidOf : Ev → Nat
  | .callPush t _ => t
  | .wrData t _ _ => t
  | .ldHead t _ => t
  | .wrNext t _ _ => t
  | .cas t _ _ _ _ => t
  | .retPush t => t
  | .callPushTo t _ _ => t
  | .retPushTo t _ => t
  | .callFlush t _ => t
  | .xchg t _ => t
  | .rdNext t _ _ => t
  | .rdData t _ _ => t
  | .item t _ => t
  | .retFlush t _ => t

/-- the events that change the container: a successful CAS and the exchange -/
def publishes : Ev → Bool
  | .cas _ _ _ _ ok => ok
  | .xchg _ _ => true
  | _ => false

theorem step_other {s s' : St} {e : Ev} {t' : Nat} (h : step s e = some s') (ht : t' ≠ tidOf e) :
    s'.pc t' = s.pc t' ∧ s'.att t' = s.att t' ∧ s'.tries0 t' = s.tries0 t' := by
  cases e <;> simp only [step] at h <;> simp only [tidOf] at ht <;>
    (repeat' split at h) <;> simp at h <;> (try obtain ⟨_, h⟩ := h) <;> (try subst h) <;> simp [upd, ht]

/-- remaining tries + attempts made = the budget the call was given -/
def BudOk (s : St) (t : Nat) : Pc → Prop
  | .toCalled _ b => 1 ≤ b ∧ b = s.tries0 t ∧ s.att t = 0
  | .toReady _ b => 1 ≤ b ∧ b = s.tries0 t ∧ s.att t = 0
  | .toGotHead _ _ b => 1 ≤ b ∧ s.att t + b = s.tries0 t
  | .toWroteNext _ _ b => 1 ≤ b ∧ s.att t + b = s.tries0 t
  | .toGaveUp _ => s.att t = s.tries0 t
  | _ => s.att t ≤ s.tries0 t

theorem BudOk.le {s : St} {t : Nat} {pc : Pc} (h : BudOk s t pc) : s.att t ≤ s.tries0 t := by
  cases pc <;> simp only [BudOk] at h <;> omega

def isCallOf (t : Nat) : Ev → Bool
  | .callPush t' _ => t' = t
  | .callPushTo t' _ _ => t' = t
  | .callFlush t' _ => t' = t
  | _ => false

/-- `e` is a CAS (successful or not) by thread `t` -/
def isCasOf (t : Nat) : Ev → Bool
  | .cas t' _ _ _ _ => t' = t
  | _ => false

/-- the events after thread `t`'s latest call note (events of all threads, in trace order) -/
def curOp (t : Nat) (es : List Ev) : List Ev :=
  (es.reverse.takeWhile (fun e => !isCallOf t e)).reverse

/-- thread `t`'s latest call note -/
def callOf (t : Nat) (es : List Ev) : Option Ev := es.reverse.find? (isCallOf t)

def casCount (t : Nat) (es : List Ev) : Nat := (es.filter (isCasOf t)).length

theorem curOp_snoc (t : Nat) (es : List Ev) (e : Ev) :
    curOp t (es ++ [e]) = if isCallOf t e then [] else curOp t es ++ [e] := by
  simp only [curOp, List.reverse_append, List.reverse_cons, List.reverse_nil, List.nil_append,
    List.singleton_append, List.takeWhile_cons]
  cases isCallOf t e <;> simp

theorem callOf_snoc (t : Nat) (es : List Ev) (e : Ev) :
    callOf t (es ++ [e]) = if isCallOf t e then some e else callOf t es := by
  simp only [callOf, List.reverse_append, List.reverse_cons, List.reverse_nil, List.nil_append,
    List.singleton_append, List.find?_cons]
  cases isCallOf t e <;> simp

theorem casCount_snoc (t : Nat) (es : List Ev) (e : Ev) :
    casCount t (es ++ [e]) = casCount t es + (if isCasOf t e then 1 else 0) := by
  simp only [casCount, List.filter_append, List.length_append]
  cases h : isCasOf t e <;> simp [List.filter, h]

theorem isCallOf_other {t : Nat} {e : Ev} (ht : t ≠ tidOf e) : isCallOf t e = false := by
  cases e <;> simp only [tidOf] at ht <;> simp [isCallOf, Ne.symm ht]

theorem isCasOf_other {t : Nat} {e : Ev} (ht : t ≠ tidOf e) : isCasOf t e = false := by
  cases e <;> simp only [tidOf] at ht <;> simp [isCasOf, Ne.symm ht]

/-- inside a push_timeout that has not succeeded (yet, or at all) -/
def toPending : Pc → Bool
  | .toCalled _ _ => true
  | .toReady _ _ => true
  | .toGotHead _ _ _ => true
  | .toWroteNext _ _ _ => true
  | .toGaveUp _ => true
  | _ => false

/-- inside a push_timeout -/
def inTo : Pc → Bool
  | .toDone => true
  | pc => toPending pc

theorem BudOk.congr {s s' : St} {t : Nat} {pc : Pc} (h : BudOk s t pc) (ha : s'.att t = s.att t)
    (htr : s'.tries0 t = s.tries0 t) : BudOk s' t pc := by
  cases pc <;> simp only [BudOk, ha, htr] <;> exact h

/-- What one step does to the push_timeout bookkeeping of the thread that makes it: the budget
    arithmetic is kept; a not-yet-successful push_timeout was one before (unless just called) and
    the step did not change the container; the attempt counter is reset by the call note, which
    carries the budget, and counts the CAS events after it. -/
theorem own_step {s s' : St} {e : Ev} (h : step s e = some s')
    (h0 : BudOk s (tidOf e) (s.pc (tidOf e))) :
    BudOk s' (tidOf e) (s'.pc (tidOf e)) ∧
    (toPending (s'.pc (tidOf e)) = true → isCallOf (tidOf e) e = false →
      toPending (s.pc (tidOf e)) = true ∧ publishes e = false) ∧
    (inTo (s'.pc (tidOf e)) = true →
      (isCallOf (tidOf e) e = true ∧ s'.att (tidOf e) = 0 ∧ 1 ≤ s'.tries0 (tidOf e) ∧
          ∃ v, e = .callPushTo (tidOf e) v (s'.tries0 (tidOf e))) ∨
      (isCallOf (tidOf e) e = false ∧ inTo (s.pc (tidOf e)) = true ∧
          s'.tries0 (tidOf e) = s.tries0 (tidOf e) ∧
          s'.att (tidOf e) = s.att (tidOf e) + (if isCasOf (tidOf e) e then 1 else 0))) := by
  cases e <;> simp only [step] at h <;> simp only [tidOf] at h0 ⊢ <;>
    (repeat' split at h) <;> simp at h <;> (try obtain ⟨_, h⟩ := h) <;> (try subst h) <;>
    simp_all [BudOk, upd, toPending, publishes, isCallOf, inTo, isCasOf] <;> omega

/-- history invariant, per thread: the budget arithmetic; no event of a not-yet-successful
    push_timeout changed the container; the ghost attempt counter is the number of CAS events of
    the operation; the ghost budget is the one the operation was called with, at least 1 -/
structure ToOk (s : St) (es : List Ev) (t : Nat) : Prop where
  bud : BudOk s t (s.pc t)
  quiet : toPending (s.pc t) = true → ∀ e ∈ curOp t es, tidOf e = t → publishes e = false
  count : inTo (s.pc t) = true → s.att t = casCount t (curOp t es)
  call : inTo (s.pc t) = true →
    ∃ v, callOf t es = some (.callPushTo t v (s.tries0 t)) ∧ 1 ≤ s.tries0 t

theorem toOk_step {s s' : St} {es : List Ev} {e : Ev} (hI : ∀ t, ToOk s es t)
    (h : step s e = some s') (t : Nat) : ToOk s' (es ++ [e]) t := by
  by_cases ht : t = tidOf e
  · subst ht
    obtain ⟨hb, hpend, hin⟩ := own_step h (hI _).bud
    refine ⟨hb, fun hp e' he' ht' => ?_, fun hp => ?_, fun hp => ?_⟩
    · cases hc : isCallOf (tidOf e) e
      · obtain ⟨hp0, hq⟩ := hpend hp hc
        rw [curOp_snoc] at he'
        simp only [hc, Bool.false_eq_true, if_false, List.mem_append, List.mem_singleton] at he'
        rcases he' with he' | rfl
        · exact (hI _).quiet hp0 e' he' ht'
        · exact hq
      · rw [curOp_snoc, if_pos hc] at he'; cases he'
    · rcases hin hp with ⟨hc, ha, _⟩ | ⟨hc, hp0, _, ha⟩
      · rw [curOp_snoc, if_pos hc, ha]; rfl
      · rw [curOp_snoc]; simp only [hc, Bool.false_eq_true, if_false]
        rw [casCount_snoc, ha, (hI _).count hp0]
    · rcases hin hp with ⟨hc, _, hpos, v, hv⟩ | ⟨hc, hp0, htr, _⟩
      · rw [callOf_snoc, if_pos hc]; exact ⟨v, by rw [← hv], hpos⟩
      · rw [callOf_snoc]; simp only [hc, Bool.false_eq_true, if_false]
        rw [htr]; exact (hI _).call hp0
  · -- another thread's event: in `t`'s current operation, but neither its call nor its CAS
    obtain ⟨h1, h2, h3⟩ := step_other h ht
    have hc' := isCallOf_other ht
    have hI := hI t
    refine ⟨h1 ▸ hI.bud.congr h2 h3, fun hp e' he' ht' => ?_, fun hp => ?_, fun hp => ?_⟩ <;>
      rw [h1] at hp
    · rw [curOp_snoc] at he'
      simp only [hc', Bool.false_eq_true, if_false, List.mem_append, List.mem_singleton] at he'
      rcases he' with he' | rfl
      · exact hI.quiet hp e' he' ht'
      · exact absurd ht'.symm ht
    · rw [curOp_snoc]; simp only [hc', Bool.false_eq_true, if_false]
      rw [casCount_snoc, h2, hI.count hp, isCasOf_other ht]; rfl
    · rw [callOf_snoc]; simp only [hc', Bool.false_eq_true, if_false]
      rw [h3]; exact hI.call hp

theorem toOk_of_run {own0 : Nat → Nat} {es : List Ev} {s : St} (h : (sys own0).run es = some s) :
    ∀ t, ToOk s es t :=
  Sys.hist_inv_of_run (sys own0) (fun s es => ∀ t, ToOk s es t)
    (fun t => ⟨by simp [sys, init, BudOk], by simp [sys, init, toPending],
      by simp [sys, init, inTo, toPending], by simp [sys, init, inTo, toPending]⟩)
    (fun s es e s' hI hs => toOk_step hI hs) h

/-- the linearisation of the flushable stack only contains pushes and flushes -/
theorem lin_ops {own0 : Nat → Nat} {es : List Ev} {s : St} (h : (sys own0).run es = some s) :
    ∀ o ∈ s.lin, isPushOp o = true ∨ ∃ l, o = .flush l := by
  refine Sys.inv_of_run (sys own0) (fun s => ∀ o ∈ s.lin, isPushOp o = true ∨ ∃ l, o = .flush l)
    (by simp [sys, init]) (fun s e s' hI h => ?_) h
  cases e <;> simp only [sys, step] at h
  case cas t f e d ok =>
    (repeat' split at h) <;> simp at h <;> subst h
    all_goals first
      | exact hI
      | (intro o ho; simp at ho; rcases ho with ho | rfl
         · exact hI o ho
         · simp [isPushOp])
  case xchg t old =>
    split at h
    · split at h
      · simp at h; subst h
        intro o ho; simp at ho; rcases ho with ho | rfl
        · exact hI o ho
        · exact Or.inr ⟨_, rfl⟩
      · simp at h
    · simp at h
  all_goals
    (repeat' split at h) <;> simp at h <;> (try obtain ⟨_, h⟩ := h) <;> (try subst h) <;> exact hI

end LibfiberVerif.Stack
