/-
  Proof/NodeList.lean — lemmas shared by the three linked-node containers of C20:
  the `Chain` predicate tying an abstract node list to the concrete `next` cells, and the
  counting / prefix consequences of a legal sequential stack / FIFO history.
-/
import LibfiberVerif.Core.Sys
import LibfiberVerif.Model.NodeList

namespace LibfiberVerif.NodeList

/-- `Chain next p l`: following `next` from pointer `p` visits exactly the nodes `l`
    (all non-NULL) and then reaches NULL. -/
def Chain (next : Nat → Nat) : Nat → List Nat → Prop
  | p, [] => p = 0
  | p, n :: l => p = n ∧ n ≠ 0 ∧ Chain next (next n) l

@[simp] theorem chain_nil (next : Nat → Nat) (p : Nat) : Chain next p [] ↔ p = 0 := Iff.rfl

@[simp] theorem chain_cons (next : Nat → Nat) (p n : Nat) (l : List Nat) :
    Chain next p (n :: l) ↔ p = n ∧ n ≠ 0 ∧ Chain next (next n) l := Iff.rfl

theorem chain_zero {next : Nat → Nat} {l : List Nat} (h : Chain next 0 l) : l = [] := by
  cases l with
  | nil => rfl
  | cons n l => simp at h; omega

theorem chain_zero_notin {next : Nat → Nat} {p : Nat} {l : List Nat} (h : Chain next p l) : 0 ∉ l := by
  induction l generalizing p with
  | nil => simp
  | cons n l ih =>
    simp at h
    simp
    exact ⟨fun h0 => h.2.1 h0.symm, ih h.2.2⟩

/-- the abstract list is determined by the concrete cells -/
theorem chain_unique {next : Nat → Nat} {p : Nat} {l l' : List Nat}
    (h : Chain next p l) (h' : Chain next p l') : l = l' := by
  induction l generalizing p l' with
  | nil => simp at h; subst h; exact (chain_zero h').symm
  | cons n l ih =>
    simp at h
    cases l' with
    | nil => simp at h'; omega
    | cons n' l' =>
      simp at h'
      obtain ⟨rfl, _, h3⟩ := h
      obtain ⟨rfl, _, h3'⟩ := h'
      rw [ih h3 h3']

theorem chain_nonzero {next : Nat → Nat} {p : Nat} {l : List Nat} (h : Chain next p l) (hp : p ≠ 0) :
    ∃ l', l = p :: l' ∧ Chain next (next p) l' := by
  cases l with
  | nil => simp at h; omega
  | cons n l => simp at h; obtain ⟨rfl, _, h3⟩ := h; exact ⟨l, rfl, h3⟩

theorem chain_head_mem {next : Nat → Nat} {p : Nat} {l : List Nat} (h : Chain next p l) (hp : p ≠ 0) :
    p ∈ l := by
  obtain ⟨l', rfl, _⟩ := chain_nonzero h hp
  simp

/-- a chain only depends on the `next` cells of its own nodes -/
theorem chain_of_eq {next next' : Nat → Nat} {p : Nat} {l : List Nat}
    (hagree : ∀ n ∈ l, next' n = next n) (h : Chain next p l) : Chain next' p l := by
  induction l generalizing p with
  | nil => simpa using h
  | cons n l ih =>
    simp at h
    simp
    refine ⟨h.1, h.2.1, ?_⟩
    rw [hagree n (by simp)]
    exact ih (fun m hm => hagree m (by simp [hm])) h.2.2

theorem chain_upd_notin {next : Nat → Nat} {p m v : Nat} {l : List Nat} (hm : m ∉ l)
    (h : Chain next p l) : Chain (upd next m v) p l :=
  chain_of_eq (fun _ hn => upd_other _ _ _ _ fun e => hm (e ▸ hn)) h

/-- linking a terminated node `n` behind the node `tl` of the list whose `next` is NULL
    (hence the last one) appends it -/
theorem chain_link {next : Nat → Nat} {p tl n : Nat} {l : List Nat}
    (h : Chain next p l) (htl : tl ∈ l) (h0 : next tl = 0) (hn : n ∉ l) (hn0 : n ≠ 0)
    (hnn : next n = 0) : Chain (upd next tl n) p (l ++ [n]) := by
  induction l generalizing p with
  | nil => simp at htl
  | cons a l ih =>
    simp at h hn
    obtain ⟨rfl, ha0, hrest⟩ := h
    by_cases hat : p = tl
    · subst hat
      rw [h0] at hrest
      have := chain_zero hrest
      subst this
      simp [upd, ha0, hn0]
      rw [if_neg hn.1]; exact hnn
    · have htl' : tl ∈ l := by
        simp at htl
        rcases htl with h | h
        · exact absurd h.symm hat
        · exact h
      simp
      refine ⟨ha0, ?_⟩
      have : upd next tl n p = next p := by simp [upd, hat]
      rw [this]
      exact ih hrest htl' hn.2

/-- the node whose `next` is NULL is the last one: everything before it has a successor -/
theorem chain_next_ne_zero_of_cons_cons {next : Nat → Nat} {p a b : Nat} {l : List Nat}
    (h : Chain next p (a :: b :: l)) : next a = b ∧ b ≠ 0 := by
  simp at h
  exact ⟨h.2.2.1, h.2.2.2.1⟩

/-- The sequential specifications are systems themselves; a legal history is a run. -/
def stackSpec : Sys (List (Nat × Nat)) StackOp := ⟨[], stackStep⟩

theorem stackReplayFrom_eq (st : List (Nat × Nat)) (os : List StackOp) :
    stackReplayFrom st os = stackSpec.runFrom st os := by
  induction os generalizing st with
  | nil => rfl
  | cons o os ih => simp only [stackReplayFrom, Sys.runFrom, ih, stackSpec]; cases stackStep st o <;> rfl

theorem stackReplay_snoc {os : List StackOp} {o : StackOp} {st st' : List (Nat × Nat)}
    (h : stackReplay os = some st) (hs : stackStep st o = some st') :
    stackReplay (os ++ [o]) = some st' := by
  simp only [stackReplay, stackReplayFrom_eq] at h ⊢; exact stackSpec.run_snoc h hs

/-- how often node `n` was put in -/
def pushCount (n : Nat) : List StackOp → Nat
  | [] => 0
  | .push m _ :: os => (if m = n then 1 else 0) + pushCount n os
  | _ :: os => pushCount n os

/-- how often node `n` was handed out (by a pop or inside a flush) -/
def takeCount (n : Nat) : List StackOp → Nat
  | [] => 0
  | .pop m _ :: os => (if m = n then 1 else 0) + takeCount n os
  | .flush l :: os => (l.map Prod.fst).count n + takeCount n os
  | _ :: os => takeCount n os

theorem pushCount_append (n : Nat) (a b : List StackOp) :
    pushCount n (a ++ b) = pushCount n a + pushCount n b := by
  induction a with
  | nil => simp [pushCount]
  | cons o a ih => cases o <;> simp [pushCount, ih] <;> omega

theorem takeCount_append (n : Nat) (a b : List StackOp) :
    takeCount n (a ++ b) = takeCount n a + takeCount n b := by
  induction a with
  | nil => simp [takeCount]
  | cons o a ih => cases o <;> simp [takeCount, ih] <;> omega

theorem stackStep_count {st st' : List (Nat × Nat)} {o : StackOp} (n : Nat)
    (h : stackStep st o = some st') :
    pushCount n [o] + (st.map Prod.fst).count n = takeCount n [o] + (st'.map Prod.fst).count n := by
  cases o with
  | push m v =>
    simp [stackStep] at h; subst h
    simp [pushCount, takeCount, List.count_cons]
    split <;> omega
  | pop m v =>
    cases st with
    | nil => simp [stackStep] at h
    | cons x st =>
      obtain ⟨a, b⟩ := x
      simp [stackStep] at h
      obtain ⟨⟨rfl, rfl⟩, rfl⟩ := h
      simp [pushCount, takeCount, List.count_cons]
      split <;> omega
  | popEmpty =>
    cases st with
    | nil => simp [stackStep] at h; subst h; simp [pushCount, takeCount]
    | cons x st => simp [stackStep] at h
  | flush l =>
    simp [stackStep] at h
    obtain ⟨rfl, rfl⟩ := h
    simp [pushCount, takeCount]

/-- in a legal sequential history every node is handed out exactly as often as it was put in,
    except for the copies still inside -/
theorem stackReplayFrom_count {st st' : List (Nat × Nat)} {os : List StackOp} (n : Nat)
    (h : stackReplayFrom st os = some st') :
    pushCount n os + (st.map Prod.fst).count n = takeCount n os + (st'.map Prod.fst).count n := by
  induction os generalizing st with
  | nil => simp [stackReplayFrom] at h; subst h; simp [pushCount, takeCount]
  | cons o os ih =>
    simp only [stackReplayFrom] at h
    cases hs : stackStep st o with
    | none => simp [hs] at h
    | some st1 =>
      simp [hs] at h
      have h1 := stackStep_count n hs
      have h2 := ih h
      have e1 : pushCount n (o :: os) = _ := pushCount_append n [o] os
      have e2 : takeCount n (o :: os) = _ := takeCount_append n [o] os
      omega

def fifoSpec : Sys (List Nat) FifoOp := ⟨[], fifoStep⟩

theorem fifoReplayFrom_eq (q : List Nat) (os : List FifoOp) :
    fifoReplayFrom q os = fifoSpec.runFrom q os := by
  induction os generalizing q with
  | nil => rfl
  | cons o os ih => simp only [fifoReplayFrom, Sys.runFrom, ih, fifoSpec]; cases fifoStep q o <;> rfl

theorem fifoReplay_snoc {os : List FifoOp} {o : FifoOp} {q q' : List Nat}
    (h : fifoReplay os = some q) (hs : fifoStep q o = some q') :
    fifoReplay (os ++ [o]) = some q' := by
  simp only [fifoReplay, fifoReplayFrom_eq] at h ⊢; exact fifoSpec.run_snoc h hs

def enqs : List FifoOp → List Nat
  | [] => []
  | .enq v :: os => v :: enqs os
  | _ :: os => enqs os

def deqs : List FifoOp → List Nat
  | [] => []
  | .deq v :: os => v :: deqs os
  | _ :: os => deqs os

theorem enqs_append (a b : List FifoOp) : enqs (a ++ b) = enqs a ++ enqs b := by
  induction a with
  | nil => simp [enqs]
  | cons o a ih => cases o <;> simp [enqs, ih]

theorem deqs_append (a b : List FifoOp) : deqs (a ++ b) = deqs a ++ deqs b := by
  induction a with
  | nil => simp [deqs]
  | cons o a ih => cases o <;> simp [deqs, ih]

/-- in a legal sequential FIFO history the dequeued values followed by the content are
    exactly the enqueued values: what was taken is a prefix of what was put, in order, each
    once, and nothing else is missing -/
theorem fifoReplayFrom_prefix {q q' : List Nat} {os : List FifoOp}
    (h : fifoReplayFrom q os = some q') : q ++ enqs os = deqs os ++ q' := by
  induction os generalizing q with
  | nil => simp [fifoReplayFrom] at h; subst h; simp [enqs, deqs]
  | cons o os ih =>
    simp only [fifoReplayFrom] at h
    cases hs : fifoStep q o with
    | none => simp [hs] at h
    | some q1 =>
      simp [hs] at h
      have h2 := ih h
      cases o with
      | enq v => simp [fifoStep] at hs; subst hs; simp [enqs, deqs] at *; exact h2
      | deq v =>
        cases q with
        | nil => simp [fifoStep] at hs
        | cons w q =>
          simp [fifoStep] at hs
          obtain ⟨rfl, rfl⟩ := hs
          simp [enqs, deqs] at *; exact h2
      | deqEmpty =>
        cases q with
        | nil => simp [fifoStep] at hs; subst hs; simp [enqs, deqs] at *; exact h2
        | cons w q => simp [fifoStep] at hs

def pushesOf : List StackOp → List (Nat × Nat)
  | [] => []
  | .push n v :: os => (n, v) :: pushesOf os
  | _ :: os => pushesOf os

def isPushOp : StackOp → Bool
  | .push _ _ => true
  | _ => false

theorem replay_pushes {st : List (Nat × Nat)} {mid : List StackOp}
    (hmid : ∀ o ∈ mid, isPushOp o = true) :
    stackReplayFrom st mid = some ((pushesOf mid).reverse ++ st) := by
  induction mid generalizing st with
  | nil => simp [stackReplayFrom, pushesOf]
  | cons o mid ih =>
    have ho := hmid o (by simp)
    cases o <;> simp [isPushOp] at ho
    rename_i n v
    simp only [stackReplayFrom, stackStep, pushesOf]
    rw [ih (fun o' ho' => hmid o' (by simp [ho']))]
    simp

theorem stackReplayFrom_append_some {st st' : List (Nat × Nat)} {a b : List StackOp}
    (h : stackReplayFrom st (a ++ b) = some st') :
    ∃ m, stackReplayFrom st a = some m ∧ stackReplayFrom m b = some st' := by
  simp only [stackReplayFrom_eq] at h ⊢; exact Sys.runFrom_append_some h

theorem stackReplayFrom_flush {st st' l : List (Nat × Nat)} :
    stackReplayFrom st [.flush l] = some st' ↔ l = st ∧ st' = [] := by
  simp only [stackReplayFrom, stackStep]
  split <;> simp_all [eq_comm]

/-- legal history `pre ++ mid ++ [flush l] ++ post`, `pre` empty or ending with a flush (so the
    stack is empty after it), only pushes in `mid`: then `l` is exactly what `mid` pushed, each
    once, newest first -/
theorem flush_since {pre mid post : List StackOp} {l st : List (Nat × Nat)}
    (h : stackReplay (pre ++ mid ++ [.flush l] ++ post) = some st)
    (hpre : pre = [] ∨ ∃ pre' l0, pre = pre' ++ [.flush l0])
    (hmid : ∀ o ∈ mid, isPushOp o = true) : l = (pushesOf mid).reverse := by
  obtain ⟨_, h, _⟩ := stackReplayFrom_append_some h
  obtain ⟨m2, h, h3⟩ := stackReplayFrom_append_some h
  obtain ⟨m1, h1, h2⟩ := stackReplayFrom_append_some h
  have hm1 : m1 = [] := by
    rcases hpre with rfl | ⟨pre', l0, rfl⟩
    · exact (Option.some.inj h1).symm
    · obtain ⟨_, _, hf⟩ := stackReplayFrom_append_some h1
      exact (stackReplayFrom_flush.1 hf).2
  rw [replay_pushes hmid, hm1, List.append_nil] at h2
  exact (stackReplayFrom_flush.1 h3).1.trans (Option.some.inj h2).symm

/-- the cells spell the abstract list, which has no duplicates and consists exactly of the
    nodes nobody owns -/
structure Linked (next : Nat → Nat) (head : Nat) (l : List Nat) (owner : Nat → Option Nat) :
    Prop where
  chain : Chain next head l
  nodup : l.Nodup
  own : ∀ n, n ∈ l ↔ owner n = none

namespace Linked
variable {next : Nat → Nat} {head n t : Nat} {l : List Nat} {owner : Nat → Option Nat}

theorem not_mem (h : Linked next head l owner) (ho : owner n = some t) : n ∉ l :=
  fun hm => by rw [(h.own n).1 hm] at ho; cases ho

theorem upd_next (h : Linked next head l owner) (ho : owner n = some t) (v : Nat) :
    Linked (upd next n v) head l owner :=
  ⟨chain_upd_notin (h.not_mem ho) h.chain, h.nodup, h.own⟩

theorem upd_owner (h : Linked next head l owner) (ho : owner n = some t) (t' : Nat) :
    Linked next head l (upd owner n (some t')) := by
  refine ⟨h.chain, h.nodup, fun m => ?_⟩
  by_cases e : m = n
  · subst e; simp [h.not_mem ho]
  · simp [upd, e, h.own m]

/-- an owned node whose `next` is the head becomes the new head -/
theorem push (h : Linked next head l owner) (hn0 : n ≠ 0) (ho : owner n = some t)
    (hnext : next n = head) : Linked next n (n :: l) (upd owner n none) := by
  refine ⟨⟨rfl, hn0, hnext ▸ h.chain⟩, List.nodup_cons.2 ⟨h.not_mem ho, h.nodup⟩, fun m => ?_⟩
  by_cases e : m = n
  · simp [e]
  · simp [upd, e, h.own m]

theorem pop (h : Linked next head l owner) (hnz : head ≠ 0) (t : Nat) :
    l = head :: l.tail ∧ Linked next (next head) l.tail (upd owner head (some t)) := by
  obtain ⟨l', rfl, hc⟩ := chain_nonzero h.chain hnz
  obtain ⟨hnot, hnd⟩ := List.nodup_cons.1 h.nodup
  refine ⟨rfl, hc, hnd, fun m => ?_⟩
  by_cases e : m = head
  · subst e; simp [hnot]
  · simp [upd, e, ← h.own m]

/-- a terminated owned node is linked behind the last node -/
theorem link {tl : Nat} (h : Linked next head l owner) (htl : tl ∈ l) (h0 : next tl = 0) (hn0 : n ≠ 0)
    (ho : owner n = some t) (hnn : next n = 0) :
    Linked (upd next tl n) head (l ++ [n]) (upd owner n none) := by
  have hnot := h.not_mem ho
  refine ⟨chain_link h.chain htl h0 hnot hn0 hnn, ?_, fun m => ?_⟩
  · rw [List.nodup_append]
    exact ⟨h.nodup, by simp, fun a ha b hb e => hnot (by simp at hb; rw [← hb, ← e]; exact ha)⟩
  · by_cases e : m = n
    · simp [e]
    · simp [upd, e, h.own m]

end Linked

theorem ne_of_owned {owner : Nat → Option Nat} {t t' n m : Nat} (ht : t' ≠ t)
    (hn : owner n = some t) (hm : owner m = some t') : m ≠ n := by
  intro e; rw [e, hn] at hm; exact ht (Option.some.inj hm).symm

/-- `data` of a node outside the list does not show in the list's values -/
theorem map_upd_notin {β : Type} {l : List Nat} {data : Nat → Nat} {n v : Nat} (g : Nat → Nat → β)
    (hn : n ∉ l) : l.map (fun m => g m (upd data n v m)) = l.map (fun m => g m (data m)) :=
  List.map_congr_left fun m hm => by
    have : m ≠ n := fun h => hn (h ▸ hm)
    simp [upd, this]

/-- exactly-once bookkeeping: every node was put in exactly as often as it was handed out, plus
    one if it is inside right now -/
theorem count_balance {lin : List StackOp} {stk : List Nat} {data : Nat → Nat}
    (hlin : stackReplay lin = some (stk.map (fun n => (n, data n)))) (hnd : stk.Nodup) (n : Nat) :
    pushCount n lin = takeCount n lin + (if n ∈ stk then 1 else 0) := by
  have := stackReplayFrom_count n hlin
  simp [List.map_map, Function.comp_def] at this
  rw [this, hnd.count]

/-- The ABA argument as a predicate.  A thread read the version counter `c`; the counter only grows,
    and `P` is what it has learnt since, all of which is only known to hold WHILE THE COUNTER IS
    STILL `c` (no successful CAS2 since the read). -/
def Since (cnt c : Nat) (P : Prop) : Prop := c ≤ cnt ∧ (cnt = c → P)

theorem Since.now {cnt : Nat} {P : Prop} (h : P) : Since cnt cnt P := ⟨Nat.le_refl _, fun _ => h⟩

/-- `Since cnt' cnt Q` is also what a step from counter `cnt` to `cnt'` leaves alone (`Q`, unless it
    was a successful CAS2); knowledge `P` from before is carried across it -/
theorem Since.trans {cnt cnt' c : Nat} {P Q P' : Prop} (h : Since cnt c P) (f : Since cnt' cnt Q)
    (hP : Q → P → P') : Since cnt' c P' :=
  ⟨Nat.le_trans h.1 f.1, fun e => hP (f.2 (by have := h.1; have := f.1; omega))
    (h.2 (by have := h.1; have := f.1; omega))⟩

theorem Since.succ {c : Nat} {P : Prop} : Since (c + 1) c P :=
  ⟨Nat.le_succ _, fun e => absurd e (Nat.succ_ne_self _)⟩

theorem Since.imp {cnt c : Nat} {P Q : Prop} (h : Since cnt c P) (hq : P → Q) : Since cnt c Q :=
  ⟨h.1, fun e => hq (h.2 e)⟩

section Counter
variable {σ ε : Type} (M : Sys σ ε) (cnt : σ → Nat) (ok : ε → Bool)

/-- a counter that a step bumps exactly when `ok e` counts the `ok` events of a run -/
theorem runFrom_count
    (hcnt : ∀ s e s', M.step s e = some s' → cnt s' = cnt s + if ok e then 1 else 0)
    {s s' : σ} {es : List ε} (h : M.runFrom s es = some s') :
    cnt s' = cnt s + (es.filter ok).length := by
  induction es generalizing s with
  | nil => simp [Sys.runFrom] at h; simp [h]
  | cons e es ih =>
    simp only [Sys.runFrom] at h
    cases hs : M.step s e with
    | none => simp [hs] at h
    | some s1 =>
      simp only [hs] at h
      rw [ih h, hcnt _ _ _ hs, List.filter_cons]
      cases ok e <;> simp <;> omega

/-- The ABA argument of the double-word CAS.  `snap` is the counter value some thread holds
    locally; only that thread's load `ld c` sets it, to the counter it reads.  If after the
    load and a run `post` without another one the held value still equals the counter, then
    the held value is the loaded one and `post` contains no counted event. -/
theorem snapshot_valid (snap : σ → Option Nat) (ld : Nat → ε)
    (hcnt : ∀ s e s', M.step s e = some s' → cnt s' = cnt s + if ok e then 1 else 0)
    (hld : ∀ s c s', M.step s (ld c) = some s' → c = cnt s ∧ snap s' = some c ∧ ok (ld c) = false)
    (hkeep : ∀ s e s', M.step s e = some s' → (∀ c, e ≠ ld c) →
      ∀ c, snap s' = some c → snap s = some c)
    {pre post : List ε} {c c' : Nat} {s : σ}
    (hrun : M.run (pre ++ [ld c] ++ post) = some s) (hlast : ∀ e ∈ post, ∀ c', e ≠ ld c')
    (hs : snap s = some c') (hc : cnt s = c') : c' = c ∧ ∀ e ∈ post, ok e = false := by
  simp only [Sys.run, Sys.runFrom_append, Sys.runFrom] at hrun
  cases h1 : M.runFrom M.init pre with
  | none => simp [h1] at hrun
  | some s1 =>
    cases h2 : M.step s1 (ld c) with
    | none => simp [h1, h2] at hrun
    | some s2 =>
      simp only [h1, h2, Option.bind_some] at hrun
      obtain ⟨hc1, hs2, hok⟩ := hld _ _ _ h2
      -- the held value is still the one loaded
      have back : ∀ (es : List ε) (a : σ), M.runFrom a es = some s → (∀ e ∈ es, ∀ c', e ≠ ld c') →
          snap a = some c' := by
        intro es
        induction es with
        | nil => intro a h _; simp [Sys.runFrom] at h; exact h ▸ hs
        | cons e es ih =>
          intro a h hl
          simp only [Sys.runFrom] at h
          cases hs1 : M.step a e with
          | none => simp [hs1] at h
          | some a1 =>
            simp only [hs1] at h
            exact hkeep _ _ _ hs1 (hl e (by simp)) _ (ih a1 h fun e' he' => hl e' (by simp [he']))
      have hcc : c' = c := Option.some.inj ((back post s2 hrun hlast).symm.trans hs2)
      -- so the counter has not moved since the load
      have h3 := runFrom_count M cnt ok hcnt hrun
      have h4 := hcnt _ _ _ h2
      rw [hok] at h4
      refine ⟨hcc, fun e he => ?_⟩
      cases hce : ok e with
      | false => rfl
      | true =>
        have := List.length_pos_of_mem (List.mem_filter.2 ⟨he, hce⟩)
        simp at h4; omega

end Counter

end LibfiberVerif.NodeList
