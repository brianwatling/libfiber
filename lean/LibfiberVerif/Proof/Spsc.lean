/-
  spsc_fifo.h is the `Kind.spsc` instance of the model proved in `Proof/Mpsc.lean`; this file
  only names the instances that `Props/C15.lean` uses.
-/
import LibfiberVerif.Model.Spsc
import LibfiberVerif.Proof.Mpsc

namespace LibfiberVerif.Spsc

open Mpsc

theorem invs_of_run {stub : Nat} (h0 : stub ≠ 0) {es : List Ev} {s : St}
    (h : (sys stub).run es = some s) : Inv .spsc s ∧ VInv s :=
  Mpsc.invs_of_run (k := .spsc) h0 h

end LibfiberVerif.Spsc
