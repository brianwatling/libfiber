/-
  Proof/HpBound.lean — the quantitative invariant of the hazard-pointer model (property C14):
  `plist` never overflows, `retired_count` mirrors the retired list, after a scan
  `2·retired_count ≤ retire_threshold`, and outside `hazard_pointer_free`/scan
  `retired_count < retire_threshold`.
-/
import LibfiberVerif.Proof.Hp

namespace LibfiberVerif.Hp

/-- not inside the counting part of `hazard_pointer_free` / an in-`free` scan / the decide
    phase of a scan -/
def Pc.quiet : Pc → Bool
  | .freeInc | .scanStart true | .scanHead true _ | .scanWalk true _ _ _ _ _ _
  | .scanDecide _ _ _ | .scanKeep _ _ _ _ _ => false
  | _ => true

/-- program counters at which `RcOk` and `ScanOk` take their default form (`RcOk_plain`, `ScanOk_plain`) -/
def Pc.plain : Pc → Bool
  | .freeCalled | .freeRc _ | .freeInc | .scanStart true | .scanHead true _ | .scanWalk _ _ _ _ _ _ _
  | .scanDecide _ _ _ | .scanKeep _ _ _ _ _ => false
  | _ => true

/-- `retired_count` versus the retired list -/
def RcOk (s : St) (t : Nat) : Pc → Prop
  | .freeCalled => s.rc t + 1 = (s.rlist t).length
  | .freeRc v => v = s.rc t ∧ s.rc t + 1 = (s.rlist t).length
  | .scanKeep _ _ _ _ v => v = s.rc t ∧ s.rc t = (s.rlist t).length
  | _ => s.rc t = (s.rlist t).length

/-- how many of the records in `l` have completed `create_and_push` -/
def jcount (s : St) (l : List Nat) : Nat := l.countP (fun u => (s.pc u).joined)

def ScanOk (s : St) (t : Nat) : Pc → Prop
  | .scanWalk _ h cap cur i pl walked =>
      h ≠ 0 ∧ h - 1 ∈ s.recs ∧ ptrOk s cur ∧ walked.reverse ++ chain s cur = chain s h ∧
      s.k * (chain s h).length ≤ cap ∧ pl.length ≤ s.k * walked.length + i ∧ (cur = 0 → i = 0) ∧
      pl.length ≤ s.k * jcount s walked + (if cur ≠ 0 ∧ (s.pc (cur - 1)).joined = true then i else 0)
  | .scanDecide _ sp _ => Sorted sp ∧ (∀ n ∈ s.rlist t, n ∈ sp) ∧ 2 * sp.length ≤ s.thr t
  | .scanKeep _ sp n _ _ =>
      Sorted sp ∧ (∀ n ∈ s.rlist t, n ∈ sp) ∧ 2 * sp.length ≤ s.thr t ∧ binarySearch sp n = true
  | _ => True

theorem jcount_cons (s : St) (u : Nat) (l : List Nat) :
    jcount s (u :: l) = jcount s l + if (s.pc u).joined = true then 1 else 0 := by
  simp [jcount, List.countP_cons]

/-- `ScanOk` during the walk, by name: the head that was read is a record; the records read so far
    and those ahead make up the list reachable from it; the capacity suffices for that list; `plist`
    holds at most `K` entries per record read, and in fact per record read that has joined -/
structure Walk (s : St) (h cap cur i : Nat) (pl walked : List Nat) : Prop where
  h0 : h ≠ 0
  hrec : h - 1 ∈ s.recs
  hcur : ptrOk s cur
  split : walked.reverse ++ chain s cur = chain s h
  hcap : s.k * (chain s h).length ≤ cap
  len : pl.length ≤ s.k * walked.length + i
  i0 : cur = 0 → i = 0
  cnt : pl.length ≤ s.k * jcount s walked + (if cur ≠ 0 ∧ (s.pc (cur - 1)).joined = true then i else 0)

theorem scanOk_walk {s : St} {t : Nat} {c : Bool} {h cap cur i : Nat} {pl walked : List Nat} :
    ScanOk s t (.scanWalk c h cap cur i pl walked) ↔ Walk s h cap cur i pl walked :=
  ⟨fun ⟨a1, a2, a3, a4, a5, a6, a7, a8⟩ => ⟨a1, a2, a3, a4, a5, a6, a7, a8⟩,
   fun w => ⟨w.h0, w.hrec, w.hcur, w.split, w.hcap, w.len, w.i0, w.cnt⟩⟩

structure Loc3 (s : St) (t : Nat) (p : Pc) : Prop where
  rcok : RcOk s t p
  bound : p.quiet = true → p.joined = true → s.rc t < s.thr t
  scan : ScanOk s t p
  fresh : p.joined = false → s.rlist t = []

structure Inv3 (s : St) : Prop where
  loc : ∀ t, Loc3 s t (s.pc t)
  kpos : 0 < s.k

theorem inv3_init (k : Nat) (hk : 0 < k) : Inv3 (init k) := by
  refine ⟨?_, hk⟩
  intro t; constructor <;> simp [init, RcOk, ScanOk, Pc.joined]

theorem Frame3.ptrOk {s s' : St} {t : Nat} (f : Frame3 s s' t) {q : Nat} (h : ptrOk s q) : ptrOk s' q := by
  rcases h with h | h
  · exact Or.inl h
  · exact Or.inr (f.recs _ h)

theorem Frame3.jcount {s s' : St} {t : Nat} (f : Frame3 s s' t) (l : List Nat) : jcount s l ≤ jcount s' l := by
  unfold Hp.jcount
  apply List.countP_mono_left
  intro x _ hx; exact f.joined x hx

theorem Loc3.stable {s s' : St} {t u : Nat} {p : Pc} (h : Loc3 s u p) (f : Frame3 s s' t) (hu : u ≠ t) :
    Loc3 s' u p := by
  have e1 := f.rc u hu
  have e2 := f.rlist u hu
  have e3 := f.thr u hu
  constructor
  · have := h.rcok
    cases p <;> simp only [RcOk, e1, e2] at this ⊢ <;> exact this
  · intro a b; have := h.bound a b; omega
  · have := h.scan
    cases p <;> simp only [ScanOk, e2] at this ⊢
    · next c hh cap cur i pl walked =>
      have w := scanOk_walk.mp h.scan
      have hh' : Hp.ptrOk s hh := Or.inr w.hrec
      refine ⟨w.h0, f.recs _ w.hrec, f.ptrOk w.hcur, ?_, ?_, ?_, w.i0, ?_⟩
      · rw [f.chain _ w.hcur, f.chain _ hh']; exact w.split
      · rw [f.chain _ hh', f.k]; exact w.hcap
      · rw [f.k]; exact w.len
      · rw [f.k]
        have hj := f.jcount walked
        have : s.k * Hp.jcount s walked ≤ s.k * Hp.jcount s' walked := Nat.mul_le_mul_left _ hj
        have a8 := w.cnt
        split
        · split at a8 <;> omega
        · next hn =>
          split at a8
          · next hy => exact absurd ⟨hy.1, f.joined _ hy.2⟩ hn
          · omega
    · exact ⟨this.1, this.2.1, by omega⟩
    · exact ⟨this.1, this.2.1, by omega, this.2.2.2⟩
  · rw [e2]; exact h.fresh

theorem Inv3.mk' {s s' : St} {t : Nat} {p' : Pc} (h3 : Inv3 s) (hpc : s'.pc = upd s.pc t p')
    (f : Frame3 s s' t) (ht : Loc3 s' t p') : Inv3 s' := by
  refine ⟨?_, by rw [f.k]; exact h3.kpos⟩
  intro u
  rw [hpc]
  by_cases e : u = t
  · subst e; rw [upd_same]; exact ht
  · rw [upd_other _ _ _ _ e]; exact (h3.loc u).stable f e

theorem Inv3.loc_at {s : St} (h3 : Inv3 s) {t : Nat} {p : Pc} (hpc : s.pc t = p) : Loc3 s t p :=
  hpc ▸ h3.loc t

theorem RcOk_plain {s : St} {t : Nat} {p : Pc} (hp : p.plain = true) :
    RcOk s t p = (s.rc t = (s.rlist t).length) := by
  cases p <;> simp_all [Pc.plain, RcOk]

theorem ScanOk_plain {s : St} {t : Nat} {p : Pc} (hp : p.plain = true) : ScanOk s t p = True := by
  cases p <;> simp_all [Pc.plain, ScanOk]

theorem quiet_plain {p : Pc} (hp : p.plain = true) : p.quiet = true := by
  cases p <;> simp_all [Pc.plain, Pc.quiet]
  next c => cases c <;> simp_all
  next c h => cases c <;> simp_all

theorem Loc3.simple {s s' : St} {t : Nat} {p p' : Pc} (h : Loc3 s t p) (hp : p.plain = true)
    (hp' : p'.plain = true) (e1 : s'.rc t = s.rc t) (e2 : s'.rlist t = s.rlist t)
    (e3 : p'.joined = true → s.thr t ≤ s'.thr t) (hj : p'.joined = p.joined) : Loc3 s' t p' := by
  constructor
  · rw [RcOk_plain hp', e1, e2]; have := h.rcok; rw [RcOk_plain hp] at this; exact this
  · intro _ b; have := h.bound (quiet_plain hp) (by rw [← hj]; exact b); have := e3 b; omega
  · rw [ScanOk_plain hp']; trivial
  · intro b; rw [e2]; exact h.fresh (by rw [← hj]; exact b)

macro "simple3" h3:ident "," t:term "," fr:ident "," hpc:ident : tactic => `(tactic| (
  have hl := ($h3).loc $t
  rw [$hpc:ident] at hl
  exact Inv3.mk' $h3 rfl $fr (hl.simple (by simp [Pc.plain]) (by simp [Pc.plain]) rfl rfl
       (fun _ => Nat.le_refl _) (by simp [Pc.joined]))))

macro "simple3nj" h3:ident "," t:term "," fr:ident "," hpc:ident : tactic => `(tactic| (
  have hl := ($h3).loc $t
  rw [$hpc:ident] at hl
  exact Inv3.mk' $h3 rfl $fr (hl.simple (by simp [Pc.plain]) (by simp [Pc.plain]) rfl rfl
       (by simp [Pc.joined]) (by simp [Pc.joined]))))

theorem Inv1.thr_pos {s : St} (h1 : Inv1 s) (hk : 0 < s.k) {t : Nat} (ht : t ∈ s.recs) : 0 < s.thr t := by
  rw [h1.thr_eq t ht]
  apply Nat.mul_pos _ hk
  omega

theorem joined_recs {s : St} (h1 : Inv1 s) {t : Nat} (hj : (s.pc t).joined = true) : t ∈ s.recs := by
  rw [h1.pushed]; exact joined_pushed hj

theorem ScanOk_walk_congr {s s' : St} {t : Nat} {c : Bool} {h cap cur i : Nat} {pl walked : List Nat}
    (hk : s'.k = s.k) (hrecs : s'.recs = s.recs) (hold : s'.older = s.older)
    (hj : ∀ w, (s'.pc w).joined = (s.pc w).joined) :
    ScanOk s' t (.scanWalk c h cap cur i pl walked) = ScanOk s t (.scanWalk c h cap cur i pl walked) := by
  simp only [ScanOk, chain, ptrOk, jcount, hk, hrecs, hold, hj]

theorem joined_setPc {s : St} {t : Nat} {p p' : Pc} (hpc : s.pc t = p) (hj : p'.joined = p.joined) :
    ∀ w, ((setPc s t p').pc w).joined = (s.pc w).joined := by
  intro w
  by_cases e : w = t
  · subst e; simp [setPc, hpc, hj]
  · simp [setPc, upd, e]

/-- the end of a scan: `retired_count ≤ |plist|` and `2·|plist| ≤ retire_threshold` -/
theorem scan_end_bound {s : St} {t : Nat} {c : Bool} {sp : List Nat} (h1 : Inv1 s) (h2 : Inv2 s)
    (h3 : Inv3 s) (hpc : s.pc t = .scanDecide c sp []) :
    s.rc t ≤ sp.length ∧ 2 * sp.length ≤ s.thr t ∧ s.rc t < s.thr t := by
  have hl := h3.loc_at hpc
  obtain ⟨_, b, c'⟩ := hl.scan
  have hrc : s.rc t = (s.rlist t).length := hl.rcok
  have hle : (s.rlist t).length ≤ sp.length :=
    (List.nodup_append.mp (h2.loc t).rl_nd).1.length_le_of_subset b
  have hpos := h1.thr_pos h3.kpos (joined_recs h1 (by rw [hpc]; rfl))
  refine ⟨by omega, c', by omega⟩

theorem PcMove.loc3 {s : St} {t : Nat} {p p' : Pc} {e : Ev} (h1 : Inv1 s) (h2 : Inv2 s) (h3 : Inv3 s)
    (hpc : s.pc t = p) (hm : PcMove s t p e p') : Loc3 (setPc s t p') t p' := by
  have hl := h3.loc_at hpc
  cases hm with
  | retJoin =>
    refine ⟨hl.rcok, fun _ _ => ?_, trivial, by simp [Pc.joined]⟩
    have h0 : s.rlist t = [] := hl.fresh (by simp [Pc.joined])
    have hrc : s.rc t = (s.rlist t).length := hl.rcok
    have := h1.thr_pos h3.kpos (t := t) (by rw [h1.pushed, hpc]; simp [Pc.pushed])
    show s.rc t < s.thr t
    rw [hrc, h0]; exact this
  | ldHead_scan c h0 =>
    refine ⟨hl.rcok, fun a b => ?_, trivial, by simp [Pc.joined]⟩
    apply hl.bound _ (by simp [Pc.joined])
    cases c <;> simp_all [Pc.quiet]
  | rdNext_walk c h cap cur pl walked hc0 =>
    refine ⟨hl.rcok, ?_, ?_, by simp [Pc.joined]⟩
    · intro a b
      apply hl.bound _ (by simp [Pc.joined])
      cases c <;> simp_all [Pc.quiet]
    · have hj := joined_setPc (p' := .scanWalk c h cap (s.next (cur - 1)) 0 pl ((cur - 1) :: walked)) hpc rfl
      rw [ScanOk_walk_congr (s := s) (s' := setPc s t _) rfl rfl rfl hj]
      have w := scanOk_walk.mp hl.scan
      have hr : cur - 1 ∈ s.recs := Or.resolve_left w.hcur hc0
      have hch := h1.nxt _ hr
      have hcur : chain s cur = (cur - 1) :: s.older (cur - 1) := by simp [chain, hc0]
      refine scanOk_walk.mpr { w with hcur := h1.ptrOk_next hr, split := ?_, len := ?_, i0 := by simp, cnt := ?_ }
      · rw [hch, ← w.split, hcur]; simp
      · have := w.len
        simp only [List.length_cons, Nat.mul_succ]; omega
      · rw [jcount_cons, ite_self]
        have a8 := w.cnt
        simp only [hc0, ne_eq, not_false_eq_true, true_and] at a8
        split at a8 <;> simp [*, Nat.mul_add] <;> omega
  | ldThr_scan hle => exact ⟨hl.rcok, by simp [Pc.quiet], trivial, by simp [Pc.joined]⟩
  | ldThr_done hle =>
    exact ⟨hl.rcok, fun _ _ => by show s.rc t < s.thr t; omega, trivial, by simp [Pc.joined]⟩
  | ldThr_cap c h =>
    obtain ⟨h0, hr, _⟩ := h2.pcok_at hpc
    refine ⟨hl.rcok, ?_, ?_, by simp [Pc.joined]⟩
    · intro a b
      apply hl.bound _ (by simp [Pc.joined])
      cases c <;> simp_all [Pc.quiet]
    · have hthr := h1.thr_eq _ hr
      have hlen : (chain s h).length = 1 + (s.older (h - 1)).length := by simp [chain, h0]; omega
      refine scanOk_walk.mpr ⟨h0, hr, Or.inr hr, by simp, ?_, by simp, by simp, by simp⟩
      show s.k * (chain s h).length ≤ s.thr (h - 1) / 2
      rw [Nat.le_div_iff_mul_le (by omega), hthr, hlen,
        show s.k * (1 + (s.older (h - 1)).length) * 2 = 2 * (1 + (s.older (h - 1)).length) * s.k by ac_rfl]
      exact Nat.mul_le_mul_right _ (by omega)
  | rdRc_free =>
    exact ⟨⟨rfl, hl.rcok⟩, fun _ _ => hl.bound (by simp [Pc.quiet]) (by simp [Pc.joined]), trivial,
      by simp [Pc.joined]⟩
  | rdRc_keep c sp n todo hbs =>
    obtain ⟨a, b, c⟩ := hl.scan
    exact ⟨⟨rfl, hl.rcok⟩, by simp [Pc.quiet], ⟨a, b, c, hbs⟩, by simp [Pc.joined]⟩
  | rdHp c h cap cur i pl walked hc0 hjk =>
    refine ⟨hl.rcok, ?_, ?_, by simp [Pc.joined]⟩
    · intro a b
      apply hl.bound _ (by simp [Pc.joined])
      cases c <;> simp_all [Pc.quiet]
    · have hj := joined_setPc (p' := .scanWalk c h cap cur (i + 1)
        (if s.hp (cur - 1) i = 0 then pl else pl ++ [s.hp (cur - 1) i]) walked) hpc rfl
      rw [ScanOk_walk_congr (s := s) (s' := setPc s t _) rfl rfl rfl hj]
      have w := scanOk_walk.mp hl.scan
      have hlen : (if s.hp (cur - 1) i = 0 then pl else pl ++ [s.hp (cur - 1) i]).length ≤ pl.length + 1 := by
        split <;> simp
      have a8 := w.cnt
      refine scanOk_walk.mpr { w with len := by have := w.len; omega, i0 := fun e => absurd e hc0, cnt := ?_ }
      simp only [hc0, ne_eq, not_false_eq_true, true_and] at a8 ⊢
      by_cases hv0 : s.hp (cur - 1) i = 0
      · simp only [hv0, if_true]
        split
        · split at a8 <;> omega
        · next hn => simp only [hn] at a8; simpa using a8
      · have hjn : (s.pc (cur - 1)).joined = true := by
          cases hq : (s.pc (cur - 1)).joined
          · exact absurd ((h2.loc (cur - 1)).hp0 hq i) hv0
          · rfl
        simp only [hjn, if_true] at a8 ⊢
        simp only [hv0, if_false, List.length_append, List.length_cons, List.length_nil]
        omega
  | retRetire_scan sp | retScan sp =>
    exact ⟨hl.rcok, fun _ _ => (scan_end_bound h1 h2 h3 hpc).2.2, trivial, by simp [Pc.joined]⟩
  -- the other moves are between plain program counters
  | _ =>
    exact hl.simple (by simp [Pc.plain]) (by simp [Pc.plain]) rfl rfl (fun _ => Nat.le_refl _)
      (by simp [Pc.joined])

theorem inv3_step {s s' : St} {e : Ev} (h1 : Inv1 s) (h2 : Inv2 s) (h3 : Inv3 s)
    (hs : step s e = some s') : Inv3 s' := by
  have hs := step_sound hs
  have fr := (frame_step h1 h2 hs).toFrame3
  cases hs with
  | move t p p' e hpc hm => exact Inv3.mk' h3 rfl (hm.tid ▸ fr) (hm.loc3 h1 h2 h3 hpc)
  | use_idle => exact h3
  | stThr t _ _ hpc | faddThr t _ hpc _ => simple3nj h3, t, fr, hpc
  | wrNext t _ hpc | casHead t _ hpc _ | wrHp_acq t _ _ _ hpc | wrHp_rel t _ hpc | ldG_valid t _ _ hpc
  | alloc t _ _ hpc _ _ | xchgG t _ _ hpc =>
    simple3 h3, t, fr, hpc
  | wrRc_free r v0 hpc =>
    have hl := h3.loc_at hpc
    refine Inv3.mk' h3 rfl fr ⟨?_, by simp [Pc.quiet], trivial, by simp [Pc.joined]⟩
    obtain ⟨a, b⟩ := hl.rcok
    show upd s.rc r (v0 + 1) r = _
    rw [upd_same, a]; exact b
  | wrRc_sort r c h cap i pl walked hpc =>
    have hl := h3.loc_at hpc
    have hrr : r ∈ s.recs := joined_recs h1 (by rw [hpc]; rfl)
    refine Inv3.mk' h3 rfl fr ⟨?_, by simp [Pc.quiet], ?_, by simp [Pc.joined]⟩
    · show upd s.rc r 0 r = (upd s.rlist r [] r).length
      simp
    · have w := scanOk_walk.mp hl.scan
      have a8 := w.cnt
      refine ⟨sorted_isort pl, by simp [upd], ?_⟩
      show 2 * (isort pl).length ≤ s.thr r
      rw [length_isort]
      simp only [ne_eq, not_true_eq_false, false_and, if_false, Nat.add_zero] at a8
      -- the records walked that have joined: a duplicate-free list, all accounted for in `thr r`
      have hw : walked.reverse = chain s h := by simpa [chain] using w.split
      have hnd : walked.Nodup := by
        have := h1.chain_nodup (Or.inr w.hrec : ptrOk s h)
        rw [← hw] at this; exact (List.reverse_perm walked).nodup_iff.mp this
      have hsub : ∀ u ∈ walked, u ∈ s.recs := by
        intro u hu
        apply h1.chain_sub (Or.inr w.hrec : ptrOk s h)
        rw [← hw]; simp [hu]
      have hge := h1.thr_ge hrr (L := walked.filter (fun u => (s.pc u).joined))
        (List.Nodup.sublist List.filter_sublist hnd)
        (by intro j hj; rw [List.mem_filter] at hj; exact ⟨hsub j hj.1, hj.2⟩)
      have hcnt : jcount s walked = (walked.filter (fun u => (s.pc u).joined)).length := by
        simp [jcount, List.countP_eq_length_filter]
      rw [← hcnt] at hge
      have : 2 * (s.k * jcount s walked) = 2 * jcount s walked * s.k := by
        rw [Nat.mul_comm s.k, Nat.mul_assoc]
      omega
  | wrRc_keep r c sp n todo v0 hpc =>
    have hl := h3.loc_at hpc
    refine Inv3.mk' h3 rfl fr ⟨?_, by simp [Pc.quiet], ?_, by simp [Pc.joined]⟩
    · obtain ⟨a, b⟩ := hl.rcok
      show upd s.rc r (v0 + 1) r = (upd s.rlist r (n :: s.rlist r) r).length
      simp [a, b]
    · obtain ⟨a, b, c', d⟩ := hl.scan
      refine ⟨a, ?_, c'⟩
      intro m hm
      change m ∈ upd s.rlist r (n :: s.rlist r) r at hm
      rw [upd_same, List.mem_cons] at hm
      rcases hm with rfl | hm
      · exact (binarySearch_iff a m).mp d
      · exact b m hm
  | reclaim t c sp n todo hpc hbs =>
    have hl := h3.loc_at hpc
    exact Inv3.mk' h3 rfl fr ⟨hl.rcok, by simp [Pc.quiet], hl.scan, by simp [Pc.joined]⟩
  | callRetire t n hpc h0 =>
    have hl := h3.loc_at hpc
    refine Inv3.mk' h3 rfl fr ⟨?_, fun _ _ => hl.bound (by simp [Pc.quiet]) (by simp [Pc.joined]), trivial,
      by simp [Pc.joined]⟩
    have : s.rc t = (s.rlist t).length := hl.rcok
    simp [RcOk, this]

theorem inv_of_run {k : Nat} (hk : 0 < k) {es : List Ev} {s : St} (h : (sys k).run es = some s) :
    Inv1 s ∧ Inv2 s ∧ Inv3 s :=
  have := Sys.inv_of_run (sys k) (fun s => Core s ∧ Inv2 s ∧ Inv3 s) ⟨core_init k, inv2_init k, inv3_init k hk⟩
    (fun _ _ _ hi hs =>
      ⟨hi.1.step hs, inv2_step hi.1.inv1 hi.2.1 hs, inv3_step hi.1.inv1 hi.2.1 hi.2.2 hs⟩) h
  ⟨this.1.inv1, this.2⟩

theorem prot_step {s s' : St} {e : Ev} (hs : step s e = some s') (u j : Nat) :
    s'.prot u j = s.prot u j ∨
    (∃ v, e = .wrHp u u j v ∧ s'.prot u j = 0) ∨
    (∃ g, e = .ldG u g (s'.prot u j) ∧ s.g g = s'.prot u j ∧ (∃ g', s.pc u = .acqFenced g' j (s'.prot u j))) := by
  cases step_sound hs with
  | wrHp_acq r _ i _ _ | wrHp_rel r i _ =>
    show upd2 s.prot r i 0 u j = _ ∨ _
    rw [upd2_apply]
    split
    · next h => obtain ⟨rfl, rfl⟩ := h; right; left; exact ⟨_, rfl, by simp [upd2_apply]⟩
    · left; rfl
  | ldG_valid t g sl hpc =>
    show upd2 s.prot t sl (s.g g) u j = _ ∨ _
    rw [upd2_apply]
    split
    · next h =>
      obtain ⟨rfl, rfl⟩ := h; right; right
      refine ⟨g, ?_, ?_, g, ?_⟩ <;> simp [upd2_apply, hpc]
    · left; rfl
  -- no other step writes `prot`
  | _ => exact Or.inl rfl

end LibfiberVerif.Hp
