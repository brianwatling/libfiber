/-
  Proof/Ctx.lean — lemmas about the GENERATED x86-64 context switch (property C19).

  `swap` = the instruction list of `Gen.CtxAsm.swapInstrs` run on the machine model of
  `Model/Ctx.lean`, entered with the operand bindings `Gen.CtxAsm.swapInputs`.
  Everything here is ∀ register contents, ∀ memory, modular 64-bit address arithmetic.
-/
import LibfiberVerif.Core.Sys
import LibfiberVerif.Gen.CtxAsm

namespace LibfiberVerif.Ctx
open LibfiberVerif.Gen.CtxAsm

/-- `fiber_context_swap(from, to)` as extracted from the source -/
def swap (lbl : Nat → W) (fromSlot toSlot : W) (m : Machine) : Machine :=
  swapWith swapInstrs swapInputs lbl fromSlot toSlot m

/-- `fiber_context_init`'s stack-pointer statements as extracted from the source -/
def freshInit (stack size fn param : W) (mem : W → W) : InitSt :=
  initRun initOps stack size fn param mem

theorem setR_apply (f : Reg → W) (r x : Reg) (v : W) :
    setR f r v x = if x = r then v else f x := rfl

theorem setM_apply (m : W → W) (a v x : W) : setM m a v x = if x = a then v else m x := rfl

theorem sub_sub_lit (a : W) (x y : Nat) :
    a - BitVec.ofNat 64 x - BitVec.ofNat 64 y = a - BitVec.ofNat 64 (x + y) := by
  bv_omega

theorem sub_lit_inj (a x y : W) : (a - x = a - y) = (x = y) := by
  apply propext; constructor <;> intro h <;> bv_omega
theorem add_lit_inj (a x y : W) : (a + x = a + y) = (x = y) := by
  apply propext; constructor <;> intro h <;> bv_omega
theorem sub_add_lit (a : W) (x y : Nat) (h : y ≤ x) (_hx : x < 2 ^ 64) :
    a - BitVec.ofNat 64 x + BitVec.ofNat 64 y = a - BitVec.ofNat 64 (x - y) := by
  bv_omega

theorem sub_lit_toNat (a : W) (k : Nat) (h : k ≤ a.toNat) :
    (a - BitVec.ofNat 64 k).toNat = a.toNat - k := by
  bv_omega

/-- `x & ~0x0f` rounds down to a multiple of 16 -/
theorem andNot15_toNat (x : W) : (x &&& ~~~15#64).toNat = x.toNat - x.toNat % 16 := by
  have maskBits : ∀ i, i < 64 → (~~~15#64 : W).getLsbD i = decide (4 ≤ i) := by decide
  have shifts : x &&& ~~~15#64 = (x >>> 4) <<< 4 := by
    apply BitVec.eq_of_getLsbD_eq
    intro i hi
    rw [BitVec.getLsbD_and, maskBits i hi]
    simp only [BitVec.getLsbD_shiftLeft, BitVec.getLsbD_ushiftRight]
    by_cases h : i < 4
    · simp [h]
    · have : 4 + (i - 4) = i := by omega
      simp [h, this, hi]
      intro; omega
  rw [shifts]
  simp [BitVec.toNat_shiftLeft, BitVec.toNat_ushiftRight, Nat.shiftLeft_eq,
    Nat.shiftRight_eq_div_pow]
  omega

/-! ## What one `swap` does, in closed form -/

/-- the callee-saved part of a context: what the ABI obliges a function to preserve,
    plus the stack pointer and the address execution continues at -/
structure Saved where
  rbx : W
  rbp : W
  r12 : W
  r13 : W
  r14 : W
  r15 : W
  rsp : W
  rip : W

/-- the callee-saved view of a running machine that is about to resume at `rip` -/
def savedOf (reg : Reg → W) (rip : W) : Saved :=
  { rbx := reg .rbx, rbp := reg .rbp, r12 := reg .r12, r13 := reg .r13, r14 := reg .r14,
    r15 := reg .r15, rsp := reg .rsp, rip := rip }

/-- memory holds a suspended frame for `sv` at stack-pointer value `sp` -/
def FrameAt (mem : W → W) (sp : W) (sv : Saved) : Prop :=
  mem sp = sv.r15 ∧ mem (sp + 8) = sv.r14 ∧ mem (sp + 16) = sv.r13 ∧ mem (sp + 24) = sv.r12 ∧
  mem (sp + 32) = sv.rbx ∧ mem (sp + 40) = sv.rbp ∧ mem (sp + 48) = sv.rip ∧ sp + 56 = sv.rsp

/-- the cells a suspended frame at `sp` occupies -/
def frameCells (sp : W) : List W := [sp, sp + 8, sp + 16, sp + 24, sp + 32, sp + 40, sp + 48]

/-- the cells below `rsp` that the save half of a swap pushes to -/
def pushCells (rsp : W) : List W :=
  [rsp - 8, rsp - 16, rsp - 24, rsp - 32, rsp - 40, rsp - 48, rsp - 56]

theorem frameCells_of_pushed (rsp : W) : frameCells (rsp - 56) = (pushCells rsp).reverse := by
  simp [frameCells, pushCells, sub_add_lit]

/-- a frame is read off its seven cells only … -/
theorem FrameAt_congr (mem mem' : W → W) (sp : W) (sv : Saved)
    (h : ∀ a ∈ frameCells sp, mem a = mem' a) (hf : FrameAt mem' sp sv) : FrameAt mem sp sv := by
  simp only [frameCells, List.mem_cons, List.not_mem_nil, or_false, forall_eq_or_imp,
    forall_eq] at h
  obtain ⟨h0, h1, h2, h3, h4, h5, h6⟩ := h
  unfold FrameAt at *
  rw [h0, h1, h2, h3, h4, h5, h6]; exact hf

/-- … and they determine the saved state -/
theorem FrameAt_unique {mem : W → W} {sp : W} {a b : Saved} (ha : FrameAt mem sp a)
    (hb : FrameAt mem sp b) : a = b := by
  cases a; cases b
  obtain ⟨rfl, rfl, rfl, rfl, rfl, rfl, rfl, rfl⟩ := ha
  obtain ⟨rfl, rfl, rfl, rfl, rfl, rfl, rfl, rfl⟩ := hb
  rfl

/-- memory after the save half: seven pushes below `rsp`, then the slot -/
def savedMem (lbl : Nat → W) (reg : Reg → W) (mem : W → W) (fromSlot : W) : W → W :=
  let sp := reg .rsp
  setM (setM (setM (setM (setM (setM (setM (setM mem
    (sp - 8) (lbl 0)) (sp - 16) (reg .rbp)) (sp - 24) (reg .rbx)) (sp - 32) (reg .r12))
    (sp - 40) (reg .r13)) (sp - 48) (reg .r14)) (sp - 56) (reg .r15)) fromSlot (sp - 56)

/-- The instruction list executed once, symbolically: memory is `savedMem`; the jump target is
    read through the incoming stack pointer `m.mem toSlot` before the pushes, `rdi` after them;
    the callee-saved registers are popped from the frame there. -/
theorem swap_exec (lbl : Nat → W) (fs ts : W) (m : Machine) :
    (swap lbl fs ts m).mem = savedMem lbl m.reg m.mem fs ∧
    (swap lbl fs ts m).rip = .atAddr (m.mem (m.mem ts + 48)) ∧
    (swap lbl fs ts m).reg .rdi = (swap lbl fs ts m).mem (m.mem ts + 64) ∧
    FrameAt (swap lbl fs ts m).mem (m.mem ts)
      (savedOf (swap lbl fs ts m).reg ((swap lbl fs ts m).mem (m.mem ts + 48))) := by
  simp [swap, swapWith, swapInstrs, swapInputs, enter, run, exec, evalSp, slotOf, List.foldl,
    setR_apply, sub_sub_lit, BitVec.add_assoc, savedMem, FrameAt, savedOf]

theorem swap_mem (lbl : Nat → W) (fs ts : W) (m : Machine) :
    (swap lbl fs ts m).mem = savedMem lbl m.reg m.mem fs := (swap_exec lbl fs ts m).1

theorem swap_rdi (lbl : Nat → W) (fs ts : W) (m : Machine) :
    (swap lbl fs ts m).reg .rdi = (swap lbl fs ts m).mem (m.mem ts + 64) :=
  (swap_exec lbl fs ts m).2.2.1

theorem swap_rsp (lbl : Nat → W) (fs ts : W) (m : Machine) :
    (swap lbl fs ts m).reg .rsp = m.mem ts + 56 :=
  (swap_exec lbl fs ts m).2.2.2.2.2.2.2.2.2.2.symm

theorem savedMem_other (lbl : Nat → W) (reg : Reg → W) (mem : W → W) (fs a : W)
    (hp : a ∉ pushCells (reg .rsp)) (hs : a ≠ fs) : savedMem lbl reg mem fs a = mem a := by
  simp [pushCells] at hp
  simp [savedMem, setM_apply, hp, hs]

/-- `swap_saves_frame`: after `swap` the outgoing context's slot points at a frame holding
    exactly its callee-saved registers, its stack pointer and the resume address `lbl 0`
    (provided its `ctx_stack_pointer` field is not inside the seven cells being pushed). -/
theorem swap_saves_frame' (lbl : Nat → W) (fs ts : W) (m : Machine)
    (hclear : fs ∉ pushCells (m.reg .rsp)) :
    (swap lbl fs ts m).mem fs = m.reg .rsp - 56 ∧
    FrameAt (swap lbl fs ts m).mem (m.reg .rsp - 56) (savedOf m.reg (lbl 0)) := by
  have h : ∀ a ∈ pushCells (m.reg .rsp), a ≠ fs := fun a ha e => hclear (e ▸ ha)
  simp [pushCells] at h
  simp [swap_mem, FrameAt, savedOf, savedMem, setM_apply, sub_add_lit, h]

theorem swap_writes_only' (lbl : Nat → W) (fs ts : W) (m : Machine) (a : W)
    (hp : a ∉ pushCells (m.reg .rsp)) (hs : a ≠ fs) :
    (swap lbl fs ts m).mem a = m.mem a := by
  rw [swap_mem, savedMem_other _ _ _ _ _ hp hs]

/-! ## The fresh frame of `fiber_context_init` -/

/-- 16-byte aligned top of the fresh frame: `((stack + size) - 8) & ~0x0f` -/
def freshTop (stack size : W) : W := (stack + size - 8) &&& ~~~15#64

/-- what the store sequence leaves behind, as a function of the aligned top `A` -/
def freshAt (A fn param : W) (mem : W → W) : InitSt where
  sp := A - 80
  mem := setM (setM (setM (setM (setM (setM (setM (setM (setM mem
    (A - 16) param) (A - 24) 0) (A - 32) fn) (A - 40) 0) (A - 48) 0) (A - 56) 0)
    (A - 64) 0) (A - 72) 0) (A - 80) 0
  writes := [A - 80, A - 72, A - 64, A - 56, A - 48, A - 40, A - 32, A - 24, A - 16]

theorem freshInit_eq (stack size fn param : W) (mem : W → W) :
    freshInit stack size fn param mem = freshAt (freshTop stack size) fn param mem := by
  simp [freshInit, initRun, initOps, initStep, initVal, List.foldl, sub_sub_lit, freshTop, freshAt]

/-- the saved state a fresh context starts from -/
def freshSaved (sp fn : W) : Saved :=
  { rbx := 0, rbp := 0, r12 := 0, r13 := 0, r14 := 0, r15 := 0, rsp := sp + 56, rip := fn }

theorem fresh_frame' (stack size fn param : W) (mem : W → W) :
    let s := freshInit stack size fn param mem
    FrameAt s.mem s.sp (freshSaved s.sp fn) ∧ s.mem (s.sp + 56) = 0 ∧ s.mem (s.sp + 64) = param ∧
    s.sp.toNat % 16 = 0 ∧ (s.sp + 56).toNat % 16 = 8 := by
  have hA : (freshTop stack size).toNat % 16 = 0 := by rw [freshTop, andNot15_toNat]; omega
  rw [freshInit_eq]
  generalize freshTop stack size = A at hA
  refine ⟨?_, ?_, ?_, ?_, ?_⟩
  · simp [freshAt, FrameAt, freshSaved, setM_apply, sub_add_lit]
  · simp [freshAt, setM_apply, sub_add_lit]
  · simp [freshAt, setM_apply, sub_add_lit]
  · show (A - 80).toNat % 16 = 0; bv_omega
  · show (A - 80 + 56).toNat % 16 = 8; bv_omega

theorem freshInit_mem_other (stack size fn param : W) (mem : W → W) (a : W)
    (h : a ∉ (freshInit stack size fn param mem).writes) :
    (freshInit stack size fn param mem).mem a = mem a := by
  rw [freshInit_eq] at h ⊢
  simp [freshAt] at h
  simp [freshAt, setM_apply, h]

/-- every cell of the fresh frame (7 register cells, dummy return address, param) is one of
    the cells `fiber_context_init` stored to -/
theorem fresh_cells_written (stack size fn param : W) (mem : W → W) :
    let s := freshInit stack size fn param mem
    ∀ a ∈ frameCells s.sp ++ [s.sp + 56, s.sp + 64], a ∈ s.writes := by
  rw [freshInit_eq]
  simp [freshAt, frameCells, sub_add_lit]

/-- smallest stack size (bytes) for which the fresh frame fits for EVERY stack base:
    9 stored cells + the filler cell + up to 15 bytes lost to alignment + the `- 1` slot
    = 72 + 8 + 15 + 8. -/
def minBytes : Nat := 103
/-- the same for a 16-byte aligned base (what malloc / mmap return) -/
def minBytesAligned : Nat := 88

theorem freshTop_toNat (stack size : W) (hwrap : stack.toNat + size.toNat ≤ 2 ^ 64)
    (h8 : 8 ≤ size.toNat) :
    (freshTop stack size).toNat =
      (stack.toNat + size.toNat - 8) - (stack.toNat + size.toNat - 8) % 16 := by
  have hT : (stack + size - 8).toNat = stack.toNat + size.toNat - 8 := by bv_omega
  rw [freshTop, andNot15_toNat, hT]

/-- the nine stores lie in `[A - 80, A - 8)`: in bounds as soon as that interval is -/
theorem freshAt_in_bounds (A fn param : W) (mem : W → W) (lo hi : Nat)
    (hlo : lo + 80 ≤ A.toNat) (hhi : A.toNat ≤ hi + 8) :
    ∀ a ∈ (freshAt A fn param mem).writes, lo ≤ a.toNat ∧ a.toNat + 8 ≤ hi := by
  intro a ha
  simp [freshAt] at ha
  rcases ha with rfl | rfl | rfl | rfl | rfl | rfl | rfl | rfl | rfl <;>
    (rw [sub_lit_toNat _ _ (by omega)]; omega)

/-! ## Any number of contexts on any number of kernel threads, arbitrary switch sequences -/

/-- which ids are kernel threads / contexts, where each context's `ctx_stack_pointer` field
    lives and which cells belong to it (its stack and that field).  `owns`, `ctx`, `thr` are
    arbitrary predicates: any number of contexts and threads, any sizes, any placement. -/
structure Layout where
  thr : Nat → Prop
  ctx : Nat → Prop
  slot : Nat → W
  owns : Nat → W → Prop

/-- contexts own their slot; no cell belongs to two contexts -/
structure Layout.Ok (L : Layout) : Prop where
  slot_owned : ∀ c, L.ctx c → L.owns c (L.slot c)
  disjoint : ∀ c d a, L.ctx c → L.ctx d → L.owns c a → L.owns d a → c = d

/-- ghost snapshot taken when a context is switched out (or created) -/
structure Snap where
  /-- callee-saved registers, stack pointer, resume address -/
  regs : Saved
  /-- all of memory at that instant (compared on the context's own cells) -/
  mem : W → W
  /-- `some param` for a context that has not run yet -/
  arg : Option W

/-- kernel threads `t` with their own register files, one shared memory, contexts `c`;
    `saved` is ghost state -/
structure World where
  reg : Nat → Reg → W
  rip : Nat → Rip
  mem : W → W
  running : Nat → Nat
  saved : Nat → Option Snap

inductive Step
  /-- kernel thread `t` calls `fiber_context_swap(running t, to)` -/
  | swap (t to : Nat)
  /-- the fiber running on `t` computes: arbitrary new registers / pc, arbitrary stores
      to its own cells -/
  | compute (t : Nat) (reg : Reg → W) (rip : Rip) (writes : List (W × W))
  /-- `fiber_context_init(c, size, fn, param)` with the stack allocated at `stack` -/
  | create (c : Nat) (stack size fn param : W)
  /-- `fiber_context_destroy(c)` -/
  | destroy (c : Nat)

def applyWrites (mem : W → W) : List (W × W) → (W → W)
  | [] => mem
  | (a, v) :: ws => applyWrites (setM mem a v) ws

def machineOf (w : World) (t : Nat) : Machine := { reg := w.reg t, mem := w.mem, rip := w.rip t }

def next (L : Layout) (lbl : Nat → W) (w : World) : Step → World
  | .swap t to =>
      let frm := w.running t
      let m' := swap lbl (L.slot frm) (L.slot to) (machineOf w t)
      { reg := upd w.reg t m'.reg, rip := upd w.rip t m'.rip, mem := m'.mem,
        running := upd w.running t to,
        saved := upd (upd w.saved to none) frm
          (some { regs := savedOf (w.reg t) (lbl 0), mem := m'.mem, arg := none }) }
  | .compute t reg rip ws =>
      { w with reg := upd w.reg t reg, rip := upd w.rip t rip, mem := applyWrites w.mem ws }
  | .create c stack size fn param =>
      let s := freshInit stack size fn param w.mem
      let mem' := setM s.mem (L.slot c) s.sp
      { w with mem := mem',
               saved := upd w.saved c
                 (some { regs := freshSaved s.sp fn, mem := mem', arg := some param }) }
  | .destroy c => { w with saved := upd w.saved c none }

/-- what the CALLER must guarantee (client obligations; C01 is about the runtime meeting
    them): switch only to a suspended context, with room for the 56-byte frame on the own
    stack; compute only on the own cells; initialise only an unused context on cells that
    belong to it; destroy only a suspended context. -/
def Guard (L : Layout) (w : World) : Step → Prop
  | .swap t to =>
      L.thr t ∧ (∃ sn, w.saved to = some sn) ∧
      ∀ a ∈ pushCells (w.reg t .rsp), L.owns (w.running t) a ∧ a ≠ L.slot (w.running t)
  | .compute t _ _ ws => L.thr t ∧ ∀ aw ∈ ws, L.owns (w.running t) aw.1
  | .create c stack size fn param =>
      L.ctx c ∧ w.saved c = none ∧ (∀ t, L.thr t → w.running t ≠ c) ∧
      ∀ a ∈ (freshInit stack size fn param w.mem).writes, L.owns c a ∧ a ≠ L.slot c
  | .destroy c => ∃ sn, w.saved c = some sn

def runSteps (L : Layout) (lbl : Nat → W) (w : World) : List Step → World
  | [] => w
  | e :: es => runSteps L lbl (next L lbl w e) es

def Valid (L : Layout) (lbl : Nat → W) (w : World) : List Step → Prop
  | [] => True
  | e :: es => Guard L w e ∧ Valid L lbl (next L lbl w e) es

/-- a snapshot is a well-formed suspended context `c` -/
structure SnapOk (L : Layout) (c : Nat) (sn : Snap) : Prop where
  frame : FrameAt sn.mem (sn.mem (L.slot c)) sn.regs
  cells : ∀ a ∈ frameCells (sn.mem (L.slot c)), L.owns c a
  arg : ∀ p, sn.arg = some p →
    L.owns c (sn.mem (L.slot c) + 64) ∧ sn.mem (sn.mem (L.slot c) + 64) = p

structure WInv (L : Layout) (w : World) : Prop where
  inj : ∀ t t', L.thr t → L.thr t' → w.running t = w.running t' → t = t'
  rctx : ∀ t, L.thr t → L.ctx (w.running t)
  sctx : ∀ c sn, w.saved c = some sn → L.ctx c
  susp : ∀ c sn, w.saved c = some sn → ∀ t, L.thr t → w.running t ≠ c
  ok : ∀ c sn, w.saved c = some sn → SnapOk L c sn
  agree : ∀ c sn, w.saved c = some sn → ∀ a, L.owns c a → w.mem a = sn.mem a

theorem applyWrites_other (mem : W → W) (ws : List (W × W)) (a : W)
    (h : ∀ aw ∈ ws, aw.1 ≠ a) : applyWrites mem ws a = mem a := by
  induction ws generalizing mem with
  | nil => rfl
  | cons x xs ih =>
    rw [applyWrites, ih _ (fun aw haw => h aw (by simp [haw])),
      setM_other _ _ _ _ (h x (by simp)).symm]

/-- the two ways an updated table of optional entries can hold `x` at `d` -/
theorem upd_eq_some {α : Type} {f : Nat → Option α} {k d : Nat} {v : Option α} {x : α}
    (h : upd f k v d = some x) : d = k ∧ v = some x ∨ d ≠ k ∧ f d = some x := by
  by_cases e : d = k
  · exact .inl ⟨e, by simpa [e] using h⟩
  · exact .inr ⟨e, by simpa [upd, e] using h⟩

section Step
variable {L : Layout} (hL : L.Ok) (lbl : Nat → W) {w : World} (hi : WInv L w)
include hi

include hL in
theorem inv_compute (t : Nat) (reg : Reg → W) (rip : Rip) (ws : List (W × W))
    (hg : Guard L w (.compute t reg rip ws)) : WInv L (next L lbl w (.compute t reg rip ws)) := by
  refine ⟨hi.inj, hi.rctx, hi.sctx, hi.susp, hi.ok, fun c sn hs a ha => ?_⟩
  -- a running context stores to its own cells, and `c` is not running
  rw [← hi.agree c sn hs a ha]
  exact applyWrites_other _ _ _ fun aw haw heq => hi.susp c sn hs t hg.1
    (hL.disjoint _ _ _ (hi.rctx t hg.1) (hi.sctx c sn hs) (hg.2 aw haw) (heq ▸ ha))

theorem inv_destroy (c : Nat) : WInv L (next L lbl w (.destroy c)) := by
  have old : ∀ {d sn}, upd w.saved c none d = some sn → w.saved d = some sn := fun hs =>
    (upd_eq_some hs).elim (fun h => nomatch h.2) (·.2)
  exact ⟨hi.inj, hi.rctx, fun d sn hs => hi.sctx d sn (old hs), fun d sn hs => hi.susp d sn (old hs),
    fun d sn hs => hi.ok d sn (old hs), fun d sn hs => hi.agree d sn (old hs)⟩

include hL in
theorem inv_create (c : Nat) (stack size fn param : W)
    (hg : Guard L w (.create c stack size fn param)) :
    WInv L (next L lbl w (.create c stack size fn param)) := by
  obtain ⟨hc, hnone, hnr, hown⟩ := hg
  obtain ⟨hF, _, hP, _, _⟩ := fresh_frame' stack size fn param w.mem
  have hcw := fresh_cells_written stack size fn param w.mem
  have hoth := freshInit_mem_other stack size fn param w.mem
  simp only [next]
  generalize freshInit stack size fn param w.mem = s at *
  -- the cells of the new frame are owned by `c`, differ from its slot, so keep their contents
  have hcell : ∀ a ∈ frameCells s.sp ++ [s.sp + 56, s.sp + 64],
      L.owns c a ∧ setM s.mem (L.slot c) s.sp a = s.mem a :=
    fun a ha => ⟨(hown a (hcw a ha)).1, setM_other _ _ _ _ (hown a (hcw a ha)).2⟩
  refine ⟨hi.inj, hi.rctx, ?_, ?_, ?_, ?_⟩ <;> intro d sn hs <;>
    rcases upd_eq_some hs with ⟨rfl, hsn⟩ | ⟨hd, hs⟩
  · exact hc
  · exact hi.sctx d sn hs
  · exact hnr
  · exact hi.susp d sn hs
  · cases hsn
    refine ⟨?_, ?_, ?_⟩ <;> simp only [setM_same]
    · exact FrameAt_congr _ _ _ _ (fun a ha => (hcell a (by simp [ha])).2) hF
    · exact fun a ha => (hcell a (by simp [ha])).1
    · intro p hp
      cases hp
      exact ⟨(hcell _ (by simp)).1, (hcell _ (by simp)).2.trans hP⟩
  · exact hi.ok d sn hs
  · cases hsn; exact fun a _ => rfl
  · intro a ha
    -- a cell of another context is neither `c`'s slot nor one of the cells stored to
    have hdc := hi.sctx d sn hs
    have hne : a ≠ L.slot c := fun h => hd (hL.disjoint _ _ _ hdc hc ha (h ▸ hL.slot_owned c hc))
    have hnw : a ∉ s.writes := fun h => hd (hL.disjoint _ _ _ hdc hc ha (hown a h).1)
    exact (setM_other _ _ _ _ hne).trans ((hoth a hnw).trans (hi.agree d sn hs a ha))

include hL in
theorem inv_swap (t to : Nat) (hg : Guard L w (.swap t to)) : WInv L (next L lbl w (.swap t to)) := by
  obtain ⟨ht, ⟨sn0, hs0⟩, hroom⟩ := hg
  have hne : w.running t ≠ to := hi.susp to sn0 hs0 t ht
  have hfc : L.ctx (w.running t) := hi.rctx t ht
  have hsf := swap_saves_frame' lbl (L.slot (w.running t)) (L.slot to) (machineOf w t)
    (fun h => (hroom _ h).2 rfl)
  -- cells of other contexts are untouched
  have hkeep : ∀ d, L.ctx d → d ≠ w.running t → ∀ a, L.owns d a →
      (swap lbl (L.slot (w.running t)) (L.slot to) (machineOf w t)).mem a = w.mem a :=
    fun d hdc hd a ha => swap_writes_only' _ _ _ _ _
      (fun h => hd (hL.disjoint _ _ _ hdc hfc ha (hroom a h).1))
      (fun h => hd (hL.disjoint _ _ _ hdc hfc ha (h ▸ hL.slot_owned _ hfc)))
  simp only [next]
  generalize swap lbl (L.slot (w.running t)) (L.slot to) (machineOf w t) = m' at *
  -- a snapshot in the new table is the one just taken or an old one of a third context
  have hsv : ∀ {d sn new}, upd (upd w.saved to none) (w.running t) (some new) d = some sn →
      d = w.running t ∧ new = sn ∨ (d ≠ w.running t ∧ d ≠ to) ∧ w.saved d = some sn := by
    intro d sn new hs
    rcases upd_eq_some hs with ⟨hd, hn⟩ | ⟨hd, hs⟩
    · exact .inl ⟨hd, Option.some.inj hn⟩
    · rcases upd_eq_some hs with ⟨_, hn⟩ | ⟨hd2, hs⟩
      · cases hn
      · exact .inr ⟨⟨hd, hd2⟩, hs⟩
  refine ⟨?_, ?_, ?_, ?_, ?_, ?_⟩
  · intro t1 t2 ht1 ht2 h
    simp only [upd] at h
    by_cases h1 : t1 = t <;> by_cases h2 : t2 = t <;> simp only [h1, h2, if_true, if_false] at h
    · rw [h1, h2]
    · exact absurd h.symm (hi.susp to sn0 hs0 t2 ht2)
    · exact absurd h (hi.susp to sn0 hs0 t1 ht1)
    · exact hi.inj _ _ ht1 ht2 h
  · intro t1 ht1
    by_cases h1 : t1 = t
    · simp only [h1, upd_same]; exact hi.sctx to sn0 hs0
    · simp only [upd_other _ _ _ _ h1]; exact hi.rctx t1 ht1
  · intro d sn hs
    rcases hsv hs with ⟨rfl, _⟩ | ⟨_, hs⟩
    · exact hfc
    · exact hi.sctx d sn hs
  · intro d sn hs t1 ht1
    by_cases h1 : t1 = t
    · simp only [h1, upd_same]
      rcases hsv hs with ⟨rfl, _⟩ | ⟨hd, _⟩
      · exact hne.symm
      · exact fun h => hd.2 h.symm
    · simp only [upd_other _ _ _ _ h1]
      rcases hsv hs with ⟨rfl, _⟩ | ⟨_, hs⟩
      · exact fun h => h1 (hi.inj _ _ ht1 ht h)
      · exact hi.susp d sn hs t1 ht1
  · intro d sn hs
    rcases hsv hs with ⟨rfl, rfl⟩ | ⟨_, hs⟩
    · refine ⟨?_, ?_, fun p hp => nomatch hp⟩ <;> simp only [hsf.1]
      · exact hsf.2
      · intro a ha
        rw [frameCells_of_pushed] at ha
        exact (hroom a (List.mem_reverse.mp ha)).1
    · exact hi.ok d sn hs
  · intro d sn hs a ha
    rcases hsv hs with ⟨rfl, rfl⟩ | ⟨hd, hs⟩
    · rfl
    · exact (hkeep d (hi.sctx d sn hs) hd.1 a ha).trans (hi.agree d sn hs a ha)

include hL in
theorem inv_step (e : Step) (hg : Guard L w e) : WInv L (next L lbl w e) := by
  cases e with
  | swap t to => exact inv_swap hL lbl hi t to hg
  | compute t reg rip ws => exact inv_compute hL lbl hi t reg rip ws hg
  | create c stack size fn param => exact inv_create hL lbl hi c stack size fn param hg
  | destroy c => exact inv_destroy lbl hi c

end Step

theorem inv_run (L : Layout) (hL : L.Ok) (lbl : Nat → W) (w : World) (hi : WInv L w)
    (es : List Step) (hv : Valid L lbl w es) : WInv L (runSteps L lbl w es) := by
  induction es generalizing w with
  | nil => exact hi
  | cons e es ih => exact ih _ (inv_step hL lbl hi e hv.1) hv.2

/-- steps that end the suspension of context `c` -/
def Step.touches (c : Nat) : Step → Prop
  | .swap _ to => to = c
  | .compute _ _ _ _ => False
  | .create d _ _ _ _ => d = c
  | .destroy d => d = c

/-- a suspended context's snapshot stays what it is until someone resumes / destroys it -/
theorem saved_stable (L : Layout) (lbl : Nat → W) (w : World) (hi : WInv L w) (c : Nat)
    (sn : Snap) (hs : w.saved c = some sn) (es : List Step) (hv : Valid L lbl w es)
    (hL : L.Ok) (hnt : ∀ e ∈ es, ¬ e.touches c) : (runSteps L lbl w es).saved c = some sn := by
  induction es generalizing w with
  | nil => exact hs
  | cons e es ih =>
    have he : ¬ e.touches c := hnt e (by simp)
    refine ih _ (inv_step hL lbl hi e hv.1) ?_ hv.2 (fun e' h' => hnt e' (by simp [h']))
    cases e with
    | swap t to =>
      have hne : c ≠ w.running t := fun h => hi.susp c sn hs t hv.1.1 h.symm
      have hto : c ≠ to := fun h => he h.symm
      simp [next, upd, hne, hto, hs]
    | compute t reg rip ws => exact hs
    | create d stack size fn param =>
      have : c ≠ d := fun h => he h.symm
      simp [next, upd, this, hs]
    | destroy d =>
      have : c ≠ d := fun h => he h.symm
      simp [next, upd, this, hs]

end LibfiberVerif.Ctx
