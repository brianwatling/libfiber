/-
  Proof/SchedN.lean — yield fairness on N kernel threads with work stealing (property C10).

  * `step_*`, `Effect` : what an accepted event does, once per event; `Effect` collects what
                   every event leaves alone (the other threads, the deques under the quiet events,
                   where a fiber can go), so that later proofs look at events only where they
                   differ.
  * `Inv`        : the ghosts `loc` / `busy` are exact, no fiber is in two places, a
                   load_balance call in progress (`lb k > 0`) owns everything in `frm k`.
                   Preserved through `inv_change`: one thread changes what it holds, and that
                   `loc` stays exact is argued once; a steal is two such changes.
  * `rankOn k f` : the one-thread rank (`Sched.rank`) of `f` on the deques of thread `k`.
  * `pot`        : potential of a fiber, `potAt` on the data of its holder.  In `schedule_from`:
                   its position plus the steals the holder may still add in the running
                   load_balance call.  In `store_to`:
                   `2·(#fibers − 1 − [the holder runs a fiber]) − position`
                   (everything that can still be run before it, twice: once out of
                   `schedule_from`, once more as a re-queued yielder in front of it) — the
                   holder may call load_balance with fibers waiting in `store_to`, and what it
                   steals then is run first, but it can only steal fibers that exist.
  * `pot_step`   : every event costs `pot` what it adds to the count of holder switches; only a
                   steal of `f` itself may raise it, to at most `maxSteal - 1` (and the creation
                   / wake-up of another fiber by 2).  Events in which the holder of `f` takes no
                   part are disposed of by `Effect.frame` and `pot_local`; `pot_holder` is the case
                   analysis over the others.
  * `Ready`      : `f`'s context is saved (it is not SAVING_STATE_TO_WAIT) or `f` is nowhere;
                   stable without `sched f`, and a ready fiber is never skipped.
-/
import LibfiberVerif.Model.SchedN
import LibfiberVerif.Proof.Sched
namespace LibfiberVerif.SchedN
open LibfiberVerif.Sched (Phase pos Popped)

theorem next_some {frm to : List Nat} {g : Nat} {frm' to' : List Nat}
    (h : next frm to = some (g, frm', to')) : Popped frm to g frm' to' := by
  cases frm <;> cases to <;> simp [next] at h <;> grind [Popped]

theorem next_none {frm to : List Nat} (h : next frm to = none) : frm = [] ∧ to = [] := by
  cases frm <;> cases to <;> simp [next] at h ⊢

theorem pos_cons (f g : Nat) (l : List Nat) :
    pos f (g :: l) = if g = f then 0 else pos f l + 1 := rfl

theorem popTop_append (r : List Nat) (t : Nat) : popTop (r ++ [t]) = some (t, r) := by
  induction r with
  | nil => rfl
  | cons x r ih =>
    cases r with
    | nil => rfl
    | cons y r => simp only [List.cons_append] at ih ⊢; simp [popTop, ih]

theorem popTop_some : ∀ {l : List Nat} {t : Nat} {r : List Nat},
    popTop l = some (t, r) → l = r ++ [t]
  | [], _, _, h => by simp [popTop] at h
  | [x], _, _, h => by simp [popTop] at h; obtain ⟨h1, h2⟩ := h; subst h1 h2; rfl
  | x :: y :: l, t, r, h => by
    simp only [popTop, Option.map_eq_some_iff] at h
    obtain ⟨⟨t', r'⟩, h1, h2⟩ := h
    have := popTop_some h1
    grind

theorem lbNext_some {M : Nat} {frm : List Nat} {lb n : Nat}
    (h : lbNext M frm lb = some n) :
    (frm = [] ∧ n = 1) ∨ (frm ≠ [] ∧ 0 < lb ∧ lb < M ∧ n = lb + 1) := by
  simp only [lbNext] at h
  grind

/-- What an accepted event does, one constructor per accepted branch of `step`.  A steal takes
    the top `f` of one of `j`'s deques, leaving `fj`, `tj`, and puts it on the bottom of the
    thief's `schedule_from`; `n` is the thief's new steal count (L3, L4). -/
inductive Step (M : Nat) (s : St) : Ev → St → Prop
  | sched {k f : Nat} : s.phase k = .running → s.cur k ≠ none → s.loc f = none →
      Step M s (.sched k f) { s with to := upd s.to k (f :: s.to k), loc := upd s.loc f (some k),
                                     busy := f :: s.busy }
  | yield {k : Nat} : s.phase k = .running → s.cur k ≠ none →
      Step M s (.yield k) { s with phase := upd s.phase k .yielding }
  | finish {k f : Nat} {sv : Bool} : s.cur k = some f → s.phase k = .running →
      Step M s (.finish k sv)
        { s with cur := upd s.cur k none, phase := upd s.phase k .ending, sav := upd s.sav f sv,
                 loc := upd s.loc f none, busy := s.busy.erase f }
  | saved {k f : Nat} : s.sav f = true → Step M s (.saved k f) { s with sav := upd s.sav f false }
  | resumed {k : Nat} : s.phase k = .running → Step M s (.resumed k) s
  | balanced {k : Nat} : s.phase k = .yielding → 0 < s.lb k →
      Step M s (.resumed k) { s with phase := upd s.phase k .running, lb := upd s.lb k 0 }
  | nothing {k : Nat} : s.phase k = .yielding → s.lb k = 0 → s.frm k = [] →
      Step M s (.resumed k) { s with phase := upd s.phase k .running }
  | idle {k : Nat} : s.phase k = .ending → s.frm k = [] → Step M s (.idle k) s
  | pop {k g : Nat} : s.phase k ≠ .running →
      Step M s (.pop k g) { s with hand := upd s.hand k (some g) }
  | pushed {k g : Nat} {w : Which} : s.pend k = some (g, w) →
      Step M s (.pushed k w g) { s with pend := upd s.pend k none }
  | skip {k g : Nat} {frm' to' : List Nat} : s.hand k = some g → s.sav g = true →
      Popped (s.frm k) (s.to k) g frm' to' →
      Step M s (.skip k g)
        { s with frm := upd s.frm k frm', to := upd s.to k (g :: to'), hand := upd s.hand k none,
                 pend := upd s.pend k (some (g, .to)), lb := upd s.lb k 0 }
  | switch {k g : Nat} {frm' to' : List Nat} : s.phase k ≠ .running → s.sav g = false →
      Popped (s.frm k) (s.to k) g frm' to' →
      Step M s (.switch k g)
        { s with frm := upd s.frm k frm', to := upd s.to k ((s.cur k).toList ++ to'),
                 cur := upd s.cur k (some g), phase := upd s.phase k .running,
                 lb := upd s.lb k 0, hand := upd s.hand k none,
                 pend := upd s.pend k ((s.cur k).map (fun c => (c, Which.to))) }
  | steal {k j f n : Nat} {w : Which} {fj tj : List Nat} : k ≠ j → s.phase k ≠ .running →
      ((w = .frm ∧ s.frm j = fj ++ [f] ∧ tj = s.to j) ∨
        (w = .to ∧ fj = s.frm j ∧ s.to j = tj ++ [f])) →
      ((s.frm k = [] ∧ n = 1) ∨ (s.frm k ≠ [] ∧ 0 < s.lb k ∧ s.lb k < M ∧ n = s.lb k + 1)) →
      Step M s (.steal k j w f)
        { s with frm := upd (upd s.frm j fj) k (f :: s.frm k), to := upd s.to j tj,
                 lb := upd s.lb k n, pend := upd s.pend k (some (f, .frm)),
                 loc := upd s.loc f (some k) }

theorem Step.of_step {M : Nat} {s s' : St} {e : Ev} (h : step M s e = some s') : Step M s e s' := by
  cases e <;> simp only [step] at h
  case sched k f => split at h <;> cases h; next hg => exact .sched hg.1 hg.2.1 hg.2.2.2
  case yield k => split at h <;> cases h; next hg => exact .yield hg.1 hg.2.1
  case finish k sv =>
    split at h
    · cases h
    · split at h <;> cases h
      next hc hg => exact .finish hc hg.1
  case saved k f => split at h <;> cases h; next hg => exact .saved hg
  case resumed k =>
    split at h
    · split at h <;> cases h; exact .resumed ‹_›
    · split at h
      · cases h
      · split at h
        · cases h; exact .balanced ‹_› ‹_›
        · split at h <;> cases h; exact .nothing ‹_› (by omega) ‹_›
    · cases h
  case idle k => split at h <;> cases h; next hg => exact .idle hg.1 hg.2.2.2
  case pop k g =>
    split at h
    · cases h
    · split at h
      · cases h
      · split at h <;> cases h; exact .pop (by grind)
  case pushed k w g => split at h <;> cases h; next hg => exact .pushed hg
  case skip k g =>
    split at h
    · cases h
    · split at h
      · cases h
      · split at h <;> cases h
        subst_vars
        exact .skip (by grind) (by grind) (next_some ‹_›)
  case switch k g =>
    split at h
    · cases h
    · split at h
      · cases h
      · split at h <;> cases h
        subst_vars
        exact .switch (by grind) (by grind) (next_some ‹_›)
  case steal k j w f =>
    split at h
    · cases h
    · rename_i hc
      split at h
      · rename_i f' rest n hp hl
        split at h <;> cases h
        subst_vars
        have hkj : k ≠ j := fun e => hc (Or.inl e)
        have hsrc := popTop_some hp
        have hph : s.phase k ≠ .running := fun hp => hc (Or.inr (Or.inl hp))
        cases w
        · have := Step.steal (M := M) (w := .frm) (tj := s.to j) hkj hph
            (Or.inl ⟨rfl, hsrc, rfl⟩) (lbNext_some hl)
          simpa [setSrc, upd_self, upd_other _ _ _ _ hkj] using this
        · have := Step.steal (M := M) (w := .to) (fj := s.frm j) hkj hph
            (Or.inr ⟨rfl, rfl, hsrc⟩) (lbNext_some hl)
          simpa [setSrc, upd_self] using this
      · cases h

def isSched : Ev → Bool
  | .sched _ _ => true
  | _ => false

/-- `e` creates / wakes the fiber `f` itself -/
def isSchedOf (f : Nat) : Ev → Bool
  | .sched _ g => g = f
  | _ => false

def isStealOf (f : Nat) : Ev → Bool
  | .steal _ _ _ g => g = f
  | _ => false

def isRunOf (f : Nat) : Ev → Bool
  | .switch _ g => g = f
  | _ => false

/-- `e` is a context switch on the thread that holds `f` in state `s` -/
def holderSwitch (f : Nat) (s : St) : Ev → Bool
  | .switch k _ => s.loc f = some k
  | _ => false

def stealsOf (f : Nat) (es : List Ev) : Nat := es.countP (isStealOf f)

def scheds (es : List Ev) : Nat := es.countP isSched

/-- Number of context switches ON THE THREAD HOLDING `f` AT THAT TIME along the run of `es`
    from `s` — summed over the holders `f` passes through. -/
def holderSwitches (M : Nat) (f : Nat) : St → List Ev → Nat
  | _, [] => 0
  | s, e :: es =>
    (if holderSwitch f s e then 1 else 0) +
      (match step M s e with
       | some s' => holderSwitches M f s' es
       | none => 0)

/-- the kernel thread that performs an event -/
def actor : Ev → Nat
  | .sched k _ => k
  | .yield k => k
  | .pop k _ => k
  | .skip k _ => k
  | .switch k _ => k
  | .pushed k _ _ => k
  | .resumed k => k
  | .idle k => k
  | .finish k _ => k
  | .saved k _ => k
  | .steal k _ _ _ => k

def victim : Ev → Option Nat
  | .steal _ j _ _ => some j
  | _ => none

/-- What every accepted event leaves alone. -/
structure Effect (s s' : St) (e : Ev) : Prop where
  /-- an event touches the deques, current fiber, phase and steal count of its own thread only
      — and of its victim, if it is a steal -/
  frame : ∀ i, actor e ≠ i → victim e ≠ some i →
    s'.frm i = s.frm i ∧ s'.to i = s.to i ∧ s'.cur i = s.cur i ∧ s'.lb i = s.lb i ∧
      s'.phase i = s.phase i
  /-- only `sched`, `skip`, `switch`, `steal` move fibers in the deques, only `finish` and
      `switch` change a current fiber; a steal count is otherwise kept or reset -/
  quiet :
    ((∀ x, holderSwitch x s e = false) ∧ s'.frm = s.frm ∧ s'.to = s.to ∧ s'.cur = s.cur ∧
      s'.busy = s.busy ∧ ∀ i, s'.lb i = s.lb i ∨ s'.lb i = 0) ∨
    (∃ k sv, e = .finish k sv) ∨
    (∃ k g, e = .sched k g) ∨ (∃ k g, e = .skip k g) ∨ (∃ k g, e = .switch k g) ∨
    (∃ k j w g, e = .steal k j w g)
  /-- a fiber changes place only when it finishes / parks, is woken, or is stolen -/
  loc : ∀ x, s'.loc x = s.loc x ∨
    (∃ k sv, e = .finish k sv ∧ s.cur k = some x ∧ s'.loc x = none) ∨
    (∃ k, e = .sched k x) ∨ (∃ k j w, e = .steal k j w x)
  /-- a fiber becomes SAVING_STATE_TO_WAIT only when it leaves the run queues' world -/
  sav : ∀ x, s'.sav x = s.sav x ∨ s'.sav x = false ∨ s'.loc x = none
  busy : s'.busy.length ≤ s.busy.length + (if isSched e then 1 else 0)

theorem step_effect {M : Nat} {s s' : St} {e : Ev} (h : step M s e = some s') : Effect s s' e := by
  cases Step.of_step h <;> constructor <;> simp only [actor, victim, isSched, holderSwitch] <;>
    grind [upd, List.length_erase_le]

structure Inv (M : Nat) (s : St) : Prop where
  frmLoc : ∀ k g, g ∈ s.frm k → s.loc g = some k
  toLoc : ∀ k g, g ∈ s.to k → s.loc g = some k
  curLoc : ∀ k g, s.cur k = some g → s.loc g = some k
  locSome : ∀ g k, s.loc g = some k → g ∈ s.frm k ∨ g ∈ s.to k ∨ s.cur k = some g
  nodup : ∀ k, (s.frm k ++ s.to k).Nodup
  curNot : ∀ k g, s.cur k = some g → g ∉ s.frm k ∧ g ∉ s.to k
  busyIff : ∀ g, g ∈ s.busy ↔ s.loc g ≠ none
  busyNodup : s.busy.Nodup
  lbPhase : ∀ k, 0 < s.lb k → s.phase k ≠ .running
  lbLen : ∀ k, 0 < s.lb k → (s.frm k).length ≤ s.lb k
  lbMax : ∀ k, s.lb k ≤ max M 1
  endCur : ∀ k, s.phase k = .ending → s.cur k = none

theorem inv_init (M : Nat) : Inv M init := by
  constructor <;> simp [init] <;> grind

theorem steal_loc {M : Nat} {s s' : St} {k j f : Nat} {w : Which} (hI : Inv M s)
    (h : step M s (.steal k j w f) = some s') : s.loc f = some j := by
  cases Step.of_step h with
  | steal _ _ hsrc _ =>
    rcases hsrc with hsrc | hsrc
    · exact hI.frmLoc j f (by simp [hsrc.2.1])
    · exact hI.toLoc j f (by simp [hsrc.2.2])

theorem Inv.loc_iff {M : Nat} {s : St} (hI : Inv M s) (g i : Nat) :
    s.loc g = some i ↔ g ∈ s.frm i ∨ g ∈ s.to i ∨ s.cur i = some g :=
  ⟨hI.locSome g i, fun h => h.elim (hI.frmLoc i g) fun h => h.elim (hI.toLoc i g) (hI.curLoc i g)⟩

/-- Thread `k` changes what it holds and `loc'`, `busy'` follow: `loc'` says `k` exactly for the
    fibers `k` now holds and is as before about every other thread. -/
theorem inv_change {M : Nat} {s : St} (hI : Inv M s) (k : Nat) {frm' to' : List Nat}
    {cur' : Option Nat} {ph' : Phase} {lb' : Nat} {loc' : Nat → Option Nat} {busy' : List Nat}
    (hand : Nat → Option Nat) (pend : Nat → Option (Nat × Which)) (sav : Nat → Bool)
    (hk : ∀ g, loc' g = some k ↔ (g ∈ frm' ∨ g ∈ to' ∨ cur' = some g))
    (hoth : ∀ g i, i ≠ k → (loc' g = some i ↔ s.loc g = some i))
    (hnd : (frm' ++ to').Nodup) (hcur : ∀ g, cur' = some g → g ∉ frm' ∧ g ∉ to')
    (hlbp : 0 < lb' → ph' ≠ .running) (hlbl : 0 < lb' → frm'.length ≤ lb') (hmax : lb' ≤ max M 1)
    (hend : ph' = .ending → cur' = none)
    (hb : ∀ g, g ∈ busy' ↔ loc' g ≠ none) (hbn : busy'.Nodup) :
    Inv M { s with frm := upd s.frm k frm', to := upd s.to k to', cur := upd s.cur k cur',
                   phase := upd s.phase k ph', lb := upd s.lb k lb', loc := loc',
                   busy := busy', hand := hand, pend := pend, sav := sav } := by
  have E : ∀ g i, loc' g = some i ↔
      (g ∈ upd s.frm k frm' i ∨ g ∈ upd s.to k to' i ∨ upd s.cur k cur' i = some g) := by
    intro g i
    by_cases hi : i = k
    · subst hi; simpa using hk g
    · simpa [upd, hi] using (hoth g i hi).trans (hI.loc_iff g i)
  obtain ⟨-, -, -, -, h5, h6, -, -, h9, h11, h12, h13⟩ := hI
  constructor <;> simp only []
  · exact fun i g hg => (E g i).mpr (Or.inl hg)
  · exact fun i g hg => (E g i).mpr (Or.inr (Or.inl hg))
  · exact fun i g hg => (E g i).mpr (Or.inr (Or.inr hg))
  · exact fun g i h => (E g i).mp h
  case busyIff => exact hb
  case busyNodup => exact hbn
  -- the rest speaks of one thread at a time: the new data on `k`, the old elsewhere
  all_goals intro i; simp only [upd]; split <;> solve_by_elim

theorem inv_sched {M : Nat} {s s' : St} {k f : Nat} (hI : Inv M s)
    (h : step M s (.sched k f) = some s') : Inv M s' := by
  cases Step.of_step h with | sched hp hc hl => ?_
  have h1 := hI.frmLoc k f
  have h2 := hI.toLoc k f
  have h3 := hI.curNot k
  have h4 := hI.curLoc k
  have hb := hI.busyIff
  have := inv_change hI k (frm' := s.frm k) (to' := f :: s.to k) (cur' := s.cur k)
    (ph' := s.phase k) (lb' := s.lb k) (loc' := upd s.loc f (some k)) (busy' := f :: s.busy)
    s.hand s.pend s.sav
    (fun g => by have := hI.loc_iff g k; simp only [upd, List.mem_cons]; grind)
    (fun g i hi => by simp only [upd]; grind)
    (by have := hI.nodup k; grind) (by grind)
    (hI.lbPhase k) (hI.lbLen k) (hI.lbMax k) (hI.endCur k)
    (fun g => by simp only [upd, List.mem_cons]; grind)
    (by have := hI.busyNodup; grind)
  simpa [upd_self] using this

theorem inv_finish {M : Nat} {s s' : St} {k : Nat} {sv : Bool} (hI : Inv M s)
    (h : step M s (.finish k sv) = some s') : Inv M s' := by
  cases Step.of_step h with | @finish _ f _ hc hp => ?_
  have h3 := hI.curNot k f hc
  have h4 := hI.curLoc k f hc
  have hb := hI.busyIff
  have hbn := hI.busyNodup
  have := inv_change hI k (frm' := s.frm k) (to' := s.to k) (cur' := none)
    (ph' := .ending) (lb' := s.lb k) (loc' := upd s.loc f none) (busy' := s.busy.erase f)
    s.hand s.pend (upd s.sav f sv)
    (fun g => by have := hI.loc_iff g k; simp only [upd]; grind)
    (fun g i hi => by simp only [upd]; grind)
    (hI.nodup k) (by simp)
    (fun _ => by simp) (hI.lbLen k) (hI.lbMax k) (fun _ => rfl)
    (fun g => by simp only [upd, hbn.mem_erase_iff]; grind)
    (hbn.erase f)
  simpa [upd_self] using this

/-- taking `f` from the end of one of two disjoint duplicate-free lists -/
theorem steal_split {frm to fj tj : List Nat} {f : Nat} (hnd : (frm ++ to).Nodup)
    (hsrc : (frm = fj ++ [f] ∧ tj = to) ∨ (fj = frm ∧ to = tj ++ [f])) :
    (∀ x, (x ∈ frm ∨ x ∈ to) ↔ (x = f ∨ x ∈ fj ∨ x ∈ tj)) ∧
      (fj ++ tj).Nodup ∧ f ∉ fj ∧ f ∉ tj ∧ fj.length ≤ frm.length := by grind

/-- A steal in two moves: the victim gives `f` up, the thief puts it on the bottom of its
    `schedule_from`. -/
theorem inv_steal {M : Nat} {s s' : St} {k j f : Nat} {w : Which} (hI : Inv M s)
    (h : step M s (.steal k j w f) = some s') : Inv M s' := by
  have hfj := steal_loc hI h
  cases Step.of_step h with | @steal _ _ _ n _ fj tj hkj hp hsrc hn => ?_
  have hnd := hI.nodup j
  have hcn := hI.curNot j
  have hbn := hI.busyNodup
  have hb := hI.busyIff
  have hsub := steal_split hnd (hsrc.imp And.right And.right)
  clear hsrc
  have I1 := inv_change hI j (frm' := fj) (to' := tj) (cur' := s.cur j) (ph' := s.phase j)
    (lb' := s.lb j) (loc' := upd s.loc f none) (busy' := s.busy.erase f) s.hand s.pend s.sav
    (fun g => by have := hI.loc_iff g j; simp only [upd]; grind)
    (fun g i hi => by simp only [upd]; grind) hsub.2.1 (by grind)
    (hI.lbPhase j) (fun h => by have := hI.lbLen j h; omega) (hI.lbMax j) (hI.endCur j)
    (fun g => by simp only [upd, hbn.mem_erase_iff]; grind) (hbn.erase f)
  simp only [upd_self] at I1
  have h1 := hI.frmLoc k f
  have h2 := hI.toLoc k f
  have h3 := hI.curNot k
  have h4 := hI.curLoc k
  have h5 := hI.lbLen k
  have I2 := inv_change I1 k (frm' := f :: s.frm k) (to' := upd s.to j tj k) (cur' := s.cur k)
    (ph' := s.phase k) (lb' := n) (loc' := upd s.loc f (some k)) (busy' := s.busy) s.hand
    (upd s.pend k (some (f, .frm))) s.sav
    (fun g => by have := hI.loc_iff g k; simp only [upd, hkj, if_false, List.mem_cons]; grind)
    (fun g i hi => by simp only [upd]; grind)
    (by have := hI.nodup k; simp only [upd, hkj, if_false]; grind)
    (by simp only [upd, hkj, if_false]; grind)
    (fun _ => hp) (fun _ => by simp only [List.length_cons]; grind)
    (by rw [Nat.max_def]; grind) (hI.endCur k)
    (fun g => by simp only [upd]; grind) hbn
  simp only [upd_self] at I2
  exact I2

theorem inv_ghost {M : Nat} {s : St} (hI : Inv M s) (hand : Nat → Option Nat)
    (pend : Nat → Option (Nat × Which)) (sav : Nat → Bool) :
    Inv M { s with hand := hand, pend := pend, sav := sav } := by
  obtain ⟨h1, h2, h3, h4, h5, h6, h7, h8, h9, h11, h12, h13⟩ := hI
  constructor <;> assumption

theorem inv_step {M : Nat} {s s' : St} {e : Ev} (hI : Inv M s) (h : step M s e = some s') :
    Inv M s' := by
  -- thread `k` rearranges the fibers it holds, no fiber comes or goes
  have mv := fun k frm' to' cur' ph' lb' hand pend
      (hm : ∀ g, (g ∈ frm' ∨ g ∈ to' ∨ cur' = some g) ↔
        (g ∈ s.frm k ∨ g ∈ s.to k ∨ s.cur k = some g)) hnd hcur hlbp hlbl hmax hend =>
    inv_change hI k (frm' := frm') (to' := to') (cur' := cur') (ph' := ph') (lb' := lb') hand pend
      s.sav (fun g => (hI.loc_iff g k).trans (hm g).symm) (fun _ _ _ => Iff.rfl) hnd hcur hlbp
      hlbl hmax hend hI.busyIff hI.busyNodup
  -- ... and leaves its deques and current fiber alone
  have ph := fun k ph' lb' => mv k _ _ _ ph' lb' s.hand s.pend (fun _ => Iff.rfl) (hI.nodup k)
    (hI.curNot k)
  cases Step.of_step h with
  | sched => exact inv_sched hI h
  | finish => exact inv_finish hI h
  | steal => exact inv_steal hI h
  | resumed | idle => exact hI
  | pop | pushed | saved => exact inv_ghost hI _ _ _
  | @yield k hp hc =>
    simpa [upd_self] using ph k .yielding (s.lb k) (by simp) (hI.lbLen k) (hI.lbMax k) (by simp)
  | @balanced k hp hl =>
    simpa [upd_self] using ph k .running 0 (by simp) (by simp) (by simp) (by simp)
  | @nothing k hp hl hf =>
    simpa [upd_self, ← hl] using ph k .running 0 (by simp) (by simp) (by simp) (by simp)
  | @skip k g frm' to' _ _ hp =>
    have h5k := hI.nodup k
    rw [hp.append_eq] at h5k
    have hm := hp.mem_iff
    have h6k := hI.curNot k
    simpa [upd_self] using mv k frm' (g :: to') (s.cur k) (s.phase k) 0 (upd s.hand k none)
      (upd s.pend k (some (g, .to))) (by grind) (by grind) (by grind) (by simp) (by simp) (by simp)
      (hI.endCur k)
  | @switch k g frm' to' _ _ hp =>
    have h5k := hI.nodup k
    rw [hp.append_eq] at h5k
    have hm := hp.mem_iff
    have h6k := hI.curNot k
    exact mv k frm' ((s.cur k).toList ++ to') (some g) .running 0 _ _
      (by cases hc : s.cur k <;> simp only [Option.toList] <;> grind)
      (by cases hc : s.cur k <;> simp only [Option.toList] <;> grind)
      (by cases hc : s.cur k <;> simp only [Option.toList] <;> grind) (by simp) (by simp) (by simp)
      (by simp)

theorem inv_of_run {M : Nat} {es : List Ev} {s : St} (h : (sys M).run es = some s) : Inv M s :=
  Sys.inv_of_run (sys M) (Inv M) (inv_init M) (fun _ _ _ hi hs => inv_step hi hs) h

/-- thread `k` seen as a one-thread scheduler state -/
def view (s : St) (k : Nat) : Sched.St :=
  { frm := s.frm k, to := s.to k, cur := (s.cur k).getD 0, phase := s.phase k }

/-- `f` is ready on thread `k` -/
def QueuedOn (k f : Nat) (s : St) : Prop := f ∈ s.frm k ∨ f ∈ s.to k

/-- `Sched.rank` on explicit deques -/
def rk (f : Nat) (frm to : List Nat) : Nat :=
  if f ∈ frm then pos f frm else 2 * frm.length + pos f to

/-- the one-thread rank of `f` (Proof/Sched.lean) applied to thread `k`'s deques -/
def rankOn (k f : Nat) (s : St) : Nat := Sched.rank f (view s k)

theorem rankOn_eq (k f : Nat) (s : St) : rankOn k f s = rk f (s.frm k) (s.to k) := rfl

theorem queuedOn_iff (k f : Nat) (s : St) : QueuedOn k f s ↔ Sched.Queued f (view s k) := Iff.rfl

/-! ### the clauses (a)–(d) of Props/C10 §N.1, one step at a time -/

theorem rank_switch {M : Nat} {s s' : St} {k g f : Nat} (hq : QueuedOn k f s)
    (h : step M s (.switch k g) = some s') (hgf : g ≠ f) :
    QueuedOn k f s' ∧ rankOn k f s' < rankOn k f s := by
  obtain ⟨frm', to', hp, hf, ht⟩ : ∃ frm' to', Popped (s.frm k) (s.to k) g frm' to' ∧
      (view s' k).frm = frm' ∧ (view s' k).to = (s.cur k).toList ++ to' := by
    cases Step.of_step h with | switch _ _ hp => exact ⟨_, _, hp, by simp [view], by simp [view]⟩
  exact Sched.rank_pop (s := view s k) hp hgf hq (by cases s.cur k <;> simp) hf ht

theorem rank_skip {M : Nat} {s s' : St} {k g f : Nat} (hq : QueuedOn k f s)
    (h : step M s (.skip k g) = some s') (hgf : g ≠ f) :
    QueuedOn k f s' ∧ rankOn k f s' < rankOn k f s := by
  obtain ⟨frm', to', hp, hf, ht⟩ : ∃ frm' to', Popped (s.frm k) (s.to k) g frm' to' ∧
      (view s' k).frm = frm' ∧ (view s' k).to = [g] ++ to' := by
    cases Step.of_step h with | skip _ _ hp => exact ⟨_, _, hp, by simp [view], by simp [view]⟩
  exact Sched.rank_pop (s := view s k) hp hgf hq (by simp) hf ht

theorem rank_steal_other {M : Nat} {s s' : St} {k j h f : Nat} {w : Which} (hI : Inv M s)
    (hq : QueuedOn k f s) (hst : step M s (.steal j k w h) = some s') (hhf : h ≠ f) :
    QueuedOn k f s' ∧
      rankOn k f s' = rankOn k f s - (if w = .frm ∧ f ∈ s.to k then 2 else 0) := by
  cases Step.of_step hst with | @steal _ _ _ n _ fk tk hjk _ hsrc _ => ?_
  have hnd := hI.nodup k
  have e1 := @Sched.pos_append_of_mem f fk [h]
  have e2 := @Sched.pos_append_of_mem f tk [h]
  simp only [QueuedOn, rankOn_eq, rk, upd_other _ _ _ _ (Ne.symm hjk), upd_same] at hq ⊢
  rcases hsrc with ⟨rfl, h1, rfl⟩ | ⟨rfl, rfl, h1⟩ <;> rw [h1] at hq hnd ⊢ <;>
    simp only [List.mem_append, List.length_append, List.mem_singleton] at hq ⊢ <;> grind

theorem rank_other_thread {M : Nat} {s s' : St} {e : Ev} {k f : Nat} (hI : Inv M s)
    (hq : QueuedOn k f s) (h : step M s e = some s') (ha : actor e ≠ k)
    (hnf : isStealOf f e = false) :
    QueuedOn k f s' ∧ rankOn k f s' ≤ rankOn k f s := by
  by_cases hv : victim e = some k
  · cases e with
    | steal j i w g =>
      cases Option.some.inj hv
      have := rank_steal_other hI hq h (by simpa [isStealOf] using hnf)
      exact ⟨this.1, by omega⟩
    | _ => simp [victim] at hv
  · obtain ⟨h1, h2, _⟩ := (step_effect h).frame k ha hv
    simp only [QueuedOn, rankOn_eq, h1, h2]
    exact ⟨hq, Nat.le_refl _⟩

theorem rank_own_other {M : Nat} {s s' : St} {e : Ev} {k f : Nat}
    (hq : QueuedOn k f s) (h : step M s e = some s') (ha : actor e = k)
    (hns : isSched e = false) (hsk : ∀ g, e ≠ .skip k g) (hsw : ∀ g, e ≠ .switch k g)
    (hst : ∀ j w g, e ≠ .steal k j w g) :
    QueuedOn k f s' ∧ rankOn k f s' = rankOn k f s := by
  cases Step.of_step h with
  | sched => simp [isSched] at hns
  | skip => cases ha; exact absurd rfl (hsk _)
  | switch => cases ha; exact absurd rfl (hsw _)
  | steal => cases ha; exact absurd rfl (hst _ _ _)
  | _ => exact ⟨hq, rfl⟩

theorem rank_stolen {M : Nat} {s s' : St} {k j f : Nat} {w : Which}
    (hst : step M s (.steal k j w f) = some s') :
    s'.loc f = some k ∧ s'.frm k = f :: s.frm k ∧ QueuedOn k f s' ∧ rankOn k f s' = 0 := by
  cases Step.of_step hst
  simp [QueuedOn, rankOn_eq, rk, pos_cons]

theorem switch_bottom {M : Nat} {s s' : St} {k g f : Nat} {r : List Nat}
    (hf : s.frm k = f :: r) (h : step M s (.switch k g) = some s') : g = f := by
  cases Step.of_step h with | switch _ _ hp => ?_
  rcases hp with ⟨h1, _⟩ | ⟨h1, _⟩ <;> rw [hf] at h1 <;> cases h1
  rfl

theorem rank_holder_steals {M : Nat} {s s' : St} {k j h f : Nat} {w : Which} (hI : Inv M s)
    (hq : QueuedOn k f s) (hst : step M s (.steal k j w h) = some s') :
    QueuedOn k f s' ∧
    ((f ∈ s.frm k ∧ 0 < s.lb k ∧ s.lb k < M ∧ s'.lb k = s.lb k + 1 ∧
        rankOn k f s' = rankOn k f s + 1) ∨
     (f ∈ s.to k ∧ rankOn k f s' = rankOn k f s + 2)) := by
  have hhj := steal_loc hI hst
  cases Step.of_step hst with | @steal _ _ _ n _ fj tj hkj _ _ hn => ?_
  have hhf : h ≠ f := by
    rintro rfl
    rcases hq with h1 | h1
    · exact hkj (Option.some.inj ((hI.frmLoc k h h1).symm.trans hhj))
    · exact hkj (Option.some.inj ((hI.toLoc k h h1).symm.trans hhj))
  have hnd := hI.nodup k
  simp only [QueuedOn, rankOn_eq, rk, upd_same, upd_other _ _ _ _ hkj, pos_cons, List.mem_cons,
    List.length_cons] at hq ⊢
  grind

/-- inside a load_balance call everything in `schedule_from` is loot of that call: the rank
    of a fiber there is below the number of steals made so far, hence below `maxSteal` -/
theorem rank_lt_lb {M : Nat} {s : St} {k f : Nat} (hI : Inv M s) (hl : 0 < s.lb k)
    (hf : f ∈ s.frm k) : rankOn k f s < s.lb k ∧ s.lb k ≤ max M 1 := by
  have h1 := hI.lbLen k hl
  have h2 := Sched.pos_lt_length hf
  simp only [rankOn_eq, rk, hf, if_true]
  exact ⟨by omega, hI.lbMax k⟩

/-- `f`'s context is saved (its state word is not SAVING_STATE_TO_WAIT), or `f` is nowhere -/
def Ready (f : Nat) (s : St) : Prop := s.sav f = false ∨ s.loc f = none

/-- only the end of `f`'s own run makes it SAVING_STATE_TO_WAIT, and then it is nowhere until it
    is woken (`sched _ f`) -/
theorem ready_step {M f : Nat} {s s' : St} {e : Ev} (hI : Inv M s) (h : step M s e = some s')
    (hns : isSchedOf f e = false) (hr : Ready f s) : Ready f s' := by
  have E := step_effect h
  rcases E.sav f with hs | hs | hs
  · rcases hr with hr | hr
    · exact Or.inl (hs ▸ hr)
    · rcases E.loc f with hl | ⟨_, _, _, _, hl⟩ | ⟨k, rfl⟩ | ⟨k, j, w, rfl⟩
      · exact Or.inr (hl ▸ hr)
      · exact Or.inr hl
      · simp [isSchedOf] at hns
      · simp [steal_loc hI h] at hr
  · exact Or.inl hs
  · exact Or.inr hs

theorem not_skip_of_ready {M f k : Nat} {s s' : St} (hI : Inv M s) (hr : Ready f s)
    (h : step M s (.skip k f) = some s') : False := by
  cases Step.of_step h with | skip _ hsv hp => ?_
  have hq := (hp.mem_iff f).mpr (Or.inl rfl)
  have hl : s.loc f = some k := by
    rcases hq with hq | hq
    · exact hI.frmLoc k f hq
    · exact hI.toLoc k f hq
  rcases hr with hr | hr
  · rw [hr] at hsv; simp at hsv
  · rw [hl] at hr; simp at hr

/-- steals the holder may still add in its running load_balance call -/
def slack (M : Nat) (s : St) (k : Nat) : Nat := if 0 < s.lb k then M - s.lb k else 0

/-- Potential of `f` on the thread that holds it, from that thread's data (`c` its current fiber,
    `B` the number of fibers, `sl` its slack): `2·B` while `f` runs; in `schedule_from`: the
    position plus the slack; in `store_to`: `2·(B − 1 − [the holder runs a fiber]) − position`. -/
def potAt (f : Nat) (c : Option Nat) (frm to : List Nat) (B sl : Nat) : Nat :=
  if c = some f then 2 * B
  else if f ∈ frm then pos f frm + sl
  else 2 * (B - 1 - c.toList.length) - pos f to

/-- potential of fiber `f`: nothing if it is gone, else `potAt` on its holder -/
def pot (M : Nat) (f : Nat) (s : St) : Nat :=
  match s.loc f with
  | none => 0
  | some k => potAt f (s.cur k) (s.frm k) (s.to k) s.busy.length (slack M s k)

theorem pot_none {M f : Nat} {s : St} (h : s.loc f = none) : pot M f s = 0 := by
  simp [pot, h]

theorem pot_some {M f k : Nat} {s : St} (h : s.loc f = some k) :
    pot M f s = potAt f (s.cur k) (s.frm k) (s.to k) s.busy.length (slack M s k) := by
  simp [pot, h]

theorem pot_cur {M f k : Nat} {s : St} (h : s.loc f = some k) (hc : s.cur k = some f) :
    pot M f s = 2 * s.busy.length := by
  simp [pot, h, hc, potAt]

theorem held_le_busy {M : Nat} {s : St} (hI : Inv M s) (k : Nat) :
    (s.frm k).length + (s.to k).length + (s.cur k).toList.length ≤ s.busy.length := by
  have hsub : ∀ x ∈ s.frm k ++ (s.to k ++ (s.cur k).toList), x ∈ s.busy := fun x hx => by
    simp [hI.busyIff, (hI.loc_iff x k).mpr (by simpa using hx)]
  have hnd : (s.frm k ++ (s.to k ++ (s.cur k).toList)).Nodup := by
    have := hI.nodup k
    have := hI.curNot k
    cases hc : s.cur k <;> simp_all <;> grind
  have hlen := hnd.length_le_of_subset hsub
  simp only [List.length_append] at hlen
  omega

/-- The potential of `f` depends on the data of its holder only, never decreases in the number of
    fibers and never increases when a steal count is reset. -/
theorem pot_local {M f i d : Nat} {s s' : St} (hl : s.loc f = some i) (hl' : s'.loc f = some i)
    (hc : s'.cur i = s.cur i) (hf : s'.frm i = s.frm i) (ht : s'.to i = s.to i)
    (hlb : s'.lb i = s.lb i ∨ s'.lb i = 0) (hb : s'.busy.length ≤ s.busy.length + d) :
    pot M f s' ≤ pot M f s + 2 * d := by
  have hsl : slack M s' i ≤ slack M s i := by
    rcases hlb with h | h <;> simp [slack, h]
  rw [pot_some hl, pot_some hl', hc, hf, ht]
  simp only [potAt]
  split
  · omega
  · split <;> omega

/-- `fiber_scheduler_next` pops another fiber `g`, `ys` is pushed onto `store_to` and the
    current fiber goes from `c` to `c'`: a queued `f` loses at least one unit. -/
theorem potAt_pop {frm to frm' to' ys : List Nat} {g f B sl : Nat} {c c' : Option Nat}
    (hn : Popped frm to g frm' to') (hgf : g ≠ f) (hq : f ∈ frm ∨ f ∈ to)
    (hys : f ∉ ys) (hc : c ≠ some f) (hc' : c' ≠ some f)
    (hcap : frm.length + to.length + c.toList.length ≤ B)
    (hcc : c.toList.length ≤ c'.toList.length)
    (h1 : 1 ≤ ys.length + 2 * (c'.toList.length - c.toList.length)) :
    potAt f c' frm' (ys ++ to') B 0 + 1 ≤ potAt f c frm to B sl := by
  simp only [potAt, hc, hc', if_false]
  rcases hn with ⟨hf, ht⟩ | ⟨hf, ht, ht'⟩
  · subst hf ht
    by_cases hf1 : f ∈ frm'
    · simp [hf1, pos_cons, hgf]
    · have hft : f ∈ to' := by simpa [Ne.symm hgf, hf1] using hq
      have hp := Sched.pos_lt_length hft
      simp only [hf1, if_false, List.mem_cons, Ne.symm hgf, or_self,
        Sched.pos_append_of_not_mem _ hys]
      simp only [List.length_cons] at hcap
      omega
  · subst hf ht ht'
    have hf1 : f ∈ frm' := by simpa [Ne.symm hgf] using hq
    have hp := Sched.pos_lt_length hf1
    simp only [hf1, if_true, List.not_mem_nil, if_false, pos_cons, hgf, Nat.add_zero]
    simp only [List.length_nil, List.length_cons] at hcap
    omega

theorem holderSwitch_eq_true {f : Nat} {s : St} {e : Ev} :
    holderSwitch f s e = true ↔ ∃ k g, e = .switch k g ∧ s.loc f = some k := by
  cases e <;> simp [holderSwitch]

/-- a steal of `f` itself puts it on the bottom of the thief's `schedule_from`, position 0 -/
theorem pot_stolen {M f k j : Nat} {w : Which} {s s' : St} (hI : Inv M s)
    (hst : step M s (.steal k j w f) = some s') : pot M f s' ≤ pot M f s + (M - 1) := by
  have hfj := steal_loc hI hst
  cases Step.of_step hst with | @steal _ _ _ n _ fj tj hkj _ _ hn => ?_
  have hck : s.cur k ≠ some f := fun hc =>
    hkj (Option.some.inj ((hI.curLoc k f hc).symm.trans hfj))
  rw [pot_some (k := k) (by simp)]
  simp only [upd_same, potAt, hck, if_false, List.mem_cons, true_or, if_true, pos_cons, slack]
  have : 0 < n := by omega
  simp only [this, if_true]
  omega

/-- The events in which the holder `i` of `f` takes part, seen from `f` (which stays on `i`). -/
theorem pot_holder {M f i : Nat} {s s' : St} {e : Ev} (hI : Inv M s) (h : step M s e = some s')
    (hl : s.loc f = some i) (hl' : s'.loc f = some i) (hinv : actor e = i ∨ victim e = some i)
    (hnr : isRunOf f e = false) (hR : Ready f s) :
    pot M f s' + (if holderSwitch f s e then 1 else 0) ≤
      pot M f s + (if isSched e then 2 else 0) := by
  have hcap := held_le_busy hI i
  have hnot := hI.curNot i
  have hq := hI.locSome f i hl
  rcases (step_effect h).quiet with ⟨hsw, h1, h2, h3, h4, h5⟩ | ⟨k, sv, rfl⟩ | ⟨k, g, rfl⟩ |
      ⟨k, g, rfl⟩ | ⟨k, g, rfl⟩ | ⟨k, j, w, g, rfl⟩
  · have := pot_local (M := M) (d := 0) hl hl' (congrFun h3 i) (congrFun h1 i) (congrFun h2 i)
      (h5 i) (by simp [h4])
    simp only [hsw f, Bool.false_eq_true, if_false]
    omega
  · -- one fiber less, and `i` no longer runs one: `2·(B − 1 − [i runs a fiber])` is unchanged
    obtain rfl : k = i := by simpa [actor, victim] using hinv
    cases Step.of_step h with | @finish _ c _ hc _ => ?_
    have hfc : f ≠ c := by rintro rfl; simp at hl'
    have hcb : c ∈ s.busy := by rw [hI.busyIff]; simp [hI.curLoc k c hc]
    have hlen := List.length_erase_of_mem hcb
    rw [pot_some hl, pot_some hl']
    simp only [upd_same, potAt, slack, hc, hlen, holderSwitch, isSched]
    grind
  · obtain rfl : k = i := by simpa [actor, victim] using hinv
    cases Step.of_step h with | sched _ _ hlg => ?_
    have hgf : g ≠ f := by rintro rfl; simp [hl] at hlg
    rw [pot_some hl, pot_some hl']
    simp only [upd_same, potAt, slack, List.length_cons, pos_cons, hgf, holderSwitch, isSched]
    grind
  · obtain rfl : k = i := by simpa [actor, victim] using hinv
    have hgf : g ≠ f := by rintro rfl; exact not_skip_of_ready hI hR h
    cases Step.of_step h with | @skip _ _ frm' to' _ _ hp => ?_
    rw [pot_some hl, pot_some hl']
    simp only [upd_same, slack, Nat.lt_irrefl, if_false, holderSwitch, isSched,
      Bool.false_eq_true, Nat.add_zero]
    by_cases hcf : s.cur k = some f
    · simp [potAt, hcf]
    · have := potAt_pop (ys := [g]) (c' := s.cur k) (B := s.busy.length) (sl := slack M s k) hp hgf
        (by simpa [hcf] using hq) (by simp [Ne.symm hgf]) hcf hcf hcap
        (Nat.le_refl _) (by simp)
      simp only [slack, List.cons_append, List.nil_append] at this
      omega
  · obtain rfl : k = i := by simpa [actor, victim] using hinv
    have hgf : g ≠ f := by simpa [isRunOf] using hnr
    cases Step.of_step h with | @switch _ _ frm' to' _ _ hp => ?_
    rw [pot_some hl, pot_some hl']
    simp only [upd_same, slack, Nat.lt_irrefl, if_false, holderSwitch, hl, decide_true, if_true,
      isSched, Bool.false_eq_true, Nat.add_zero]
    by_cases hcf : s.cur k = some f
    · -- `f` was running: it is re-queued at the bottom of `store_to`
      have hf' : f ∉ frm' := fun hx =>
        ((hp.mem_iff f).mpr (Or.inr (Or.inl hx))).elim (hnot f hcf).1 (hnot f hcf).2
      simp only [hcf, Option.toList, potAt, Option.some.injEq, hgf, hf', if_false, List.cons_append,
        List.nil_append, pos_cons, if_true, List.length_cons, List.length_nil] at hcap ⊢
      omega
    · exact potAt_pop hp hgf (by simpa [hcf] using hq)
        (by simpa using hcf) hcf (by simp [hgf]) hcap
        (by cases s.cur k <;> simp) (by cases s.cur k <;> simp)
  · have hgj := steal_loc hI h
    cases Step.of_step h with | @steal _ _ _ n _ fj tj hkj _ hsrc hn => ?_
    have hgf : g ≠ f := by
      rintro rfl
      exact hkj ((by simpa using hl' : k = i).trans (Option.some.inj (hl.symm.trans hgj)))
    have e1 := @Sched.pos_append_of_mem f fj [g]
    have e2 := @Sched.pos_append_of_mem f tj [g]
    rw [pot_some hl, pot_some hl']
    simp only [holderSwitch, isSched, Bool.false_eq_true, if_false, Nat.add_zero, potAt, slack]
    by_cases hik : i = k
    · -- the holder itself steals one more: if `f` is loot of the call in progress it moves up by
      -- one and the slack shrinks by one; if it waits in `store_to` the loot existed before
      subst hik
      simp only [upd_same, upd_other _ _ _ _ hkj, List.mem_cons, pos_cons, hgf, if_false]
      grind
    · -- stolen from the holder's top: nothing below it moves
      obtain rfl : j = i := by simpa [actor, victim, Ne.symm hik] using hinv
      simp only [upd_same, upd_other _ _ _ _ hik]
      rcases hsrc with ⟨_, h1, rfl⟩ | ⟨_, rfl, h1⟩ <;> rw [h1] at hq ⊢ <;>
        simp only [List.mem_append, List.mem_singleton] at hq ⊢ <;> grind
/-- One step, seen from fiber `f`: a context switch on the thread that holds `f` costs one
    unit of potential; only a steal of `f` itself may raise it, by at most `maxSteal - 1`, and
    the creation / wake-up of another fiber, by 2.  (`f` itself is ready, not woken and not
    switched to.) -/
theorem pot_step {M f : Nat} {s s' : St} {e : Ev} (hI : Inv M s) (h : step M s e = some s')
    (hns : isSchedOf f e = false) (hnr : isRunOf f e = false) (hR : Ready f s) :
    pot M f s' + (if holderSwitch f s e then 1 else 0) ≤
      pot M f s + (if isStealOf f e then M - 1 else 0) + (if isSched e then 2 else 0) := by
  have E := step_effect h
  rcases E.loc f with hl' | ⟨k, sv, rfl, _, hl'⟩ | ⟨k, rfl⟩ | ⟨k, j, w, rfl⟩
  · cases hl : s.loc f with
    | none =>
      have hsw : holderSwitch f s e = false := Bool.eq_false_iff.mpr fun hh => by
        obtain ⟨k, g, _, hk⟩ := holderSwitch_eq_true.mp hh
        simp [hl] at hk
      simp [pot_none (hl' ▸ hl), hsw]
    | some i =>
      rw [hl] at hl'
      by_cases hinv : actor e = i ∨ victim e = some i
      · have := pot_holder hI h hl hl' hinv hnr hR
        omega
      · -- the holder of `f` takes no part: only the number of fibers may change
        obtain ⟨ha, hv⟩ := not_or.mp hinv
        obtain ⟨hf, ht, hc, hlb, _⟩ := E.frame i ha hv
        have := pot_local (M := M) hl hl' hc hf ht (Or.inl hlb) E.busy
        have hsw : holderSwitch f s e = false := Bool.eq_false_iff.mpr fun hh => by
          obtain ⟨k, g, rfl, hk⟩ := holderSwitch_eq_true.mp hh
          exact ha (Option.some.inj (hk.symm.trans hl))
        simp only [hsw, Bool.false_eq_true, if_false]
        split at this <;> simp_all <;> omega
  · simp [pot_none hl', holderSwitch]
  · simp [isSchedOf] at hns
  · simpa [holderSwitch, isStealOf, isSched] using pot_stolen hI h

theorem inv_runFrom {M : Nat} : ∀ (es : List Ev) (s s' : St), Inv M s →
    (sys M).runFrom s es = some s' → Inv M s' := by
  intro es s s' hI h
  exact Sys.runFrom_inv (Inv M) (fun _ => True) (fun _ _ _ hi _ hs => inv_step hi hs) es s s' hI h
    (fun _ _ => trivial)

/-- Along any accepted continuation in which the ready fiber `f` is neither woken (it is not
    parked) nor switched to:
    `#(switches on f's holder) ≤ pot f s − pot f s' + (maxSteal − 1)·#(steals of f) + 2·#(sched)`. -/
theorem pot_run {M f : Nat} : ∀ (es : List Ev) (s s' : St), Inv M s → Ready f s →
    (sys M).runFrom s es = some s' → (∀ e ∈ es, isSchedOf f e = false) →
    (∀ e ∈ es, isRunOf f e = false) →
    pot M f s' + holderSwitches M f s es ≤
      pot M f s + (M - 1) * stealsOf f es + 2 * scheds es
  | [], s, s', _, _, h, _, _ => by
    cases Sys.runFrom_nil_some.mp h
    simp [holderSwitches, stealsOf, scheds]
  | e :: es, s, s', hI, hR, h, hns, hnr => by
    obtain ⟨s1, hst, h⟩ := Sys.runFrom_cons_some.mp h
    have hst' : step M s e = some s1 := hst
    have h1 := pot_step hI hst' (hns e (by simp)) (hnr e (by simp)) hR
    have h2 := pot_run es s1 s' (inv_step hI hst') (ready_step hI hst' (hns e (by simp)) hR) h
      (fun e' he' => hns e' (by simp [he'])) (fun e' he' => hnr e' (by simp [he']))
    simp only [holderSwitches, hst', stealsOf, scheds, List.countP_cons, Nat.mul_add] at h2 ⊢
    cases hso : isStealOf f e <;> cases hsc : isSched e <;> simp [hso, hsc] at h1 ⊢ <;> omega

theorem scheds_eq_zero {es : List Ev} (h : ∀ e ∈ es, isSched e = false) : scheds es = 0 := by
  simp only [scheds, List.countP_eq_zero]
  intro e he; simp [h e he]

theorem isSchedOf_of_isSched {f : Nat} {e : Ev} (h : isSched e = false) : isSchedOf f e = false := by
  cases e <;> simp_all [isSched, isSchedOf]

theorem pot_le {M : Nat} {s : St} (hI : Inv M s) (f : Nat) :
    pot M f s ≤ 2 * s.busy.length + (M - 1) := by
  cases hl : s.loc f with
  | none => rw [pot_none hl]; exact Nat.zero_le _
  | some k =>
    have hcap := held_le_busy hI k
    have hmax := hI.lbMax k
    rw [pot_some hl]
    simp only [potAt, slack]
    split
    · omega
    · split
      · have hp := Sched.pos_lt_length ‹f ∈ s.frm k›
        split
        · have h1 := hI.lbLen k ‹_›
          rw [Nat.max_def] at hmax
          split at hmax <;> omega
        · omega
      · omega

/-- while `f` waits in `store_to` of its holder (it was re-queued after a run, woken, or
    skipped) its potential is at most `2·#fibers` -/
theorem pot_le_of_to {M : Nat} {s : St} {k f : Nat} (hI : Inv M s) (hf : f ∈ s.to k) :
    pot M f s ≤ 2 * s.busy.length := by
  have hfk : f ∉ s.frm k := fun h =>
    (List.nodup_append.mp (hI.nodup k)).2.2 f h f hf rfl
  rw [pot_some (hI.toLoc k f hf)]
  simp only [potAt, hfk, if_false]
  split <;> omega

/-! ### steal ping-pong: two idle thieves can pass a ready fiber back and forth for ever -/

/-- fiber 0 (thread 0) wakes fiber 5; the idle threads 2 and 1 steal it in turn -/
def ppSetup : List Ev :=
  [.sched 0 5, .steal 2 0 .to 5, .pushed 2 .frm 5, .steal 1 2 .frm 5, .pushed 1 .frm 5]

/-- thread 2 steals fiber 5 from thread 1 before thread 1 has popped it, thread 1 steals it back
    before thread 2 has popped it; meanwhile fiber 0 polls with `fiber_yield` (nothing to run on
    thread 0: the call returns at once) -/
def ppCycle : List Ev :=
  [.steal 2 1 .frm 5, .pushed 2 .frm 5, .yield 0, .resumed 0,
   .steal 1 2 .frm 5, .pushed 1 .frm 5, .yield 0, .resumed 0]

def stealPingpong : Nat → List Ev
  | 0 => []
  | n + 1 => ppCycle ++ stealPingpong n

/-- the states the ping-pong passes through at the start of every cycle -/
structure PP (s : St) : Prop where
  frm0 : s.frm 0 = []
  to0 : s.to 0 = []
  cur0 : s.cur 0 = some 0
  ph0 : s.phase 0 = .running
  lb0 : s.lb 0 = 0
  hand0 : s.hand 0 = none
  pend0 : s.pend 0 = none
  frm1 : s.frm 1 = [5]
  to1 : s.to 1 = []
  ph1 : s.phase 1 = .ending
  hand1 : s.hand 1 = none
  pend1 : s.pend 1 = none
  frm2 : s.frm 2 = []
  to2 : s.to 2 = []
  ph2 : s.phase 2 = .ending
  hand2 : s.hand 2 = none
  pend2 : s.pend 2 = none

/-- `remote_count > local_count` (fiber_scheduler_wsd.c:135) holds at every steal of the run -/
def CountGuard (M : Nat) : St → List Ev → Prop
  | _, [] => True
  | s, e :: es =>
    (match e with
     | .steal k j w _ => (s.frm k).length < (src s j w).length
     | _ => True) ∧
    (match step M s e with
     | some s' => CountGuard M s' es
     | none => True)

theorem pp_setup (M : Nat) : ∃ s, (sys M).run ppSetup = some s ∧ PP s ∧
    CountGuard M init ppSetup := by
  refine ⟨_, rfl, ?_, ?_⟩
  · constructor <;> rfl
  · simp [CountGuard, ppSetup, step, init, src, popTop, lbNext, setSrc, upd]

theorem pp_cycle (M : Nat) {s : St} (h : PP s) :
    ∃ s', (sys M).runFrom s ppCycle = some s' ∧ PP s' ∧ CountGuard M s ppCycle := by
  obtain ⟨a1, a2, a3, a4, a5, a6, a7, a8, a9, a10, a11, a12, a13, a14, a15, a16, a17⟩ := h
  simp only [ppCycle, Sys.runFrom, sys, CountGuard]
  simp [step, src, popTop, lbNext, setSrc, upd, a1, a3, a4, a5, a6, a7, a8, a10, a11,
    a12, a13, a15, a16, a17]
  constructor <;> simp [upd, *]

theorem countGuard_append (M : Nat) : ∀ (s : St) (a b : List Ev) (s1 : St),
    (sys M).runFrom s a = some s1 → CountGuard M s a → CountGuard M s1 b →
    CountGuard M s (a ++ b)
  | s, [], b, s1, h, _, hb => by cases Sys.runFrom_nil_some.mp h; exact hb
  | s, e :: a, b, s1, h, ha, hb => by
    obtain ⟨s2, hst, h⟩ := Sys.runFrom_cons_some.mp h
    have hst' : step M s e = some s2 := hst
    simp only [List.cons_append, CountGuard, hst'] at ha ⊢
    exact ⟨ha.1, countGuard_append M s2 a b s1 h ha.2 hb⟩

theorem stealPingpong_eq : ∀ n, stealPingpong n = rep ppCycle n
  | 0 => rfl
  | n + 1 => congrArg (ppCycle ++ ·) (stealPingpong_eq n)

theorem pingpong_run (M : Nat) (n : Nat) {s : St} (h : PP s) :
    ∃ s', (sys M).runFrom s (stealPingpong n) = some s' ∧ PP s' ∧
      CountGuard M s (stealPingpong n) := by
  rw [stealPingpong_eq]
  exact Sys.runFrom_rep PP (CountGuard M) (fun _ => trivial) (countGuard_append M)
    (fun _ h => pp_cycle M h) n s h

def isSwitch : Ev → Bool
  | .switch _ _ => true
  | _ => false

theorem pingpong_props (n : Nat) :
    (∀ e ∈ stealPingpong n, isSched e = false ∧ isSwitch e = false) ∧
    stealsOf 5 (stealPingpong n) = 2 * n ∧ (stealPingpong n).count (.yield 0) = 2 * n := by
  obtain ⟨c1, c2, c3⟩ : (∀ e ∈ ppCycle, isSched e = false ∧ isSwitch e = false) ∧
      stealsOf 5 ppCycle = 2 ∧ ppCycle.count (.yield 0) = 2 := by decide
  rw [stealPingpong_eq, stealsOf, countP_rep, count_rep, ← stealsOf, c2, c3, Nat.mul_comm]
  exact ⟨fun e he => c1 e (mem_rep he), rfl, rfl⟩

/-! ### a fiber whose context is still being saved can be bypassed without bound -/

/-- thread 1 steals fiber 1 and runs it; fiber 1 parks in state SAVING_STATE_TO_WAIT; fiber 0
    wakes it at once — and thread 1 does not get to complete the context switch -/
def svSetup : List Ev :=
  [.sched 0 1, .sched 0 2, .steal 1 0 .to 1, .pushed 1 .frm 1, .pop 1 1, .switch 1 1,
   .finish 1 true, .sched 0 1]

/-- fibers 0 and 2 keep yielding to each other on thread 0; every time fiber_scheduler_next comes
    across fiber 1 it finds it SAVING_STATE_TO_WAIT and skips it -/
def svCycle : List Ev :=
  [.yield 0, .pop 0 1, .skip 0 1, .pushed 0 .to 1, .pop 0 2, .switch 0 2, .pushed 0 .to 0,
   .yield 0, .pop 0 0, .switch 0 0, .pushed 0 .to 2,
   .yield 0, .pop 0 1, .skip 0 1, .pushed 0 .to 1, .resumed 0]

def savingSkipped : Nat → List Ev
  | 0 => []
  | n + 1 => svCycle ++ savingSkipped n

/-- the states the run passes through at the start of every cycle -/
structure SV (s : St) : Prop where
  frm0 : s.frm 0 = []
  to0 : s.to 0 = [1, 2]
  cur0 : s.cur 0 = some 0
  ph0 : s.phase 0 = .running
  hand0 : s.hand 0 = none
  pend0 : s.pend 0 = none
  sav0 : s.sav 0 = false
  sav1 : s.sav 1 = true
  sav2 : s.sav 2 = false
  loc1 : s.loc 1 = some 0

theorem sv_setup (M : Nat) : ∃ s, (sys M).run svSetup = some s ∧ SV s ∧ s.busy.length = 3 := by
  refine ⟨_, rfl, ?_, rfl⟩
  constructor <;> rfl

theorem sv_cycle (M : Nat) {s : St} (h : SV s) :
    ∃ s', (sys M).runFrom s svCycle = some s' ∧ SV s' ∧ s'.busy = s.busy ∧
      holderSwitches M 1 s svCycle = 2 := by
  obtain ⟨a1, a2, a3, a4, a6, a7, a8, a9, a10, a11⟩ := h
  simp only [svCycle, Sys.runFrom, sys, holderSwitches]
  simp [step, next, upd, holderSwitch, a1, a2, a3, a4, a6, a7, a8, a9, a10, a11]
  constructor <;> simp [upd, *]

theorem holderSwitches_append (M f : Nat) : ∀ (a b : List Ev) (s : St),
    holderSwitches M f s (a ++ b) = holderSwitches M f s a +
      (match (sys M).runFrom s a with
       | some s1 => holderSwitches M f s1 b
       | none => 0) := by
  intro a
  induction a with
  | nil => intro b s; simp [holderSwitches, Sys.runFrom]
  | cons e a ih =>
    intro b s
    simp only [List.cons_append, holderSwitches, Sys.runFrom, sys]
    cases hst : step M s e with
    | none => simp
    | some s1 =>
      simp only []
      have := ih b s1
      simp only [sys] at this
      rw [this]
      omega

theorem savingSkipped_eq : ∀ n, savingSkipped n = rep svCycle n
  | 0 => rfl
  | n + 1 => congrArg (svCycle ++ ·) (savingSkipped_eq n)

/-- every context switch of the run is on thread 0, which holds fiber 1 -/
theorem saving_run (M : Nat) (n : Nat) {s : St} (h : SV s) :
    ∃ s', (sys M).runFrom s (savingSkipped n) = some s' ∧ SV s' ∧
      holderSwitches M 1 s (savingSkipped n) = 2 * n := by
  have h2 : svCycle.countP isSwitch = 2 := by decide
  obtain ⟨s', hr, hp, hg⟩ := Sys.runFrom_rep (M := sys M) SV
    (fun s es => holderSwitches M 1 s es = es.countP isSwitch) (fun _ => rfl)
    (fun s a b s1 hr ha hb => by simp only [holderSwitches_append, hr, ha, hb, List.countP_append])
    (fun s h => by
      obtain ⟨s', hr, hp, _, hc⟩ := sv_cycle M h
      exact ⟨s', hr, hp, hc.trans h2.symm⟩) n s h
  rw [savingSkipped_eq]
  exact ⟨s', hr, hp, by rw [hg, countP_rep, h2, Nat.mul_comm]⟩

theorem saving_props (n : Nat) :
    (∀ e ∈ savingSkipped n, isSched e = false ∧ isRunOf 1 e = false) ∧
    stealsOf 1 (savingSkipped n) = 0 := by
  obtain ⟨c1, c2⟩ : (∀ e ∈ svCycle, isSched e = false ∧ isRunOf 1 e = false) ∧
      stealsOf 1 svCycle = 0 := by decide
  rw [savingSkipped_eq, stealsOf, countP_rep, ← stealsOf, c2]
  exact ⟨fun e he => c1 e (mem_rep he), Nat.mul_zero n⟩

end LibfiberVerif.SchedN
