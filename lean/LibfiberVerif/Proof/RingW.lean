/-
  Proof/RingW.lean — the 64-bit machine `Model/RingW.lean` refines the unbounded model
  `Model/Ring.lean`, step by step (property C16, wrap-around of `high` / `low` modulo 2^64).

  `Rel c w u` relates a state `w` of the 64-bit machine started at `base = c` to a state `u` of
  the unbounded model started at 0:
      w.high = (c + u.high) mod 2^64,   w.low = (c + u.low) mod 2^64,
      slot `(c + i) mod 2^k` of `w`  =  slot `i mod 2^k` of `u`        (claim index `i`),
      every program counter of `w` is the program counter of `u` with its counter components
      wrapped the same way; wrapper frames and all ghost fields are equal.
  `sim_step`: every step of the 64-bit machine from a related state is matched by the step of
  the unbounded model on the un-wrapped event, provided
      (Fresh)   since the stepping thread's call began fewer than 2^63 pushes and fewer than 2^63
                pops have taken effect, and
      (NoWrap)  for the code as it is (`fx = false`): `c mod 2^64 + (pushes so far) < 2^64`.
  `refines`: hence a run all of whose states satisfy both is, event by event, the image under
  `wrapEv` of a run of the unbounded model.
  The comparisons of the C code and what they need (H, L = unbounded values of the two locals):
      trypush  `high - low < size`              difference;  right iff  H - L < 2^64
      CAS                                       equality;    right iff  fewer than 2^64 pushes
                                                             (pops) since the value was read
      push     `high - low >= size`             difference;  right iff  L - H ≤ 2^64 - size
      size     `(int64_t)(high - low) >= 0`     sign of the difference; right iff L - H ≤ 2^63
      trypop   `high > low`, pop `high <= low`  VALUES: right only while both counters are on
                                                the same side of 2^64 (NoWrap); with the sign
                                                of the difference (`fx = true`): L - H ≤ 2^63.
-/
import LibfiberVerif.Proof.Ring
import LibfiberVerif.Model.RingW

namespace LibfiberVerif.RingW
open Ring (Pc Ev Wrap idx)

/-- the 64-bit pattern of the unbounded counter value `x` when the counters started at `c` -/
def wr (c x : Nat) : Nat := (c + x) % M

/-- the slot of a 64-bit counter value: capacity `2^k` divides `2^64` -/
theorem idx_wr {k : Nat} (hk : k ≤ 64) (c x : Nat) : idx (2 ^ k) (wr c x) = (c + x) % 2 ^ k := by
  have hM : M = 2 ^ 64 := by decide
  rw [Ring.idx_two_pow, wr, Nat.mod_mod_of_dvd _ (hM ▸ Nat.pow_dvd_pow 2 hk)]

theorem add_mod_inj {c i j S : Nat} : (c + i) % S = (c + j) % S ↔ i % S = j % S := by
  constructor
  · intro h
    have key : ∀ a b : Nat, a ≤ b → (c + a) % S = (c + b) % S → a % S = b % S := by
      intro a b hab h
      have h0 : ((c + b) - (c + a)) % S = 0 := Nat.sub_mod_eq_zero_of_mod_eq h.symm
      have e : (c + b) - (c + a) = b - a := by omega
      rw [e] at h0
      obtain ⟨q, hq⟩ := Nat.dvd_of_mod_eq_zero h0
      have : b = a + S * q := by omega
      rw [this, Nat.add_mul_mod_self_left]
    rcases Nat.le_total i j with hij | hij
    · exact key i j hij h
    · exact (key j i hij h.symm).symm
  · intro h
    rw [Nat.add_mod c i, Nat.add_mod c j, h]

theorem pow_le_31 {k : Nat} (hk : k ≤ 31) : 2 ^ k ≤ 2147483648 := by
  have : (2147483648 : Nat) = 2 ^ 31 := by decide
  rw [this]; exact Nat.pow_le_pow_right (by decide) hk

def wrapPc (c : Nat) : Pc → Pc
  | .idle => .idle
  | .pushCalled v => .pushCalled v
  | .pushGotLow v l => .pushGotLow v (wr c l)
  | .pushGotHigh v l h => .pushGotHigh v (wr c l) (wr c h)
  | .pushReadSlot v l h x => .pushReadSlot v (wr c l) (wr c h) x
  | .pushClaimed v h => .pushClaimed v (wr c h)
  | .pushDone r => .pushDone r
  | .popCalled => .popCalled
  | .popGotHigh h => .popGotHigh (wr c h)
  | .popGotLow h l => .popGotLow (wr c h) (wr c l)
  | .popReadSlot h l x => .popReadSlot (wr c h) (wr c l) x
  | .popClaimed l x => .popClaimed (wr c l) x
  | .popDone x => .popDone x
  | .bpushGotHigh v h => .bpushGotHigh v (wr c h)
  | .bpushFull v => .bpushFull v
  | .bpopGotHigh h => .bpopGotHigh (wr c h)
  | .bpopEmpty => .bpopEmpty
  | .sizeCalled => .sizeCalled
  | .sizeGotHigh h g => .sizeGotHigh (wr c h) (wr c g)
  | .sizeGotBoth h l g h2 => .sizeGotBoth (wr c h) (wr c l) (wr c g) (wr c h2)

/-- the event of the 64-bit machine that corresponds to an event of the unbounded model:
    counter values are wrapped, slot `i` becomes slot `(c + i) mod S`; thread, operation,
    pushed / popped / returned values and the CAS outcome are the same -/
def wrapEv (c S : Nat) : Ev → Ev
  | .ldLow t x => .ldLow t (wr c x)
  | .ldHigh t x => .ldHigh t (wr c x)
  | .wLdLow t x => .wLdLow t (wr c x)
  | .wLdHigh t x => .wLdHigh t (wr c x)
  | .rdBuf t i x => .rdBuf t ((c + i) % S) x
  | .wrBuf t i x => .wrBuf t ((c + i) % S) x
  | .casHigh t f e d ok => .casHigh t (wr c f) (wr c e) (wr c d) ok
  | .casLow t f e d ok => .casLow t (wr c f) (wr c e) (wr c d) ok
  | e => e

theorem wrapPc_pushing (c : Nat) (p : Pc) : (wrapPc c p).pushing = p.pushing := by
  cases p <;> rfl

theorem wrapPc_popping (c : Nat) (p : Pc) : (wrapPc c p).popping = p.popping := by
  cases p <;> rfl

theorem wrapPc_idle {c : Nat} {p : Pc} : wrapPc c p = .idle ↔ p = .idle := by
  cases p <;> simp [wrapPc]

/-- what the simulation needs to know about the counter values held by a thread, beyond
    `Ring.PcOk`: `P0` / `O0` = number of pushes / pops when the thread's call began -/
def LocOk (P0 O0 S high low : Nat) : Pc → Prop
  | .pushGotLow _ l => O0 ≤ l
  | .pushGotHigh _ l h => O0 ≤ l ∧ l ≤ h
  | .pushReadSlot _ l h _ => O0 ≤ l ∧ l ≤ h
  | .popGotHigh h => P0 ≤ h ∧ h ≤ low + S
  | .popGotLow h l => P0 ≤ h ∧ h ≤ l + S
  | .popReadSlot h l _ => P0 ≤ h ∧ h ≤ l + S
  | .bpushGotHigh _ h => P0 ≤ h ∧ h ≤ low + S ∧ h ≤ high
  | .bpopGotHigh h => P0 ≤ h ∧ h ≤ low + S ∧ h ≤ high
  | .sizeGotHigh h _ => P0 ≤ h
  | .sizeGotBoth h _ _ _ => P0 ≤ h
  | _ => True

theorem LocOk.mono {P0 O0 S high low high' low' : Nat} {p : Pc} (h : LocOk P0 O0 S high low p)
    (hh : high ≤ high') (hl : low ≤ low') : LocOk P0 O0 S high' low' p := by
  cases p <;> simp only [LocOk] at h ⊢ <;> omega

structure Rel (c : Nat) (w : St) (u : Ring.St) : Prop where
  size : w.size = u.size
  high : w.high = wr c u.high
  low : w.low = wr c u.low
  buf : ∀ i, w.buf ((c + i) % u.size) = u.buf (i % u.size)
  pc : ∀ t, w.pc t = wrapPc c (u.pc t)
  wrap : w.wrap = u.wrap
  pushed : w.pushed = u.pushed
  popped : w.popped = u.popped
  arg : w.arg = u.arg
  active : w.active = u.active
  wit : w.wit = u.wit
  snap : ∀ t, w.lo0 t ≤ w.hi0 t ∧ w.hi0 t ≤ u.high ∧ w.lo0 t ≤ u.low
  loc : ∀ t, LocOk (w.hi0 t) (w.lo0 t) u.size u.high u.low (u.pc t)

theorem Rel.loc_at {c : Nat} {w : St} {u : Ring.St} (hR : Rel c w u) {t : Nat} {p : Pc}
    (e : u.pc t = p) : LocOk (w.hi0 t) (w.lo0 t) u.size u.high u.low p := e ▸ hR.loc t

/-- (Fresh) no call in progress has been overlapped by 2^63 or more successful pushes, nor by
    2^63 or more successful pops -/
def Fresh (w : St) : Prop :=
  ∀ t, w.pc t ≠ .idle → w.pushed.length < w.hi0 t + H63 ∧ w.popped.length < w.lo0 t + H63

/-- (NoWrap) the code as it is needs `high` not to have crossed 2^64 yet -/
def NoWrap (fx : Bool) (c : Nat) (w : St) : Prop := fx = false → c % M + w.pushed.length < M

theorem rel_init (c size : Nat) : Rel c (init size c) (Ring.init size) := by
  constructor <;> simp [init, Ring.init, wr, wrapPc, LocOk]

section frames
variable {c : Nat} {w : St} {u : Ring.St}

theorem Rel.pc_upd (hR : Rel c w u) (t : Nat) (p : Pc) :
    ∀ t', upd w.pc t (wrapPc c p) t' = wrapPc c (upd u.pc t p t') := by
  intro t'
  by_cases e : t' = t
  · subst e; simp
  · simp [upd_other _ _ _ _ e, hR.pc t']

theorem Rel.loc_upd (hR : Rel c w u) (t : Nat) {p : Pc} {high low : Nat} (hh : u.high ≤ high)
    (hl : u.low ≤ low) (hp : LocOk (w.hi0 t) (w.lo0 t) u.size high low p) :
    ∀ t', LocOk (w.hi0 t') (w.lo0 t') u.size high low (upd u.pc t p t') := by
  intro t'
  by_cases e : t' = t
  · subst e; simpa using hp
  · simpa [upd_other _ _ _ _ e] using (hR.loc t').mono hh hl

theorem Rel.setPc (hR : Rel c w u) (t : Nat) (p q : Pc)
    (hq : q = wrapPc c p) (hl : LocOk (w.hi0 t) (w.lo0 t) u.size u.high u.low p) :
    Rel c { w with pc := upd w.pc t q } { u with pc := upd u.pc t p } :=
  { hR with pc := hq ▸ hR.pc_upd t p, loc := hR.loc_upd t (Nat.le_refl _) (Nat.le_refl _) hl }

/-- a `call` event: `p` is `pushCalled v`, `popCalled` or `sizeCalled` -/
theorem Rel.call {N : Nat} (hR : Rel c w u) (hI : Ring.Inv N u)
    (t : Nat) (p q : Pc) (hq : q = wrapPc c p)
    (hl : ∀ P0 O0, LocOk P0 O0 u.size u.high u.low p) (a a' : Nat → Nat) (ha : a = a')
    (wp wp' : Nat → Wrap) (hw : wp = wp') :
    Rel c { called w t q with arg := a, wrap := wp }
      { u with pc := upd u.pc t p, arg := a', wrap := wp', active := t :: u.active,
               wit := upd u.wit t false } := by
  subst hq ha hw
  have hlen : w.pushed.length = u.high := by rw [hR.pushed, hI.data.len_pushed]
  have hlen' : w.popped.length = u.low := by rw [hR.popped, hI.popped_len]
  refine { hR with pc := hR.pc_upd t p, loc := ?_, wrap := rfl, arg := rfl,
                   active := by simp [called, hR.active], wit := by simp [called, hR.wit], snap := ?_ }
  · intro t'
    by_cases e : t' = t
    · subst e; simp only [called, upd_same, hlen, hlen']; have := hI.data.low_le; omega
    · simpa [called, upd_other _ _ _ _ e] using hR.snap t'
  · intro t'
    by_cases e : t' = t
    · subst e; simpa [called] using hl _ _
    · simpa [called, upd_other _ _ _ _ e] using hR.loc t'

theorem Rel.ret (hR : Rel c w u) (t : Nat) (wp wp' : Nat → Wrap) (hw : wp = wp') :
    Rel c { returned w t with wrap := wp }
      { u with pc := upd u.pc t .idle, wrap := wp',
               active := u.active.filter (fun x => x != t) } :=
  { hR with pc := hR.pc_upd t .idle, wrap := hw, active := by simp [returned, hR.active]
            loc := hR.loc_upd t (Nat.le_refl _) (Nat.le_refl _) trivial }

theorem Rel.casHigh (hR : Rel c w u) (t v h des : Nat) (hh : u.high = h) (hd : des = wr c (h + 1)) :
    Rel c { w with high := des, pushed := w.pushed ++ [v], pc := upd w.pc t (.pushClaimed v (wr c h)) }
      { u with high := h + 1, pushed := u.pushed ++ [v], pc := upd u.pc t (.pushClaimed v h) } :=
  { hR with high := hd, pc := hR.pc_upd t (.pushClaimed v h), pushed := by simp [hR.pushed]
            snap := fun t' => by have := hR.snap t'; simp only; omega
            loc := hR.loc_upd t (hh ▸ Nat.le_succ _) (Nat.le_refl _) trivial }

theorem Rel.casLow (hR : Rel c w u) (t x l des : Nat) (hh : u.low = l) (hd : des = wr c (l + 1)) :
    Rel c { w with low := des, popped := w.popped ++ [x], pc := upd w.pc t (.popClaimed (wr c l) x) }
      { u with low := l + 1, popped := u.popped ++ [x], pc := upd u.pc t (.popClaimed l x) } :=
  { hR with low := hd, pc := hR.pc_upd t (.popClaimed l x), popped := by simp [hR.popped]
            snap := fun t' => by have := hR.snap t'; simp only; omega
            loc := hR.loc_upd t (Nat.le_refl _) (hh ▸ Nat.le_succ _) trivial }

/-- a slot write (by a pusher: `wr' = upd u.written h true`, or by a popper: the clear) -/
theorem Rel.wrBuf (hR : Rel c w u) (t j x : Nat) (p : Pc)
    (hp : ∀ P0 O0, LocOk P0 O0 u.size u.high u.low p) (wr' cl' : Nat → Bool) :
    Rel c { w with buf := upd w.buf ((c + j) % u.size) x, pc := upd w.pc t (wrapPc c p) }
      { u with buf := upd u.buf (j % u.size) x, written := wr', cleared := cl',
               pc := upd u.pc t p } := by
  refine { hR with buf := fun i => ?_, pc := hR.pc_upd t p
                   loc := hR.loc_upd t (Nat.le_refl _) (Nat.le_refl _) (hp _ _) }
  show upd w.buf ((c + j) % u.size) x ((c + i) % u.size) = upd u.buf (j % u.size) x (i % u.size)
  by_cases e : i % u.size = j % u.size
  · rw [e, add_mod_inj.mpr e]; simp
  · rw [upd_other _ _ _ _ e, upd_other _ _ _ _ (fun h => e (add_mod_inj.mp h))]; exact hR.buf i

end frames

/-- the numeric content of `Rel`, `Ring.Inv` and `Fresh` for a thread inside a call, with the
    constants as literals for `omega` -/
theorem call_bounds {k c : Nat} {w : St} {u : Ring.St} (hk : k ≤ 31) (hR : Rel c w u)
    (hI : Ring.Inv (2 ^ k) u) (hF : Fresh w) (t : Nat) (hpc : u.pc t ≠ .idle) :
    u.size = 2 ^ k ∧ 2 ^ k ≤ 2147483648 ∧ u.low ≤ u.high ∧ u.high ≤ u.low + 2 ^ k ∧
    w.lo0 t ≤ w.hi0 t ∧ w.hi0 t ≤ u.high ∧ w.lo0 t ≤ u.low ∧
    u.high < w.hi0 t + 9223372036854775808 ∧ u.low < w.lo0 t + 9223372036854775808 := by
  have hne : w.pc t ≠ .idle := by rw [hR.pc t]; exact fun h => hpc (wrapPc_idle.mp h)
  obtain ⟨f1, f2⟩ := hF t hne
  rw [hR.pushed, hI.data.len_pushed] at f1
  rw [hR.popped, hI.popped_len] at f2
  exact ⟨hI.data.size_eq, pow_le_31 hk, hI.data.low_le, hI.data.high_le, hR.snap t |>.1,
    hR.snap t |>.2.1, hR.snap t |>.2.2, f1, f2⟩

/-! ### the comparisons of the C code on wrapped values -/

theorem wsub_wr_le {c h l : Nat} (hle : l ≤ h) (hlt : h - l < 18446744073709551616) :
    wsub (wr c h) (wr c l) = h - l := by
  simp only [wsub, wr, M] at *; omega

theorem wsub_wr_gt {c h l : Nat} (hlt : h < l) (hb : l - h < 18446744073709551616) :
    wsub (wr c h) (wr c l) = M - (l - h) := by
  simp only [wsub, wr, M] at *; omega

theorem wadd1_wr (c h : Nat) : wadd1 (wr c h) = wr c (h + 1) := by
  simp only [wadd1, wr, M]; omega

theorem wr_inj {c a b : Nat} (h : a ≤ b) (hb : b - a < 18446744073709551616) : wr c b = wr c a ↔ b = a := by
  simp only [wr, M] at *; omega

/-- `high > low` of trypop / pop: as it is (values) while nothing has wrapped; as the sign of
    the difference whenever `l - h ≤ 2^63` -/
theorem gt_wr {fx : Bool} {c h l S : Nat} (hS : S ≤ 2147483648) (h1 : h ≤ l + S)
    (h2 : l ≤ h + 9223372036854775808)
    (hN : fx = false → c % 18446744073709551616 + h < 18446744073709551616 ∧
      c % 18446744073709551616 + l < 18446744073709551616) :
    gt fx (wr c h) (wr c l) = decide (l < h) := by
  rw [Bool.eq_iff_iff]
  cases fx with
  | true =>
    simp only [gt, spos, ite_true, Bool.and_eq_true, decide_eq_true_eq]
    by_cases hle : l ≤ h
    · rw [wsub_wr_le (c := c) hle (by omega)]
      simp only [H63] at *; omega
    · rw [wsub_wr_gt (c := c) (h := h) (l := l) (by omega) (by omega)]
      simp only [H63, M] at *; omega
  | false =>
    obtain ⟨a, b⟩ := hN rfl
    simp only [gt, Bool.false_eq_true, ite_false, decide_eq_true_eq]
    simp only [wr, M] at *
    have e1 : (c + h) % 18446744073709551616 = c % 18446744073709551616 + h := by omega
    have e2 : (c + l) % 18446744073709551616 = c % 18446744073709551616 + l := by omega
    omega

/-- push's `high - low >= size` on the 64-bit difference: right when `l - h ≤ 2^64 - size`, and
    then also true when `high` is behind `low` -/
theorem full_wr {c h l S : Nat} (hS : S ≤ 2147483648) (h1 : h ≤ l + S)
    (h2 : l ≤ h + 9223372036854775808) :
    S ≤ wsub (wr c h) (wr c l) ↔ (S ≤ h - l ∨ h < l) := by
  by_cases hle : l ≤ h
  · rw [wsub_wr_le hle (by omega)]; omega
  · rw [wsub_wr_gt (by omega) (by omega)]; simp only [M]; omega

/-- `(int64_t)(high - low) >= 0 ? high - low : 0` is truncated subtraction when `l - h ≤ 2^63` -/
theorem sclamp_wr {c h l S : Nat} (hS : S ≤ 2147483648) (h1 : h ≤ l + S)
    (h2 : l ≤ h + 9223372036854775808) :
    sclamp (wsub (wr c h) (wr c l)) = h - l := by
  by_cases hle : l ≤ h
  · rw [wsub_wr_le hle (by omega)]; simp only [sclamp, H63]; split <;> omega
  · rw [wsub_wr_gt (by omega) (by omega)]
    simp only [sclamp, H63, M] at *; split <;> omega

/-! ### one step of the 64-bit machine is one step of the unbounded model -/

/-- the unbounded model takes the un-wrapped event `e'` and the results are related again -/
def SimGoal (c k : Nat) (u : Ring.St) (e : Ev) (w' : St) : Prop :=
  ∃ e' u', Ring.core u e' = some u' ∧ wrapEv c (2 ^ k) e' = e ∧ Rel c w' u'

section sim
variable {fx : Bool} {k c : Nat} {w w' : St} {u : Ring.St}

/-- eliminate the program counters of `u` at which the 64-bit machine cannot take the event -/
syntax "pc_cases " ident ident ident ident ident : tactic
macro_rules
  | `(tactic| pc_cases $hR $hs $t $hp $hu) =>
    `(tactic| (
      have $hp:ident := Rel.pc $hR $t
      simp only [core] at $hs:ident
      cases $hu:ident : Ring.St.pc _ $t <;> rw [$hu:ident] at $hp:ident <;>
        simp only [wrapPc] at $hp:ident <;> simp only [$hp:ident] at $hs:ident <;>
        try contradiction))

theorem sim_ldLow {t x : Nat} (hR : Rel c w u)
    (hs : core fx w (.ldLow t x) = some w') : SimGoal c k u (.ldLow t x) w' := by
  pc_cases hR hs t hp hu
  all_goals
    split at hs <;> simp at hs
    subst hs
    rename_i hx
    refine ⟨.ldLow t u.low, _, by simp only [Ring.core, hu]; exact if_pos trivial,
      by simp [wrapEv, hx, hR.low], hR.setPc t _ _ (by simp [wrapPc, hx, hR.low]) ?_⟩
  case pushCalled v => exact (hR.snap t).2.2
  case popGotHigh h =>
    -- `LocOk` at `popGotLow h u.low` unfolds to `LocOk` at `popGotHigh h`
    have h1 := hR.loc_at hu; exact h1

theorem sim_ldHigh {t x : Nat} (hR : Rel c w u) (hI : Ring.Inv (2 ^ k) u)
    (hs : core fx w (.ldHigh t x) = some w') : SimGoal c k u (.ldHigh t x) w' := by
  have hd := hI.data
  pc_cases hR hs t hp hu
  all_goals
    split at hs <;> simp at hs
    subst hs
    rename_i hx
    refine ⟨.ldHigh t u.high, _, by simp only [Ring.core, hu]; exact if_pos trivial,
      by simp [wrapEv, hx, hR.high], hR.setPc t _ _ (by simp [wrapPc, hx, hR.high]) ?_⟩
  case pushGotLow v l =>
    have h1 := hR.loc_at hu
    have h2 := hI.pcok_at hu
    have := hd.low_le
    simp only [LocOk, Ring.PcOk] at *; omega
  case popCalled =>
    have := hd.high_le; have := hd.size_eq; have := hR.snap t
    simp only [LocOk]; omega

theorem sim_calls {e : Ev} (hR : Rel c w u) (hI : Ring.Inv (2 ^ k) u)
    (he : ∃ t, e = .callPop t ∨ e = .callBPop t ∨ e = .callSize t ∨
      ∃ v, e = .callPush t v ∨ e = .callBPush t v)
    (hs : core fx w e = some w') : SimGoal c k u e w' := by
  obtain ⟨t, he⟩ := he
  have hidle : w.pc t = .idle ↔ u.pc t = .idle := by rw [hR.pc t]; exact wrapPc_idle
  rcases he with rfl | rfl | rfl | ⟨v, rfl | rfl⟩ <;> simp only [core] at hs <;>
    (split at hs <;> simp at hs) <;> subst hs <;> rename_i hg
  · refine ⟨.callPop t, _, by simp only [Ring.core]; exact if_pos (hidle.mp hg), rfl, ?_⟩
    exact hR.call hI t .popCalled _ rfl (fun _ _ => trivial) _ _ hR.arg _ _ hR.wrap
  · refine ⟨.callBPop t, _, by simp only [Ring.core]; exact if_pos (hidle.mp hg), rfl, ?_⟩
    exact hR.call hI t .popCalled _ rfl (fun _ _ => trivial) _ _ hR.arg _ _ (by rw [hR.wrap])
  · refine ⟨.callSize t, _, by simp only [Ring.core]; exact if_pos (hidle.mp hg), rfl, ?_⟩
    exact hR.call hI t .sizeCalled _ rfl (fun _ _ => trivial) _ _ hR.arg _ _ hR.wrap
  · refine ⟨.callPush t v, _, by simp only [Ring.core]; exact if_pos ⟨hidle.mp hg.1, hg.2⟩, rfl, ?_⟩
    exact hR.call hI t (.pushCalled v) _ rfl (fun _ _ => trivial) _ _ (by rw [hR.arg]) _ _ hR.wrap
  · refine ⟨.callBPush t v, _, by simp only [Ring.core]; exact if_pos ⟨hidle.mp hg.1, hg.2⟩, rfl, ?_⟩
    exact hR.call hI t (.pushCalled v) _ rfl (fun _ _ => trivial) _ _ hR.arg _ _ (by rw [hR.wrap])

theorem sim_relax {t : Nat} (hR : Rel c w u) (hs : core fx w (.relax t) = some w') :
    SimGoal c k u (.relax t) w' := by
  pc_cases hR hs t hp hu <;> cases hs
  case bpushFull v =>
    exact ⟨.relax t, { u with pc := upd u.pc t (.pushCalled v) }, by simp [Ring.core, hu], rfl,
      hR.setPc t _ _ rfl trivial⟩
  case bpopEmpty =>
    exact ⟨.relax t, { u with pc := upd u.pc t .popCalled }, by simp [Ring.core, hu], rfl,
      hR.setPc t _ _ rfl trivial⟩

theorem sim_retB {e : Ev} (hR : Rel c w u)
    (he : ∃ t r, e = .retBPush t r ∨ e = .retBPop t r)
    (hs : core fx w e = some w') : SimGoal c k u e w' := by
  obtain ⟨t, r, rfl | rfl⟩ := he <;> pc_cases hR hs t hp hu <;> (split at hs <;> simp at hs) <;>
    subst hs <;> rename_i hg
  · exact ⟨.retBPush t r, _,
      by simp only [Ring.core, hu]; exact if_pos ⟨hg.1, hg.2.1, hR.wrap ▸ hg.2.2⟩, rfl,
      hR.ret t _ _ (by rw [hR.wrap])⟩
  · exact ⟨.retBPop t r, _,
      by simp only [Ring.core, hu]; exact if_pos ⟨hg.1, hg.2.1, hR.wrap ▸ hg.2.2⟩, rfl,
      hR.ret t _ _ (by rw [hR.wrap])⟩

section events
/- Throughout: capacity `2^k` with `k ≤ 31`, related states, and the invariant of the unbounded
   model; `Fresh` and `NoWrap` are named where an event needs them. -/
variable (hk : k ≤ 31) (hR : Rel c w u) (hI : Ring.Inv (2 ^ k) u)
include hk hR hI

/-- the slot of a counter value on either side, in terms of the common capacity -/
theorem slot_eqs : u.size = 2 ^ k ∧ (∀ n, idx u.size n = n % u.size) ∧
    ∀ n, idx w.size (wr c n) = (c + n) % u.size := by
  have hsz : u.size = 2 ^ k := hI.data.size_eq
  exact ⟨hsz, fun n => by rw [hsz, Ring.idx_two_pow],
    fun n => by rw [hR.size, hsz, idx_wr (by omega)]⟩

theorem sim_rdBuf {t i x : Nat}
    (hs : core fx w (.rdBuf t i x) = some w') : SimGoal c k u (.rdBuf t i x) w' := by
  obtain ⟨hsz, hidx, hidxw⟩ := slot_eqs hk hR hI
  pc_cases hR hs t hp hu
  case pushGotHigh v l h =>
    split at hs <;> simp at hs
    subst hs
    rename_i hx
    obtain ⟨rfl, rfl⟩ := hx
    have h1 := hR.loc_at hu
    rw [hidxw]
    exact ⟨.rdBuf t (idx u.size h) (w.buf ((c + h) % u.size)), _,
      by simp only [Ring.core, hu]; exact if_pos ⟨trivial, by rw [hidx]; exact hR.buf h⟩,
      by simp [wrapEv, hsz, Ring.idx_two_pow], hR.setPc t (.pushReadSlot v l h _) _ rfl h1⟩
  case popGotLow h l =>
    split at hs <;> simp at hs
    subst hs
    rename_i hx
    obtain ⟨rfl, rfl⟩ := hx
    have h1 := hR.loc_at hu
    rw [hidxw]
    exact ⟨.rdBuf t (idx u.size l) (w.buf ((c + l) % u.size)), _,
      by simp only [Ring.core, hu]; exact if_pos ⟨trivial, by rw [hidx]; exact hR.buf l⟩,
      by simp [wrapEv, hsz, Ring.idx_two_pow], hR.setPc t (.popReadSlot h l _) _ rfl h1⟩

theorem push_cmp {t v l h x : Nat}
    (hF : Fresh w) (hu : u.pc t = .pushReadSlot v l h x) :
    wsub (wr c h) (wr c l) = h - l ∧ l ≤ h ∧ h ≤ u.high ∧ u.high - h < 18446744073709551616 := by
  obtain ⟨-, hS, hlh, hhl, -, -, s3, -, f2⟩ := call_bounds hk hR hI hF t (by rw [hu]; simp)
  have h1 := hR.loc_at hu
  have h2 := hI.pcok_at hu
  simp only [LocOk, Ring.PcOk] at h1 h2
  obtain ⟨_, _, p3, p4, _⟩ := h2
  exact ⟨wsub_wr_le h1.2 (by omega), h1.2, p4, by omega⟩

theorem sim_casHigh {t found exp des : Nat} {ok : Bool} (hF : Fresh w)
    (hs : core fx w (.casHigh t found exp des ok) = some w') :
    SimGoal c k u (.casHigh t found exp des ok) w' := by
  pc_cases hR hs t hp hu
  case pushReadSlot v l h x =>
    obtain ⟨e1, hlh, p4, hst⟩ := push_cmp hk hR hI hF hu
    split at hs <;> try contradiction
    rename_i hg
    obtain ⟨hx0, hlt, hf, he, hd, hok⟩ := hg
    rw [e1, hR.size] at hlt
    have hokU : ok = decide (u.high = h) := by
      rw [hok, hf, he, hR.high]; exact decide_eq_decide.mpr (wr_inj p4 hst)
    subst hf he hd
    refine ⟨.casHigh t u.high h (h + 1) ok, ?_⟩
    split at hs
    · rename_i hok1
      cases hs
      have hh : u.high = h := by rw [hok1] at hokU; simpa using hokU.symm
      exact ⟨_, by simp only [Ring.core, hu]
                   rw [if_pos ⟨hx0, hlt, trivial, trivial, trivial, hokU⟩, if_pos hok1],
        by simp [wrapEv, hR.high, wadd1_wr], hR.casHigh t v h _ hh (wadd1_wr c h)⟩
    · rename_i hok0
      cases hs
      exact ⟨_, by simp only [Ring.core, hu]
                   rw [if_pos ⟨hx0, hlt, trivial, trivial, trivial, hokU⟩, if_neg hok0],
        by simp [wrapEv, hR.high, wadd1_wr], hR.setPc t (.pushDone 0) _ rfl trivial⟩

theorem sim_wrBuf {t i x : Nat}
    (hs : core fx w (.wrBuf t i x) = some w') : SimGoal c k u (.wrBuf t i x) w' := by
  obtain ⟨hsz, hidx, hidxw⟩ := slot_eqs hk hR hI
  pc_cases hR hs t hp hu
  case pushClaimed v h =>
    split at hs <;> simp at hs
    subst hs
    rename_i hx
    obtain ⟨rfl, rfl⟩ := hx
    rw [hidxw]
    refine ⟨.wrBuf t (idx u.size h) x, _, by simp only [Ring.core, hu]; exact if_pos ⟨trivial, trivial⟩,
      by simp [wrapEv, hsz, Ring.idx_two_pow], ?_⟩
    rw [hidx]
    exact hR.wrBuf t h x (.pushDone 1) (fun _ _ => trivial) (upd u.written h true) u.cleared
  case popClaimed l v =>
    split at hs <;> simp at hs
    subst hs
    rename_i hx
    obtain ⟨rfl, rfl⟩ := hx
    rw [hidxw]
    refine ⟨.wrBuf t (idx u.size l) 0, _, by simp only [Ring.core, hu]; exact if_pos ⟨trivial, trivial⟩,
      by simp [wrapEv, hsz, Ring.idx_two_pow], ?_⟩
    rw [hidx]
    exact hR.wrBuf t l 0 (.popDone v) (fun _ _ => trivial) u.written (upd u.cleared l true)

theorem sim_retPush {t r : Nat}
    (hF : Fresh w) (hs : core fx w (.retPush t r) = some w') :
    SimGoal c k u (.retPush t r) w' := by
  pc_cases hR hs t hp hu
  case pushDone r' =>
    split at hs <;> simp at hs
    subst hs
    rename_i hg
    exact ⟨.retPush t r, _, by simp only [Ring.core, hu]; exact if_pos ⟨hg.1, hR.wrap ▸ hg.2⟩, rfl,
      hR.ret t w.wrap u.wrap hR.wrap⟩
  case pushReadSlot v l h x =>
    obtain ⟨e1, -, -, -⟩ := push_cmp hk hR hI hF hu
    split at hs <;> simp at hs
    subst hs
    rename_i hg
    rw [e1, hR.size] at hg
    exact ⟨.retPush t r, _,
      by simp only [Ring.core, hu]; exact if_pos ⟨hg.1, hg.2.1, hR.wrap ▸ hg.2.2⟩, rfl,
      hR.ret t w.wrap u.wrap hR.wrap⟩

theorem pop_cmp {t h l : Nat}
    (hF : Fresh w) (hN : NoWrap fx c w) (hpc : u.pc t ≠ .idle)
    (h1 : w.hi0 t ≤ h) (h2 : h ≤ l + 2 ^ k) (h3 : h ≤ u.high) (h4 : l ≤ u.low) :
    gt fx (wr c h) (wr c l) = decide (l < h) := by
  obtain ⟨-, hS, hlh, hhl, s1, -, s3, -, f2⟩ := call_bounds hk hR hI hF t hpc
  refine gt_wr hS h2 (by omega) ?_
  intro hfx
  have := hN hfx
  rw [hR.pushed, hI.data.len_pushed] at this
  simp only [M] at this
  omega

theorem pop_cmp_slot {t h l x : Nat}
    (hF : Fresh w) (hN : NoWrap fx c w) (hu : u.pc t = .popReadSlot h l x) :
    gt fx (wr c h) (wr c l) = decide (l < h) ∧ l ≤ u.low ∧ u.low - l < 18446744073709551616 := by
  have hpc : u.pc t ≠ .idle := by rw [hu]; simp
  obtain ⟨hsz, hS, -, -, s1, -, -, -, f2⟩ := call_bounds hk hR hI hF t hpc
  have h1 := hR.loc_at hu; rw [hsz] at h1
  obtain ⟨q1, q2⟩ := h1
  obtain ⟨p1, p2, -⟩ := hI.pcok_at hu
  exact ⟨pop_cmp hk hR hI hF hN hpc q1 q2 p1 p2, p2, by omega⟩

theorem sim_casLow {t found exp des : Nat} {ok : Bool} (hF : Fresh w) (hN : NoWrap fx c w)
    (hs : core fx w (.casLow t found exp des ok) = some w') :
    SimGoal c k u (.casLow t found exp des ok) w' := by
  pc_cases hR hs t hp hu
  case popReadSlot h l x =>
    obtain ⟨e1, p2, hst⟩ := pop_cmp_slot hk hR hI hF hN hu
    split at hs <;> try contradiction
    rename_i hg
    obtain ⟨hx0, hlt, hf, he, hd, hok⟩ := hg
    rw [e1] at hlt
    have hlt' : l < h := by simpa using hlt
    have hokU : ok = decide (u.low = l) := by
      rw [hok, hf, he, hR.low]; exact decide_eq_decide.mpr (wr_inj p2 hst)
    subst hf he hd
    refine ⟨.casLow t u.low l (l + 1) ok, ?_⟩
    split at hs
    · rename_i hok1
      cases hs
      have hh : u.low = l := by rw [hok1] at hokU; simpa using hokU.symm
      exact ⟨_, by simp only [Ring.core, hu]
                   rw [if_pos ⟨hx0, hlt', trivial, trivial, trivial, hokU⟩, if_pos hok1],
        by simp [wrapEv, hR.low, wadd1_wr], hR.casLow t x l _ hh (wadd1_wr c l)⟩
    · rename_i hok0
      cases hs
      exact ⟨_, by simp only [Ring.core, hu]
                   rw [if_pos ⟨hx0, hlt', trivial, trivial, trivial, hokU⟩, if_neg hok0],
        by simp [wrapEv, hR.low, wadd1_wr], hR.setPc t (.popDone 0) _ rfl trivial⟩

theorem sim_retPop {t x : Nat}
    (hF : Fresh w) (hN : NoWrap fx c w) (hs : core fx w (.retPop t x) = some w') :
    SimGoal c k u (.retPop t x) w' := by
  pc_cases hR hs t hp hu
  case popDone x' =>
    split at hs <;> simp at hs
    subst hs
    rename_i hg
    exact ⟨.retPop t x, _, by simp only [Ring.core, hu]; exact if_pos ⟨hg.1, hR.wrap ▸ hg.2⟩, rfl,
      hR.ret t w.wrap u.wrap hR.wrap⟩
  case popReadSlot h l y =>
    obtain ⟨e1, -, -⟩ := pop_cmp_slot hk hR hI hF hN hu
    split at hs <;> simp at hs
    subst hs
    rename_i hg
    rw [e1] at hg
    exact ⟨.retPop t x, _,
      by simp only [Ring.core, hu]
         exact if_pos ⟨by simpa using hg.1, hg.2.1, hR.wrap ▸ hg.2.2⟩, rfl,
      hR.ret t w.wrap u.wrap hR.wrap⟩

theorem pushFailed_eq (t : Nat)
    (hF : Fresh w) : pushFailed w t = Ring.pushFailed u t := by
  unfold pushFailed Ring.pushFailed
  rw [hR.pc t]
  cases hu : u.pc t <;> simp only [wrapPc]
  case pushReadSlot v l h x =>
    obtain ⟨e1, -, -, -⟩ := push_cmp hk hR hI hF hu
    rw [e1, hR.size]

theorem popFailed_eq (t : Nat)
    (hF : Fresh w) (hN : NoWrap fx c w) : popFailed fx w t = Ring.popFailed u t := by
  unfold popFailed Ring.popFailed
  rw [hR.pc t]
  cases hu : u.pc t <;> simp only [wrapPc]
  case popReadSlot h l y => rw [(pop_cmp_slot hk hR hI hF hN hu).1]

theorem sim_wLdHigh {t x : Nat}
    (hF : Fresh w) (hN : NoWrap fx c w) (hs : core fx w (.wLdHigh t x) = some w') :
    SimGoal c k u (.wLdHigh t x) w' := by
  simp only [core] at hs
  rw [pushFailed_eq hk hR hI t hF, popFailed_eq hk hR hI t hF hN] at hs
  have := hI.data.high_le; have := hI.data.size_eq; have := hR.snap t
  have hwr' : w.wrap t = u.wrap t := by rw [hR.wrap]
  cases hwr : u.wrap t <;> rw [hwr] at hwr' <;> simp only [hwr'] at hs <;>
    (split at hs <;> simp at hs) <;> subst hs <;> rename_i hg
  case no =>
    have hu : u.pc t = .sizeCalled := by
      have := hg.1; rw [hR.pc t] at this
      cases hu : u.pc t <;> rw [hu] at this <;> simp [wrapPc] at this
    exact ⟨.wLdHigh t u.high, _, by simp only [Ring.core, hwr]; exact if_pos ⟨hu, trivial⟩,
      by simp [wrapEv, hg.2, hR.high],
      hR.setPc t _ _ (by simp [wrapPc, hg.2, hR.high, hR.low]) (by simp only [LocOk]; omega)⟩
  -- a blocking push and a blocking pop: the same step, `pushFailed` / `popFailed` being translated
  all_goals
    exact ⟨.wLdHigh t u.high, _, by simp only [Ring.core, hwr]; exact if_pos ⟨hg.1, trivial⟩,
      by simp [wrapEv, hg.2, hR.high],
      hR.setPc t _ _ (by simp [wrapPc, hg.2, hR.high]) (by simp only [LocOk]; omega)⟩

theorem sim_wLdLow {t x : Nat}
    (hF : Fresh w) (hN : NoWrap fx c w) (hs : core fx w (.wLdLow t x) = some w') :
    SimGoal c k u (.wLdLow t x) w' := by
  pc_cases hR hs t hp hu
  case bpushGotHigh v h =>
    obtain ⟨hsz, hS, -, -, s1, -, -, -, f2⟩ := call_bounds hk hR hI hF t (by rw [hu]; simp)
    have h1 := hR.loc_at hu; simp only [LocOk] at h1
    split at hs <;> try contradiction
    rename_i hx
    subst hx
    have hcmp : w.size ≤ wsub (wr c h) w.low ↔ (u.size ≤ h - u.low ∨ h < u.low) := by
      rw [hR.low, hR.size, hsz]; exact full_wr hS (by omega) (by omega)
    refine ⟨.wLdLow t u.low, ?_⟩
    split at hs <;> rename_i hc <;> cases hs
    · exact ⟨_, by simp only [Ring.core, hu]; rw [if_pos trivial, if_pos (hcmp.mp hc)],
        by simp [wrapEv, hR.low], hR.setPc t (.bpushFull v) _ rfl trivial⟩
    · exact ⟨_, by simp only [Ring.core, hu]; rw [if_pos trivial, if_neg (fun h => hc (hcmp.mpr h))],
        by simp [wrapEv, hR.low], hR.setPc t (.pushCalled v) _ rfl trivial⟩
  case bpopGotHigh h =>
    have h1 := hR.loc_at hu; simp only [LocOk] at h1
    rw [hI.data.size_eq] at h1
    split at hs <;> try contradiction
    rename_i hx
    subst hx
    have e1 := pop_cmp hk hR hI hF hN (t := t) (l := u.low) (by rw [hu]; simp) h1.1 h1.2.1 h1.2.2
      (Nat.le_refl _)
    rw [← hR.low] at e1
    rw [e1] at hs
    refine ⟨.wLdLow t u.low, ?_⟩
    split at hs <;> rename_i hc <;> cases hs
    · exact ⟨_, by simp only [Ring.core, hu]; rw [if_pos trivial, if_pos (by simpa using hc)],
        by simp [wrapEv, hR.low], hR.setPc t .bpopEmpty _ rfl trivial⟩
    · exact ⟨_, by simp only [Ring.core, hu]; rw [if_pos trivial, if_neg (by simpa using hc)],
        by simp [wrapEv, hR.low], hR.setPc t .popCalled _ rfl trivial⟩
  case sizeGotHigh h g =>
    split at hs <;> simp at hs
    subst hs
    rename_i hx
    have h1 := hR.loc_at hu
    exact ⟨.wLdLow t u.low, _, by simp only [Ring.core, hu]; exact if_pos trivial,
      by simp [wrapEv, hx, hR.low],
      hR.setPc t (.sizeGotBoth h u.low g u.high) _ (by simp [wrapPc, hx, hR.low, hR.high]) h1⟩

theorem sim_retSize {t n : Nat}
    (hF : Fresh w) (hs : core fx w (.retSize t n) = some w') :
    SimGoal c k u (.retSize t n) w' := by
  pc_cases hR hs t hp hu
  case sizeGotBoth h l g h2 =>
    obtain ⟨-, hS, -, -, s1, -, -, -, f2⟩ := call_bounds hk hR hI hF t (by rw [hu]; simp)
    have h1 := hR.loc_at hu
    have q := hI.pcok_at hu
    simp only [LocOk, Ring.PcOk] at h1 q
    have e1 : sclamp (wsub (wr c h) (wr c l)) = h - l :=
      sclamp_wr (S := 2 ^ k) hS (by omega) (by omega)
    split at hs <;> simp at hs
    subst hs
    rename_i hn
    rw [e1] at hn
    exact ⟨.retSize t n, _, by simp only [Ring.core, hu]; exact if_pos hn, rfl,
      hR.ret t w.wrap u.wrap hR.wrap⟩

theorem sim_core {e : Ev}
    (hF : Fresh w) (hN : NoWrap fx c w) (hs : core fx w e = some w') : SimGoal c k u e w' := by
  cases e with
  | callPop t => exact sim_calls hR hI ⟨t, .inl rfl⟩ hs
  | callBPop t => exact sim_calls hR hI ⟨t, .inr (.inl rfl)⟩ hs
  | callSize t => exact sim_calls hR hI ⟨t, .inr (.inr (.inl rfl))⟩ hs
  | callPush t v => exact sim_calls hR hI ⟨t, .inr (.inr (.inr ⟨v, .inl rfl⟩))⟩ hs
  | callBPush t v => exact sim_calls hR hI ⟨t, .inr (.inr (.inr ⟨v, .inr rfl⟩))⟩ hs
  | retPush t r => exact sim_retPush hk hR hI hF hs
  | retPop t x => exact sim_retPop hk hR hI hF hN hs
  | ldLow t x => exact sim_ldLow hR hs
  | ldHigh t x => exact sim_ldHigh hR hI hs
  | rdBuf t i x => exact sim_rdBuf hk hR hI hs
  | wrBuf t i x => exact sim_wrBuf hk hR hI hs
  | casHigh t f e d ok => exact sim_casHigh hk hR hI hF hs
  | casLow t f e d ok => exact sim_casLow hk hR hI hF hN hs
  | retBPush t r => exact sim_retB hR ⟨t, r, Or.inl rfl⟩ hs
  | retBPop t x => exact sim_retB hR ⟨t, x, Or.inr rfl⟩ hs
  | retSize t n => exact sim_retSize hk hR hI hF hs
  | wLdHigh t x => exact sim_wLdHigh hk hR hI hF hN hs
  | wLdLow t x => exact sim_wLdLow hk hR hI hF hN hs
  | relax t => exact sim_relax hR hs

end events

theorem justNow_eq (hk : k ≤ 31) (hR : Rel c w u) (hI : Ring.Inv (2 ^ k) u) (t : Nat) :
    justNow w t = Ring.justNow u t := by
  have h1 := hI.data.low_le
  have h2 := hI.data.high_le
  have h3 := pow_le_31 hk
  unfold justNow Ring.justNow
  rw [hR.active, hR.pc t, wrapPc_pushing, wrapPc_popping, hR.size, hR.high, hR.low,
    wsub_wr_le h1 (by omega)]
  congr 2
  refine decide_eq_decide.mpr ?_
  rw [wr_inj h1 (by omega)]; omega

theorem Rel.observe (hk : k ≤ 31) (hR : Rel c w u) (hI : Ring.Inv (2 ^ k) u) :
    Rel c (observe w) (Ring.observe u) := by
  refine { hR with wit := ?_ }
  funext t
  show (w.wit t || justNow w t) = (u.wit t || Ring.justNow u t)
  rw [hR.wit, justNow_eq hk hR hI t]

/-- **Step simulation.**  From related states, a step of the 64-bit machine on event `e` is a
    step of the unbounded model on an event `e'` with `wrapEv c (2^k) e' = e`, and the results
    are related. -/
theorem sim_step {e : Ev} (hk : k ≤ 31) (hR : Rel c w u) (hI : Ring.Inv (2 ^ k) u)
    (hF : Fresh w) (hN : NoWrap fx c w) (hs : step fx w e = some w') :
    ∃ e' u', Ring.step u e' = some u' ∧ wrapEv c (2 ^ k) e' = e ∧ Rel c w' u' := by
  simp only [step, Option.map_eq_some_iff] at hs
  obtain ⟨w1, h1, rfl⟩ := hs
  obtain ⟨e', u1, hc, he, hR1⟩ := sim_core hk hR hI hF hN h1
  refine ⟨e', Ring.observe u1, ?_, he, hR1.observe hk (Ring.inv_core (Ring.idx_two_pow k) hI (.of_core hc))⟩
  simp [Ring.step, hc]

end sim

def Good (fx : Bool) (c : Nat) (w : St) : Prop := Fresh w ∧ NoWrap fx c w

/-- every state the run `es` goes through (the last one included) is `Good` -/
def AllGood (fx : Bool) (k c : Nat) (es : List Ev) : Prop :=
  ∀ es1 es2 w1, es = es1 ++ es2 → (sys fx (2 ^ k) c).run es1 = some w1 → Good fx c w1

/-- what `refines` delivers for a run `es` of the 64-bit machine ending in `w` -/
def Refined (fx : Bool) (k c : Nat) (es : List Ev) (w : St) : Prop :=
  ∃ esU u, es = esU.map (wrapEv c (2 ^ k)) ∧ (Ring.sys (2 ^ k)).run esU = some u ∧ Rel c w u ∧
    ∀ es1 es2 u1, esU = es1 ++ es2 → (Ring.sys (2 ^ k)).run es1 = some u1 →
      ∃ w1, (sys fx (2 ^ k) c).run (es1.map (wrapEv c (2 ^ k))) = some w1 ∧ Rel c w1 u1

/-- **Refinement.**  Every run of the 64-bit machine (capacity `2^k`, `k ≤ 31`, counters
    starting at ANY `c`) all of whose states are `Good` is, event by event, the image under
    `wrapEv` of a run of the unbounded model `Ring.sys (2^k)` (counters starting at 0), the two
    final states are related by `Rel c`, and so are the states after every common prefix. -/
theorem refines {fx : Bool} {k c : Nat} (hk : k ≤ 31) {es : List Ev} {w : St}
    (h : (sys fx (2 ^ k) c).run es = some w) (hg : AllGood fx k c es) : Refined fx k c es w := by
  have key := Sys.hist_inv_of_run (sys fx (2 ^ k) c)
    (fun w es => (sys fx (2 ^ k) c).run es = some w ∧ (AllGood fx k c es → Refined fx k c es w))
    ?_ ?_ h
  · exact key.2 hg
  · refine ⟨rfl, fun _ => ⟨[], Ring.init (2 ^ k), rfl, rfl, rel_init c (2 ^ k), ?_⟩⟩
    intro es1 es2 u1 h1 h2
    obtain ⟨rfl, -⟩ := List.append_eq_nil_iff.mp h1.symm
    obtain rfl : Ring.init (2 ^ k) = u1 := Option.some.inj h2
    exact ⟨_, rfl, rel_init c _⟩
  · intro w es e w' ⟨hrun, ih⟩ hs
    have hrun' := Sys.run_snoc _ hrun hs
    refine ⟨hrun', fun hg' => ?_⟩
    have hgw : Good fx c w := hg' es [e] w rfl hrun
    have hges : AllGood fx k c es := by
      intro es1 es2 w1 h1 h2
      exact hg' es1 (es2 ++ [e]) w1 (by rw [h1, List.append_assoc]) h2
    obtain ⟨esU, u, hmap, hrunU, hR, hpre⟩ := ih hges
    have hI := (Ring.inv_of_run hrunU).1
    obtain ⟨e', u', hsU, he, hR'⟩ := sim_step (fx := fx) hk hR hI hgw.1 hgw.2 hs
    have hrunU' := Sys.run_snoc _ hrunU hsU
    refine ⟨esU ++ [e'], u', by simp [hmap, he], hrunU', hR', ?_⟩
    intro es1 es2 u1 h1 h2
    rcases List.eq_nil_or_concat es2 with rfl | ⟨L, b, rfl⟩
    · rw [List.append_nil] at h1
      subst h1
      rw [hrunU'] at h2
      cases h2
      refine ⟨w', ?_, hR'⟩
      rw [List.map_append, ← hmap]; simpa [he] using hrun'
    · rw [List.concat_eq_append, ← List.append_assoc] at h1
      obtain ⟨h3, -⟩ := List.append_inj' h1 rfl
      exact hpre es1 L u1 h3 h2

theorem step_mono {fx : Bool} {w w' : St} {e : Ev} (hs : step fx w e = some w') :
    w.pushed.length ≤ w'.pushed.length ∧ w.popped.length ≤ w'.popped.length := by
  obtain ⟨w1, h1, rfl⟩ := Option.map_eq_some_iff.mp hs
  show w.pushed.length ≤ w1.pushed.length ∧ w.popped.length ≤ w1.popped.length
  cases e <;> simp only [core, called, returned] at h1 <;> (repeat' split at h1) <;>
    (try contradiction) <;> cases h1 <;> simp

theorem runFrom_mono {fx : Bool} {size c : Nat} {es : List Ev} {w w' : St}
    (h : (sys fx size c).runFrom w es = some w') :
    w.pushed.length ≤ w'.pushed.length ∧ w.popped.length ≤ w'.popped.length :=
  Sys.runFrom_inv (fun w' => w.pushed.length ≤ w'.pushed.length ∧ w.popped.length ≤ w'.popped.length)
    (fun _ => True) (fun _ _ _ hp _ hs => by have := step_mono (fx := fx) hs; omega) es w w'
    ⟨Nat.le_refl _, Nat.le_refl _⟩ h (fun _ _ => trivial)

theorem allGood_of_few {fx : Bool} {k c : Nat} {es : List Ev} {w : St}
    (h : (sys fx (2 ^ k) c).run es = some w)
    (h1 : w.pushed.length < H63) (h2 : w.popped.length < H63)
    (h3 : fx = false → c % M + w.pushed.length < M) : AllGood fx k c es := by
  intro es1 es2 w1 he hr
  subst he
  simp only [Sys.run, Sys.runFrom_append] at h hr
  rw [hr] at h
  have hm := runFrom_mono (fx := fx) (size := 2 ^ k) (c := c) (es := es2) (w := w1) (by simpa using h)
  refine ⟨fun t _ => ⟨by omega, by omega⟩, fun hfx => ?_⟩
  have := h3 hfx; omega

/-- `allGood_of_few` with the counters of a concrete run read off by evaluation (`hf` by
    `decide`) -/
theorem allGood_of_eval {fx : Bool} {k c : Nat} {es : List Ev} {n m : Nat}
    (hf : ((sys fx (2 ^ k) c).run es).map (fun w => (w.pushed.length, w.popped.length)) = some (n, m))
    (h1 : n < H63) (h2 : m < H63) (h3 : fx = false → c % M + n < M) :
    ∃ w, (sys fx (2 ^ k) c).run es = some w ∧ AllGood fx k c es := by
  obtain ⟨w, h0, hw⟩ := Option.map_eq_some_iff.mp hf
  obtain ⟨rfl, rfl⟩ := Prod.mk.inj hw
  exact ⟨w, h0, allGood_of_few h0 h1 h2 h3⟩

theorem step_pc_other {fx : Bool} {w w' : St} {e : Ev} (hs : step fx w e = some w') (t : Nat)
    (ht : t ≠ e.tid) : w'.pc t = w.pc t := by
  obtain ⟨w1, h1, rfl⟩ := Option.map_eq_some_iff.mp hs
  show w1.pc t = w.pc t
  cases e <;> simp only [Ring.Ev.tid] at ht <;> simp only [core, called, returned] at h1 <;>
    (repeat' split at h1) <;> (try contradiction) <;> cases h1 <;> simp [upd_other _ _ _ _ ht]

theorem runFrom_pc_idle {fx : Bool} {size c : Nat} {es : List Ev} {t0 : Nat} {w w' : St}
    (hes : ∀ e ∈ es, e.tid = t0) (h : (sys fx size c).runFrom w es = some w') (t : Nat)
    (ht : t ≠ t0) : w'.pc t = w.pc t :=
  Sys.runFrom_inv (fun w' => w'.pc t = w.pc t) (fun e => e.tid = t0)
    (fun _ _ _ hp he hs => (step_pc_other (fx := fx) hs t (by rw [he]; exact ht)).trans hp) es w w'
    rfl h hes

/-- `wrapEv` keeps the operation, the thread, every value pushed / read from a slot / returned
    and every CAS outcome; only counter values and the slot index are translated -/
def eraseEv : Ev → Ev
  | .ldLow t _ => .ldLow t 0
  | .ldHigh t _ => .ldHigh t 0
  | .wLdLow t _ => .wLdLow t 0
  | .wLdHigh t _ => .wLdHigh t 0
  | .rdBuf t _ x => .rdBuf t 0 x
  | .wrBuf t _ x => .wrBuf t 0 x
  | .casHigh t _ _ _ ok => .casHigh t 0 0 0 ok
  | .casLow t _ _ _ ok => .casLow t 0 0 0 ok
  | e => e

theorem eraseEv_wrapEv (c S : Nat) (e : Ev) : eraseEv (wrapEv c S e) = eraseEv e := by
  cases e <;> rfl

theorem boundaryOf_wrapEv (c S : Nat) (e : Ev) (t : Nat) :
    (wrapEv c S e).boundaryOf t = e.boundaryOf t := by
  cases e <;> rfl

theorem tid_wrapEv (c S : Nat) (e : Ev) : (wrapEv c S e).tid = e.tid := by
  cases e <;> rfl

/-- `call` and `ret` events carry no counter value and no slot index -/
theorem wrapEv_boundary {c S : Nat} {e' e : Ev} (he : wrapEv c S e' = e)
    (hb : e.boundaryOf e.tid = true) : e' = e := by
  subst he; cases e' <;> simp [wrapEv, Ring.Ev.boundaryOf, Ring.Ev.tid] at hb ⊢

/-- A `call` / `ret` step at the end of a good run is the step of the unbounded model on the
    same event at the end of the refining run `esU`; and what holds of the unbounded model at an
    instant of a call in `esU` carries over (through `Rel`) to the same instant of the run `es`. -/
theorem refines_last {fx : Bool} {k c : Nat} (hk : k ≤ 31) {es : List Ev} {w w' : St} {e : Ev}
    (h : (sys fx (2 ^ k) c).run es = some w) (hg : AllGood fx k c es)
    (hs : (sys fx (2 ^ k) c).step w e = some w') (hb : e.boundaryOf e.tid = true) :
    ∃ esU u u', (Ring.sys (2 ^ k)).run esU = some u ∧ Rel c w u ∧
      (Ring.sys (2 ^ k)).step u e = some u' ∧
      ∀ (t : Nat) (Q : Ring.St → Prop) (Q' : St → Prop),
        (∀ es1 u1 w1, (Ring.sys (2 ^ k)).run es1 = some u1 → Rel c w1 u1 → Q u1 → Q' w1) →
        Ring.Since (Ring.sys (2 ^ k)) esU t Q → Ring.Since (sys fx (2 ^ k) c) es t Q' := by
  obtain ⟨esU, u, hmap, hrunU, hR, hpre⟩ := refines hk h hg
  have hgw := hg es [] w (by simp) h
  obtain ⟨e', u', hsU, he, -⟩ := sim_step (fx := fx) hk hR (Ring.inv_of_run hrunU).1 hgw.1 hgw.2 hs
  cases wrapEv_boundary he hb
  refine ⟨esU, u, u', hrunU, hR, hsU, fun t Q Q' hQ ⟨a, b, s1, q1, q2, q3, q4⟩ => ?_⟩
  obtain ⟨w1, hw1, hR1⟩ := hpre a b s1 q1 q2
  refine ⟨a.map (wrapEv c (2 ^ k)), b.map (wrapEv c (2 ^ k)), w1,
    by rw [hmap, q1, List.map_append], hw1, fun e hem => ?_, hQ a s1 w1 q2 hR1 q4⟩
  obtain ⟨e0, h0, rfl⟩ := List.mem_map.mp hem
  exact (boundaryOf_wrapEv c _ e0 t).trans (q3 e0 h0)

/-! ### finding F-C16: the code as it is, after `high` has crossed 2^64

`Dead S w`: `high` has wrapped (it is below the capacity `S`), `low` has not (it is within `S`
of 2^64), and every counter value held by a thread was read in that situation.  From then on
`high > low` is false for every trypop: `low` never moves again. -/

def DeadPc (S : Nat) : Pc → Prop
  | .pushGotLow _ l => M - S ≤ l ∧ l < M
  | .pushGotHigh _ l h => M - S ≤ l ∧ l < M ∧ h < S
  | .pushReadSlot _ l h _ => M - S ≤ l ∧ l < M ∧ h < S
  | .popGotHigh h => h < S
  | .popGotLow h l => h < S ∧ M - S ≤ l
  | .popReadSlot h l _ => h < S ∧ M - S ≤ l
  | .popClaimed _ _ => False
  | _ => True

structure DeadD (S size high low : Nat) (pc : Nat → Pc) : Prop where
  size : size = S
  high : high < S
  low1 : M - S ≤ low
  low2 : low < M
  pcs : ∀ t, DeadPc S (pc t)

abbrev Dead (S : Nat) (w : St) : Prop := DeadD S w.size w.high w.low w.pc

theorem DeadD.setPc {S size high low : Nat} {pc : Nat → Pc} (h : DeadD S size high low pc)
    (t : Nat) (p : Pc) (hp : DeadPc S p) : DeadD S size high low (upd pc t p) := by
  refine { h with pcs := ?_ }
  intro t'
  by_cases e : t' = t
  · subst e; simpa using hp
  · simpa [upd_other _ _ _ _ e] using h.pcs t'

theorem dead_core {S : Nat} {w w' : St} {e : Ev} (hS : S ≤ 2147483648) (hD : Dead S w)
    (hs : core false w e = some w') : Dead S w' ∧ w'.low = w.low ∧ w'.popped = w.popped := by
  have h1 := hD.high; have h2 := hD.low1; have h3 := hD.low2; have h4 := hD.size
  cases e with
  | casHigh t found exp des ok =>
    simp only [core] at hs
    have hp := hD.pcs t
    split at hs <;> try contradiction
    rename_i v l h x heq
    rw [heq] at hp; simp only [DeadPc, M] at hp
    split at hs <;> try contradiction
    rename_i hg
    obtain ⟨-, hlt, -, he, hd, hok⟩ := hg
    split at hs
    · -- `high` moves on, but stays below the capacity: the push saw room
      rename_i hok1
      cases hs
      rw [hok1] at hok
      refine ⟨⟨h4, ?_, h2, h3, (hD.setPc t _ (by trivial)).pcs⟩, rfl, rfl⟩
      show des < S
      rw [hd]
      simp only [wsub, wadd1, M] at *
      omega
    · cases hs
      exact ⟨hD.setPc t _ (by trivial), rfl, rfl⟩
  | casLow t found exp des ok =>
    -- `high > low` is false on the values every popper holds
    simp only [core] at hs
    have hp := hD.pcs t
    split at hs <;> try contradiction
    rename_i h l x heq
    rw [heq] at hp; simp only [DeadPc, M] at hp
    split at hs <;> try contradiction
    rename_i hg
    have := hg.2.1
    simp only [gt, Bool.false_eq_true, ite_false, decide_eq_true_eq] at this
    simp only [M] at *
    omega
  | ldLow t x | ldHigh t x | rdBuf t i x | wrBuf t i x | callPush t v | callPop t | callBPush t v
  | callBPop t | callSize t | retPush t r | retPop t r | retBPush t r | retBPop t r | retSize t r
  | relax t | wLdHigh t x | wLdLow t x =>
    -- the new program counter holds values read in this state, or copies of the old one's
    have hp := hD.pcs t
    simp only [core, called, returned] at hs
    (repeat' split at hs) <;> (try contradiction) <;> cases hs <;>
      refine ⟨hD.setPc t _ ?_, rfl, rfl⟩ <;> simp_all [DeadPc] <;> omega

theorem dead_runFrom {S size c : Nat} {es : List Ev} {w w' : St} (hS : S ≤ 2147483648)
    (hD : Dead S w) (h : (sys false size c).runFrom w es = some w') :
    Dead S w' ∧ w'.low = w.low ∧ w'.popped = w.popped :=
  Sys.runFrom_inv (fun w' => Dead S w' ∧ w'.low = w.low ∧ w'.popped = w.popped) (fun _ => True)
    (fun _ _ _ ⟨d, l, p⟩ _ hs => by
      obtain ⟨w1, h1, rfl⟩ := Option.map_eq_some_iff.mp hs
      obtain ⟨d1, l1, p1⟩ := dead_core (w' := w1) hS d h1
      exact ⟨d1, l1.trans l, p1.trans p⟩) es w w' ⟨hD, rfl, rfl⟩ h (fun _ _ => trivial)

end LibfiberVerif.RingW
