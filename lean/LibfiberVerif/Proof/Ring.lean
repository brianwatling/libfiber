/-
  Proof/Ring.lean — the ring-buffer model (property C16): the inductive invariant `Inv`, the
  failure-justification flag (`WInv`, `wit_since`) and the instant at which `size` read `high`
  (`sizeSnap_since`).

  `N` is the capacity.  Everything is proved for an arbitrary `N` for which the C index
  computation `n & (N-1)` is `n % N`; `Props/C16.lean` instantiates `N = 2^k`.
-/
import LibfiberVerif.Model.Ring

namespace LibfiberVerif.Ring

theorem idx_two_pow (k n : Nat) : idx (2 ^ k) n = n % 2 ^ k := by
  unfold idx; exact Nat.and_two_pow_sub_one_eq_mod n k

theorem mod_gap {a b n : Nat} (h : a % n = b % n) (hlt : a < b) : a + n ≤ b := by
  have h0 : (b - a) % n = 0 := Nat.sub_mod_eq_zero_of_mod_eq h.symm
  have hd : n ∣ b - a := Nat.dvd_of_mod_eq_zero h0
  have := Nat.le_of_dvd (by omega) hd
  omega

theorem lap_unique {a b lo n : Nat} (hm : a % n = b % n) (ha : lo ≤ a) (ha' : a < lo + n)
    (hb : lo ≤ b) (hb' : b < lo + n) : a = b := by
  rcases Nat.lt_trichotomy a b with h | h | h
  · have := mod_gap hm h; omega
  · exact h
  · have := mod_gap hm.symm h; omega

theorem sub_mod_self {h n : Nat} (hn : n ≤ h) : (h - n) % n = h % n := by
  have e : h = (h - n) + n := by omega
  have := Nat.add_mod_right (h - n) n
  rw [← e] at this; exact this.symm

theorem getElem?_append_of_some {l : List Nat} {i : Nat} {x : Nat} (v : Nat)
    (h : l[i]? = some x) : (l ++ [v])[i]? = some x := by
  have hi : i < l.length := by
    rcases List.getElem?_eq_some_iff.mp h with ⟨hi, _⟩; exact hi
  rw [List.getElem?_append_left hi]; exact h

theorem getElem?_append_length (l : List Nat) (v : Nat) : (l ++ [v])[l.length]? = some v := by
  simp

theorem upd_true_iff {f : Nat → Bool} {i j : Nat} :
    upd f i true j = true ↔ j = i ∨ f j = true := by
  simp only [upd_apply]; split <;> simp [*]

theorem upd_true_eq_false {f : Nat → Bool} {i j : Nat} :
    upd f i true j = false ↔ j ≠ i ∧ f j = false := by
  simp only [upd_apply]; split <;> simp [*]

/-! ### the accepted steps

`core s e = some s'` as a relation, one constructor per branch of `core`: the program counter
(or wrapper frame) that was matched, the guard and the successor as `core` writes them. -/

inductive Step (s : St) : Ev → St → Prop
  | callPush {t v} : (s.pc t = .idle ∧ v ≠ 0) →
      Step s (.callPush t v) { s with pc := upd s.pc t (.pushCalled v), arg := upd s.arg t v,
                                      active := t :: s.active, wit := upd s.wit t false }
  | ldLowPush {t x v} : s.pc t = .pushCalled v → x = s.low →
      Step s (.ldLow t x) { s with pc := upd s.pc t (.pushGotLow v x) }
  | ldLowPop {t x h} : s.pc t = .popGotHigh h → x = s.low →
      Step s (.ldLow t x) { s with pc := upd s.pc t (.popGotLow h x) }
  | ldHighPush {t x v l} : s.pc t = .pushGotLow v l → x = s.high →
      Step s (.ldHigh t x) { s with pc := upd s.pc t (.pushGotHigh v l x) }
  | ldHighPop {t x} : s.pc t = .popCalled → x = s.high →
      Step s (.ldHigh t x) { s with pc := upd s.pc t (.popGotHigh x) }
  | rdBufPush {t i x v l h} : s.pc t = .pushGotHigh v l h → (i = idx s.size h ∧ x = s.buf i) →
      Step s (.rdBuf t i x) { s with pc := upd s.pc t (.pushReadSlot v l h x) }
  | rdBufPop {t i x h l} : s.pc t = .popGotLow h l → (i = idx s.size l ∧ x = s.buf i) →
      Step s (.rdBuf t i x) { s with pc := upd s.pc t (.popReadSlot h l x) }
  | casHighOk {t found exp des ok v l h x} : s.pc t = .pushReadSlot v l h x →
      (x = 0 ∧ h - l < s.size ∧ found = s.high ∧ exp = h ∧ des = h + 1 ∧ ok = decide (found = exp)) →
      ok = true →
      Step s (.casHigh t found exp des ok)
        { s with high := des, pushed := s.pushed ++ [v], pc := upd s.pc t (.pushClaimed v h) }
  | casHighFail {t found exp des ok v l h x} : s.pc t = .pushReadSlot v l h x →
      (x = 0 ∧ h - l < s.size ∧ found = s.high ∧ exp = h ∧ des = h + 1 ∧ ok = decide (found = exp)) →
      ¬ ok = true →
      Step s (.casHigh t found exp des ok) { s with pc := upd s.pc t (.pushDone 0) }
  | wrBufPush {t i x v h} : s.pc t = .pushClaimed v h → (i = idx s.size h ∧ x = v) →
      Step s (.wrBuf t i x) { s with buf := upd s.buf i x, written := upd s.written h true,
                                     pc := upd s.pc t (.pushDone 1) }
  | wrBufPop {t i x l v} : s.pc t = .popClaimed l v → (i = idx s.size l ∧ x = 0) →
      Step s (.wrBuf t i x) { s with buf := upd s.buf i 0, cleared := upd s.cleared l true,
                                     pc := upd s.pc t (.popDone v) }
  | retPushDone {t r r'} : s.pc t = .pushDone r' → (r = r' ∧ s.wrap t = .no) →
      Step s (.retPush t r)
        { s with pc := upd s.pc t .idle, active := s.active.filter (fun u => u != t) }
  | retPushFail {t r v l h x} : s.pc t = .pushReadSlot v l h x →
      ((x ≠ 0 ∨ ¬ (h - l < s.size)) ∧ r = 0 ∧ s.wrap t = .no) →
      Step s (.retPush t r)
        { s with pc := upd s.pc t .idle, active := s.active.filter (fun u => u != t) }
  | callPop {t} : s.pc t = .idle →
      Step s (.callPop t) { s with pc := upd s.pc t .popCalled, active := t :: s.active,
                                   wit := upd s.wit t false }
  | casLowOk {t found exp des ok h l x} : s.pc t = .popReadSlot h l x →
      (x ≠ 0 ∧ l < h ∧ found = s.low ∧ exp = l ∧ des = l + 1 ∧ ok = decide (found = exp)) →
      ok = true →
      Step s (.casLow t found exp des ok)
        { s with low := des, popped := s.popped ++ [x], pc := upd s.pc t (.popClaimed l x) }
  | casLowFail {t found exp des ok h l x} : s.pc t = .popReadSlot h l x →
      (x ≠ 0 ∧ l < h ∧ found = s.low ∧ exp = l ∧ des = l + 1 ∧ ok = decide (found = exp)) →
      ¬ ok = true →
      Step s (.casLow t found exp des ok) { s with pc := upd s.pc t (.popDone 0) }
  | retPopDone {t x x'} : s.pc t = .popDone x' → (x = x' ∧ s.wrap t = .no) →
      Step s (.retPop t x)
        { s with pc := upd s.pc t .idle, active := s.active.filter (fun u => u != t) }
  | retPopFail {t x h l y} : s.pc t = .popReadSlot h l y →
      ((y = 0 ∨ ¬ (l < h)) ∧ x = 0 ∧ s.wrap t = .no) →
      Step s (.retPop t x)
        { s with pc := upd s.pc t .idle, active := s.active.filter (fun u => u != t) }
  | callBPush {t v} : (s.pc t = .idle ∧ v ≠ 0) →
      Step s (.callBPush t v) { s with pc := upd s.pc t (.pushCalled v),
                                       wrap := upd s.wrap t (.push v), active := t :: s.active,
                                       wit := upd s.wit t false }
  | callBPop {t} : s.pc t = .idle →
      Step s (.callBPop t) { s with pc := upd s.pc t .popCalled, wrap := upd s.wrap t .pop,
                                    active := t :: s.active, wit := upd s.wit t false }
  | callSize {t} : s.pc t = .idle →
      Step s (.callSize t) { s with pc := upd s.pc t .sizeCalled, active := t :: s.active,
                                    wit := upd s.wit t false }
  | wLdHighPush {t x v} : s.wrap t = .push v → (pushFailed s t = true ∧ x = s.high) →
      Step s (.wLdHigh t x) { s with pc := upd s.pc t (.bpushGotHigh v x) }
  | wLdHighPop {t x} : s.wrap t = .pop → (popFailed s t = true ∧ x = s.high) →
      Step s (.wLdHigh t x) { s with pc := upd s.pc t (.bpopGotHigh x) }
  | wLdHighSize {t x} : s.wrap t = .no → (s.pc t = .sizeCalled ∧ x = s.high) →
      Step s (.wLdHigh t x) { s with pc := upd s.pc t (.sizeGotHigh x s.low) }
  | wLdLowFull {t x v h} : s.pc t = .bpushGotHigh v h → x = s.low → (s.size ≤ h - x ∨ h < x) →
      Step s (.wLdLow t x) { s with pc := upd s.pc t (.bpushFull v) }
  | wLdLowRetry {t x v h} : s.pc t = .bpushGotHigh v h → x = s.low →
      ¬ (s.size ≤ h - x ∨ h < x) →
      Step s (.wLdLow t x) { s with pc := upd s.pc t (.pushCalled v) }
  | wLdLowEmpty {t x h} : s.pc t = .bpopGotHigh h → x = s.low → h ≤ x →
      Step s (.wLdLow t x) { s with pc := upd s.pc t .bpopEmpty }
  | wLdLowAgain {t x h} : s.pc t = .bpopGotHigh h → x = s.low → ¬ h ≤ x →
      Step s (.wLdLow t x) { s with pc := upd s.pc t .popCalled }
  | wLdLowSize {t x h g} : s.pc t = .sizeGotHigh h g → x = s.low →
      Step s (.wLdLow t x) { s with pc := upd s.pc t (.sizeGotBoth h x g s.high) }
  | relaxPush {t v} : s.pc t = .bpushFull v →
      Step s (.relax t) { s with pc := upd s.pc t (.pushCalled v) }
  | relaxPop {t} : s.pc t = .bpopEmpty →
      Step s (.relax t) { s with pc := upd s.pc t .popCalled }
  | retBPush {t r r'} : s.pc t = .pushDone r' → (r' = 1 ∧ r = 1 ∧ (s.wrap t).isPush = true) →
      Step s (.retBPush t r) { s with pc := upd s.pc t .idle, wrap := upd s.wrap t .no,
                                      active := s.active.filter (fun u => u != t) }
  | retBPop {t x x'} : s.pc t = .popDone x' → (x = x' ∧ x ≠ 0 ∧ (s.wrap t).isPop = true) →
      Step s (.retBPop t x) { s with pc := upd s.pc t .idle, wrap := upd s.wrap t .no,
                                     active := s.active.filter (fun u => u != t) }
  | retSize {t n h l g h2} : s.pc t = .sizeGotBoth h l g h2 → n = h - l →
      Step s (.retSize t n)
        { s with pc := upd s.pc t .idle, active := s.active.filter (fun u => u != t) }

theorem Step.of_core {s s' : St} {e : Ev} (h : core s e = some s') : Step s e s' := by
  cases e with
  | retPush t r =>
    -- two branches with the same successor: the constructor has to be named
    simp only [core] at h
    split at h <;> (try split at h) <;> simp at h <;> subst h
    · exact .retPushDone ‹_› ‹_›
    · exact .retPushFail ‹_› ‹_›
  | retPop t x =>
    simp only [core] at h
    split at h <;> (try split at h) <;> simp at h <;> subst h
    · exact .retPopDone ‹_› ‹_›
    · exact .retPopFail ‹_› ‹_›
  | _ =>
    simp only [core] at h
    (repeat' split at h) <;> simp at h <;> subst h <;> constructor <;> assumption

theorem Step.of_step {s s' : St} {e : Ev} (h : step s e = some s') :
    ∃ s1, Step s e s1 ∧ observe s1 = s' := by
  obtain ⟨s1, hc, rfl⟩ := Option.map_eq_some_iff.mp h
  exact ⟨s1, .of_core hc, rfl⟩

/-- The part of the invariant that does not mention program counters, as a predicate of the
    individual shared cells / ghost fields (so that it is insensitive to `pc` updates). -/
structure DataInv (N size high low : Nat) (buf : Nat → Nat) (pushed popped : List Nat)
    (written cleared : Nat → Bool) : Prop where
  size_eq : size = N
  low_le : low ≤ high
  high_le : high ≤ low + N
  len_pushed : pushed.length = high
  popped_eq : popped = pushed.take low
  nz : ∀ (i v : Nat), pushed[i]? = some v → v ≠ 0
  wr_lt : ∀ i, written i = true → i < high
  cl_lt : ∀ i, cleared i = true → i < low
  cl_wr : ∀ i, cleared i = true → written i = true
  lt_wr : ∀ i, i < low → written i = true
  /-- a written, not yet cleared claim index owns its slot -/
  live : ∀ i, written i = true → cleared i = false → pushed[i]? = some (buf (i % N))
  /-- a non-NULL slot is owned by a written, not yet cleared claim index -/
  nonnull : ∀ j, buf j ≠ 0 → ∃ i, i % N = j ∧ written i = true ∧ cleared i = false
  below : ∀ i i', written i = true → i' < i → i' % N = i % N → cleared i' = true
  /-- a claim of `i` needs the previous lap's slot cleared -/
  wrap : ∀ i, i < high → N ≤ i → cleared (i - N) = true

abbrev Data (N : Nat) (s : St) : Prop :=
  DataInv N s.size s.high s.low s.buf s.pushed s.popped s.written s.cleared

/-- The argument of thread `t`'s current push: the wrapper's `in` (held in `wrap t`) for a
    blocking push, the ghost `arg t` for a direct trypush. -/
def pvalOf (arg : Nat → Nat) (wrap : Nat → Wrap) (t : Nat) : Nat :=
  match wrap t with
  | .push v => v
  | _ => arg t

theorem pvalOf_no {arg : Nat → Nat} {wrap : Nat → Wrap} {t : Nat} (h : wrap t = .no) :
    pvalOf arg wrap t = arg t := by simp [pvalOf, h]

theorem pvalOf_push {arg : Nat → Nat} {wrap : Nat → Wrap} {t v : Nat} (h : wrap t = .push v) :
    pvalOf arg wrap t = v := by simp [pvalOf, h]

theorem pvalOf_other {arg a : Nat → Nat} {wrap wr : Nat → Wrap} {u : Nat}
    (ha : a u = arg u) (hw : wr u = wrap u) : pvalOf a wr u = pvalOf arg wrap u := by
  simp [pvalOf, ha, hw]

/-- `a` is the argument of the thread's push (`pvalOf s.arg s.wrap t`). -/
def PcOk (N : Nat) (s : St) (a : Nat) : Pc → Prop
  | .idle => True
  | .pushCalled v => v ≠ 0 ∧ a = v
  | .pushGotLow v l => v ≠ 0 ∧ a = v ∧ l ≤ s.low
  | .pushGotHigh v l h => v ≠ 0 ∧ a = v ∧ l ≤ s.low ∧ h ≤ s.high
  | .pushReadSlot v l h x => v ≠ 0 ∧ a = v ∧ l ≤ s.low ∧ h ≤ s.high ∧
      (x = 0 → h = s.high → h - l < N → N ≤ h → s.cleared (h - N) = true)
  | .pushClaimed v h => a = v ∧ h < s.high ∧ s.written h = false ∧ s.pushed[h]? = some v ∧
      (N ≤ h → s.cleared (h - N) = true)
  | .pushDone r => r = 0 ∨ (r = 1 ∧ ∃ h, h < s.high ∧ s.written h = true ∧ s.pushed[h]? = some a)
  | .popCalled => True
  | .popGotHigh h => h ≤ s.high
  | .popGotLow h l => h ≤ s.high ∧ l ≤ s.low
  | .popReadSlot h l x => h ≤ s.high ∧ l ≤ s.low ∧
      (x ≠ 0 → s.low = l → l < h → s.written l = true ∧ s.pushed[l]? = some x)
  | .popClaimed l x => l < s.low ∧ s.written l = true ∧ s.cleared l = false ∧ s.pushed[l]? = some x
  | .popDone x => x ≠ 0 → ∃ l, l < s.low ∧ s.cleared l = true ∧ s.pushed[l]? = some x
  | .bpushGotHigh v _ => v ≠ 0 ∧ a = v
  | .bpushFull v => v ≠ 0 ∧ a = v
  | .bpopGotHigh _ => True
  | .bpopEmpty => True
  | .sizeCalled => True
  /- `g` was `low` when `h` was `high`: both have only grown since -/
  | .sizeGotHigh h g => g ≤ s.low ∧ h ≤ s.high ∧ g ≤ h ∧ h ≤ g + N
  | .sizeGotBoth h l g h2 =>
      g ≤ l ∧ l ≤ s.low ∧ g ≤ h ∧ h ≤ g + N ∧ h ≤ h2 ∧ l ≤ h2 ∧ h2 ≤ s.high ∧ h2 ≤ l + N

def WrapOk : Wrap → Pc → Prop
  | .no, _ => True
  | .push v, p => v ≠ 0 ∧ p.pushing = true
  | .pop, p => p.popping = true

theorem WrapOk.same {w : Wrap} {p p' : Pc} (h : WrapOk w p) (h1 : p'.pushing = p.pushing)
    (h2 : p'.popping = p.popping) : WrapOk w p' := by
  cases w with
  | no => trivial
  | push v => exact ⟨h.1, by rw [h1]; exact h.2⟩
  | pop => show p'.popping = true; rw [h2]; exact h

theorem WrapOk.eq_no {w : Wrap} {p : Pc} (h : WrapOk w p) (h1 : p.pushing = false)
    (h2 : p.popping = false) : w = .no := by
  cases w with
  | no => rfl
  | push v => have := h.2; rw [h1] at this; cases this
  | pop => have : p.popping = true := h; rw [h2] at this; cases this

structure Inv (N : Nat) (s : St) : Prop where
  data : Data N s
  pcok : ∀ t, PcOk N s (pvalOf s.arg s.wrap t) (s.pc t)
  pushClaimed_inj : ∀ t t' v v' h, s.pc t = .pushClaimed v h → s.pc t' = .pushClaimed v' h → t = t'
  popClaimed_inj : ∀ t t' x x' l, s.pc t = .popClaimed l x → s.pc t' = .popClaimed l x' → t = t'
  unwr : ∀ i, i < s.high → s.written i = false → ∃ t v, s.pc t = .pushClaimed v i
  uncl : ∀ i, i < s.low → s.cleared i = false → ∃ t x, s.pc t = .popClaimed i x
  act : ∀ t, t ∈ s.active ↔ s.pc t ≠ .idle
  wrapok : ∀ t, WrapOk (s.wrap t) (s.pc t)

theorem Inv.wrap_idle {N : Nat} {s : St} (h : Inv N s) (t : Nat) (hpc : s.pc t = .idle) :
    s.wrap t = .no :=
  (h.wrapok t).eq_no (by simp [hpc, Pc.pushing]) (by simp [hpc, Pc.popping])

theorem Inv.wrap_push {N : Nat} {s : St} (h : Inv N s) (t v : Nat) (hw : s.wrap t = .push v) :
    v ≠ 0 := by
  have := h.wrapok t; rw [hw] at this; exact this.1

theorem inv_init (N : Nat) : Inv N (init N) := by
  constructor
  · constructor <;> simp [init]
  all_goals simp [init, PcOk, WrapOk]

section data
variable {N size high low : Nat} {buf : Nat → Nat} {pushed popped : List Nat}
  {written cleared : Nat → Bool}
  (d : DataInv N size high low buf pushed popped written cleared)
include d

theorem DataInv.not_written {i : Nat} (hi : high ≤ i) : written i = false :=
  Bool.eq_false_iff.mpr fun hw => by have := d.wr_lt i hw; omega

theorem DataInv.not_cleared {i : Nat} (hi : low ≤ i) : cleared i = false :=
  Bool.eq_false_iff.mpr fun hc => by have := d.cl_lt i hc; omega

theorem DataInv.below_all {h : Nat} (hh : N ≤ h → cleared (h - N) = true) :
    ∀ i, i < h → i % N = h % N → cleared i = true := by
  intro i hi hm
  have hg := mod_gap hm hi
  have hc := hh (by omega)
  -- `i` is `h - N`, or an earlier user of the slot of `h - N`, which has been written
  by_cases e : i = h - N
  · subst e; exact hc
  · exact d.below (h - N) i (d.cl_wr _ hc) (by omega) (by rw [sub_mod_self (by omega)]; exact hm)

theorem DataInv.live_lap {j : Nat} (hw : written j = true) (hc : cleared j = false) :
    j < high ∧ high ≤ j + N := by
  refine ⟨d.wr_lt j hw, Nat.le_of_not_lt fun hlt => ?_⟩
  have := d.wrap (j + N) hlt (Nat.le_add_left _ _)
  rw [Nat.add_sub_cancel] at this; simp [this] at hc

theorem DataInv.no_live {h i : Nat} (hlt : h < high) (hw : written h = false)
    (hwi : written i = true) (hci : cleared i = false) : i % N ≠ h % N := by
  intro hm
  -- both lie in the last lap `[high - N, high)`, where congruent indices coincide
  obtain ⟨i1, i2⟩ := d.live_lap hwi hci
  have hl : low ≤ h := Nat.le_of_not_lt fun hl => by simp [d.lt_wr h hl] at hw
  have := d.high_le
  have e := lap_unique hm (lo := high - N) (by omega) (by omega) (by omega) (by omega)
  subst e; simp [hw] at hwi

theorem DataInv.live_unique {i j : Nat} (hi : written i = true) (hj : written j = true)
    (ci : cleared i = false) (cj : cleared j = false) (hm : i % N = j % N) : i = j := by
  obtain ⟨i1, i2⟩ := d.live_lap hi ci
  obtain ⟨j1, j2⟩ := d.live_lap hj cj
  exact lap_unique hm (lo := high - N) (by omega) (by omega) (by omega) (by omega)

theorem DataInv.casHigh {v l : Nat} (hv : v ≠ 0) (hl : l ≤ low) (hlt : high - l < N)
    (hc : N ≤ high → cleared (high - N) = true) :
    DataInv N size (high + 1) low buf (pushed ++ [v]) popped written cleared := by
  have hlen := d.len_pushed
  have hle := d.low_le
  refine { d with
    low_le := by omega, high_le := by omega, len_pushed := by simp [hlen]
    popped_eq := by rw [List.take_append_of_le_length (by omega)]; exact d.popped_eq
    nz := fun i w hiw => ?_
    wr_lt := fun i hi => Nat.lt_succ_of_lt (d.wr_lt i hi)
    live := fun i hw hcl => getElem?_append_of_some v (d.live i hw hcl)
    wrap := fun i hi hn => ?_ }
  · rw [List.getElem?_append] at hiw
    split at hiw
    · exact d.nz i w hiw
    · simp [List.getElem?_singleton] at hiw; exact hiw.2 ▸ hv
  · by_cases e : i = high
    · subst e; exact hc hn
    · exact d.wrap i (by omega) hn

theorem DataInv.casLow {x : Nat} (hlt : low < high) (hw : written low = true)
    (hx : pushed[low]? = some x) :
    DataInv N size high (low + 1) buf pushed (popped ++ [x]) written cleared := by
  have hle := d.high_le
  refine { d with
    low_le := hlt, high_le := by omega
    popped_eq := by rw [take_succ_of_getElem? hx, d.popped_eq]
    cl_lt := fun i hi => Nat.lt_succ_of_lt (d.cl_lt i hi)
    lt_wr := fun i hi => ?_ }
  by_cases e : i = low
  · subst e; exact hw
  · exact d.lt_wr i (by omega)

theorem DataInv.wrPush {v h : Nat} (hlt : h < high) (hw : written h = false)
    (hp : pushed[h]? = some v) (hc : N ≤ h → cleared (h - N) = true) :
    DataInv N size high low (upd buf (h % N) v) pushed popped (upd written h true) cleared := by
  have hclh : cleared h = false := Bool.eq_false_iff.mpr fun e => by simp [d.cl_wr h e] at hw
  refine { d with
    wr_lt := fun i hi => ?_, cl_wr := fun i hi => upd_true_iff.mpr (Or.inr (d.cl_wr i hi))
    lt_wr := fun i hi => upd_true_iff.mpr (Or.inr (d.lt_wr i hi)), live := fun i hwi hci => ?_
    nonnull := fun j hj => ?_, below := fun i i' hwi hlt' hm => ?_ }
  · rcases upd_true_iff.mp hi with e | hi
    · exact e ▸ hlt
    · exact d.wr_lt i hi
  · rcases upd_true_iff.mp hwi with e | hwi
    · subst e; simp [hp]
    · rw [upd_other _ _ _ _ (d.no_live hlt hw hwi hci)]; exact d.live i hwi hci
  · by_cases e : j = h % N
    · exact ⟨h, e.symm, by simp, hclh⟩
    · rw [upd_other _ _ _ _ e] at hj
      obtain ⟨i, hm, hwi, hci⟩ := d.nonnull j hj
      exact ⟨i, hm, upd_true_iff.mpr (Or.inr hwi), hci⟩
  · rcases upd_true_iff.mp hwi with e | hwi
    · subst e; exact d.below_all hc i' hlt' hm
    · exact d.below i i' hwi hlt' hm

theorem DataInv.wrPop {l : Nat} (hlt : l < low) (hw : written l = true) (hc : cleared l = false) :
    DataInv N size high low (upd buf (l % N) 0) pushed popped written (upd cleared l true) := by
  refine { d with
    cl_lt := fun i hi => ?_, cl_wr := fun i hi => ?_, live := fun i hwi hci => ?_
    nonnull := fun j hj => ?_
    below := fun i i' hwi hlt' hm => upd_true_iff.mpr (Or.inr (d.below i i' hwi hlt' hm))
    wrap := fun i hi hn => upd_true_iff.mpr (Or.inr (d.wrap i hi hn)) }
  · rcases upd_true_iff.mp hi with e | hi
    · exact e ▸ hlt
    · exact d.cl_lt i hi
  · rcases upd_true_iff.mp hi with e | hi
    · exact e ▸ hw
    · exact d.cl_wr i hi
  · obtain ⟨e, hci⟩ := upd_true_eq_false.mp hci
    rw [upd_other _ _ _ _ (fun hm => e (d.live_unique hwi hw hci hc hm))]
    exact d.live i hwi hci
  · have e : j ≠ l % N := by intro e; subst e; simp at hj
    rw [upd_other _ _ _ _ e] at hj
    obtain ⟨i, hm, hwi, hci⟩ := d.nonnull j hj
    exact ⟨i, hm, hwi, upd_true_eq_false.mpr ⟨fun e' => e (e' ▸ hm.symm), hci⟩⟩

end data

/-! ### program-counter facts are monotone in the shared state -/

theorem PcOk.mono {N : Nat} {s s' : St} {a : Nat} {p : Pc} (hp : PcOk N s a p)
    (hlow : s.low ≤ s'.low) (hhigh : s.high ≤ s'.high)
    (hpushed : ∀ (i x : Nat), s.pushed[i]? = some x → s'.pushed[i]? = some x)
    (hwr : ∀ i, s.written i = true → s'.written i = true)
    (hcl : ∀ i, s.cleared i = true → s'.cleared i = true)
    (hpc1 : ∀ v h, p = .pushClaimed v h → s'.written h = false)
    (hpc2 : ∀ l x, p = .popClaimed l x → s'.cleared l = false) : PcOk N s' a p := by
  cases p <;> simp only [PcOk] at hp ⊢
  case pushReadSlot v l h x =>
    obtain ⟨h1, h2, h3, h4, h5⟩ := hp
    exact ⟨h1, h2, by omega, by omega, fun hx hh hl hn => hcl _ (h5 hx (by omega) hl hn)⟩
  case pushClaimed v h =>
    obtain ⟨h1, h2, h3, h4, h5⟩ := hp
    exact ⟨h1, by omega, hpc1 v h rfl, hpushed _ _ h4, fun hn => hcl _ (h5 hn)⟩
  case pushDone r =>
    rcases hp with hp | ⟨hr, h, h1, h2, h3⟩
    · exact Or.inl hp
    · exact Or.inr ⟨hr, h, by omega, hwr _ h2, hpushed _ _ h3⟩
  case popReadSlot h l x =>
    refine ⟨by omega, by omega, fun hx hl hlt => ?_⟩
    obtain ⟨h4, h5⟩ := hp.2.2 hx (by omega) hlt
    exact ⟨hwr _ h4, hpushed _ _ h5⟩
  case popClaimed l x =>
    obtain ⟨h1, h2, h3, h4⟩ := hp
    exact ⟨by omega, hwr _ h2, hpc2 l x rfl, hpushed _ _ h4⟩
  case popDone x =>
    intro hx
    obtain ⟨l, h1, h2, h3⟩ := hp hx
    exact ⟨l, by omega, hcl _ h2, hpushed _ _ h3⟩
  all_goals omega

theorem PcOk.congr {N : Nat} {s s' : St} {a : Nat} {p : Pc} (hp : PcOk N s a p)
    (hlow : s'.low = s.low) (hhigh : s'.high = s.high) (hpushed : s'.pushed = s.pushed)
    (hwr : s'.written = s.written) (hcl : s'.cleared = s.cleared) : PcOk N s' a p := by
  cases p <;> simp only [PcOk, hlow, hhigh, hpushed, hwr, hcl] at hp ⊢ <;> exact hp

/-! ### preservation

Every event is a move of one thread `t` to a new program counter while the shared cells and the
data ghosts only grow: `Inv.move` carries all clauses but `data` across such a step. -/

theorem Inv.pcok_at {N : Nat} {s : St} (h : Inv N s) {t : Nat} {p : Pc} (e : s.pc t = p) :
    PcOk N s (pvalOf s.arg s.wrap t) p := e ▸ h.pcok t

theorem Inv.never_overwrite {N : Nat} {s : St} (h : Inv N s) {t v i : Nat}
    (hpc : s.pc t = .pushClaimed v i) :
    s.buf (i % N) = 0 := by
  obtain ⟨-, hlt, hw, -⟩ := h.pcok_at hpc
  by_cases hb : s.buf (i % N) = 0
  · exact hb
  · obtain ⟨j, hm, hwj, hcj⟩ := h.data.nonnull _ hb
    exact absurd hm (h.data.no_live hlt hw hwj hcj)

theorem Inv.slot_shape {N : Nat} {s : St} (h : Inv N s) {i : Nat} (hlo : s.low ≤ i)
    (hhi : i < s.high) :
    (s.written i = true → s.pushed[i]? = some (s.buf (i % N))) ∧
    (s.written i = false →
      ∃ t v, s.pc t = .pushClaimed v i ∧ s.pushed[i]? = some v ∧ s.buf (i % N) = 0) := by
  refine ⟨fun hw => h.data.live i hw (h.data.not_cleared hlo), fun hw => ?_⟩
  obtain ⟨t, v, ht⟩ := h.unwr i hhi hw
  exact ⟨t, v, ht, (h.pcok_at ht).2.2.2.1, h.never_overwrite ht⟩

/-- `hk1` / `hk2`: the other threads' claims stay open and differ from a claim `p` makes;
    `hunwr` / `huncl`: an open claim of the new state is `p`'s own or an old one of another thread. -/
theorem Inv.move {N : Nat} {s s' : St} (h : Inv N s) (t : Nat) (p : Pc)
    (hpc : s'.pc = upd s.pc t p) (hd : Data N s')
    (hlow : s.low ≤ s'.low) (hhigh : s.high ≤ s'.high)
    (hpushed : ∀ (i x : Nat), s.pushed[i]? = some x → s'.pushed[i]? = some x)
    (hwr : ∀ i, s.written i = true → s'.written i = true)
    (hcl : ∀ i, s.cleared i = true → s'.cleared i = true)
    (hk1 : ∀ u v i, u ≠ t → s.pc u = .pushClaimed v i →
      s'.written i = false ∧ ∀ v', p ≠ .pushClaimed v' i)
    (hk2 : ∀ u l x, u ≠ t → s.pc u = .popClaimed l x →
      s'.cleared l = false ∧ ∀ x', p ≠ .popClaimed l x')
    (hunwr : ∀ i, i < s'.high → s'.written i = false → (∃ v, p = .pushClaimed v i) ∨
      (i < s.high ∧ s.written i = false ∧ ∀ v, s.pc t ≠ .pushClaimed v i))
    (huncl : ∀ i, i < s'.low → s'.cleared i = false → (∃ x, p = .popClaimed i x) ∨
      (i < s.low ∧ s.cleared i = false ∧ ∀ x, s.pc t ≠ .popClaimed i x))
    (harg : ∀ u, u ≠ t → s'.arg u = s.arg u) (hwrap : ∀ u, u ≠ t → s'.wrap u = s.wrap u)
    (hact : ∀ u, u ∈ s'.active ↔ s'.pc u ≠ .idle)
    (hwo : WrapOk (s'.wrap t) p)
    (hok : PcOk N s' (pvalOf s'.arg s'.wrap t) p) : Inv N s' := by
  have hother : ∀ {u}, u ≠ t → s'.pc u = s.pc u := fun e => by rw [hpc, upd_other _ _ _ _ e]
  have hself : s'.pc t = p := by rw [hpc, upd_same]
  refine ⟨hd, fun u => ?_, fun u u' v v' i h1 h2 => ?_, fun u u' x x' l h1 h2 => ?_,
    fun i hi hw => ?_, fun i hi hc => ?_, hact, fun u => ?_⟩
  · by_cases e : u = t
    · subst e; rw [hself]; exact hok
    · rw [hother e, pvalOf_other (harg u e) (hwrap u e)]
      exact (h.pcok u).mono hlow hhigh hpushed hwr hcl (fun v i e' => (hk1 u v i e e').1)
        (fun l x e' => (hk2 u l x e e').1)
  · by_cases e1 : u = t <;> by_cases e2 : u' = t
    · rw [e1, e2]
    · rw [e1, hself] at h1; rw [hother e2] at h2; exact absurd h1 ((hk1 u' v' i e2 h2).2 v)
    · rw [e2, hself] at h2; rw [hother e1] at h1; exact absurd h2 ((hk1 u v i e1 h1).2 v')
    · rw [hother e1] at h1; rw [hother e2] at h2; exact h.pushClaimed_inj u u' v v' i h1 h2
  · by_cases e1 : u = t <;> by_cases e2 : u' = t
    · rw [e1, e2]
    · rw [e1, hself] at h1; rw [hother e2] at h2; exact absurd h1 ((hk2 u' l x' e2 h2).2 x)
    · rw [e2, hself] at h2; rw [hother e1] at h1; exact absurd h2 ((hk2 u l x e1 h1).2 x')
    · rw [hother e1] at h1; rw [hother e2] at h2; exact h.popClaimed_inj u u' x x' l h1 h2
  · rcases hunwr i hi hw with ⟨v, e⟩ | ⟨hi', hw', hne⟩
    · exact ⟨t, v, hself.trans e⟩
    · obtain ⟨u, v, hu⟩ := h.unwr i hi' hw'
      exact ⟨u, v, (hother fun e => hne v (e ▸ hu)).trans hu⟩
  · rcases huncl i hi hc with ⟨x, e⟩ | ⟨hi', hc', hne⟩
    · exact ⟨t, x, hself.trans e⟩
    · obtain ⟨u, x, hu⟩ := h.uncl i hi' hc'
      exact ⟨u, x, (hother fun e => hne x (e ▸ hu)).trans hu⟩
  · by_cases e : u = t
    · subst e; rw [hself]; exact hwo
    · rw [hother e, hwrap u e]; exact h.wrapok u

/-- Framing: thread `t` moves from a non-`Claimed` pc to a non-`Claimed` pc `p`; shared cells
    and the data ghosts are unchanged. -/
theorem inv_frame {N : Nat} {s : St} (h : Inv N s) (t : Nat) (p : Pc) (a : Nat → Nat)
    (wr : Nat → Wrap) (ac : List Nat) (w : Nat → Bool)
    (hs1 : ∀ v i, s.pc t ≠ .pushClaimed v i) (hs2 : ∀ l x, s.pc t ≠ .popClaimed l x)
    (hp1 : ∀ v i, p ≠ .pushClaimed v i) (hp2 : ∀ l x, p ≠ .popClaimed l x)
    (harg : ∀ u, u ≠ t → a u = s.arg u)
    (hwr : ∀ u, u ≠ t → wr u = s.wrap u)
    (hact : ∀ u, u ∈ ac ↔ upd s.pc t p u ≠ .idle)
    (hwo : WrapOk (wr t) p)
    (hok : PcOk N s (pvalOf a wr t) p) :
    Inv N { s with pc := upd s.pc t p, wrap := wr, arg := a, active := ac, wit := w } :=
  h.move t p rfl h.data (Nat.le_refl _) (Nat.le_refl _) (fun _ _ h => h) (fun _ h => h)
    (fun _ h => h) (fun _ _ i _ e => ⟨(h.pcok_at e).2.2.1, fun v => hp1 v i⟩)
    (fun _ l _ _ e => ⟨(h.pcok_at e).2.2.1, fun x => hp2 l x⟩)
    (fun i hi hw => Or.inr ⟨hi, hw, fun v => hs1 v i⟩)
    (fun i hi hc => Or.inr ⟨hi, hc, fun x => hs2 i x⟩) harg hwr hact hwo
    (hok.congr rfl rfl rfl rfl rfl)

section steps
variable {N : Nat} (hidx : ∀ n, idx N n = n % N)

theorem act_mid {s : St} (h : Inv N s) (t : Nat) {p : Pc} (hs0 : s.pc t ≠ .idle) (hp : p ≠ .idle) :
    ∀ u, u ∈ s.active ↔ upd s.pc t p u ≠ .idle := by
  intro u
  by_cases e : u = t
  · subst e; simp [hp, h.act u, hs0]
  · simp [upd_other _ _ _ _ e, h.act u]

theorem act_call {s : St} (h : Inv N s) (t : Nat) {p : Pc} (hp : p ≠ .idle) :
    ∀ u, u ∈ t :: s.active ↔ upd s.pc t p u ≠ .idle := by
  intro u
  by_cases e : u = t
  · subst e; simp [hp]
  · simp [h.act u, e]

theorem act_ret {s : St} (h : Inv N s) (t : Nat) :
    ∀ u, u ∈ s.active.filter (fun u => u != t) ↔ upd s.pc t .idle u ≠ .idle := by
  intro u
  by_cases e : u = t
  · subst e; simp
  · simp [h.act u, e]

theorem inv_frame_mid {s : St} (h : Inv N s) (t : Nat) (p : Pc)
    (hs0 : s.pc t ≠ .idle)
    (hs1 : ∀ v i, s.pc t ≠ .pushClaimed v i) (hs2 : ∀ l x, s.pc t ≠ .popClaimed l x)
    (hp0 : p ≠ .idle)
    (hp1 : ∀ v i, p ≠ .pushClaimed v i) (hp2 : ∀ l x, p ≠ .popClaimed l x)
    (hpp : p.pushing = (s.pc t).pushing) (hpo : p.popping = (s.pc t).popping)
    (hok : PcOk N s (pvalOf s.arg s.wrap t) p) :
    Inv N { s with pc := upd s.pc t p } :=
  inv_frame h t p s.arg s.wrap s.active s.wit hs1 hs2 hp1 hp2 (fun _ _ => rfl)
    (fun _ _ => rfl) (act_mid h t hs0 hp0) ((h.wrapok t).same hpp hpo) hok

/-- boilerplate for the `inv_frame_mid` side conditions -/
local macro "mid" h:ident t:ident hpc:ident : tactic =>
  `(tactic| refine inv_frame_mid $h $t _ (by simp [$hpc:ident]) (by simp [$hpc:ident])
      (by simp [$hpc:ident]) (by simp) (by simp) (by simp) (by simp [$hpc:ident, Pc.pushing])
      (by simp [$hpc:ident, Pc.popping]) ?_)

theorem pushFailed_pc {s : St} {t : Nat} (hf : pushFailed s t = true) :
    s.pc t ≠ .idle ∧ (s.pc t).pushing = true ∧ (s.pc t).popping = false ∧
    (∀ v i, s.pc t ≠ .pushClaimed v i) ∧ (∀ l x, s.pc t ≠ .popClaimed l x) := by
  unfold pushFailed at hf
  split at hf <;> simp_all [Pc.pushing, Pc.popping]

theorem popFailed_pc {s : St} {t : Nat} (hf : popFailed s t = true) :
    s.pc t ≠ .idle ∧ (s.pc t).pushing = false ∧ (s.pc t).popping = true ∧
    (∀ v i, s.pc t ≠ .pushClaimed v i) ∧ (∀ l x, s.pc t ≠ .popClaimed l x) := by
  unfold popFailed at hf
  split at hf <;> simp_all [Pc.pushing, Pc.popping]

theorem inv_frame_ret {s : St} (h : Inv N s) (t : Nat) (wr : Nat → Wrap)
    (hs1 : ∀ v i, s.pc t ≠ .pushClaimed v i) (hs2 : ∀ l x, s.pc t ≠ .popClaimed l x)
    (hwr : ∀ u, u ≠ t → wr u = s.wrap u) (hw : wr t = .no) :
    Inv N { s with pc := upd s.pc t .idle, wrap := wr,
                   active := s.active.filter (fun u => u != t) } :=
  inv_frame h t .idle s.arg wr _ s.wit hs1 hs2 (by simp) (by simp) (fun _ _ => rfl) hwr
    (act_ret h t) (by rw [hw]; trivial) trivial

include hidx in
theorem inv_core {s s' : St} {e : Ev} (h : Inv N s) (hs : Step s e s') : Inv N s' := by
  have d := h.data
  cases hs with
  | @callPush t v hc =>
    have hw := h.wrap_idle t hc.1
    refine inv_frame h t _ _ s.wrap _ _ (by simp [hc.1]) (by simp [hc.1]) (by simp) (by simp)
      (fun u e => by simp [upd_other _ _ _ _ e]) (fun _ _ => rfl) (act_call h t (by simp))
      (by rw [hw]; trivial) ?_
    rw [pvalOf_no hw]; exact ⟨hc.2, upd_same _ _ _⟩
  | @callBPush t v hc =>
    refine inv_frame h t _ s.arg _ _ _ (by simp [hc.1]) (by simp [hc.1]) (by simp) (by simp)
      (fun u e => rfl) (fun u e => by simp [upd_other _ _ _ _ e]) (act_call h t (by simp))
      ?_ ?_
    · rw [upd_same]; exact ⟨hc.2, rfl⟩
    · rw [pvalOf_push (upd_same _ _ _)]; exact ⟨hc.2, rfl⟩
  | @callPop t hc | @callSize t hc =>
    exact inv_frame h t _ s.arg s.wrap _ _ (by simp [hc]) (by simp [hc]) (by simp) (by simp)
      (fun u e => rfl) (fun _ _ => rfl) (act_call h t (by simp))
      (by rw [h.wrap_idle t hc]; trivial) trivial
  | @callBPop t hc =>
    exact inv_frame h t _ s.arg _ _ _ (by simp [hc]) (by simp [hc]) (by simp) (by simp)
      (fun u e => rfl) (fun u e => by simp [upd_other _ _ _ _ e]) (act_call h t (by simp))
      (by rw [upd_same]; rfl) trivial
  | @ldLowPush t x v hpc hx =>
    mid h t hpc
    obtain ⟨h1, h2⟩ := h.pcok_at hpc
    exact ⟨h1, h2, by omega⟩
  | @ldLowPop t x hh hpc hx =>
    mid h t hpc
    exact ⟨h.pcok_at hpc, by omega⟩
  | @ldHighPush t x v l hpc hx =>
    mid h t hpc
    obtain ⟨h1, h2, h3⟩ := h.pcok_at hpc
    exact ⟨h1, h2, h3, by omega⟩
  | @ldHighPop t x hpc hx =>
    mid h t hpc
    simp only [PcOk]; omega
  | @rdBufPush t i x v l hh hpc hg =>
    obtain ⟨hi, hx⟩ := hg
    rw [d.size_eq, hidx] at hi
    mid h t hpc
    obtain ⟨h1, h2, h3, h4⟩ := h.pcok_at hpc
    refine ⟨h1, h2, h3, h4, fun hx0 hhigh hlt hn => ?_⟩
    -- otherwise the previous lap's value, which is not NULL, would still be in the slot
    refine Bool.not_eq_false _ ▸ fun hc => ?_
    have hl := d.live _ (d.lt_wr (hh - N) (by omega)) hc
    rw [sub_mod_self hn, ← hi, ← hx, hx0] at hl
    exact d.nz _ _ hl rfl
  | @rdBufPop t i x hh l hpc hg =>
    obtain ⟨hi, hx⟩ := hg
    rw [d.size_eq, hidx] at hi
    mid h t hpc
    obtain ⟨h1, h2⟩ := h.pcok_at hpc
    refine ⟨h1, h2, fun hx0 hlow hlt => ?_⟩
    subst hlow
    obtain ⟨q1, q2⟩ := h.slot_shape (Nat.le_refl _) (by omega : s.low < s.high)
    rw [hx, hi] at hx0 ⊢
    cases hw : s.written s.low with
    | true => exact ⟨rfl, q1 hw⟩
    | false => obtain ⟨_, _, _, _, hb⟩ := q2 hw; exact absurd hb hx0
  | @casHighOk t found exp des ok v l hh x hpc hg hok =>
    -- `t` claims index `high`, above every open claim
    obtain ⟨hx, hlt, rfl, rfl, rfl, hdec⟩ := hg
    rw [d.size_eq] at hlt
    obtain ⟨p1, p2, p3, p4, p5⟩ := h.pcok_at hpc
    obtain rfl : s.high = exp := by simpa [hok] using hdec
    have hcl : N ≤ s.high → s.cleared (s.high - N) = true := fun hn => p5 hx rfl hlt hn
    refine h.move t _ rfl (d.casHigh p1 p3 hlt hcl) (Nat.le_refl _) (Nat.le_succ _)
      (fun i x hi => getElem?_append_of_some v hi) (fun _ h => h) (fun _ h => h)
      (fun u v' i _ e => ⟨(h.pcok_at e).2.2.1, fun _ e' => ?_⟩)
      (fun u l' x' _ e => ⟨(h.pcok_at e).2.2.1, by simp⟩)
      (fun i hi hw => ?_) (fun i hi hc => Or.inr ⟨hi, hc, by simp [hpc]⟩)
      (fun _ _ => rfl) (fun _ _ => rfl) (act_mid h t (by simp [hpc]) (by simp))
      ((h.wrapok t).same (by simp [hpc, Pc.pushing]) (by simp [hpc, Pc.popping])) ?_
    · have := (h.pcok_at e).2.1; cases e'; omega
    · by_cases e : i = s.high
      · exact Or.inl ⟨v, e ▸ rfl⟩
      · exact Or.inr ⟨by simp at hi; omega, hw, by simp [hpc]⟩
    · exact ⟨p2, Nat.lt_succ_self _, d.not_written (Nat.le_refl _),
        by rw [← d.len_pushed]; simp, hcl⟩
  | @casHighFail t found exp des ok v l hh x hpc hg hok | @casLowFail t found exp des ok hh l x hpc hg hok =>
    mid h t hpc
    simp [PcOk]
  | @casLowOk t found exp des ok hh l x hpc hg hok =>
    -- `t` claims index `low`, above every open claim
    obtain ⟨hx, hlt, rfl, rfl, rfl, hdec⟩ := hg
    obtain ⟨p1, p2, p3⟩ := h.pcok_at hpc
    obtain rfl : s.low = exp := by simpa [hok] using hdec
    obtain ⟨hw, hpx⟩ := p3 hx rfl hlt
    refine h.move t _ rfl (d.casLow (by omega) hw hpx) (Nat.le_succ _) (Nat.le_refl _)
      (fun _ _ h => h) (fun _ h => h) (fun _ h => h)
      (fun u v' i _ e => ⟨(h.pcok_at e).2.2.1, by simp⟩)
      (fun u l' x' _ e => ⟨(h.pcok_at e).2.2.1, fun _ e' => ?_⟩)
      (fun i hi hw => Or.inr ⟨hi, hw, by simp [hpc]⟩) (fun i hi hc => ?_)
      (fun _ _ => rfl) (fun _ _ => rfl) (act_mid h t (by simp [hpc]) (by simp))
      ((h.wrapok t).same (by simp [hpc, Pc.pushing]) (by simp [hpc, Pc.popping])) ?_
    · have := (h.pcok_at e).1; cases e'; omega
    · by_cases e : i = s.low
      · exact Or.inl ⟨x, e ▸ rfl⟩
      · exact Or.inr ⟨by simp at hi; omega, hc, by simp [hpc]⟩
    · exact ⟨Nat.lt_succ_self _, hw, d.not_cleared (Nat.le_refl _), hpx⟩
  | @wrBufPush t i x v hh hpc hg =>
    -- the pusher fills its slot: its claim `hh` is closed, no other thread holds it
    obtain ⟨hi, rfl⟩ := hg
    rw [d.size_eq, hidx] at hi
    subst hi
    obtain ⟨p1, p2, p3, p4, p5⟩ := h.pcok_at hpc
    refine h.move t _ rfl (d.wrPush p2 p3 p4 p5) (Nat.le_refl _) (Nat.le_refl _) (fun _ _ h => h)
      (fun _ hj => upd_true_iff.mpr (Or.inr hj)) (fun _ h => h)
      (fun u v' i e e' => ⟨?_, by simp⟩)
      (fun u l x _ e => ⟨(h.pcok_at e).2.2.1, by simp⟩)
      (fun i hi hw => ?_) (fun i hi hc => Or.inr ⟨hi, hc, by simp [hpc]⟩)
      (fun _ _ => rfl) (fun _ _ => rfl) (act_mid h t (by simp [hpc]) (by simp))
      ((h.wrapok t).same (by simp [hpc, Pc.pushing]) (by simp [hpc, Pc.popping])) ?_
    · exact upd_true_eq_false.mpr
        ⟨fun e'' => e (h.pushClaimed_inj u t _ _ _ (e'' ▸ e') hpc), (h.pcok_at e').2.2.1⟩
    · obtain ⟨hne, hw⟩ := upd_true_eq_false.mp hw
      exact Or.inr ⟨hi, hw, fun v e => by rw [hpc] at e; cases e; exact hne rfl⟩
    · exact Or.inr ⟨rfl, hh, p2, by simp, by rw [p1]; exact p4⟩
  | @wrBufPop t i x l v hpc hg =>
    obtain ⟨hi, rfl⟩ := hg
    rw [d.size_eq, hidx] at hi
    subst hi
    obtain ⟨p1, p2, p3, p4⟩ := h.pcok_at hpc
    refine h.move t _ rfl (d.wrPop p1 p2 p3) (Nat.le_refl _) (Nat.le_refl _) (fun _ _ h => h)
      (fun _ h => h) (fun _ hj => upd_true_iff.mpr (Or.inr hj))
      (fun u v' i _ e => ⟨(h.pcok_at e).2.2.1, by simp⟩)
      (fun u l' x e e' => ⟨?_, by simp⟩)
      (fun i hi hw => Or.inr ⟨hi, hw, by simp [hpc]⟩) (fun i hi hc => ?_)
      (fun _ _ => rfl) (fun _ _ => rfl) (act_mid h t (by simp [hpc]) (by simp))
      ((h.wrapok t).same (by simp [hpc, Pc.pushing]) (by simp [hpc, Pc.popping])) ?_
    · exact upd_true_eq_false.mpr
        ⟨fun e'' => e (h.popClaimed_inj u t _ _ _ (e'' ▸ e') hpc), (h.pcok_at e').2.2.1⟩
    · obtain ⟨hne, hc⟩ := upd_true_eq_false.mp hc
      exact Or.inr ⟨hi, hc, fun x e => by rw [hpc] at e; cases e; exact hne rfl⟩
    · exact fun _ => ⟨l, p1, by simp, p4⟩
  | @retPushDone t r r' hpc hg | @retPopDone t r r' hpc hg =>
    exact inv_frame_ret h t s.wrap (by simp [hpc]) (by simp [hpc]) (fun _ _ => rfl) hg.2
  | @retPushFail t r v l hh x hpc hg | @retPopFail t r hh l x hpc hg =>
    exact inv_frame_ret h t s.wrap (by simp [hpc]) (by simp [hpc]) (fun _ _ => rfl) hg.2.2
  | @retBPush t r r' hpc hg | @retBPop t r r' hpc hg =>
    exact inv_frame_ret h t _ (by simp [hpc]) (by simp [hpc])
      (fun u e => by simp [upd_other _ _ _ _ e]) (upd_same _ _ _)
  | @retSize t n hh l g h2 hpc hn =>
    -- a `size` call has no wrapper frame
    have hw : s.wrap t = .no :=
      (hpc ▸ h.wrapok t).eq_no (by simp [Pc.pushing]) (by simp [Pc.popping])
    exact inv_frame_ret h t s.wrap (by simp [hpc]) (by simp [hpc]) (fun _ _ => rfl) hw
  | @wLdHighPush t x v hw hg =>
    obtain ⟨p0, p3, p4, p1, p2⟩ := pushFailed_pc hg.1
    exact inv_frame_mid h t _ p0 p1 p2 (by simp) (by simp) (by simp) (by rw [p3]; rfl)
      (by rw [p4]; rfl) ⟨h.wrap_push t _ hw, pvalOf_push hw⟩
  | @wLdHighPop t x hw hg =>
    obtain ⟨p0, p3, p4, p1, p2⟩ := popFailed_pc hg.1
    exact inv_frame_mid h t _ p0 p1 p2 (by simp) (by simp) (by simp) (by rw [p3]; rfl)
      (by rw [p4]; rfl) trivial
  | @wLdHighSize t x hw hg =>
    obtain ⟨hpc, rfl⟩ := hg
    mid h t hpc
    exact ⟨Nat.le_refl _, Nat.le_refl _, d.low_le, d.high_le⟩
  | @wLdLowFull t x v hh hpc hx hg | @wLdLowRetry t x v hh hpc hx hg | @relaxPush t v hpc =>
    have hok := h.pcok_at hpc
    mid h t hpc
    exact hok
  | @wLdLowEmpty t x hh hpc hx hg | @wLdLowAgain t x hh hpc hx hg | @relaxPop t hpc =>
    mid h t hpc
    trivial
  | @wLdLowSize t x hh g hpc hx =>
    obtain ⟨h1, h2, h3, h4⟩ := h.pcok_at hpc
    subst hx
    mid h t hpc
    exact ⟨h1, Nat.le_refl _, h3, h4, h2, d.low_le, Nat.le_refl _, d.high_le⟩

include hidx in
theorem inv_step {s s' : St} {e : Ev} (h : Inv N s) (hs : step s e = some s') : Inv N s' := by
  obtain ⟨s1, h1, rfl⟩ := Step.of_step hs
  have h' := inv_core hidx h h1
  -- `observe` only touches `wit`
  exact ⟨h'.data, fun t => (h'.pcok t).congr rfl rfl rfl rfl rfl, h'.pushClaimed_inj,
    h'.popClaimed_inj, h'.unwr, h'.uncl, h'.act, h'.wrapok⟩

end steps

theorem inv_of_reachable {k : Nat} {s : St} (hr : (sys (2 ^ k)).Reachable s) : Inv (2 ^ k) s :=
  Sys.inv_of_step (sys (2 ^ k)) (Inv (2 ^ k)) (inv_init _)
    (fun _ _ _ hi hs => inv_step (idx_two_pow k) hi hs) hr

/-! ### consequences used by `Props/C16.lean` -/

section consequences
variable {N : Nat} {s : St} (h : Inv N s)
include h

theorem Inv.popped_len : s.popped.length = s.low := by
  have d := h.data
  rw [d.popped_eq, List.length_take, d.len_pushed]
  exact Nat.min_eq_left d.low_le

theorem Inv.popped_getElem {l x : Nat} (hl : l < s.low)
    (hx : s.pushed[l]? = some x) : s.popped[l]? = some x := by
  rw [h.data.popped_eq, List.getElem?_take]; simp [hl, hx]

theorem Inv.nz_mem : ∀ v ∈ s.pushed, v ≠ 0 := by
  intro v hv
  obtain ⟨i, hi, hiv⟩ := List.getElem_of_mem hv
  exact h.data.nz i v (by rw [List.getElem?_eq_getElem hi, hiv])

theorem Inv.slot_free {i : Nat} (hlo : s.high ≤ i) (hhi : i < s.low + N) :
    s.buf (i % N) = 0 ∨
    (N ≤ i ∧ ∃ t x, s.pc t = .popClaimed (i - N) x ∧ s.buf (i % N) = x) := by
  have d := h.data
  by_cases hb : s.buf (i % N) = 0
  · exact Or.inl hb
  · right
    -- the live index of the slot lies in the last lap, one lap below `i`
    obtain ⟨j, hm, hw, hc⟩ := d.nonnull _ hb
    obtain ⟨hj, hj'⟩ := d.live_lap hw hc
    have hll := d.low_le
    have hg := mod_gap hm (by omega : j < i)
    have hji : j = i - N := lap_unique (by rw [sub_mod_self (by omega)]; exact hm)
      (lo := s.high - N) (by omega) (by omega) (by omega) (by omega)
    subst hji
    refine ⟨by omega, ?_⟩
    obtain ⟨t, x, ht⟩ := h.uncl (i - N) (by omega) hc
    have hl := d.live _ hw hc
    rw [hm, (h.pcok_at ht).2.2.2] at hl
    exact ⟨t, x, ht, (Option.some.inj hl).symm⟩

theorem Inv.nonnull_cause {t v l i : Nat}
    (hpc : s.pc t = .pushGotHigh v l i) (hb : s.buf (i % N) ≠ 0) :
    (∃ u j x, u ≠ t ∧ j % N = i % N ∧ s.pc u = .popClaimed j x) ∨
    s.high = s.low + N ∨ i < s.high := by
  have d := h.data
  obtain ⟨j, hm, hw, hc⟩ := d.nonnull _ hb
  have hj := d.wr_lt j hw
  have hi : i ≤ s.high := (h.pcok_at hpc).2.2.2
  by_cases hjl : j < s.low
  · obtain ⟨u, x, hu⟩ := h.uncl j hjl hc
    refine Or.inl ⟨u, j, x, ?_, hm, hu⟩
    intro e; subst e; rw [hpc] at hu; cases hu
  · right
    by_cases e : i = s.high
    · left
      subst e
      have := mod_gap hm hj
      have := d.high_le
      omega
    · right; omega

theorem Inv.null_cause {t hh l : Nat}
    (hpc : s.pc t = .popGotLow hh l) (hb : s.buf (l % N) = 0) :
    (∃ u v, u ≠ t ∧ s.pc u = .pushClaimed v l) ∨ s.high = s.low ∨ l < s.low := by
  have d := h.data
  have hl : l ≤ s.low := (h.pcok_at hpc).2
  by_cases e : l = s.low
  · subst e
    by_cases hlt : s.low < s.high
    · left
      obtain ⟨q1, q2⟩ := h.slot_shape (Nat.le_refl _) hlt
      cases hw : s.written s.low with
      | false =>
        obtain ⟨u, v, hu, -⟩ := q2 hw
        exact ⟨u, v, (fun e => by subst e; rw [hpc] at hu; cases hu), hu⟩
      | true =>
        have := q1 hw
        rw [hb] at this
        exact absurd rfl (d.nz _ _ this)
    · right; left; have := d.low_le; omega
  · right; right; omega

/-- ghost-free reading of `justNow` -/
theorem Inv.justNow_elim {t : Nat} (hj : justNow s t = true) :
    (∃ u, u ≠ t ∧ s.pc u ≠ .idle) ∨
    ((s.pc t).pushing = true ∧ s.high = s.low + s.size) ∨
    ((s.pc t).popping = true ∧ s.high = s.low) := by
  have d := h.data
  simp only [justNow, Bool.or_eq_true, Bool.and_eq_true, List.any_eq_true, decide_eq_true_eq] at hj
  rcases hj with (⟨u, hu, hne⟩ | ⟨hp, hf⟩) | ⟨hp, he⟩
  · exact Or.inl ⟨u, by simpa using hne, (h.act u).mp hu⟩
  · right; left
    have := d.high_le; have := d.size_eq; have := d.low_le
    exact ⟨hp, by omega⟩
  · right; right
    have := d.low_le
    exact ⟨hp, by omega⟩

end consequences

/-! ### the per-call ghost flag `wit` (failure justification)

`wit t` accumulates `justNow · t` over every instant of thread `t`'s current call.  While it
is still `false` nothing else has happened during the call: every other thread is idle, the
buffer is neither full (push) nor empty (pop), and everything `t` has read is still current.
A call in that situation cannot fail. -/

def Ev.tid : Ev → Nat
  | .callPush t _ | .retPush t _ | .callPop t | .retPop t _ | .ldLow t _ | .ldHigh t _
  | .rdBuf t _ _ | .wrBuf t _ _ | .casHigh t _ _ _ _ | .casLow t _ _ _ _
  | .callBPush t _ | .retBPush t _ | .callBPop t | .retBPop t _ | .callSize t | .retSize t _
  | .wLdHigh t _ | .wLdLow t _ | .relax t => t

/-- `e` is the `call` or `ret` event of thread `t` -/
def Ev.boundaryOf (e : Ev) (t : Nat) : Bool :=
  match e with
  | .callPush u _ | .retPush u _ | .callPop u | .retPop u _
  | .callBPush u _ | .retBPush u _ | .callBPop u | .retBPop u _ | .callSize u | .retSize u _ => u == t
  | _ => false

theorem boundaryOf_other {e : Ev} {t : Nat} (ht : t ≠ e.tid) : e.boundaryOf t = false := by
  cases e <;> simp only [Ev.tid] at ht <;> simp [Ev.boundaryOf] <;> exact fun h => ht h.symm

/-- what an *unjustified* (`wit = false`) thread knows: its observations are current -/
def WOk (s : St) : Pc → Prop
  | .pushGotLow _ l => l = s.low
  | .pushGotHigh _ l h => l = s.low ∧ h = s.high
  | .pushReadSlot _ l h x => l = s.low ∧ h = s.high ∧ x = 0
  | .pushDone r => r = 1
  | .popGotHigh h => h = s.high
  | .popGotLow h l => h = s.high ∧ l = s.low
  | .popReadSlot h l x => h = s.high ∧ l = s.low ∧ x ≠ 0
  | .popDone x => x ≠ 0
  | _ => True

structure WInv (s : St) : Prop where
  just : ∀ t, s.wit t = false → justNow s t = false
  obs : ∀ t, s.wit t = false → WOk s (s.pc t)

theorem winv_init (N : Nat) : WInv (init N) := by
  constructor <;> simp [init, justNow, WOk, Pc.pushing, Pc.popping]

theorem justNow_false {s : St} {t : Nat} (hj : justNow s t = false) :
    (∀ u ∈ s.active, u = t) ∧ ((s.pc t).pushing = true → s.high - s.low < s.size) ∧
    ((s.pc t).popping = true → s.low < s.high) := by
  simp only [justNow, Bool.or_eq_false_iff, Bool.and_eq_false_iff, List.any_eq_false,
    decide_eq_false_iff_not] at hj
  obtain ⟨⟨h1, h2⟩, h3⟩ := hj
  refine ⟨?_, ?_, ?_⟩
  · intro u hu; have := h1 u hu; simpa using this
  · intro hp; rcases h2 with h2 | h2
    · simp [hp] at h2
    · omega
  · intro hp; rcases h3 with h3 | h3
    · simp [hp] at h3
    · omega

theorem core_eff {s s1 : St} {e : Ev} (hs : Step s e s1) :
    (∀ t, t ≠ e.tid → s1.pc t = s.pc t ∧ s1.wit t = s.wit t) ∧
    (s.pc e.tid ≠ .idle ∨ e.tid ∈ s1.active) ∧
    (e.boundaryOf e.tid = true → s1.wit e.tid = false ∨ s1.pc e.tid = .idle) ∧
    (e.boundaryOf e.tid = false → s1.wit e.tid = s.wit e.tid ∧ s.pc e.tid ≠ .idle ∧
      (s1.pc e.tid).pushing = (s.pc e.tid).pushing ∧
      (s1.pc e.tid).popping = (s.pc e.tid).popping) := by
  cases hs with
  | wLdHighPush hw hg =>
    -- the one guard that is a Bool predicate of the pc
    obtain ⟨p0, p1, p2, -⟩ := pushFailed_pc hg.1
    simp +contextual [Ev.tid, Ev.boundaryOf, p0, p1, p2]; exact ⟨rfl, rfl⟩
  | wLdHighPop hw hg =>
    obtain ⟨p0, p1, p2, -⟩ := popFailed_pc hg.1
    simp +contextual [Ev.tid, Ev.boundaryOf, p0, p1, p2]; exact ⟨rfl, rfl⟩
  | _ => simp +contextual [Ev.tid, Ev.boundaryOf, Pc.pushing, Pc.popping, *]

theorem others_idle {N : Nat} {s : St} {t : Nat} (h : Inv N s) (ha : ∀ u ∈ s.active, u = t) :
    ∀ u, u ≠ t → s.pc u = .idle := by
  intro u hu
  cases hp : s.pc u with
  | idle => rfl
  | _ => exact absurd (ha u ((h.act u).mpr (by simp [hp]))) hu

section wsteps
variable {N : Nat} (hidx : ∀ n, idx N n = n % N)

theorem wok_rdBuf_push {s : St} {t v l : Nat} (h : Inv N s) (hpc : s.pc t = .pushGotHigh v l s.high)
    (ha : ∀ u ∈ s.active, u = t) (hnf : s.high - s.low < N) : s.buf (s.high % N) = 0 := by
  rcases h.slot_free (Nat.le_refl _) (by have := h.data.low_le; omega) with hb | ⟨-, u, x, hu, -⟩
  · exact hb
  · -- a stale value would need a popper in flight
    have hut : u ≠ t := by intro e; subst e; rw [hpc] at hu; simp at hu
    rw [others_idle h ha u hut] at hu; simp at hu

theorem wok_rdBuf_pop {s : St} {t : Nat} (h : Inv N s) (hpc : s.pc t = .popGotLow s.high s.low)
    (ha : ∀ u ∈ s.active, u = t) (hne : s.low < s.high) : s.buf (s.low % N) ≠ 0 := by
  obtain ⟨q1, q2⟩ := h.slot_shape (Nat.le_refl _) hne
  cases hw : s.written s.low with
  | true => exact h.data.nz _ _ (q1 hw)
  | false =>
    -- an unwritten slot would need a pusher in flight
    obtain ⟨u, x, hu, -⟩ := q2 hw
    have hut : u ≠ t := by intro e; subst e; rw [hpc] at hu; simp at hu
    rw [others_idle h ha u hut] at hu; simp at hu

include hidx in
theorem wok_core {s s1 : St} {e : Ev} (h : Inv N s) (W : WInv s) (hs : Step s e s1)
    (hw : s1.wit e.tid = false) (hj : justNow s1 e.tid = false) : WOk s1 (s1.pc e.tid) := by
  have d := h.data
  obtain ⟨ha, hfull, hempty⟩ := justNow_false hj
  cases hs with
  | @ldLowPop t x hh hpc hx | @ldHighPush t x v l hpc hx =>
    -- the value just read is current, the one read before still is (`W.obs`)
    have ho := W.obs t hw
    rw [hpc] at ho
    simp_all [Ev.tid, WOk]
  | @rdBufPush t i x v l hh hpc hg =>
    -- what was read before is current (`W.obs`), so the slot read is the one at `high`
    obtain ⟨hi, hx⟩ := hg
    rw [d.size_eq, hidx] at hi
    have ho := W.obs t hw; rw [hpc] at ho
    obtain ⟨rfl, rfl⟩ := ho
    simp only [Ev.tid, upd_same, Pc.pushing] at hfull
    simp only [Ev.tid, WOk, upd_same]
    refine ⟨trivial, trivial, ?_⟩
    rw [hx, hi]
    exact wok_rdBuf_push h hpc ha (by have := hfull trivial; have := d.size_eq; omega)
  | @rdBufPop t i x hh l hpc hg =>
    obtain ⟨hi, hx⟩ := hg
    rw [d.size_eq, hidx] at hi
    have ho := W.obs t hw; rw [hpc] at ho
    obtain ⟨rfl, rfl⟩ := ho
    simp only [Ev.tid, upd_same, Pc.popping] at hempty
    simp only [Ev.tid, WOk, upd_same]
    refine ⟨trivial, trivial, ?_⟩
    rw [hx, hi]
    exact wok_rdBuf_pop h hpc ha (hempty trivial)
  | @wrBufPop t i x l v hpc hg =>
    simp only [Ev.tid, WOk, upd_same]
    exact d.nz _ _ (h.pcok_at hpc).2.2.2
  | @casHighFail t found exp des ok v l hh x hpc hg hok
  | @casLowFail t found exp des ok hh l x hpc hg hok =>
    -- the CAS of an undisturbed thread cannot fail: the value it read is current
    have ho := W.obs t hw
    rw [hpc] at ho
    obtain ⟨_, _, hf, he, _, hdec⟩ := hg
    exact absurd (by rw [hdec, hf, he]; simp [ho.2.1]) hok
  | @ldLowPush t x v hpc hx | @ldHighPop t x hpc hx => simpa [Ev.tid, WOk] using hx
  | _ => simp [Ev.tid, WOk]

include hidx in
theorem winv_step {s s' : St} {e : Ev} (h : Inv N s) (W : WInv s) (hs : step s e = some s') :
    WInv s' := by
  obtain ⟨s1, h1, rfl⟩ := Step.of_step hs
  have split : ∀ t, (observe s1).wit t = false → s1.wit t = false ∧ justNow s1 t = false := by
    intro t hw; simpa [observe] using hw
  refine ⟨fun t hw => (split t hw).2, fun t hw => ?_⟩
  obtain ⟨hw1, hj1⟩ := split t hw
  show WOk s1 (s1.pc t)
  by_cases e' : t = e.tid
  · subst e'; exact wok_core hidx h W h1 hw1 hj1
  · -- an unjustified thread is alone, but the acting thread is inside a call before or after
    exfalso
    obtain ⟨hoth, hact, -⟩ := core_eff h1
    rw [(hoth t e').2] at hw1
    rcases hact with ha | ha
    · exact e' ((justNow_false (W.just t hw1)).1 _ ((h.act _).mpr ha)).symm
    · exact e' ((justNow_false hj1).1 _ ha).symm

theorem fail_attempt_push {s : St} {t : Nat} (W : WInv s) (hf : pushFailed s t = true) :
    s.wit t = true := by
  refine Bool.not_eq_false _ ▸ fun hw => ?_
  have ho := W.obs t hw
  obtain ⟨_, hfull, _⟩ := justNow_false (W.just t hw)
  unfold pushFailed at hf
  split at hf
  · rename_i r hpc
    rw [hpc] at ho; simp only [WOk] at ho
    subst ho; simp at hf
  · rename_i v l hh x hpc
    rw [hpc] at ho hfull
    have := hfull rfl
    obtain ⟨o1, o2, o3⟩ := ho
    subst o1 o2 o3
    simp at hf; omega
  · cases hf

theorem fail_attempt_pop {s : St} {t : Nat} (W : WInv s) (hf : popFailed s t = true) :
    s.wit t = true := by
  refine Bool.not_eq_false _ ▸ fun hw => ?_
  have ho := W.obs t hw
  obtain ⟨_, _, hempty⟩ := justNow_false (W.just t hw)
  unfold popFailed at hf
  split at hf
  · rename_i r hpc
    rw [hpc] at ho; simp only [WOk] at ho
    simp at hf; exact ho hf
  · rename_i hh l x hpc
    rw [hpc] at ho hempty
    have := hempty rfl
    obtain ⟨o1, o2, o3⟩ := ho
    subst o1 o2
    simp at hf
    rcases hf with hf | hf
    · exact o3 hf
    · omega
  · cases hf

end wsteps

/-! ### what the flag means: `wit t` is set only if `justNow · t` held at an instant of the
current call of `t` (trace-level statement, no ghost state in the conclusion) -/

/-- "At an instant of thread `t`'s current call": `Q` held of the state after a prefix `es1` of
    the trace `es`, and no `call` / `ret` event of `t` has happened since. -/
abbrev Since {σ : Type} (M : Sys σ Ev) (es : List Ev) (t : Nat) (Q : σ → Prop) : Prop :=
  M.Since (·.boundaryOf t) es Q

/-- A set flag of a thread inside a call points at an instant of that call at which
    `justNow · t` held, `t` being inside the same kind of call. -/
theorem wit_since {n : Nat} {es : List Ev} {s : St} {t : Nat} (h : (sys n).run es = some s)
    (hpc : s.pc t ≠ .idle) (hw : s.wit t = true) :
    Since (sys n) es t fun s1 => justNow s1 t = true ∧
      (s1.pc t).pushing = (s.pc t).pushing ∧ (s1.pc t).popping = (s.pc t).popping := by
  refine Sys.Since.of_latch (L := fun s1 => s1.pc t ≠ .idle ∧ s1.wit t = true ∧
    (s1.pc t).pushing = (s.pc t).pushing ∧ (s1.pc t).popping = (s.pc t).popping)
    (fun h => h.1 rfl) ?_ h ⟨hpc, hw, rfl, rfl⟩
  intro _ s0 e s' _ hstep ⟨l1, l2, l3, l4⟩
  obtain ⟨s1, hcore, rfl⟩ := Step.of_step hstep
  have hw1 : (s1.wit t || justNow s1 t) = true := l2
  cases hj : justNow s1 t with
  | true => exact .inl ⟨hj, l3, l4⟩
  | false =>
    rw [hj, Bool.or_false] at hw1
    obtain ⟨hoth, -, hb1, hb2⟩ := core_eff hcore
    by_cases ht : t = e.tid
    · subst ht
      cases hb : e.boundaryOf e.tid with
      | true =>
        rcases hb1 hb with h' | h'
        · rw [h'] at hw1; cases hw1
        · exact absurd h' l1
      | false =>
        obtain ⟨e1, e2, e3, e4⟩ := hb2 hb
        exact .inr ⟨⟨e2, e1 ▸ hw1, e3 ▸ l3, e4 ▸ l4⟩, rfl⟩
    · obtain ⟨p1, p2⟩ := hoth t ht
      exact .inr ⟨⟨p1 ▸ l1, p2 ▸ hw1, p1 ▸ l3, p1 ▸ l4⟩, boundaryOf_other ht⟩

theorem inv_of_run {k : Nat} {es : List Ev} {s : St} (h : (sys (2 ^ k)).run es = some s) :
    Inv (2 ^ k) s ∧ WInv s :=
  Sys.inv_of_run (sys (2 ^ k)) (fun s => Inv (2 ^ k) s ∧ WInv s) ⟨inv_init _, winv_init _⟩
    (fun _ _ _ hi hs => ⟨inv_step (idx_two_pow k) hi.1 hs, winv_step (idx_two_pow k) hi.1 hi.2 hs⟩) h

theorem Pc.not_pushing_popping (p : Pc) : ¬ (p.pushing = true ∧ p.popping = true) := by
  cases p <;> simp [Pc.pushing, Pc.popping]

theorem justified_push {k : Nat} {es : List Ev} {s : St} {t : Nat}
    (h : (sys (2 ^ k)).run es = some s) (hf : pushFailed s t = true) :
    Since (sys (2 ^ k)) es t fun s1 => (s1.pc t).pushing = true ∧
      ((∃ u, u ≠ t ∧ s1.pc u ≠ .idle) ∨ s1.high = s1.low + s1.size) := by
  obtain ⟨hp0, hp, -⟩ := pushFailed_pc hf
  obtain ⟨es1, es2, s1, q1, q2, q3, q4, q5, -⟩ :=
    wit_since h hp0 (fail_attempt_push (inv_of_run h).2 hf)
  rw [hp] at q5
  refine ⟨es1, es2, s1, q1, q2, q3, q5, ?_⟩
  rcases (inv_of_run q2).1.justNow_elim q4 with h1 | ⟨-, h1⟩ | ⟨h1, -⟩
  · exact Or.inl h1
  · exact Or.inr h1
  · exact absurd ⟨q5, h1⟩ (Pc.not_pushing_popping _)

theorem justified_pop {k : Nat} {es : List Ev} {s : St} {t : Nat}
    (h : (sys (2 ^ k)).run es = some s) (hf : popFailed s t = true) :
    Since (sys (2 ^ k)) es t fun s1 => (s1.pc t).popping = true ∧
      ((∃ u, u ≠ t ∧ s1.pc u ≠ .idle) ∨ s1.high = s1.low) := by
  obtain ⟨hp0, -, hp, -⟩ := popFailed_pc hf
  obtain ⟨es1, es2, s1, q1, q2, q3, q4, -, q5⟩ :=
    wit_since h hp0 (fail_attempt_pop (inv_of_run h).2 hf)
  rw [hp] at q5
  refine ⟨es1, es2, s1, q1, q2, q3, q5, ?_⟩
  rcases (inv_of_run q2).1.justNow_elim q4 with h1 | ⟨h1, -⟩ | ⟨-, h1⟩
  · exact Or.inl h1
  · exact absurd ⟨h1, q5⟩ (Pc.not_pushing_popping _)
  · exact Or.inr h1

/-! ### which program counters accept the write / return events -/

theorem step_wrBuf_push {s s' : St} {t j x v i : Nat} (hs : step s (.wrBuf t j x) = some s')
    (hpc : s.pc t = .pushClaimed v i) : j = idx s.size i ∧ x = v := by
  obtain ⟨s1, hc, -⟩ := Step.of_step hs
  cases hc with
  | wrBufPush hpc' hg => rw [hpc] at hpc'; cases hpc'; exact hg
  | wrBufPop hpc' => rw [hpc] at hpc'; cases hpc'

theorem step_retPush {s s' : St} {t r : Nat} (hs : step s (.retPush t r) = some s') :
    s.wrap t = .no ∧ (r ≠ 0 → s.pc t = .pushDone r) ∧ (r = 0 → pushFailed s t = true) := by
  obtain ⟨s1, hc, -⟩ := Step.of_step hs
  cases hc with
  | retPushDone hpc hg =>
    obtain ⟨rfl, hw⟩ := hg
    exact ⟨hw, fun _ => hpc, fun h0 => by simp [pushFailed, hpc, h0]⟩
  | retPushFail hpc hg =>
    exact ⟨hg.2.2, fun h => absurd hg.2.1 h, fun _ => by simpa [pushFailed, hpc] using hg.1⟩

theorem step_retPop {s s' : St} {t x : Nat} (hs : step s (.retPop t x) = some s') :
    s.wrap t = .no ∧ (x ≠ 0 → s.pc t = .popDone x) ∧ (x = 0 → popFailed s t = true) := by
  obtain ⟨s1, hc, -⟩ := Step.of_step hs
  cases hc with
  | retPopDone hpc hg =>
    obtain ⟨rfl, hw⟩ := hg
    exact ⟨hw, fun _ => hpc, fun h0 => by simp [popFailed, hpc, h0]⟩
  | retPopFail hpc hg =>
    exact ⟨hg.2.2, fun h => absurd hg.2.1 h, fun _ => by simpa [popFailed, hpc] using hg.1⟩

theorem step_retBPush {s s' : St} {t r : Nat} (hs : step s (.retBPush t r) = some s') :
    r = 1 ∧ s.pc t = .pushDone 1 ∧ ∃ v, s.wrap t = .push v := by
  obtain ⟨s1, hc, -⟩ := Step.of_step hs
  cases hc with
  | retBPush hpc hg =>
    obtain ⟨rfl, h2, h3⟩ := hg
    refine ⟨h2, hpc, ?_⟩
    cases hw : s.wrap t <;> simp [hw, Wrap.isPush] at h3 ⊢

theorem step_retBPop {s s' : St} {t x : Nat} (hs : step s (.retBPop t x) = some s') :
    x ≠ 0 ∧ s.pc t = .popDone x ∧ s.wrap t = .pop := by
  obtain ⟨s1, hc, -⟩ := Step.of_step hs
  cases hc with
  | retBPop hpc hg =>
    obtain ⟨rfl, h2, h3⟩ := hg
    refine ⟨h2, hpc, ?_⟩
    cases hw : s.wrap t <;> simp [hw, Wrap.isPop] at h3 ⊢

theorem step_retSize {s s' : St} {t n : Nat} (hs : step s (.retSize t n) = some s') :
    ∃ h l g h2, s.pc t = .sizeGotBoth h l g h2 ∧ n = h - l := by
  obtain ⟨s1, hc, -⟩ := Step.of_step hs
  cases hc with
  | retSize hpc hn => exact ⟨_, _, _, _, hpc, hn⟩

theorem step_wrap_arg {s s' : St} {e : Ev} (hs : step s e = some s') (t : Nat) :
    (s'.wrap t = match (generalizing := false) e with
      | .callBPush u v => if t = u then .push v else s.wrap t
      | .callBPop u => if t = u then .pop else s.wrap t
      | .retBPush u _ => if t = u then .no else s.wrap t
      | .retBPop u _ => if t = u then .no else s.wrap t
      | _ => s.wrap t) ∧
    s'.arg t = match (generalizing := false) e with
      | .callPush u v => if t = u then v else s.arg t
      | _ => s.arg t := by
  obtain ⟨s1, hc, rfl⟩ := Step.of_step hs
  show s1.wrap t = _ ∧ s1.arg t = _
  cases hc <;> simp [upd_apply]

theorem step_size_high {s s' : St} {t x : Nat} (hs : step s (.wLdHigh t x) = some s')
    (hpc : s.pc t = .sizeCalled) : x = s.high ∧ s'.pc t = .sizeGotHigh s.high s.low := by
  obtain ⟨s1, hc, rfl⟩ := Step.of_step hs
  cases hc with
  | wLdHighPush hw hg => simp [pushFailed, hpc] at hg
  | wLdHighPop hw hg => simp [popFailed, hpc] at hg
  | wLdHighSize hw hg => obtain ⟨-, rfl⟩ := hg; simp [observe]

theorem step_size_low {s s' : St} {t x h g : Nat} (hs : step s (.wLdLow t x) = some s')
    (hpc : s.pc t = .sizeGotHigh h g) :
    x = s.low ∧ s'.pc t = .sizeGotBoth h s.low g s.high := by
  obtain ⟨s1, hc, rfl⟩ := Step.of_step hs
  cases hc <;> simp_all [observe]

theorem step_pc_other {s s' : St} {e : Ev} (hs : step s e = some s') (t : Nat) (ht : t ≠ e.tid) :
    s'.pc t = s.pc t := by
  obtain ⟨s1, hc, rfl⟩ := Step.of_step hs
  exact ((core_eff hc).1 t ht).1

theorem step_wLdHigh_wrap {s s' : St} {t x : Nat} (hs : step s (.wLdHigh t x) = some s') :
    (∀ v, s.wrap t = .push v → pushFailed s t = true) ∧
    (s.wrap t = .pop → popFailed s t = true) := by
  obtain ⟨s1, hc, -⟩ := Step.of_step hs
  cases hc <;> rename_i hw hg <;> simp [hw, hg.1]

/-! ### `size`: the instant at which `high` was read (trace-level, no ghost in the conclusion) -/

/-- the value of `high` a `size` call has read, with the ghost copy of `low` taken with it -/
def sizeSnap : Pc → Option (Nat × Nat)
  | .sizeGotHigh h g | .sizeGotBoth h _ g _ => some (h, g)
  | _ => none

set_option linter.unusedSimpArgs false in
/-- the snapshot is taken by the thread's own `wLdHigh`, from the current cells, and only copied
    afterwards (by its `wLdLow`) -/
theorem core_sizeSnap {s s1 : St} {e : Ev} (hs : Step s e s1) {h g : Nat}
    (hp : sizeSnap (s1.pc e.tid) = some (h, g)) :
    (s1.high = h ∧ s1.low = g) ∨
    (sizeSnap (s.pc e.tid) = some (h, g) ∧ e.boundaryOf e.tid = false) := by
  cases hs <;> simp [Ev.tid, Ev.boundaryOf, sizeSnap] at hp ⊢ <;> simp_all [sizeSnap]

/-- a `size` call that has read `high = h` (ghost `g`) did so at an instant of this call at
    which `high = h`, `low = g` -/
theorem sizeSnap_since {n : Nat} {es : List Ev} {s : St} {t h g : Nat}
    (hr : (sys n).run es = some s) (hp : sizeSnap (s.pc t) = some (h, g)) :
    Since (sys n) es t fun s1 => s1.high = h ∧ s1.low = g := by
  refine Sys.Since.of_latch (L := fun s1 => sizeSnap (s1.pc t) = some (h, g))
    (by simp [sys, init, sizeSnap]) ?_ hr hp
  intro _ s0 e s' _ hstep hl
  obtain ⟨s1, hcore, rfl⟩ := Step.of_step hstep
  by_cases ht : t = e.tid
  · subst ht; exact core_sizeSnap hcore hl
  · exact .inr ⟨((core_eff hcore).1 t ht).1 ▸ hl, boundaryOf_other ht⟩

end LibfiberVerif.Ring
