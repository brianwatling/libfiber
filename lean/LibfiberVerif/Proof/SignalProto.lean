/-
  Proof/SignalProto.lean — the fiber_signal_t protocol (`Signal.pstep`) for its clients, the token
  harness (Proof/Signal.lean) and the channels (Proof/Chan.lean): its accepted steps as a relation
  (`PStep`), its invariant (`PInv`), and what keeps a raise from being lost (`PCov`).  Property C11.
-/
import LibfiberVerif.Model.Signal

namespace LibfiberVerif

theorem upd_pc_iff {α : Type} {pc : Nat → α} {f : Nat} {p' : α} {C : α → Prop} (h : C p' ↔ C (pc f)) (x : Nat) :
    C (upd pc f p' x) ↔ C (pc x) := by
  unfold upd; split
  · next e => rw [e]; exact h
  · rfl

end LibfiberVerif

namespace LibfiberVerif.Signal

/-- f has put itself into the word and has not resumed yet -/
def PPc.sleepy (p : PPc) : Prop := p = .casOk ∨ p = .parking ∨ p = .parked

/-- the raiser is about to wake g -/
def PPc.targets (p : PPc) (g : Nat) : Prop := p = .raiseGot g ∨ p = .raiseCleared g ∨ p = .raiseReady g

/-- inside fiber_signal_wait -/
def PPc.inWait (p : PPc) : Prop :=
  p = .waitCalled ∨ p = .wCleared ∨ p = .casFailed ∨ p = .casOk ∨ p = .parking ∨ p = .parked ∨
  p = .resumed ∨ p = .waitDone

structure PInv (s : PSt) : Prop where
  word_sleepy : ∀ f, s.word = .fiber f →
    (s.pc f).sleepy ∧ s.wakes f + 1 = s.parks f ∧ ∀ g, s.waker f ≠ some g
  waker_target : ∀ f g, s.waker f = some g → (s.pc g).targets f
  target_waker : ∀ f g, (s.pc g).targets f → s.waker f = some g
  waker_sleepy : ∀ f g, s.waker f = some g →
    (s.pc f).sleepy ∧ s.wakes f + 1 = s.parks f ∧ s.word ≠ .fiber f
  owed : ∀ f, (s.pc f).sleepy → s.wakes f + 1 = s.parks f →
    s.word = .fiber f ∨ ∃ g, s.waker f = some g
  counts : ∀ f, s.wakes f = s.parks f ∨ ((s.pc f).sleepy ∧ s.wakes f + 1 = s.parks f)
  woken_parked : ∀ f, (s.pc f).sleepy → s.wakes f = s.parks f → s.pc f = .parked
  marker : ∀ f, s.scratch f = true ↔ s.pc f = .parked
  ready_parked : ∀ r g, s.pc r = .raiseReady g → s.pc g = .parked
  waiter_id : ∀ f, (s.pc f).inWait → s.waiterId = some f
  word_id : ∀ f, s.word = .fiber f → s.waiterId = some f
  waker_id : ∀ f g, s.waker f = some g → s.waiterId = some f

theorem pinv_init : PInv pinit := by
  constructor <;> simp [pinit, PPc.sleepy, PPc.targets, PPc.inWait]

/-- The accepted steps of `pstep`: one constructor per branch, its guards as hypotheses; where a guard
    equates an argument of the event with a field, the event carries the field.  Proofs go by cases on
    `PStep` and do not unfold `pstep`. -/
inductive PStep (s : PSt) : PEv → PSt → Prop
  | callWait {f} (hpc : s.pc f = .idle) (hid : s.waiterId = none ∨ s.waiterId = some f) :
      PStep s (.callWait f) { s with waiterId := some f, pc := upd s.pc f .waitCalled }
  | clr {f} (hpc : s.pc f = .waitCalled) :
      PStep s (.clrScratch f) { s with scratch := upd s.scratch f false, pc := upd s.pc f .wCleared }
  | resume {f} (hpc : s.pc f = .parked) (hw : s.wakes f = s.parks f) :
      PStep s (.clrScratch f) { s with scratch := upd s.scratch f false, pc := upd s.pc f .resumed }
  | casOk {f} (hpc : s.pc f = .wCleared) (hw : s.word = .none) :
      PStep s (.casWaiter f .none true)
        { s with word := .fiber f, parks := upd s.parks f (s.parks f + 1), pc := upd s.pc f .casOk }
  | casFail {f} (hpc : s.pc f = .wCleared) (hw : s.word ≠ .none) :
      PStep s (.casWaiter f s.word false) { s with pc := upd s.pc f .casFailed }
  | park {f} (hpc : s.pc f = .casOk) : PStep s (.wStateWaiting f) { s with pc := upd s.pc f .parking }
  | parked {g f} (hpc : s.pc f = .parking) :
      PStep s (.setWait g f) { s with scratch := upd s.scratch f true, pc := upd s.pc f .parked }
  | consume {f} (hpc : s.pc f = .casFailed ∨ s.pc f = .resumed) :
      PStep s (.stNone f) { s with word := .none, pc := upd s.pc f .waitDone }
  | clear {f g} (hpc : s.pc f = .raiseGot g) :
      PStep s (.stNone f) { s with word := .none, pc := upd s.pc f (.raiseCleared g) }
  | retWait {f} (hpc : s.pc f = .waitDone) : PStep s (.retWait f) { s with pc := upd s.pc f .idle }
  | callRaise {f} (hpc : s.pc f = .idle) : PStep s (.callRaise f) { s with pc := upd s.pc f .raiseCalled }
  | xchgGot {f g} (hpc : s.pc f = .raiseCalled) (hw : s.word = .fiber g) :
      PStep s (.xchg f (.fiber g))
        { s with word := .raised, waker := upd s.waker g (some f), pc := upd s.pc f (.raiseGot g) }
  | xchgNone {f} (hpc : s.pc f = .raiseCalled) (hw : ∀ g, s.word ≠ .fiber g) :
      PStep s (.xchg f s.word) { s with word := .raised, pc := upd s.pc f (.raiseDone false) }
  | spin {f g} (hpc : s.pc f = .raiseCleared g) (hr : s.scratch g = false) : PStep s (.rScratch f g false) s
  | ready {f g} (hpc : s.pc f = .raiseCleared g) (hr : s.scratch g = true) :
      PStep s (.rScratch f g true) { s with pc := upd s.pc f (.raiseReady g) }
  | wake {f g} (hpc : s.pc f = .raiseReady g) :
      PStep s (.wStateReady f g)
        { s with wakes := upd s.wakes g (s.wakes g + 1), waker := upd s.waker g none,
                 pc := upd s.pc f (.raiseDone true) }
  | retRaise {f r} (hpc : s.pc f = .raiseDone r) : PStep s (.retRaise f r) { s with pc := upd s.pc f .idle }

theorem PStep.of_pstep {s s' : PSt} {e : PEv} (h : pstep s e = some s') : PStep s e s' := by
  cases e <;> simp only [pstep] at h <;> (repeat' split at h) <;>
    simp only [Option.some.injEq, reduceCtorEq] at h <;> subst h
  all_goals repeat (cases ‹_ ∧ _›)
  all_goals try subst_vars
  all_goals try simp only [eq_comm (a := true), decide_eq_true_eq, Bool.not_eq_true] at *
  -- an argument of the event that the model compares with a field is that field
  all_goals first
    | (constructor <;> first | assumption | exact .inl ‹_› | exact .inr ‹_› | exact Eq.symm ‹_›)
    | (rw [‹s.word = .none›]; exact .casOk ‹_› ‹_›)
    | (rw [decide_eq_false ‹_›]; exact .casFail ‹_› ‹_›)
    | (rw [‹s.scratch _ = false›]; exact .spin ‹_› ‹_›)

/-- a step inside `fiber_signal_wait` / `fiber_signal_raise`: not a call, a return or the raiser's
    exchange, which are the events a client of the protocol ties its own state to -/
def PEv.inner : PEv → Bool
  | .callWait _ | .retWait _ | .callRaise _ | .retRaise _ _ | .xchg _ _ => false
  | _ => true

/-- the invariant cannot tell `p` from `q` (but for `inWait` and `raiseReady`) -/
def PPc.alike (p q : PPc) : Prop :=
  (p.sleepy ↔ q.sleepy) ∧ (p = .parked ↔ q = .parked) ∧ ∀ g, p.targets g ↔ q.targets g

/-- A step of fiber `f` that changes nothing but its pc keeps the invariant if the new pc is of
    the same kind. -/
theorem PInv.move {s : PSt} (hi : PInv s) (f : Nat) {p' : PPc} (hk : p'.alike (s.pc f))
    (hiw : p'.inWait → s.waiterId = some f) (hrd : ∀ g, p' = .raiseReady g → s.pc g = .parked) : PInv { s with pc := upd s.pc f p' } where
  word_sleepy := fun x h => (hi.word_sleepy x h).imp_left (upd_pc_iff hk.1 x).2
  waker_target := fun x g h => (upd_pc_iff (C := (PPc.targets · x)) (hk.2.2 x) g).2 (hi.waker_target x g h)
  target_waker := fun x g h => hi.target_waker x g ((upd_pc_iff (C := (PPc.targets · x)) (hk.2.2 x) g).1 h)
  waker_sleepy := fun x g h => (hi.waker_sleepy x g h).imp_left (upd_pc_iff hk.1 x).2
  owed := fun x h => hi.owed x ((upd_pc_iff hk.1 x).1 h)
  counts := fun x => (hi.counts x).imp_right (And.imp_left (upd_pc_iff hk.1 x).2)
  woken_parked := fun x h e =>
    (upd_pc_iff (C := (· = PPc.parked)) hk.2.1 x).2 (hi.woken_parked x ((upd_pc_iff hk.1 x).1 h) e)
  marker := fun x => (hi.marker x).trans (upd_pc_iff (C := (· = PPc.parked)) hk.2.1 x).symm
  ready_parked := fun r g h => by
    refine (upd_pc_iff (C := (· = PPc.parked)) hk.2.1 g).2 ?_
    revert h; show upd s.pc f p' r = _ → _
    unfold upd; split
    · exact hrd g
    · exact hi.ready_parked r g
  waiter_id := fun x => by
    show (upd s.pc f p' x).inWait → _
    unfold upd; split
    · next e => exact e ▸ hiw
    · exact hi.waiter_id x
  word_id := hi.word_id
  waker_id := hi.waker_id

theorem PInv.setWaiter {s : PSt} (hi : PInv s) (f : Nat) (h : s.waiterId = none ∨ s.waiterId = some f) :
    PInv { s with waiterId := some f } :=
  have hid : ∀ x, s.waiterId = some x → some f = some x := fun x e => by
    rcases h with h | h <;> simp_all
  { hi with
    waiter_id := fun x e => hid x (hi.waiter_id x e)
    word_id := fun x e => hid x (hi.word_id x e)
    waker_id := fun x g e => hid x (hi.waker_id x g e) }

/-- while no fiber is in the word, the word may be overwritten by NO_WAITER or RAISED -/
theorem PInv.setWord {s : PSt} (hi : PInv s) (w : Word) (hw : ∀ x, w ≠ .fiber x)
    (h : ∀ x, s.word ≠ .fiber x) : PInv { s with word := w } :=
  { hi with
    word_sleepy := fun x e => absurd e (hw x)
    waker_sleepy := fun x g e => (hi.waker_sleepy x g e).imp_right (And.imp_right fun _ => hw x)
    owed := fun x a b => (hi.owed x a b).imp_left fun e => absurd e (h x)
    word_id := fun x e => absurd e (hw x) }

/-- the word holds the waiter only while it sleeps un-woken: not while a raiser holds it, and
    not while it runs -/
theorem PInv.word_ne {s : PSt} (hi : PInv s) {f : Nat}
    (h : (∃ g, (s.pc f).targets g) ∨ ((s.pc f).inWait ∧ ¬ (s.pc f).sleepy)) (x : Nat) :
    s.word ≠ .fiber x := fun e => by
  obtain ⟨hsl, -, hnw⟩ := hi.word_sleepy x e
  have hx := hi.word_id x e
  rcases h with ⟨g, hg⟩ | ⟨hin, hns⟩
  · have hw := hi.target_waker g f hg
    have := (hi.waker_id g f hw).symm.trans hx
    exact hnw f (Option.some.inj this ▸ hw)
  · have := (hi.waiter_id f hin).symm.trans hx
    exact hns (Option.some.inj this ▸ hsl)

attribute [local simp] PPc.alike PPc.sleepy PPc.targets PPc.inWait

/-- After a protocol transition each conjunct follows from the same conjunct before it, by cases
    on whether the fiber meant is the actor, the sleeper it deals with, or neither. -/
local macro "carry " h:term : tactic =>
  `(tactic| (have := $h; grind [upd, PPc.sleepy, PPc.targets, PPc.inWait]))

local macro "carry_all " hi:ident : tactic =>
  `(tactic| exact {
      word_sleepy := by carry PInv.word_sleepy $hi
      waker_target := by carry PInv.waker_target $hi
      target_waker := by carry PInv.target_waker $hi
      waker_sleepy := by carry PInv.waker_sleepy $hi
      owed := by carry PInv.owed $hi
      counts := by carry PInv.counts $hi
      woken_parked := by carry PInv.woken_parked $hi
      marker := by carry PInv.marker $hi
      ready_parked := by carry PInv.ready_parked $hi
      waiter_id := by carry PInv.waiter_id $hi
      word_id := by carry PInv.word_id $hi
      waker_id := by carry PInv.waker_id $hi })

theorem PInv.step {s s' : PSt} {e : PEv} (hi : PInv s) (hs : PStep s e s') : PInv s' := by
  have wid : ∀ {f} {q : PPc}, (s.pc f).inWait → q.inWait → s.waiterId = some f := fun h _ => hi.waiter_id _ h
  cases hs with
  | @callWait f hpc hid => exact (hi.setWaiter f hid).move f (by simp [hpc]) (fun _ => rfl) (by simp)
  | @clr f hpc =>
    have e : upd s.scratch f false = s.scratch := funext fun x => by
      have := hi.marker f
      unfold upd; split <;> simp_all
    rw [e]
    exact hi.move f (by simp [hpc]) (wid (by simp [hpc])) (by simp)
  | @resume f hpc hw =>
    have hid := hi.waiter_id f (by simp [hpc])
    have hnw : ∀ g, s.waker f ≠ some g := fun g e => by have := (hi.waker_sleepy f g e).2.1; omega
    have hwd : s.word ≠ .fiber f := fun e => by have := (hi.word_sleepy f e).2.1; omega
    have hnr : ∀ r, s.pc r ≠ .raiseReady f := fun r e => hnw r (hi.target_waker f r (by simp [e]))
    carry_all hi
  | @casOk f hpc hwd =>
    have hid := hi.waiter_id f (by simp [hpc])
    have hwk : s.wakes f = s.parks f := (hi.counts f).resolve_right fun e => by simp [hpc] at e
    have hnw : ∀ g, s.waker f ≠ some g := fun g e => by
      have := (hi.waker_sleepy f g e).1; simp [PPc.sleepy, hpc] at this
    carry_all hi
  | @casFail f hpc | @park f hpc => exact hi.move f (by simp [hpc]) (wid (by simp [hpc])) (by simp)
  | @parked g f hpc => carry_all hi
  | @consume f hpc =>
    have hq : (s.pc f).inWait ∧ ¬ (s.pc f).sleepy := by rcases hpc with h | h <;> simp [h]
    exact (hi.setWord .none (by simp) (hi.word_ne (f := f) (.inr hq))).move f
      (by rcases hpc with h | h <;> simp [h]) (wid hq.1) (by simp)
  | @clear f g hpc =>
    exact (hi.setWord .none (by simp) (hi.word_ne (f := f) (.inl ⟨g, by simp [hpc]⟩))).move f
      (by simp [hpc]) (by simp) (by simp)
  | @retWait f hpc | @callRaise f hpc | @retRaise f _ hpc => exact hi.move f (by simp [hpc]) (by simp) (by simp)
  | @xchgGot f g hpc hg =>
    obtain ⟨hsl, hcnt, hnw⟩ := hi.word_sleepy g hg
    have hid := hi.word_id g hg
    carry_all hi
  | @xchgNone f hpc hnf =>
    exact (hi.setWord .raised (by simp) hnf).move f (by simp [hpc]) (by simp) (by simp)
  | spin => exact hi
  | @ready f g hpc hr =>
    exact hi.move f (by simp [hpc]) (by simp) (fun x e => PPc.raiseReady.inj e ▸ (hi.marker g).1 hr)
  | @wake f g hpc =>
    have hw := hi.target_waker g f (by simp [hpc])
    have hpk := hi.ready_parked f g hpc
    obtain ⟨-, hcnt, hwd⟩ := hi.waker_sleepy g f hw
    carry_all hi

theorem pinv_step (s s' : PSt) (e : PEv) (hi : PInv s) (hs : pstep s e = some s') : PInv s' :=
  hi.step (.of_pstep hs)

theorem pinv_of_run {es : List PEv} {s : PSt} (h : psys.run es = some s) : PInv s :=
  Sys.inv_of_run psys PInv pinv_init (fun s e s' hi hs => pinv_step s s' e hi hs) h

/-- Coverage of the waiter by the word: nobody is in the word, and the waiter on its way to the CAS
    that would put it to sleep will find RAISED there (so the CAS fails and it looks again).  A client
    claims this while what its waiter waits for is there and every raise announcing it has done its
    exchange.  `pre w`, the client's part: it has decided that `w` will wait and has not called
    `fiber_signal_wait` yet; the protocol cannot see that, so it is a parameter. -/
structure PCov (pre : Nat → Prop) (p : PSt) : Prop where
  no_sleeper : ∀ w, p.word ≠ .fiber w
  pre : ∀ w, p.waiterId = some w → pre w ∨ p.pc w = .waitCalled ∨ p.pc w = .wCleared → p.word = .raised

/-- a step inside `fiber_signal_wait` / `fiber_signal_raise` (not a call, a return or the exchange)
    keeps the coverage: the waiter's CAS cannot succeed, and the word is reset only by the waiter
    past its CAS or by a raiser that holds the waiter asleep -/
theorem PCov.inner {pre : Nat → Prop} {p p' : PSt} {e : PEv} (hc : PCov pre p) (hP : PInv p) (hs : PStep p e p')
    (he : e.inner = true) (hpre : ∀ w, pre w → p.pc w = .idle) : PCov pre p' := by
  -- a step of `f` that keeps the word: `f` is not on its way to the CAS afterwards unless it was before
  have keep : ∀ {f : Nat} {q' : PPc} {p' : PSt}, p'.pc = upd p.pc f q' → p'.word = p.word → p'.waiterId = p.waiterId →
      (q' = .waitCalled ∨ q' = .wCleared → p.pc f = .waitCalled ∨ p.pc f = .wCleared) → PCov pre p' :=
    fun {f q' p'} hpc hw hid hq => ⟨hw ▸ hc.no_sleeper, fun w a b => by
      rw [hw]; rw [hid] at a; refine hc.pre w a (b.imp_right fun b => ?_)
      rw [hpc] at b
      by_cases e : w = f
      · rw [e, upd_same] at b; exact e ▸ hq b
      · rwa [upd_other _ _ _ _ e] at b⟩
  -- a reset of the word by `f` while the waiter `w` cannot be on its way to the CAS
  have reset : ∀ {f : Nat} {q' : PPc}, (∀ w, p.waiterId = some w → p.pc w ≠ .idle ∧
      upd p.pc f q' w ≠ .waitCalled ∧ upd p.pc f q' w ≠ .wCleared) →
      PCov pre { p with word := .none, pc := upd p.pc f q' } :=
    fun h => ⟨nofun, fun w a b => by
      obtain ⟨h1, h2, h3⟩ := h w a
      rcases b with b | b | b
      · exact absurd (hpre w b) h1
      · exact absurd b h2
      · exact absurd b h3⟩
  cases hs with
  | callWait | retWait | callRaise | retRaise | xchgGot | xchgNone => exact nomatch he
  | clr hpc | casFail hpc | park hpc | parked hpc | ready hpc | resume hpc | wake hpc =>
    exact keep rfl rfl rfl (by simp [hpc])
  | spin => exact hc
  | @casOk f hpc hw =>
    exact absurd (hc.pre f (hP.waiter_id f (by simp [hpc])) (.inr (.inr hpc))) (by rw [hw]; nofun)
  | @consume f hpc =>
    have hq : (p.pc f).inWait ∧ p.pc f ≠ .idle := by rcases hpc with h | h <;> simp [h]
    refine reset fun w hw => ?_
    cases (hP.waiter_id f hq.1).symm.trans hw
    simp [hq.2]
  | @clear f g hpc =>
    have hk := hP.target_waker g f (by simp [hpc])
    have hsl := (hP.waker_sleepy g f hk).1
    have hgf : g ≠ f := fun e => by rw [e, hpc] at hsl; simp at hsl
    refine reset fun w hw => ?_
    cases (hP.waker_id g f hk).symm.trans hw
    rw [upd_other _ _ _ _ hgf]
    rcases hsl with h | h | h <;> simp [h]

/-- a step inside the protocol moves one fiber, which is neither outside the protocol nor about to
    exchange, and stays inside (or outside) the wait -/
theorem PStep.inner_move {p p' : PSt} {e : PEv} (hs : PStep p e p') (he : e.inner = true) :
    ∃ a q', p'.pc = upd p.pc a q' ∧ p.pc a ≠ .idle ∧ p.pc a ≠ .raiseCalled ∧ (q'.inWait ↔ (p.pc a).inWait) ∧
      p'.waiterId = p.waiterId := by
  cases hs with
  | callWait | retWait | callRaise | retRaise | xchgGot | xchgNone => exact nomatch he
  | @spin f g hpc => exact ⟨f, _, (upd_self _ _).symm, by simp [hpc], by simp [hpc], .rfl, rfl⟩
  | consume hpc => exact ⟨_, _, rfl, by rcases hpc with h | h <;> simp [h]⟩
  | clr hpc | casFail hpc | park hpc | parked hpc | ready hpc | resume hpc | wake hpc | casOk hpc | clear hpc =>
    exact ⟨_, _, rfl, by simp [hpc]⟩

end LibfiberVerif.Signal
