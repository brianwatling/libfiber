/-
  The inductive invariant `Inv` of the fiber-mutex model (property C03) and the trace-level facts
  built on it (hand-off counting, critical-section alternation, refinement of the atomic lock).
  Fibers are unbounded (`Nat → Pc`), so counting goes through `Card` (duplicate-free
  enumerations).
-/
import LibfiberVerif.Proof.MutexStep

namespace LibfiberVerif.Mutex

/-- "announced": has decremented `counter` in a contended `lock` and has not been handed the
    mutex yet.  (`o` = current owner, `f` = the fiber, `k` = its pc class.) -/
def annK (o : Option Nat) (f : Nat) : K → Bool
  | .pre => true
  | .xchgd _ _ => true
  | .parked => decide (o ≠ some f)
  | _ => false

def Ann (s : St) (f : Nat) : Prop := annK s.owner f (s.pc f).k = true

theorem ann_iff (s : St) (f : Nat) :
    Ann s f ↔ ((s.pc f).isPre = true ∨ (∃ m p i, s.pc f = .pushXchgd m p i) ∨
      (s.pc f = .parked ∧ s.owner ≠ some f)) := by
  unfold Ann
  cases h : s.pc f <;> simp [Pc.k, annK, Pc.isPre]
  next r => cases r <;> simp

def Card (P : Nat → Prop) (n : Nat) : Prop :=
  ∃ l : List Nat, l.Nodup ∧ (∀ f, f ∈ l ↔ P f) ∧ l.length = n

theorem Card.congr {P Q : Nat → Prop} {n : Nat} (h : Card P n) (hpq : ∀ f, Q f ↔ P f) :
    Card Q n := by
  obtain ⟨l, h1, h2, h3⟩ := h
  exact ⟨l, h1, fun f => by rw [h2, hpq], h3⟩

theorem Card.unique {P : Nat → Prop} {n m : Nat} (h : Card P n) (h' : Card P m) : n = m := by
  obtain ⟨l, h1, h2, h3⟩ := h
  obtain ⟨l', h1', h2', h3'⟩ := h'
  have : l.Perm l' := (List.perm_ext_iff_of_nodup h1 h1').2 (fun a => by rw [h2, h2'])
  rw [← h3, ← h3']; exact this.length_eq

theorem Card.insert {P Q : Nat → Prop} {n : Nat} (h : Card P n) (a : Nat) (ha : ¬ P a)
    (hq : ∀ f, Q f ↔ (f = a ∨ P f)) : Card Q (n + 1) := by
  obtain ⟨l, h1, h2, h3⟩ := h
  refine ⟨a :: l, ?_, ?_, by simp [h3]⟩
  · rw [List.nodup_cons]; exact ⟨fun hm => ha ((h2 a).1 hm), h1⟩
  · intro f; simp [h2, hq]

theorem Card.erase {P Q : Nat → Prop} {n : Nat} (h : Card P n) (a : Nat) (ha : P a)
    (hq : ∀ f, Q f ↔ (f ≠ a ∧ P f)) : 1 ≤ n ∧ Card Q (n - 1) := by
  obtain ⟨l, h1, h2, h3⟩ := h
  have hm : a ∈ l := (h2 a).2 ha
  refine ⟨?_, l.erase a, h1.erase a, ?_, by rw [List.length_erase_of_mem hm, h3]⟩
  · rw [← h3]; exact List.length_pos_of_mem hm
  · intro f; rw [h1.mem_erase_iff, h2, hq]

theorem Card.zero_iff {P : Nat → Prop} : Card P 0 ↔ ∀ f, ¬ P f := by
  constructor
  · rintro ⟨l, -, h2, h3⟩ f hf
    have := (h2 f).2 hf
    rw [List.length_eq_zero_iff.1 h3] at this; simp at this
  · intro h; exact ⟨[], by simp, fun f => by simp [h f], rfl⟩

theorem Card.pos {P : Nat → Prop} {n : Nat} (h : Card P n) (hn : 0 < n) : ∃ f, P f := by
  obtain ⟨l, -, h2, h3⟩ := h
  cases l with
  | nil => simp at h3; omega
  | cons a l => exact ⟨a, (h2 a).1 (by simp)⟩

theorem Card.pos_of {P : Nat → Prop} {n : Nat} (h : Card P n) {f : Nat} (hf : P f) : 0 < n := by
  obtain ⟨l, -, h2, h3⟩ := h
  rw [← h3]; exact List.length_pos_of_mem ((h2 f).2 hf)

structure Inv (s : St) : Prop where
  /-- whoever is between acquire and release is the ghost owner -/
  hold_owner : ∀ f, (s.pc f).k.isHold → s.owner = some f
  /-- the ghost owner is between acquire and release, or was handed the mutex while parked -/
  owner_hold : ∀ f, s.owner = some f → (s.pc f).k.isHold ∨ (s.pc f).k = .parked
  /-- before its pop takes effect a waker sees a free mutex -/
  wake_free : ∀ f, (s.pc f).k.isWake → s.owner = none ∧ s.waking = false
  /-- single consumer of the waiter queue -/
  pop_one : ∀ f g, (s.pc f).k.isPop → (s.pc g).k.isPop → f = g
  post_waking : ∀ f, (s.pc f).k = .post → s.waking = true
  waking_owner : s.waking = true → ∃ g, s.owner = some g ∧ (s.pc g).k = .parked
  hd_le : s.hd ≤ s.order.length
  lnk_bound : ∀ i, s.order.length ≤ i → s.linked i = false
  q_xchgd : ∀ f m i, (s.pc f).k = .xchgd m i →
    s.order[i]? = some (m, f) ∧ s.hd ≤ i ∧ s.linked i = false
  q_parked : ∀ f, (s.pc f).k = .parked → s.owner ≠ some f →
    ∃ i n, s.hd ≤ i ∧ s.order[i]? = some (n, f) ∧ s.linked i = true
  q_ent : ∀ i n f, s.hd ≤ i → s.order[i]? = some (n, f) →
    (s.pc f).k = .xchgd n i ∨ ((s.pc f).k = .parked ∧ s.linked i = true ∧ s.owner ≠ some f)
  /-- a fiber waits at most once among the entries not yet popped -/
  q_dist : ∀ i j n n' f, s.hd ≤ i → s.hd ≤ j → s.order[i]? = some (n, f) →
    s.order[j]? = some (n', f) → i = j
  w_next : ∀ f, (s.pc f).k = .wNext → s.hd < s.order.length ∧ s.linked s.hd = true
  cnt : ∃ n, Card (Ann s) n ∧ s.counter = 1 - (if s.owner = none then 0 else 1) - (n : Int)
  /-- a waker in its loop has somebody to find -/
  wake_ann : ∀ f, (s.pc f).k.isWake → ∃ g, Ann s g
  /-- no stranded waiter -/
  free : ∀ g, Ann s g → s.owner ≠ none ∨ ∃ f, (s.pc f).k.isWake
  cs_held : ∀ f, f ∈ s.inCs → (s.pc f).k = .held
  cs_nodup : s.inCs.Nodup
  cs_seen : ∀ f, f ∈ s.inCs → s.seen f = s.data

theorem inv_init (stub : Nat) (nodeOf : Nat → Nat) : Inv (init stub nodeOf) := by
  constructor <;> simp [init, Pc.k, K.isHold, K.isWake, K.isPop, Ann, annK]
  exact ⟨0, Card.zero_iff.2 (by simp [Ann, annK, Pc.k]), by simp⟩

theorem Inv.counter_le {s : St} (hi : Inv s) : s.counter ≤ 1 := by
  obtain ⟨n, -, h⟩ := hi.cnt
  split at h <;> omega

theorem Inv.free_of_one {s : St} (hi : Inv s) (h1 : s.counter = 1) :
    s.owner = none ∧ ∀ g, ¬ Ann s g := by
  obtain ⟨n, hc, h⟩ := hi.cnt
  split at h
  · next ho =>
    have : n = 0 := by omega
    subst this
    exact ⟨ho, Card.zero_iff.1 hc⟩
  · omega

/-- The two situations in which the acting fiber's own RMW is about to change `owner`: an acquire
    sees `counter = 1`; a release is done by a fiber between its acquire and its `fetch_add`.  In
    both nobody is on the consumer side of the waiter queue. -/
theorem Inv.at_free {s : St} (hi : Inv s) (h1 : s.counter = 1) :
    s.owner = none ∧ (∀ g, ¬ Ann s g) ∧ s.waking = false ∧ ∀ g, ¬ (s.pc g).k.isPop := by
  obtain ⟨ho, hf⟩ := hi.free_of_one h1
  have hw : s.waking = false := by have := hi.waking_owner; grind
  refine ⟨ho, hf, hw, fun g hg => ?_⟩
  rcases hg with h | h | h
  · exact (hi.wake_ann g (.inl h)).elim hf
  · exact (hi.wake_ann g (.inr h)).elim hf
  · rw [hi.post_waking g h] at hw; cases hw

theorem Inv.at_hold {s : St} (hi : Inv s) {f : Nat} (hk : (s.pc f).k = .hold) :
    s.owner = some f ∧ s.waking = false ∧ (∀ g, ¬ (s.pc g).k.isPop) ∧
      ∃ n, Card (Ann s) n ∧ s.counter = -(n : Int) := by
  have ho : s.owner = some f := hi.hold_owner f (.inl hk)
  have hw : s.waking = false := by have := hi.waking_owner; grind
  obtain ⟨n, hc, hn⟩ := hi.cnt
  rw [ho] at hn; simp at hn
  refine ⟨ho, hw, ?_, n, hc, by omega⟩
  have := hi.wake_free; have := hi.post_waking; grind [K.isPop, K.isWake]

theorem annK_some_ne {f g : Nat} (h : g ≠ f) (k : K) : annK (some f) g k = annK none g k := by
  cases k <;> simp [annK]; omega

/-- The routine step of every preservation proof below.  A conjunct speaks of the class of one
    or two fibers; after `f` moved, `(upd s.pc f p g).k` is `p.k` for `g = f` and the old class
    otherwise (`k_upd`).  For `g ≠ f` the conjunct is the old one (`h`); for `g = f` the
    hypotheses on `p.k` and on the old class of `f` decide it.  `grind` does this case split. -/
local macro "mx_close" h:term : tactic =>
  `(tactic| (have := $h; simp only [k_upd]; grind [K.isHold, K.isWake, K.isPop]))

theorem ann_move {s : St} {f : Nat} {p : Pc} {o : Option Nat}
    (h : annK o f p.k = annK s.owner f (s.pc f).k) (ho : ∀ g, g ≠ f → annK o g (s.pc g).k = annK s.owner g (s.pc g).k)
    (g : Nat) : annK o g (upd s.pc f p g).k = annK s.owner g (s.pc g).k := by
  rw [k_upd]; split
  · next hg => rw [hg, h]
  · next hg => exact ho g hg

/-- moves of `f` that change no field: inside its class, between `hold` and `held` (into
    `hold` only outside the critical section), from `parked` to `held` once `f` was handed
    the mutex and its waker is done, from `w` to `wNext` when the oldest entry is linked, from
    `post` out of the wake code -/
theorem Inv.reclass {s : St} (hi : Inv s) {f : Nat} {p : Pc}
    (h : p.k = (s.pc f).k ∨ (p.k.isHold ∧ (s.pc f).k.isHold ∧ (f ∈ s.inCs → p.k = .held)) ∨
      (p.k = .held ∧ (s.pc f).k = .parked ∧ s.owner = some f ∧ s.waking = false) ∨
      (p.k = .wNext ∧ (s.pc f).k = .w ∧ s.hd < s.order.length ∧ s.linked s.hd = true) ∨
      (p.k = .other ∧ (s.pc f).k = .post)) :
    Inv { s with pc := upd s.pc f p } := by
  have hann : Ann { s with pc := upd s.pc f p } = Ann s := by
    funext g
    simp only [Ann]
    rw [ann_move (s := s) (f := f) (p := p) (o := s.owner) ?_ (fun _ _ => rfl)]
    rcases h with h1 | ⟨h1 | h1, h2 | h2, -⟩ | ⟨h1, h2, h3, -⟩ | ⟨h1, h2, -⟩ | ⟨h1, h2⟩ <;>
      simp [annK, *]
  exact { hi with
    hold_owner := by mx_close hi.hold_owner
    owner_hold := by mx_close hi.owner_hold
    wake_free := by mx_close hi.wake_free
    pop_one := by mx_close hi.pop_one
    post_waking := by mx_close hi.post_waking
    waking_owner := by mx_close hi.waking_owner
    q_xchgd := by mx_close hi.q_xchgd
    q_parked := by mx_close hi.q_parked
    q_ent := by mx_close hi.q_ent
    w_next := by mx_close hi.w_next
    cnt := by rw [hann]; exact hi.cnt
    wake_ann := by rw [hann]; mx_close hi.wake_ann
    free := by rw [hann]; mx_close hi.free
    cs_held := by mx_close And.intro hi.cs_held hi.hold_owner }

/-- a handed-off waiter resumes and returns from `lock` -/
theorem Inv.resume {s : St} (hi : Inv s) {f : Nat} {p : Pc} (hp : p.k = .held)
    (hpc : (s.pc f).k = .parked) (ho : s.owner = some f) (hw : s.waking = false) :
    Inv { s with pc := upd s.pc f p } :=
  hi.reclass (.inr (.inr (.inl ⟨hp, hpc, ho, hw⟩)))

theorem Inv.move {s : St} (hi : Inv s) {f0 : Nat} {p : Pc} (h : p.k = (s.pc f0).k) :
    Inv { s with pc := upd s.pc f0 p } :=
  hi.reclass (.inl h)

/-- uncontended acquire: `fetch_sub` that saw 1, or successful trylock CAS -/
theorem Inv.acquire {s : St} (hi : Inv s) {f : Nat} {p : Pc} (hp : p.k = .hold)
    (hpc : (s.pc f).k = .other) (h1 : s.counter = 1) :
    Inv { s with counter := s.counter - 1, owner := some f, pc := upd s.pc f p } := by
  obtain ⟨hown, hfree, hwk, hnp⟩ := hi.at_free h1
  have hann : ∀ g, ¬ Ann { s with counter := s.counter - 1, owner := some f, pc := upd s.pc f p } g := by
    intro g
    have := hfree g
    simp only [Ann, k_upd] at this ⊢
    split
    · simp [hp, annK]
    · next hg => rw [annK_some_ne hg, ← hown]; exact this
  have hnw : ∀ g, ¬ (s.pc g).k.isWake := fun g h => hnp g (h.elim .inl (.inr ∘ .inl))
  exact { hi with
    hold_owner := by mx_close hi.hold_owner
    owner_hold := by mx_close hi.owner_hold
    wake_free := by mx_close hnw
    pop_one := by mx_close hi.pop_one
    post_waking := by mx_close hi.post_waking
    waking_owner := by simp [hwk]
    q_xchgd := by mx_close hi.q_xchgd
    q_parked := by mx_close hi.q_parked
    q_ent := by mx_close hi.q_ent
    w_next := by mx_close hi.w_next
    cnt := ⟨0, Card.zero_iff.2 hann, by simp [h1]⟩
    wake_ann := by mx_close hnw
    free := fun g hg => absurd hg (hann g)
    cs_held := by mx_close And.intro hi.cs_held hi.hold_owner }

/-- contended `fetch_sub`: the locker announces itself -/
theorem Inv.announce {s : St} (hi : Inv s) {f : Nat} {p : Pc} (hp : p.k = .pre)
    (hpc : (s.pc f).k = .other) (h1 : s.counter ≠ 1) :
    Inv { s with counter := s.counter - 1, pc := upd s.pc f p } := by
  have hnf : ¬ Ann s f := by simp [Ann, hpc, annK]
  have hann : ∀ g, Ann { s with counter := s.counter - 1, pc := upd s.pc f p } g ↔ (g = f ∨ Ann s g) := by
    intro g
    simp only [Ann, k_upd]
    split
    · next hg => simp [hp, annK, hg]
    · next hg => simp [hg]
  obtain ⟨n, hc, hn⟩ := hi.cnt
  exact { hi with
    hold_owner := by mx_close hi.hold_owner
    owner_hold := by mx_close hi.owner_hold
    wake_free := by mx_close hi.wake_free
    pop_one := by mx_close hi.pop_one
    post_waking := by mx_close hi.post_waking
    waking_owner := by mx_close hi.waking_owner
    q_xchgd := by mx_close hi.q_xchgd
    q_parked := by mx_close hi.q_parked
    q_ent := by mx_close hi.q_ent
    w_next := by mx_close hi.w_next
    cnt := ⟨n + 1, hc.insert f hnf hann, by simp only []; split at hn <;> simp_all <;> omega⟩
    wake_ann := fun g _ => ⟨f, (hann f).2 (Or.inl rfl)⟩
    free := by
      -- otherwise the mutex is free and nobody is in a wake loop: then nobody was announced
      -- (`free` before the step), so `counter = 1`
      intro g _
      apply Classical.byContradiction; intro hne
      have ho : s.owner = none := by simpa using fun h => hne (Or.inl h)
      have h0 : n = 0 := by
        cases n with
        | zero => rfl
        | succ m =>
          obtain ⟨x, hx⟩ := hc.pos (Nat.succ_pos m)
          have := hi.free x hx
          simp only [k_upd] at hne; grind [K.isWake]
      subst h0; simp [ho] at hn; exact h1 hn
    cs_held := by mx_close And.intro hi.cs_held hi.hold_owner }

theorem getElem?_snoc {α : Type} (l : List α) (x : α) (i : Nat) :
    (l ++ [x])[i]? = if i = l.length then some x else l[i]? := by
  grind

/-- `xchg(&tail)`: the waiter's entry is appended to the ghost order -/
theorem Inv.enqueue {s : St} (hi : Inv s) {f m : Nat} {p : Pc} (hp : p.k = .xchgd m s.order.length)
    (hpc : (s.pc f).k = .pre) :
    Inv { s with order := s.order ++ [(m, f)], pc := upd s.pc f p } := by
  have hann : Ann { s with order := s.order ++ [(m, f)], pc := upd s.pc f p } = Ann s := by
    funext g; simp only [Ann]
    rw [ann_move (by simp [hp, hpc, annK]) (fun _ _ => rfl)]
  have hlen := hi.hd_le
  have hnew : ∀ i n, s.hd ≤ i → s.order[i]? ≠ some (n, f) := fun i n h1 h2 => by
    have := hi.q_ent i n f h1 h2; simp [hpc] at this
  exact { hi with
    hold_owner := by mx_close hi.hold_owner
    owner_hold := by mx_close hi.owner_hold
    wake_free := by mx_close hi.wake_free
    pop_one := by mx_close hi.pop_one
    post_waking := by mx_close hi.post_waking
    waking_owner := by mx_close hi.waking_owner
    hd_le := by simp only [List.length_append, List.length_singleton]; omega
    lnk_bound := fun i h => hi.lnk_bound i (by simp only [List.length_append, List.length_singleton] at h; omega)
    q_xchgd := by
      have := hi.q_xchgd; have := hi.lnk_bound s.order.length
      simp only [k_upd, getElem?_snoc]; grind
    q_parked := by have := hi.q_parked; simp only [k_upd, getElem?_snoc]; grind
    q_ent := by have := hi.q_ent; simp only [k_upd, getElem?_snoc]; grind
    q_dist := by have := hi.q_dist; simp only [getElem?_snoc]; grind
    w_next := by
      have := hi.w_next; simp only [k_upd, List.length_append, List.length_singleton]; grind
    cnt := by rw [hann]; exact hi.cnt
    wake_ann := by rw [hann]; mx_close hi.wake_ann
    free := by rw [hann]; mx_close hi.free
    cs_held := by mx_close hi.cs_held }

/-- `prev->next = node`: the entry becomes visible to the consumer, the waiter parks -/
theorem Inv.link {s : St} (hi : Inv s) {f m i : Nat} {p : Pc} (hp : p.k = .parked)
    (hpc : (s.pc f).k = .xchgd m i) :
    Inv { s with linked := upd s.linked i true, pc := upd s.pc f p } := by
  have hno : s.owner ≠ some f := by
    intro h; have := hi.owner_hold f h; simp [hpc, K.isHold] at this
  have hann : Ann { s with linked := upd s.linked i true, pc := upd s.pc f p } = Ann s := by
    funext g; simp only [Ann]
    rw [ann_move (by simp [hp, hpc, annK, hno]) (fun _ _ => rfl)]
  have hq := hi.q_xchgd f m i hpc
  exact { hi with
    hold_owner := by mx_close hi.hold_owner
    owner_hold := by mx_close hi.owner_hold
    wake_free := by mx_close hi.wake_free
    pop_one := by mx_close hi.pop_one
    post_waking := by mx_close hi.post_waking
    waking_owner := by mx_close hi.waking_owner
    lnk_bound := by have := hi.lnk_bound; simp only [upd]; grind
    q_xchgd := by have := hi.q_xchgd; have := hi.q_dist; simp only [upd]; grind
    q_parked := by have := hi.q_parked; simp only [upd]; grind
    q_ent := by have := hi.q_ent; have := hi.q_dist; simp only [upd]; grind
    w_next := by have := hi.w_next; simp only [upd]; grind
    cnt := by rw [hann]; exact hi.cnt
    wake_ann := by rw [hann]; mx_close hi.wake_ann
    free := by rw [hann]; mx_close hi.free
    cs_held := by mx_close hi.cs_held }

/-- the release `fetch_add`: `p` is `unlockDone` (nobody announced) or `wakeLoop` -/
theorem Inv.release {s : St} (hi : Inv s) {f : Nat} {p : Pc} (hpc : (s.pc f).k = .hold)
    (hp : if s.counter + 1 = 1 then p.k = .other else p.k = .w) :
    Inv { s with counter := s.counter + 1, owner := none, pc := upd s.pc f p } := by
  obtain ⟨ho, hw, hnp, n, hc, hn⟩ := hi.at_hold hpc
  have hp' : p.k = .other ∨ p.k = .w := by split at hp <;> simp [hp]
  have hann : Ann { s with counter := s.counter + 1, owner := none, pc := upd s.pc f p } = Ann s := by
    funext g; simp only [Ann]
    rw [ann_move (by rcases hp' with h | h <;> simp [h, hpc, annK])
      (fun g hg => by rw [ho, annK_some_ne hg])]
  have hnw : ∀ g, ¬ (s.pc g).k.isWake := fun g h => hnp g (h.elim .inl (.inr ∘ .inl))
  exact { hi with
    hold_owner := by mx_close hi.hold_owner
    owner_hold := by simp
    wake_free := by mx_close hnw
    pop_one := by mx_close hnp
    post_waking := by mx_close hi.post_waking
    waking_owner := by simp [hw]
    q_xchgd := by mx_close hi.q_xchgd
    q_parked := by mx_close hi.q_parked
    q_ent := by mx_close hi.q_ent
    w_next := by mx_close hi.w_next
    cnt := by rw [hann]; exact ⟨n, hc, by simp only []; simp; omega⟩
    wake_ann := by
      rw [hann]; intro g hg
      simp only [k_upd] at hg
      split at hg
      · split at hp
        · rw [hp] at hg; simp [K.isWake] at hg
        · exact hc.pos (by omega)
      · exact absurd hg (hnw g)
    free := by
      rw [hann]; intro g hg
      split at hp
      · have : n = 0 := by omega
        subst this; exact absurd hg (Card.zero_iff.1 hc g)
      · right; exact ⟨f, by simp [hp, K.isWake]⟩
    cs_held := by mx_close And.intro hi.cs_held hi.hold_owner }

theorem Inv.pop_target {s : St} (hi : Inv s) {f n g : Nat} (hpc : (s.pc f).k = .wNext)
    (hq : s.order[s.hd]? = some (n, g)) :
    s.owner = none ∧ s.waking = false ∧ (s.pc g).k = .parked ∧ Ann s g ∧ g ≠ f := by
  obtain ⟨ho, hw⟩ := hi.wake_free f (Or.inr hpc)
  have hl := (hi.w_next f hpc).2
  have hg : (s.pc g).k = .parked := by
    rcases hi.q_ent s.hd n g (Nat.le_refl _) hq with h | h
    · have := (hi.q_xchgd g n s.hd h).2.2; rw [hl] at this; cases this
    · exact h.1
  refine ⟨ho, hw, hg, by simp [Ann, hg, annK, ho], ?_⟩
  intro h; subst h; rw [hpc] at hg; cases hg

/-- `head := next`: the pop takes effect, the oldest waiter becomes the owner -/
theorem Inv.pop {s : St} (hi : Inv s) {f n g x : Nat} {p : Pc} (hp : p.k = .post)
    (hpc : (s.pc f).k = .wNext) (hq : s.order[s.hd]? = some (n, g)) :
    Inv { s with headNode := x, hd := s.hd + 1, owner := some g, waking := true,
                 pc := upd s.pc f p } := by
  obtain ⟨ho, hw, hg, hag, hgf⟩ := hi.pop_target hpc hq
  have hann : ∀ y,
      Ann { s with headNode := x, hd := s.hd + 1, owner := some g, waking := true,
                   pc := upd s.pc f p } y ↔ (y ≠ g ∧ Ann s y) := by
    intro y
    simp only [Ann, k_upd]
    split
    · next hy => subst hy; simp [hp, hpc, annK]
    · next hy =>
      by_cases hyg : y = g
      · subst hyg; simp [hg, annK]
      · rw [annK_some_ne hyg, ← ho]; simp [hyg]
  obtain ⟨c, hc, hn⟩ := hi.cnt
  rw [ho] at hn; simp at hn
  obtain ⟨hc1, hc'⟩ := hc.erase g hag hann
  exact { hi with
    hold_owner := by mx_close hi.hold_owner
    owner_hold := by mx_close hi.owner_hold
    wake_free := by mx_close hi.pop_one
    pop_one := by mx_close hi.pop_one
    post_waking := by simp
    waking_owner := by mx_close hi.waking_owner
    hd_le := (hi.w_next f hpc).1
    q_xchgd := by mx_close hi.q_xchgd
    q_parked := by mx_close And.intro hi.q_parked hi.q_dist
    q_ent := by mx_close And.intro hi.q_ent hi.q_dist
    q_dist := fun i j n n' y hi' hj =>
      hi.q_dist i j n n' y (Nat.le_of_succ_le hi') (Nat.le_of_succ_le hj)
    w_next := by mx_close hi.pop_one
    cnt := ⟨c - 1, hc', by simp only []; simp; omega⟩
    wake_ann := by mx_close hi.pop_one
    free := fun y _ => .inl (by simp)
    cs_held := by mx_close And.intro hi.cs_held hi.hold_owner }

/-- the waker's last access to the woken fiber: it will now call `fiber_manager_schedule`.
    It leaves the wake code, then, nobody being past a pop any more, `waking` is cleared. -/
theorem Inv.wakeDone {s : St} (hi : Inv s) {f : Nat} {p : Pc} (hp : p.k = .other)
    (hpc : (s.pc f).k = .post) :
    Inv { s with waking := false, pc := upd s.pc f p } := by
  have h1 := hi.reclass (.inr (.inr (.inr (.inr ⟨hp, hpc⟩))))
  have hnp : ∀ g, (upd s.pc f p g).k ≠ .post := by mx_close hi.pop_one
  exact { h1 with
    wake_free := fun g hg => ⟨(h1.wake_free g hg).1, rfl⟩
    post_waking := fun g hg => absurd hg (hnp g)
    waking_owner := nofun }

/-- harness notes `cs enter` / `cs exit` -/
theorem Inv.csFrame {s : St} (hi : Inv s) {l : List Nat} {sn : Nat → Nat} {d : Nat}
    (h1 : ∀ f, f ∈ l → (s.pc f).k = .held) (h2 : l.Nodup) (h3 : ∀ f, f ∈ l → sn f = d) :
    Inv { s with inCs := l, seen := sn, data := d } :=
  { hi with cs_held := h1, cs_nodup := h2, cs_seen := h3 }

theorem Inv.inCs_cases {s : St} (hi : Inv s) :
    s.inCs = [] ∨ ∃ f, s.inCs = [f] ∧ s.owner = some f ∧ s.pc f = .held := by
  have hown : ∀ g, g ∈ s.inCs → s.owner = some g ∧ s.pc g = .held := fun g hg =>
    ⟨hi.hold_owner g (Or.inr (hi.cs_held g hg)), (k_held _).1 (hi.cs_held g hg)⟩
  have hnd := hi.cs_nodup
  cases hl : s.inCs with
  | nil => exact Or.inl rfl
  | cons a l =>
    right
    rw [hl] at hown hnd
    cases l with
    | nil => exact ⟨a, rfl, hown a (by simp)⟩
    | cons b l =>
      exfalso
      have h1 := (hown a (by simp)).1
      have h2 := (hown b (by simp)).1
      rw [h1] at h2; cases h2
      simp at hnd

theorem Inv.inCs_of_held {s : St} (hi : Inv s) {f : Nat} (h : s.pc f = .held) :
    s.inCs = [] ∨ s.inCs = [f] := by
  rcases hi.inCs_cases with h0 | ⟨g, h1, h2, -⟩
  · exact .inl h0
  · have := hi.hold_owner f (Or.inr (congrArg Pc.k h))
    rw [h2] at this; cases this; exact .inr h1

theorem inv_step {s s' : St} {e : Ev} (hi : Inv s) (hs : step s e = some s') : Inv s' := by
  cases Step.of_step hs with
  | callLock h | wStateSelf h | rNode h | wNextClear h | callTry h | casFail h | retTryFail h
  | rHead h | rNextNone h | rDataNext h | rDataOut h | rStateWaiting h | retUnlock h =>
    exact hi.move (congrArg Pc.k h).symm
  | wDataSelf h | wDataPop h | wNodeClear h | wNodeGive h =>
    -- the invariant reads neither `fnode` nor `ndata`
    exact { hi.move (by rw [h]; rfl) with }
  | fsubAcq h h1 h2 => subst h1; exact hi.acquire rfl (congrArg Pc.k h) h2
  | fsubWait h h1 h2 => subst h1; exact hi.announce (p := .lockDec _) rfl (congrArg Pc.k h) h2
  | casOk h h1 h2 =>
    subst h1
    have := hi.acquire (p := .tryDone true) rfl (congrArg Pc.k h) h2
    rw [h2] at this; exact this
  | xchgTail h => exact hi.enqueue rfl (congrArg Pc.k h)
  | wNextLink h => exact hi.link (m := _) rfl (congrArg Pc.k h)
  | retLockWoken h ho hw => exact hi.resume rfl (congrArg Pc.k h) ho hw
  | retLock h | retTryOk h => exact hi.reclass (.inr (.inl ⟨.inr rfl, .inl (congrArg Pc.k h), fun _ => rfl⟩))
  | callUnlock h _ hn =>
    exact hi.reclass (.inr (.inl ⟨.inl rfl, .inr (congrArg Pc.k h), fun hc => absurd hc hn⟩))
  | csEnter h hn =>
    have h0 : s.inCs = [] := (hi.inCs_of_held h).resolve_right (fun h1 => hn (by simp [h1]))
    exact hi.csFrame (by simp [h0, h, Pc.k]) (by simp [h0]) (by simp [h0])
  | csExit h hin =>
    have h1 := (hi.inCs_of_held h).resolve_left (fun h0 => by simp [h0] at hin)
    exact hi.csFrame (by simp [h1]) (by simp [h1]) (by simp [h1])
  | faddFree h h1 h2 => subst h1; exact hi.release (congrArg Pc.k h) (by rw [if_pos h2]; rfl)
  | faddWake h h1 h2 => subst h1; exact hi.release (congrArg Pc.k h) (by rw [if_neg h2]; rfl)
  | rNextSome h h1 h0 =>
    exact hi.reclass (.inr (.inr (.inr (.inl ⟨rfl, congrArg Pc.k h, (headNext_some h1 h0).2⟩))))
  | wHead h hq => exact hi.pop rfl (congrArg Pc.k h) hq
  | wStateWake h | rStateSaving h => exact hi.wakeDone rfl (congrArg Pc.k h)

theorem inv_of_run {stub : Nat} {nodeOf : Nat → Nat} {es : List Ev} {s : St}
    (h : (sys stub nodeOf).run es = some s) : Inv s :=
  Sys.inv_of_run (sys stub nodeOf) Inv (inv_init stub nodeOf) (fun _ _ _ hi hs => inv_step hi hs) h

/-- occupancy tracker on the `cs enter` / `cs exit` notes: strict alternation -/
def csTrack (l : List Nat) : Ev → Option (List Nat)
  | .csEnter f => if l = [] then some [f] else none
  | .csExit f _ => if l = [f] then some [] else none
  | _ => some l

theorem cs_flow {s s' : St} {e : Ev} (hi : Inv s) (h : Step s e s') :
    csTrack s.inCs e = some s'.inCs := by
  cases h
  case csEnter h hn =>
    have h0 : s.inCs = [] := (hi.inCs_of_held h).resolve_right (fun h1 => hn (by simp [h1]))
    simp [csTrack, h0]
  case csExit h hin _ =>
    have h1 := (hi.inCs_of_held h).resolve_left (fun h0 => by simp [h0] at hin)
    simp [csTrack, h1]
  all_goals rfl

theorem data_flow {s s' : St} {e : Ev} (hi : Inv s) (h : Step s e s') :
    s'.data = s.data + (if isCsExit e then 1 else 0) := by
  cases h
  case csExit h hin hv => simp [isCsExit, hv, hi.cs_seen _ hin]
  all_goals simp [isCsExit]

inductive LockEv
  | acq (f : Nat)
  | rel (f : Nat)
  deriving Repr, DecidableEq

/-- specification: an atomic lock whose state is its owner -/
def lockStep : Option Nat → LockEv → Option (Option Nat)
  | none, .acq f => some (some f)
  | some g, .rel f => if g = f then some none else none
  | _, _ => none

def Lock : Sys (Option Nat) LockEv := { init := none, step := lockStep }

/-- linearisation points: uncontended `fetch_sub`, successful trylock CAS and the waker's
    `head := next` (on behalf of the popped waiter) acquire; the `fetch_add` releases -/
def absEv (s : St) : Ev → Option LockEv
  | .fsub f old => if old = 1 then some (.acq f) else none
  | .casCounter f _ ok => if ok then some (.acq f) else none
  | .wHead _ _ => match s.order[s.hd]? with
    | some (_, g) => some (.acq g)
    | none => none
  | .fadd f _ => some (.rel f)
  | _ => none

theorem owner_step {s s' : St} {e : Ev} (hi : Inv s) (hs : step s e = some s') :
    match absEv s e with
    | none => s'.owner = s.owner
    | some a => lockStep s.owner a = some s'.owner := by
  cases Step.of_step hs with
  | fsubAcq _ h1 h2 => simp [absEv, h2, lockStep, (hi.free_of_one (h1 ▸ h2)).1]
  | fsubWait _ _ h2 => simp [absEv, h2]
  | casOk _ h1 h2 => simp [absEv, lockStep, (hi.free_of_one (h1 ▸ h2)).1]
  | wHead h hq => simp [absEv, hq, lockStep, (hi.pop_target (congrArg Pc.k h) hq).1]
  | faddFree h | faddWake h => simp [absEv, lockStep, hi.hold_owner _ (Or.inl (congrArg Pc.k h))]
  | _ => simp [absEv]

theorem counts_from {stub : Nat} {nodeOf : Nat → Nat} {es : List Ev} {s s' : St} (hi : Inv s)
    (h : (sys stub nodeOf).runFrom s es = some s') :
    s'.hd = s.hd + es.countP isPopEv ∧ s'.data = s.data + es.countP isCsExit :=
  Sys.runFrom_rel Inv
    (fun s es s' => s'.hd = s.hd + es.countP isPopEv ∧ s'.data = s.data + es.countP isCsExit)
    (fun _ _ _ => inv_step) (fun _ => ⟨rfl, rfl⟩)
    (fun s e s1 es s' hi hs ih => by
      have h1 := (Step.of_step hs).hd_flow
      have h2 := data_flow hi (Step.of_step hs)
      simp only [List.countP_cons]; omega) es s s' hi h

theorem counts {stub : Nat} {nodeOf : Nat → Nat} {es : List Ev} {s : St}
    (h : (sys stub nodeOf).run es = some s) :
    s.hd = es.countP isPopEv ∧ s.data = es.countP isCsExit := by
  simpa [init] using counts_from (inv_init stub nodeOf) h

/-- the projection of a run to the linearisation points -/
def absRun : St → List Ev → List LockEv
  | _, [] => []
  | s, e :: es => match step s e with
    | none => []
    | some s' => (absEv s e).toList ++ absRun s' es

/-- from any state satisfying `Inv`, the linearisation points of a run are a run of the atomic lock
    from that state's owner to the final owner -/
theorem refines_from {stub : Nat} {nodeOf : Nat → Nat} {es : List Ev} {s s' : St} (hi : Inv s)
    (h : (sys stub nodeOf).runFrom s es = some s') :
    Lock.runFrom s.owner (absRun s es) = some s'.owner :=
  Sys.runFrom_rel Inv (fun s es s' => Lock.runFrom s.owner (absRun s es) = some s'.owner)
    (fun _ _ _ => inv_step) (fun _ => rfl)
    (fun s e s1 es s' hi hs ih => by
      have hs' : step s e = some s1 := hs
      have := owner_step hi hs'
      simp only [absRun, hs', Sys.runFrom_append]
      cases ha : absEv s e with
      | none =>
        have this : s1.owner = s.owner := by rw [ha] at this; exact this
        simpa [Sys.runFrom, ← this] using ih
      | some a =>
        have this : Lock.step s.owner a = some s1.owner := by rw [ha] at this; exact this
        simpa [Sys.runFrom, this] using ih) es s s' hi h

theorem refines {stub : Nat} {nodeOf : Nat → Nat} {es : List Ev} {s : St}
    (h : (sys stub nodeOf).run es = some s) :
    Lock.run (absRun (init stub nodeOf) es) = some s.owner :=
  refines_from (inv_init stub nodeOf) h

/-- fiber `f` holds the mutex: it is between an acquire point and its release `fetch_add`, or
    it was handed the mutex by a waker's pop and has not resumed yet -/
def Holds (s : St) (f : Nat) : Prop :=
  (s.pc f).isHold = true ∨ (s.pc f = .parked ∧ s.owner = some f)

theorem Inv.holds_iff {s : St} (hi : Inv s) (f : Nat) : Holds s f ↔ s.owner = some f := by
  constructor
  · rintro (h | h)
    · exact hi.hold_owner f ((k_isHold _).2 h)
    · exact h.2
  · intro h
    rcases hi.owner_hold f h with h1 | h1
    · exact Or.inl ((k_isHold _).1 h1)
    · exact Or.inr ⟨(k_parked _).1 h1, h⟩

theorem Inv.wake_has_waiter {s : St} (hi : Inv s) {w : Nat} (hw : (s.pc w).isWake = true) :
    s.hd < s.order.length ∨ ∃ g, (s.pc g).isPre = true := by
  obtain ⟨g, hg⟩ := hi.wake_ann w ((k_isWake _).2 hw)
  rcases (ann_iff s g).1 hg with h | ⟨m, p, i, h⟩ | ⟨h, ho⟩
  · exact Or.inr ⟨g, h⟩
  · obtain ⟨h1, h2, -⟩ := hi.q_xchgd g m i (congrArg Pc.k h)
    have := (List.getElem?_eq_some_iff.1 h1).1; exact Or.inl (by omega)
  · obtain ⟨i, n, h1, h2, -⟩ := hi.q_parked g (congrArg Pc.k h) ho
    have := (List.getElem?_eq_some_iff.1 h2).1; exact Or.inl (by omega)

theorem Inv.wake_exit {s s' : St} {e : Ev} (hi : Inv s) (hs : step s e = some s') {w : Nat}
    (hw : (s.pc w).isWake = true) :
    (s'.pc w).isWake = true ∨
    ∃ x n g, e = .wHead w x ∧ s.order[s.hd]? = some (n, g) ∧ Ann s g ∧ s.pc g = .parked ∧
      s.owner = none ∧ s'.owner = some g ∧ s'.hd = s.hd + 1 ∧ (s'.pc w).isPost = true := by
  have h := Step.of_step hs
  by_cases hwe : w = actor e
  · subst hwe
    cases h with
    | wHead hpc hq =>
      obtain ⟨h1, -, h3, h4, -⟩ := hi.pop_target (congrArg Pc.k hpc) hq
      exact .inr ⟨_, _, _, rfl, hq, h4, (k_parked _).1 h3, h1, rfl, rfl, by simp [actor, Pc.isPost]⟩
    | _ => simp_all [actor, Pc.isWake]
  · rw [h.pc_other hwe]; exact .inl hw

theorem Inv.fadd_step {s s' : St} (hi : Inv s) {f : Nat} {old : Int}
    (hs : step s (.fadd f old) = some s') :
    s.pc f = .unlockCalled ∧ old = s.counter ∧ s.owner = some f ∧ s'.owner = none ∧
    (if old + 1 = 1 then s'.pc f = .unlockDone ∧ ∀ g, ¬ Ann s g
     else s'.pc f = .wakeLoop ∧ ∃ g, Ann s g) := by
  cases Step.of_step hs with
  | faddFree hpc h1 h2 =>
    obtain ⟨ho, -, -, n, hc, hn⟩ := hi.at_hold (f := f) (congrArg Pc.k hpc)
    have : n = 0 := by omega
    subst this
    exact ⟨hpc, h1, ho, rfl, by rw [if_pos h2]; exact ⟨by simp, Card.zero_iff.1 hc⟩⟩
  | faddWake hpc h1 h2 =>
    obtain ⟨ho, -, -, n, hc, hn⟩ := hi.at_hold (f := f) (congrArg Pc.k hpc)
    exact ⟨hpc, h1, ho, rfl, by rw [if_neg h2]; exact ⟨by simp, hc.pos (by omega)⟩⟩

theorem Inv.acquire_free {s : St} (hi : Inv s) (h1 : s.counter = 1) :
    s.owner = none ∧ (∀ g, ¬ Ann s g) ∧ ∀ g, (s.pc g).isPop = false := by
  obtain ⟨ho, hf, -, hp⟩ := hi.at_free h1
  exact ⟨ho, hf, fun g => Bool.eq_false_iff.2 fun h => hp g ((k_isPop _).2 h)⟩

theorem cas_step {s s' : St} {f : Nat} {found : Int} {ok : Bool}
    (hs : step s (.casCounter f found ok) = some s') :
    s.pc f = .tryCalled ∧ found = s.counter ∧ (ok = true ↔ found = 1) ∧
      (ok = true → s'.owner = some f ∧ s'.counter = 0) ∧ (ok = false → s'.owner = s.owner ∧ s'.counter = s.counter) := by
  cases Step.of_step hs <;> simp_all

theorem fsub_step {s s' : St} {f : Nat} {old : Int} (hs : step s (.fsub f old) = some s') :
    s.pc f = .lockCalled ∧ old = s.counter ∧ s'.counter = old - 1 ∧
      (if old = 1 then s'.owner = some f ∧ s'.pc f = .acquired
       else s'.owner = s.owner ∧ s'.pc f = .lockDec old) := by
  cases Step.of_step hs <;> simp_all

/-- the harness's occupancy monitor never fires on a trace whose notes alternate -/
theorem monitor_go_none : ∀ (es : List Ev) (l l' : List Nat),
    es.foldlM csTrack l = some l' → monitor.go l es = none := by
  intro es
  induction es with
  | nil => intro l l' _; simp [monitor.go]
  | cons e es ih =>
    intro l l' h
    simp only [List.foldlM_cons] at h
    cases h1 : csTrack l e with
    | none => simp [h1] at h
    | some l1 =>
      simp [h1] at h
      cases e <;> simp [csTrack] at h1 <;> try (subst h1; simp only [monitor.go]; exact ih _ _ h)
      · obtain ⟨rfl, rfl⟩ := h1; simp [monitor.go]; exact ih _ _ h
      · obtain ⟨rfl, rfl⟩ := h1; simp [monitor.go]; exact ih _ _ h

end LibfiberVerif.Mutex
