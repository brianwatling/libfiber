/-
  Proof/Spin.lean — the ticket spinlock model (property C18) as an instance of the abstract
  ticket lock of `Proof/TicketLock.lean`: its accepted steps by kind (`Step`), the invariant
  `Good` (the abstract lock over the ghost counters, and the 32-bit lock word against them),
  and the field-by-field invariants `Inv`, `QInv` as views of it; then what lies beyond the
  invariant: a bound on the number of threads bounds the outstanding tickets, and `trylock` is
  a straight-line program.
-/
import LibfiberVerif.Model.Spin
import LibfiberVerif.Proof.TicketLock

namespace LibfiberVerif.Spin

local macro "M32" : term => `((4294967296 : Nat))

/-- Fewer than 2^32 tickets are outstanding (holder + queued contenders). -/
def Bnd (s : St) : Prop := s.gUsers - s.gTicket < M32

structure Inv (s : St) : Prop where
  tk : s.ticket = s.gTicket % M32
  us : s.users = s.gUsers % M32
  le : s.gTicket ≤ s.gUsers
  spin : ∀ t my g, s.pc t = .spinning my g → my = g % M32 ∧ s.gTicket ≤ g ∧ g < s.gUsers
  inj : ∀ t1 t2 my1 my2 g, s.pc t1 = .spinning my1 g → s.pc t2 = .spinning my2 g → t1 = t2
  hold : ∀ t, holder (s.pc t) = true →
    s.gTicket < s.gUsers ∧ ∀ t' my g, s.pc t' = .spinning my g → g ≠ s.gTicket
  excl : ∀ t1 t2, holder (s.pc t1) = true → holder (s.pc t2) = true → t1 = t2
  unl : ∀ t x, s.pc t = .unlockRead x → x = s.ticket

/-- `q` = the waiting `lock` callers (thread, ghost ticket) in the order of their fetch_add -/
structure QInv (s : St) (q : List (Nat × Nat)) : Prop where
  ord : s.order = s.acq ++ q.map Prod.fst
  mem : ∀ t g, (t, g) ∈ q ↔ ∃ my, s.pc t = .spinning my g
  sorted : q.Pairwise (fun a b => a.2 < b.2)

/-- thread of a `fetch_add(users)` event (a ticket taken by `lock`) -/
def faddTid : Ev → Option Nat
  | .faddUsers t _ => some t
  | _ => none

/-- thread of a `ret lock` note -/
def retLockTid : Ev → Option Nat
  | .retLock t => some t
  | _ => none

/-! ### the accepted steps -/

/-- the accepted steps that touch nothing but the pc of their thread `t`, the lock word holding
    `(tk, us)`: event, pc before, pc after -/
inductive PcStep (tk us t : Nat) : Ev → Pc → Pc → Prop
  | callLock : PcStep tk us t (.callLock t) .idle .lockCalled
  | retLock : PcStep tk us t (.retLock t) .lockDone .held
  | csEnter : PcStep tk us t (.csEnter t) .held .inCs
  | csExit : PcStep tk us t (.csExit t) .inCs .held
  | callUnlock : PcStep tk us t (.callUnlock t) .held .unlockCalled
  | ldUnlock : PcStep tk us t (.ldTicket t tk) .unlockCalled (.unlockRead tk)
  | retUnlock : PcStep tk us t (.retUnlock t) .unlockDone .idle
  | callTry : PcStep tk us t (.callTry t) .idle .tryCalled
  | ldBlob : PcStep tk us t (.ldBlob t tk us) .tryCalled (.tryRead tk us)
  | casFail {x u : Nat} (h : ¬(tk = u ∧ us = u)) :
      PcStep tk us t (.casBlob t tk us u u u ((u + 1) % M32) false) (.tryRead x u) (.tryDone false)
  | retTryOk : PcStep tk us t (.retTry t 1) (.tryDone true) .held
  | retTryFail : PcStep tk us t (.retTry t 0) (.tryDone false) .idle

/-- the accepted steps: those of `PcStep`, one more turn of the spin loop, and the four operations
    on the lock word -/
inductive Step (s : St) : Ev → St → Prop
  | pc {t : Nat} {e : Ev} {p c : Pc} (hp : s.pc t = p) (h : PcStep s.ticket s.users t e p c) :
      Step s e { s with pc := upd s.pc t c }
  | spin {t my g : Nat} (hp : s.pc t = .spinning my g) (hne : s.ticket ≠ my) :
      Step s (.ldTicket t s.ticket) s
  | draw {t : Nat} (hp : s.pc t = .lockCalled) :
      Step s (.faddUsers t s.users)
        { s with users := (s.users + 1) % M32, gUsers := s.gUsers + 1, order := s.order ++ [t],
                 pc := upd s.pc t (.spinning s.users s.gUsers) }
  | enter {t g : Nat} (hp : s.pc t = .spinning s.ticket g) :
      Step s (.ldTicket t s.ticket) { s with acq := s.acq ++ [t], pc := upd s.pc t .lockDone }
  | tryAcq {t x : Nat} (hp : s.pc t = .tryRead x s.users) (hi : s.ticket = s.users) :
      Step s (.casBlob t s.ticket s.users s.users s.users s.users ((s.users + 1) % M32) true)
        { s with ticket := s.users, users := (s.users + 1) % M32, gUsers := s.gUsers + 1,
                 pc := upd s.pc t (.tryDone true) }
  | release {t y : Nat} (hp : s.pc t = .unlockRead y) :
      Step s (.stTicket t ((y + 1) % M32))
        { s with ticket := (y + 1) % M32, gTicket := s.gTicket + 1, pc := upd s.pc t .unlockDone }

theorem Step.of_step {s s' : St} {e : Ev} (hs : step s e = some s') : Step s e s' := by
  cases e <;> simp only [step] at hs
  case ldTicket t x =>
    split at hs
    · next hp =>
      split at hs
      · next h1 =>
        subst h1
        split at hs <;> cases hs
        · next h2 => subst h2; exact .enter hp
        · next h2 => exact .spin hp h2
      · cases hs
    · next hp => split at hs <;> cases hs; next h1 => subst h1; exact .pc hp .ldUnlock
    · cases hs
  case casBlob t ftk fus etk eus dtk dus ok =>
    split at hs
    · next hp =>
      split at hs
      · next hc =>
        obtain ⟨rfl, rfl, rfl, rfl, rfl, rfl, h⟩ := hc
        split at hs <;> cases hs
        · next hok =>
          subst hok
          obtain ⟨h1, rfl⟩ : s.ticket = _ ∧ s.users = _ := by simpa using h
          exact .tryAcq hp h1
        · next hok =>
          cases ok <;> simp at hok
          exact .pc hp (.casFail (by simpa using h))
      · cases hs
    · cases hs
  case faddUsers t old =>
    split at hs
    · next hp => split at hs <;> cases hs; next h1 => subst h1; exact .draw hp
    · cases hs
  case stTicket t x =>
    split at hs
    · next hp => split at hs <;> cases hs; next h1 => subst h1; exact .release hp
    · cases hs
  case ldBlob t tk us =>
    split at hs <;> cases hs
    next hc => obtain ⟨hp, rfl, rfl⟩ := hc; exact .pc hp .ldBlob
  case retTry t r =>
    split at hs
    · next hp => split at hs <;> cases hs; next h1 => subst h1; exact .pc hp .retTryOk
    · next hp => split at hs <;> cases hs; next h1 => subst h1; exact .pc hp .retTryFail
    · cases hs
  all_goals
    split at hs <;> cases hs
    next hp => exact .pc hp (by constructor)

theorem PcStep.tid {tk us t : Nat} {e : Ev} {p c : Pc} (h : PcStep tk us t e p c) : e.tid = t := by
  cases h <;> rfl

theorem Step.other_pc {s s' : St} {e : Ev} (hs : Step s e s') {t : Nat} (ht : e.tid ≠ t) :
    s'.pc t = s.pc t := by
  cases hs with
  | spin => rfl
  | pc _ h => exact upd_other _ _ _ _ (h.tid ▸ ht).symm
  | draw | enter | tryAcq | release => exact upd_other _ _ _ _ (Ne.symm ht)

theorem Step.order {s s' : St} {e : Ev} (hs : Step s e s') :
    s'.order = s.order ++ (faddTid e).toList := by
  cases hs with
  | pc _ h => cases h <;> simp [faddTid]
  | _ => simp [faddTid]

/-! ### the model as a ticket lock -/

/-- what a thread is to the lock -/
def role : Pc → TicketRole
  | .spinning _ g => .wait g
  | c => if holder c then .hold else .out

theorem role_hold {c : Pc} : role c = .hold ↔ holder c = true := by
  cases c <;> try rfl
  case spinning => simp [role, holder]
  all_goals simp [role]

theorem role_wait {c : Pc} {g : Nat} : role c = .wait g ↔ ∃ my, c = .spinning my g := by
  cases c <;> simp [role] <;> split <;> simp

/-- a `PcStep` leaves the role of its thread as it is, leads neither into the spin loop nor to
    `lockDone`, records the current ticket if it is the load of `unlock`, and leaves `lockDone`
    only by the `ret lock` note -/
theorem PcStep.spec {tk us t : Nat} {e : Ev} {p c : Pc} (h : PcStep tk us t e p c) :
    role c = role p ∧ (∀ my g, c ≠ .spinning my g) ∧ (∀ x, c = .unlockRead x → x = tk) ∧
      c ≠ .lockDone ∧ retLockTid e = if p = .lockDone then some t else none := by
  cases h <;> exact ⟨rfl, nofun, by simp, nofun, rfl⟩

/-- the lock word and the values the threads have read, against the unbounded ghost counters -/
structure Cpl (ticket users gTicket gUsers : Nat) (pc : Nat → Pc) : Prop where
  tk : ticket = gTicket % M32
  us : users = gUsers % M32
  my : ∀ t my g, pc t = .spinning my g → my = g % M32
  unl : ∀ t x, pc t = .unlockRead x → x = ticket

theorem Cpl.move {ticket users gTicket gUsers : Nat} {pc : Nat → Pc}
    (hc : Cpl ticket users gTicket gUsers pc) {t : Nat} {c : Pc}
    (h2 : ∀ my g, c = .spinning my g → my = g % M32) (hu : ∀ x, c = .unlockRead x → x = ticket) :
    Cpl ticket users gTicket gUsers (upd pc t c) :=
  { hc with
    my := forall_upd (P := fun _ c => ∀ my g, c = Pc.spinning my g → my = g % M32) h2 fun j _ => hc.my j
    unl := forall_upd (P := fun _ c => ∀ x, c = Pc.unlockRead x → x = ticket) hu fun j _ => hc.unl j }

/-- the thread of `h`, if its spin loop has exited and it has not yet returned from `lock` -/
def exited (pc : Nat → Pc) (h : Option Nat) : List Nat :=
  (h.filter fun t => pc t = .lockDone).toList

/-- a pc step of `t` that does not concern `lockDone` -/
theorem exited_upd {pc : Nat → Pc} {t : Nat} {c : Pc} (h : Option Nat) (h1 : pc t ≠ .lockDone)
    (h2 : c ≠ .lockDone) : exited (upd pc t c) h = exited pc h := by
  cases h with
  | none => rfl
  | some t0 => by_cases e : t0 = t <;> simp [exited, Option.filter, upd, e, h1, h2]

/-- the abstract ticket lock with the ghosts `gTicket`, `gUsers` as its counters, holder `h` and
    waiting threads `q`; `Cpl`; and `rl` = the threads that have returned from `lock`, in this
    order (the last of `acq` may still be on its way out of the spin loop) -/
structure Good (s : St) (h : Option Nat) (q rl : List Nat) : Prop where
  lock : TicketLock s.gTicket s.gUsers (fun t => role (s.pc t)) s.order s.acq h q
  cpl : Cpl s.ticket s.users s.gTicket s.gUsers s.pc
  ret : s.acq = rl ++ exited s.pc h

theorem good_init (v0 : Nat) : Good (init v0) none [] [] :=
  ⟨.init v0, by constructor <;> simp [init], rfl⟩

variable {s s' : St} {e : Ev} {h : Option Nat} {q rl : List Nat}

/-- The one place where wrap-around is argued: with fewer than 2^32 tickets outstanding, a waiter
    that reads its 32-bit ticket holds the ghost ticket being served. -/
theorem Good.served (hg : Good s h q rl) (hb : Bnd s) {t g : Nat}
    (hp : s.pc t = .spinning s.ticket g) : g = s.gTicket := by
  have := hg.lock.wait_bounds (t := t) (g := g) (by rw [hp]; rfl)
  have := hg.cpl.my t _ g hp
  have := hg.cpl.tk
  unfold Bnd at hb
  omega

/-- likewise for `trylock`: equal 32-bit halves mean that no ticket is outstanding -/
theorem Good.idle (hg : Good s h q rl) (hb : Bnd s) (hi : s.ticket = s.users) :
    s.gTicket = s.gUsers := by
  have := hg.lock.le
  have := hg.cpl.tk
  have := hg.cpl.us
  unfold Bnd at hb
  omega

theorem Good.free (hg : Good s none q rl) (t : Nat) : holder (s.pc t) = false :=
  Bool.eq_false_iff.mpr fun hh => hg.lock.free t (role_hold.mpr hh)

theorem Good.step (hg : Good s h q rl) (hb : Bnd s) (hs : Step s e s') :
    ∃ h' q', Good s' h' q' (rl ++ (retLockTid e).toList) := by
  obtain ⟨l, hc, hr⟩ := hg
  have htk := hc.tk
  have hus := hc.us
  cases hs with
  | spin => exact ⟨h, q, l, hc, by simpa [retLockTid] using hr⟩
  | @pc t e p c hp hpc =>
    obtain ⟨hro, hns, hu, hnd, hret⟩ := hpc.spec
    refine ⟨h, q, l.move (r := role) (hp ▸ hro), hc.move (fun my g e => absurd e (hns my g)) hu, ?_⟩
    rw [hret]
    split
    · next e =>
      -- `ret lock`: the thread is the holder, the last of `acq`
      obtain rfl := (l.hold t).mp (by rw [hp, e]; rfl)
      simpa [exited, Option.filter, hp, e, hnd] using hr
    · next e => simpa [exited_upd h (hp ▸ e) hnd] using hr
  | @draw t hp =>
    exact ⟨h, q ++ [t], .of_upd (r := role) (l.draw (by rw [hp]; rfl)),
      { hc.move (t := t) (c := .spinning s.users s.gUsers) (fun my g e => by cases e; exact hus) nofun with
        us := by show (s.users + 1) % M32 = (s.gUsers + 1) % M32; omega },
      by simpa [retLockTid, exited_upd (c := Pc.spinning s.users s.gUsers) h
            (show s.pc t ≠ .lockDone by rw [hp]; nofun) nofun] using hr⟩
  | @enter t g hp =>
    obtain rfl := Good.served ⟨l, hc, hr⟩ hb hp
    obtain ⟨rfl, rest, -, l'⟩ := l.enter (t := t) (by rw [hp]; rfl)
    exact ⟨some t, rest, .of_upd (r := role) l', hc.move nofun nofun,
      by simpa [retLockTid, exited, Option.filter] using hr⟩
  | @tryAcq t x hp hi =>
    obtain ⟨rfl, rfl, l'⟩ := l.tryAcq (t := t) (Good.idle ⟨l, hc, hr⟩ hb hi)
    exact ⟨some t, [], .of_upd (r := role) l',
      { hc.move (t := t) (c := .tryDone true) nofun nofun with
        tk := hi ▸ htk
        us := by show (s.users + 1) % M32 = (s.gUsers + 1) % M32; omega
        unl := fun j x h => by rw [← hi]; exact (hc.move (t := t) (c := .tryDone true) nofun nofun).unl j x h },
      by simpa [retLockTid, exited, Option.filter] using hr⟩
  | @release t y hp =>
    have hh : role (s.pc t) = .hold := by rw [hp]; rfl
    have hy := hc.unl t y hp
    obtain rfl := (l.hold t).mp hh
    refine ⟨none, q, .of_upd (r := role) (l.release hh), ⟨by show (y + 1) % M32 = (s.gTicket + 1) % M32; omega,
      hus, (hc.move (t := t) (c := .unlockDone) nofun nofun).my, ?_⟩,
      by simpa [retLockTid, exited, Option.filter, hp] using hr⟩
    -- `t` was the only holder: nobody else is between the two accesses of `unlock`
    refine forall_upd (P := fun _ c => ∀ x, c = Pc.unlockRead x → x = _) nofun fun j ne x hj => ?_
    exact absurd (l.excl (t1 := j) (by rw [hj]; rfl) hh) ne

/-! ### `Inv` and `QInv` are views of `Good` -/

theorem Good.inv (hg : Good s h q rl) : Inv s where
  tk := hg.cpl.tk
  us := hg.cpl.us
  le := hg.lock.le
  spin t my g hp :=
    have := hg.lock.wait_bounds (t := t) (by rw [hp]; rfl)
    ⟨hg.cpl.my t my g hp, this.1, this.2.1⟩
  inj t1 t2 _ _ g h1 h2 := hg.lock.wait_inj (g := g) (by rw [h1]; rfl) (by rw [h2]; rfl)
  hold t ht := ⟨hg.lock.lt_of_hold (role_hold.mpr ht), fun t' _ g hp =>
    (hg.lock.wait_bounds (t := t') (by rw [hp]; rfl)).2.2 t (role_hold.mpr ht)⟩
  excl t1 t2 h1 h2 := hg.lock.excl (role_hold.mpr h1) (role_hold.mpr h2)
  unl := hg.cpl.unl

theorem Good.qinv (hg : Good s h q rl) : QInv s (q.zipIdx (s.gTicket + h.toList.length)) :=
  ⟨by rw [List.zipIdx_map_fst]; exact hg.lock.ord, fun t g => (hg.lock.mem t g).symm.trans role_wait,
    TicketLock.sorted _ _⟩

/-! ### runs -/

/-- `Bnd` holds in the state before each event of the run. -/
def BoundedRun : St → List Ev → Prop
  | _, [] => True
  | s, e :: es => Bnd s ∧ match step s e with
    | none => True
    | some s' => BoundedRun s' es

theorem runFrom_cons {v0 : Nat} {s s' : St} {e : Ev} {es : List Ev}
    (h : (sys v0).runFrom s (e :: es) = some s') :
    ∃ s1, step s e = some s1 ∧ (sys v0).runFrom s1 es = some s' :=
  Sys.runFrom_cons_some.mp h

theorem good_of_runFrom {v0 : Nat} {es : List Ev} : ∀ {s0 s : St} {h : Option Nat} {q rl : List Nat},
    Good s0 h q rl → BoundedRun s0 es → (sys v0).runFrom s0 es = some s →
    (∃ h' q', Good s h' q' (rl ++ es.filterMap retLockTid)) ∧
      s.order = s0.order ++ es.filterMap faddTid := by
  induction es with
  | nil => intro s0 s h q rl hg _ hr; cases hr; exact ⟨⟨h, q, by simpa using hg⟩, by simp⟩
  | cons e es ih =>
    intro s0 s h q rl hg hb hr
    obtain ⟨s1, h1, hr'⟩ := runFrom_cons hr
    simp only [BoundedRun, h1] at hb
    obtain ⟨h', q', hg'⟩ := hg.step hb.1 (.of_step h1)
    obtain ⟨⟨h'', q'', hg''⟩, ho⟩ := ih hg' hb.2 hr'
    rw [(Step.of_step h1).order] at ho
    exact ⟨⟨h'', q'', by cases hx : retLockTid e <;> simpa [List.filterMap, hx] using hg''⟩,
      by cases hx : faddTid e <;> simpa [List.filterMap, hx] using ho⟩

theorem good_of_run {v0 : Nat} {es : List Ev} {s : St}
    (hr : (sys v0).run es = some s) (hb : BoundedRun (init v0) es) :
    ∃ h q, Good s h q (es.filterMap retLockTid) :=
  (good_of_runFrom (good_init v0) hb hr).1

theorem inv_of_run {v0 : Nat} {es : List Ev} {s : St}
    (hr : (sys v0).run es = some s) (hb : BoundedRun (init v0) es) : Inv s :=
  let ⟨_, _, hg⟩ := good_of_run hr hb
  hg.inv

theorem boundedRun_append {v0 : Nat} {es fs : List Ev} : ∀ {s0 s : St},
    (sys v0).runFrom s0 es = some s → BoundedRun s0 (es ++ fs) →
    BoundedRun s0 es ∧ BoundedRun s fs := by
  induction es with
  | nil => intro s0 s hr hb; simp [Sys.runFrom] at hr; subst hr; simpa [BoundedRun] using hb
  | cons e es ih =>
    intro s0 s hr hb
    obtain ⟨s1, h1, hr'⟩ := runFrom_cons hr
    simp only [List.cons_append, BoundedRun, h1] at hb ⊢
    exact ⟨⟨hb.1, (ih hr' hb.2).1⟩, (ih hr' hb.2).2⟩

/-! ### a bound on the number of threads bounds the outstanding tickets -/

/-- only threads `< n` take part -/
def ThreadsLt (n : Nat) (s : St) : Prop := ∀ t, s.pc t ≠ .idle → t < n

/-- The owners of the outstanding tickets are distinct threads, so there are at most as many
    tickets outstanding as there are threads: the hypothesis of the C18 theorems is implied by
    "fewer than 2^32 threads ever touch the lock". -/
theorem boundedRun_of_threads_from (n : Nat) (hn : n < M32) (es : List Ev) :
    ∀ (s0 : St) {h : Option Nat} {q rl : List Nat}, Good s0 h q rl → ThreadsLt n s0 →
      (∀ e ∈ es, e.tid < n) → BoundedRun s0 es := by
  induction es with
  | nil => intros; trivial
  | cons e es ih =>
    intro s0 h q rl hg ht hall
    have hb : Bnd s0 := by
      obtain ⟨hnd, hout⟩ := hg.lock.owners
      have := hnd.length_le_of_subset (l₂ := List.range n) fun t hm => List.mem_range.mpr <|
        ht t fun hi => hout t hm (by rw [hi]; rfl)
      have := hg.lock.tail
      simp at *
      unfold Bnd; omega
    refine ⟨hb, ?_⟩
    split
    · trivial
    · next s1 h1 =>
      obtain ⟨h', q', hg'⟩ := hg.step hb (.of_step h1)
      refine ih s1 hg' (fun t hi => ?_) fun e' he' => hall e' (by simp [he'])
      by_cases e' : e.tid = t
      · exact e' ▸ hall e (by simp)
      · exact ht t ((Step.of_step h1).other_pc e' ▸ hi)

/-! ### trylock is wait-free: no loop, never disabled -/

/-- number of own events a thread inside `trylock` still has to perform before it has returned -/
def tryRank : Pc → Nat
  | .tryCalled => 3
  | .tryRead _ _ => 2
  | .tryDone _ => 1
  | _ => 0

/-- the events a thread performs from `call trylock` on: one 8-byte load, one CAS, return -/
def TryShape (t : Nat) : Nat → List Ev → Prop
  | _, [] => True
  | 3, e :: es => (∃ a b, e = .ldBlob t a b) ∧ TryShape t 2 es
  | 2, e :: es => (∃ f1 f2 e1 e2 d1 d2 ok, e = .casBlob t f1 f2 e1 e2 d1 d2 ok) ∧ TryShape t 1 es
  | 1, e :: _ => ∃ r, e = .retTry t r
  | _, _ :: _ => True

theorem try_own_step {s s' : St} {e : Ev} {t : Nat} (hs : Step s e s') (ht : e.tid = t)
    (hk : tryRank (s.pc t) ≠ 0) :
    tryRank (s'.pc t) + 1 = tryRank (s.pc t) ∧
    (tryRank (s.pc t) = 3 → ∃ a b, e = .ldBlob t a b) ∧
    (tryRank (s.pc t) = 2 → ∃ f1 f2 e1 e2 d1 d2 ok, e = .casBlob t f1 f2 e1 e2 d1 d2 ok) ∧
    (tryRank (s.pc t) = 1 → ∃ r, e = .retTry t r) := by
  subst ht
  cases hs with
  | pc hp h => cases h <;> simp_all [tryRank, Ev.tid]
  | _ => simp_all [tryRank, Ev.tid]

theorem tryShape_of_runFrom {v0 : Nat} (t : Nat) (es : List Ev) : ∀ (s s' : St),
    tryRank (s.pc t) ≠ 0 → (sys v0).runFrom s es = some s' →
    TryShape t (tryRank (s.pc t)) (es.filter (fun e => e.tid = t)) := by
  induction es with
  | nil => intro s s' _ _; simp [TryShape]
  | cons e es ih =>
    intro s s' hk hr
    obtain ⟨s1, h1, hr'⟩ := runFrom_cons hr
    by_cases ht : e.tid = t
    · simp only [List.filter, ht, decide_true]
      obtain ⟨hdec, h3, h2, h1'⟩ := try_own_step (.of_step h1) ht hk
      have hcases : tryRank (s.pc t) = 1 ∨ tryRank (s.pc t) = 2 ∨ tryRank (s.pc t) = 3 := by
        cases hpc : s.pc t <;> simp [tryRank, hpc] at hk ⊢
      rcases hcases with hc | hc | hc
      · rw [hc]; exact h1' hc
      · rw [hc]; refine ⟨h2 hc, ?_⟩
        have : tryRank (s1.pc t) = 1 := by omega
        rw [← this]; exact ih s1 s' (by omega) hr'
      · rw [hc]; refine ⟨h3 hc, ?_⟩
        have : tryRank (s1.pc t) = 2 := by omega
        rw [← this]; exact ih s1 s' (by omega) hr'
    · simp only [List.filter, ht, decide_false]
      have := (Step.of_step h1).other_pc ht
      rw [← this]
      exact ih s1 s' (by rw [this]; exact hk) hr'

end LibfiberVerif.Spin
