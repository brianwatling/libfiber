/-
  Proof/ChanLog.lean — the linearisation log of a channel, whatever its container and creation
  mode (property C11): `sent` lists the messages in the order of their linearisation points (claim
  of a slot by the CAS on `high`, tail swap), each message handed to `send` is pending at its
  sender until then, messages are distinct and non-NULL, and a sender's linearised messages followed
  by its pending one are its calls — per-sender FIFO.
-/
import LibfiberVerif.Proof.Chan

namespace LibfiberVerif.Chan

/-- `l`, the pending message of `f` if it has one, is fresh: non-NULL, recorded as used, not in
    `sent`; and `f`'s linearised messages followed by `l` are `f`'s calls -/
def LAt (s : St) (f : Nat) (l : List Nat) : Prop :=
  (∀ v, v ∈ l → v ≠ 0 ∧ v ∈ s.used ∧ ∀ p, p ∈ s.sent → p.2 ≠ v) ∧ sentBy s f ++ l = s.calls f

structure Log (s : St) : Prop where
  vnz : ∀ p, p ∈ s.sent → p.2 ≠ 0
  vnodup : (s.sent.map Prod.snd).Nodup
  vused : ∀ p, p ∈ s.sent → p.2 ∈ s.used
  pend_uniq : ∀ f g v, v ∈ (s.pc f).pending → v ∈ (s.pc g).pending → f = g
  loc : ∀ f, LAt s f (s.pc f).pending

theorem LAt.congr {s t : St} {f : Nat} {c : List Nat} (h : LAt s f c) (hse : t.sent = s.sent) (hc : t.calls = s.calls)
    (hu : t.used = s.used) : LAt t f c := by
  unfold LAt sentBy; rw [hse, hc, hu]; exact h

theorem pend_uniq_upd {pc : Nat → Pc} (h : ∀ f g v, v ∈ (pc f).pending → v ∈ (pc g).pending → f = g)
    {f : Nat} {X : Pc} (hX : ∀ v, v ∈ X.pending → ∀ g, g ≠ f → v ∉ (pc g).pending) :
    ∀ g g' v, v ∈ (upd pc f X g).pending → v ∈ (upd pc f X g').pending → g = g' := by
  intro g g' v h1 h2; simp only [upd] at h1 h2
  split at h1 <;> split at h2
  · rename_i e1 e2; rw [e1, e2]
  · rename_i e1 e2; exact absurd h2 (hX v h1 g' e2)
  · rename_i e1 e2; exact absurd h1 (hX v h2 g e1)
  · exact h g g' v h1 h2

theorem log_init (spin : Bool) (k : Kind) (cap : Nat) : Log (initM spin k cap) := by
  constructor <;> simp [initM, sentBy, LAt, Pc.pending]

/-- `f` goes on with the same pending message -/
theorem Log.move {s t : St} (hl : Log s) {f : Nat} {a X : Pc} (hpc : s.pc f = a) (ht : t.pc = upd s.pc f X)
    (hse : t.sent = s.sent) (hc : t.calls = s.calls) (hu : t.used = s.used) (hp : X.pending = a.pending) : Log t := by
  have hf : LAt s f a.pending := hpc ▸ hl.loc f
  refine ⟨hse ▸ hl.vnz, hse ▸ hl.vnodup, hse ▸ hu ▸ hl.vused, ?_, ?_⟩
  · rw [ht]
    exact pend_uniq_upd hl.pend_uniq fun v hv g hg hv' => hg (hl.pend_uniq g f v hv' (by rw [hpc, ← hp]; exact hv))
  · rw [ht]; exact forall_upd (P := fun g (c : Pc) => LAt t g c.pending) (hp ▸ hf.congr hse hc hu) fun g _ => (hl.loc g).congr hse hc hu

theorem Log.callSend {s : St} (hl : Log s) {f v : Nat} {X : Pc} (hpc : s.pc f = .idle) (hv0 : v ≠ 0)
    (hvu : v ∉ s.used) (hX : X.pending = [v]) (sp' : Option Nat) :
    Log { s with calls := upd s.calls f (s.calls f ++ [v]), used := v :: s.used, spSender := sp',
                 pc := upd s.pc f X } := by
  have hf := hl.loc f; rw [hpc] at hf
  refine ⟨hl.vnz, hl.vnodup, fun p hp => List.mem_cons_of_mem _ (hl.vused p hp),
    pend_uniq_upd hl.pend_uniq (fun v' hv' g _ h => ?_),
    forall_upd (P := fun g (c : Pc) => LAt _ g c.pending) ⟨fun v' hv' => ?_, ?_⟩ (fun g hgf => ?_)⟩
  · rw [hX, List.mem_singleton] at hv'; exact hvu (hv' ▸ ((hl.loc g).1 v' h).2.1)
  · rw [hX, List.mem_singleton] at hv'; subst hv'
    exact ⟨hv0, List.mem_cons_self, fun p hp e => hvu (e ▸ hl.vused p hp)⟩
  · show sentBy s f ++ X.pending = upd s.calls f _ f
    rw [upd_same, hX, ← hf.2]; simp [Pc.pending]
  · obtain ⟨a, b⟩ := hl.loc g
    exact ⟨fun v' hv' => ⟨(a v' hv').1, List.mem_cons_of_mem _ (a v' hv').2.1, (a v' hv').2.2⟩,
      by show _ = upd s.calls f _ g; rw [upd_other _ _ _ _ hgf]; exact b⟩

/-- the linearisation point of a send, whatever the container: claim of a slot, tail swap -/
theorem Log.push {s t : St} (hl : Log s) {f v : Nat} {X : Pc} (hpend : (s.pc f).pending = [v])
    (ht : t.pc = upd s.pc f X) (hse : t.sent = s.sent ++ [(f, v)]) (hc : t.calls = s.calls) (hu : t.used = s.used)
    (hX : X.pending = []) : Log t := by
  obtain ⟨hvnz, hvu, hfresh⟩ := (hl.loc f).1 v (by simp [hpend])
  have hmem : ∀ p, p ∈ s.sent ++ [(f, v)] → p ∈ s.sent ∨ p = (f, v) := fun p hp => by
    simpa only [List.mem_append, List.mem_singleton] using hp
  refine ⟨fun p hp => ?_, ?_, fun p hp => ?_, ?_, ?_⟩
  · rcases hmem p (hse ▸ hp) with hp | rfl
    · exact hl.vnz p hp
    · exact hvnz
  · rw [hse, List.map_append]
    refine List.nodup_append.2 ⟨hl.vnodup, by simp, fun a ha b hb => ?_⟩
    obtain ⟨p, hp, rfl⟩ := List.mem_map.1 ha
    rw [List.map_singleton, List.mem_singleton] at hb
    exact hb ▸ hfresh p hp
  · rw [hu]
    rcases hmem p (hse ▸ hp) with hp | rfl
    · exact hl.vused p hp
    · exact hvu
  · rw [ht]; exact pend_uniq_upd hl.pend_uniq (fun _ h => by rw [hX] at h; cases h)
  · intro g
    unfold LAt sentBy; rw [ht, hse, hc, hu, sentBy_append]
    obtain ⟨a, b⟩ := hl.loc g
    by_cases hgf : g = f
    · subst hgf
      rw [upd_same, hX, if_pos rfl, List.append_nil, ← b, hpend]
      exact ⟨fun _ h => (nomatch h), rfl⟩
    · rw [upd_other _ _ _ _ hgf, if_neg (fun e => hgf e.symm), List.append_nil]
      refine ⟨fun v' hv' => ⟨(a v' hv').1, (a v' hv').2.1, fun p hp => ?_⟩, b⟩
      rcases hmem p hp with hp | rfl
      · exact (a v' hv').2.2 p hp
      · exact fun e => hgf (hl.pend_uniq g f v' hv' (by rw [hpend, ← e]; exact List.mem_singleton_self _))

/-- the node of a pending message is not in the queue / ring yet -/
theorem Log.pending_ne {s : St} (hl : Log s) {f v : Nat} (hv : v ∈ (s.pc f).pending) {i : Nat}
    (hi : i < s.sent.length) : qval s i + 1 ≠ v + 1 := fun he => by
  obtain ⟨p, hp, hpe⟩ := qval_mem s i hi
  exact ((hl.loc f).1 v hv).2.2 p hp (by omega)

theorem Log.qval_inj {s : St} (hl : Log s) {i j : Nat} (hi : i < s.sent.length) (hj : j < s.sent.length)
    (h : qval s i = qval s j) : i = j := by
  rw [qval_lt s i hi, qval_lt s j hj] at h
  have hi' : i < (s.sent.map Prod.snd).length := by simpa using hi
  have hj' : j < (s.sent.map Prod.snd).length := by simpa using hj
  have : (s.sent.map Prod.snd)[i] = (s.sent.map Prod.snd)[j] := by simpa using h
  exact (List.getElem_inj hl.vnodup).mp this

theorem Log.step {s s' : St} {e : Ev} (hl : Log s) (hs : step s e = some s') : Log s' := by
  rcases step_cases hs with ⟨pe, rfl⟩ | h | ⟨_, h⟩ | ⟨_, h⟩
  · rcases proto_shape s s' pe hs with ⟨p', rfl⟩ | ⟨p', X, rfl, ht⟩
    · exact ⟨hl.vnz, hl.vnodup, hl.vused, hl.pend_uniq, hl.loc⟩
    · exact hl.move rfl rfl rfl rfl rfl (ht.pending.2.trans ht.pending.1.symm)
  · cases h with
    | callSend hpc hg => exact hl.callSend hpc hg.1 hg.2.1 (by split <;> rfl) _
    | _ => have hpc := ‹s.pc _ = _›; exact hl.move hpc rfl rfl rfl rfl rfl
  · cases h with
    | casOk hpc _ _ => exact hl.push (by rw [hpc]; rfl) rfl rfl rfl rfl rfl
    | rBufEmpty hpc _ => exact hl.move hpc rfl rfl rfl rfl (pending_emptyPc s)
    | wBufS hpc => exact hl.move hpc rfl rfl rfl rfl (pending_pubPc s _)
    | _ => have hpc := ‹s.pc _ = _›; exact hl.move hpc rfl rfl rfl rfl rfl
  · cases h with
    | xchgTail _ hpc | stTail _ hpc => exact hl.push (by rw [hpc]; rfl) rfl rfl rfl rfl rfl
    | rNextEmpty hpc _ => exact hl.move hpc rfl rfl rfl rfl (pending_emptyPc s)
    | wNextLink hpc => exact hl.move hpc rfl rfl rfl rfl (pending_pubPc s _)
    | _ => have hpc := ‹s.pc _ = _›; exact hl.move hpc rfl rfl rfl rfl rfl

theorem log_of_run {spin : Bool} {k : Kind} {cap : Nat} {es : List Ev} {s : St}
    (h : (sysM spin k cap).run es = some s) : Log s :=
  Sys.inv_of_run (sysM spin k cap) Log (log_init spin k cap) (fun _ _ _ hl hs => hl.step hs) h

/-- `per_sender_fifo`, every kind and creation mode -/
theorem fifo_of_run {spin : Bool} {k : Kind} {cap : Nat} {es : List Ev} {s : St}
    (h : (sysM spin k cap).run es = some s) (f : Nat) :
    sentBy s f <+: s.calls f ∧ sentBy s f ++ (s.pc f).pending = s.calls f :=
  ⟨⟨_, ((log_of_run h).loc f).2⟩, ((log_of_run h).loc f).2⟩

end LibfiberVerif.Chan
