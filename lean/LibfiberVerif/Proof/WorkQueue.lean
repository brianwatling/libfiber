/-
  Proof/WorkQueue.lean — inductive invariants of the work-queue model (property C17).

  `CInv` is the counting invariant (in_count / out_count / worker set), self-contained;
  `MInv` is the invariant of the inlined MPSC fifo (chain of nodes, ownership, item values),
  proved on top of `CInv` (which supplies "only the unique active worker pops").
-/
import LibfiberVerif.Model.WorkQueue

namespace LibfiberVerif.WorkQueue

theorem Pc.popWin_retWin {p : Pc} (h : p.popWin = true) : p.retWin = true := by
  cases p <;> simp_all [Pc.popWin, Pc.retWin]

theorem Pc.retWin_isWorker {p : Pc} (h : p.retWin = true) : p.isWorker = true := by
  cases p <;> simp_all [Pc.isWorker, Pc.retWin]

theorem Pc.retWin_inGetWork {p : Pc} (h : p.retWin = true) : p.inGetWork = true := by
  cases p <;> simp_all [Pc.inGetWork, Pc.retWin]

theorem Pc.inGetWork_isWorker {p : Pc} (h : p.inGetWork = true) : p.isWorker = true := by
  cases p <;> simp_all [Pc.isWorker, Pc.inGetWork]

structure CInv (s : St) : Prop where
  /-- `in_count = announced − subtracted` -/
  cnt : s.inCount + s.subtracted = s.announced
  one : s.workers.length ≤ 1
  wk : ∀ t, (s.pc t).isWorker = true → s.workers = [t]
  pos : s.workers ≠ [] → 1 ≤ s.inCount
  idle0 : s.workers = [] →
    s.inCount = 0 ∧ s.outCount = 0 ∧ s.subtracted = s.counted ∧ s.counted = s.hd ∧
    s.handed.length = s.hd
  outc : ∀ t, (s.pc t).isWorker = true → (∀ old, s.pc t ≠ .gwZeroed old) →
    s.outCount + s.subtracted = s.counted
  zeroed : ∀ t old, s.pc t = .gwZeroed old → s.outCount = 0 ∧ old + s.subtracted = s.counted
  oldv : ∀ t old, s.pc t = .gwOld old → old = s.outCount
  gotout : ∀ t h v o, s.pc t = .gwGotOut h v o → o = s.outCount
  popwin : ∀ t, (s.pc t).popWin = true → s.counted + 1 = s.hd
  npopwin : ∀ t, (s.pc t).isWorker = true → (s.pc t).popWin = false → s.counted = s.hd
  retwin : ∀ t, (s.pc t).retWin = true → s.handed.length + 1 = s.hd
  nretwin : ∀ t, (s.pc t).isWorker = true → (s.pc t).retWin = false → s.handed.length = s.hd
  hle : s.handed.length ≤ s.hd
  hub : s.hd ≤ s.handed.length + 1
  pend1 : ∀ t v n r, s.pc t = .pushAnnounced v n r → t ∈ s.pending
  pend2 : ∀ t v n r, s.pc t = .pushTerminated v n r → t ∈ s.pending
  ann : s.announced = s.tl + s.pending.length

theorem CInv.inCount_zero_iff {s : St} (I : CInv s) : s.inCount = 0 ↔ s.workers = [] :=
  ⟨fun h0 => Classical.byContradiction fun hw => by have := I.pos hw; omega,
    fun hw => (I.idle0 hw).1⟩

theorem cinv_init : CInv init := by
  constructor <;> simp [init, Pc.isWorker, Pc.popWin, Pc.retWin]

/-! ### the counting invariant, thread by thread

  `CInv` mentions program counters only in the form `∀ t, … (s.pc t) … → a fact about the
  counters`.  `At v t c` is what it says of one thread at program counter `c`, `Glob v` what it
  says without any; a step of thread `t` needs `Glob`, `At` of `t` at its new program counter
  and `At` of the others at theirs (`CInv.of_step`). -/

/-- what `CInv` reads of a state besides the program counters -/
structure CView where
  inc : Nat
  ann : Nat
  tl : Nat
  workers : List Nat
  pending : List Nat
  out : Nat
  sub : Nat
  cnt : Nat
  hd : Nat
  nh : Nat

def St.cview (s : St) : CView :=
  ⟨s.inCount, s.announced, s.tl, s.workers, s.pending, s.outCount, s.subtracted, s.counted, s.hd,
    s.handed.length⟩

/-- `out_count` is the number of pops since the last `fsub`, except between the worker's
    zeroing store and that `fsub`; the values the worker has read of it are current -/
def Pc.outOk (v : CView) : Pc → Prop
  | .gwZeroed old => v.out = 0 ∧ old + v.sub = v.cnt
  | .gwOld old => old = v.out ∧ v.out + v.sub = v.cnt
  | .gwGotOut _ _ o => o = v.out ∧ v.out + v.sub = v.cnt
  | _ => v.out + v.sub = v.cnt

/-- between the `fadd` and the `xchg` of a push -/
def Pc.announcing : Pc → Bool
  | .pushAnnounced _ _ _ | .pushTerminated _ _ _ => true
  | _ => false

structure At (v : CView) (t : Nat) (c : Pc) : Prop where
  worker : c.isWorker = true →
    v.workers = [t] ∧ v.cnt + c.popWin.toNat = v.hd ∧ v.nh + c.retWin.toNat = v.hd ∧ c.outOk v
  pend : c.announcing = true → t ∈ v.pending

theorem CInv.at {s : St} (I : CInv s) (t : Nat) : At s.cview t (s.pc t) where
  worker hw := by
    refine ⟨I.wk t hw, ?_, ?_, ?_⟩
    · cases hp : (s.pc t).popWin
      · exact I.npopwin t hw hp
      · exact I.popwin t hp
    · cases hr : (s.pc t).retWin
      · exact I.nretwin t hw hr
      · exact I.retwin t hr
    · have ho := I.outc t hw
      unfold Pc.outOk
      split
      · exact I.zeroed t _ ‹_›
      · exact ⟨I.oldv t _ ‹_›, ho (by simp [*])⟩
      · exact ⟨I.gotout t _ _ _ ‹_›, ho (by simp [*])⟩
      · exact ho (fun old h => by simp_all)
  pend hp := by
    cases hc : s.pc t <;> simp [hc, Pc.announcing] at hp
    · exact I.pend1 t _ _ _ hc
    · exact I.pend2 t _ _ _ hc

structure Glob (v : CView) : Prop where
  cnt : v.inc + v.sub = v.ann
  one : v.workers.length ≤ 1
  pos : v.workers ≠ [] → 1 ≤ v.inc
  idle0 : v.workers = [] → v.inc = 0 ∧ v.out = 0 ∧ v.sub = v.cnt ∧ v.cnt = v.hd ∧ v.nh = v.hd
  hle : v.nh ≤ v.hd
  hub : v.hd ≤ v.nh + 1
  ann : v.ann = v.tl + v.pending.length

theorem CInv.glob {s : St} (I : CInv s) : Glob s.cview :=
  ⟨I.cnt, I.one, I.pos, I.idle0, I.hle, I.hub, I.ann⟩

theorem At.out {v : CView} {t : Nat} {c : Pc} (a : At v t c) (hw : c.isWorker = true)
    (hz : ∀ old, c ≠ .gwZeroed old) : v.out + v.sub = v.cnt := by
  have ho := (a.worker hw).2.2.2
  unfold Pc.outOk at ho
  split at ho
  · exact absurd rfl (hz _)
  · exact ho.2
  · exact ho.2
  · exact ho

theorem CInv.of_at {s : St} (g : Glob s.cview) (a : ∀ t, At s.cview t (s.pc t)) : CInv s where
  cnt := g.cnt
  one := g.one
  pos := g.pos
  idle0 := g.idle0
  hle := g.hle
  hub := g.hub
  ann := g.ann
  wk t hw := ((a t).worker hw).1
  outc t hw hz := (a t).out hw hz
  zeroed t old hc := ((hc ▸ a t : At s.cview t (.gwZeroed old)).worker rfl).2.2.2
  oldv t old hc := ((hc ▸ a t : At s.cview t (.gwOld old)).worker rfl).2.2.2.1
  gotout t h v o hc := ((hc ▸ a t : At s.cview t (.gwGotOut h v o)).worker rfl).2.2.2.1
  popwin t hp := by
    have := ((a t).worker (Pc.retWin_isWorker (Pc.popWin_retWin hp))).2.1
    rwa [hp] at this
  npopwin t hw hp := by
    have := ((a t).worker hw).2.1
    rwa [hp] at this
  retwin t hr := by
    have := ((a t).worker (Pc.retWin_isWorker hr)).2.2.1
    rwa [hr] at this
  nretwin t hw hr := by
    have := ((a t).worker hw).2.2.1
    rwa [hr] at this
  pend1 t v n r hc := (a t).pend (by rw [hc]; rfl)
  pend2 t v n r hc := (a t).pend (by rw [hc]; rfl)

theorem CInv.of_step {s s' : St} {t : Nat} {c' : Pc} (hpc : s'.pc = upd s.pc t c')
    (g : Glob s'.cview) (a : At s'.cview t c')
    (o : ∀ t', t' ≠ t → At s'.cview t' (s.pc t')) : CInv s' := by
  refine .of_at g fun t' => ?_
  rw [hpc]
  by_cases e : t' = t
  · rw [e, upd_same]; exact a
  · rw [upd_other _ _ _ _ e]; exact o t' e

/-- a step that changes nothing of what `CInv` reads but the program counter of `t`; by default
    the new pc is of the same kind as the old (same classes, no counter value held) -/
theorem CInv.move {s s' : St} {t : Nat} {c c' : Pc} (I : CInv s) (hv : s'.cview = s.cview)
    (hpc : s'.pc = upd s.pc t c') (hc : s.pc t = c)
    (a : At s.cview t c → At s.cview t c' := by exact fun a => ⟨a.worker, a.pend⟩) : CInv s' :=
  .of_step hpc (hv ▸ I.glob) (hv ▸ a (hc ▸ I.at t)) fun t' _ => hv ▸ I.at t'

theorem Pc.outOk_congr {v v' : CView} (c : Pc) (h1 : v'.out = v.out) (h2 : v'.sub = v.sub)
    (h3 : v'.cnt = v.cnt) (h : c.outOk v) : c.outOk v' := by
  unfold Pc.outOk at h ⊢
  split <;> simp_all

/-- `At` of a thread other than the one that moves: a worker needs its counters unchanged,
    anybody else only its membership in `pending` -/
theorem At.frame {v v' : CView} {t : Nat} {c : Pc} (a : At v t c)
    (hw : v.workers = [t] → v'.workers = v.workers ∧ v'.out = v.out ∧ v'.sub = v.sub ∧
      v'.cnt = v.cnt ∧ v'.hd = v.hd ∧ v'.nh = v.nh)
    (hp : t ∈ v.pending → t ∈ v'.pending) : At v' t c where
  worker h := by
    obtain ⟨w, p, r, o⟩ := a.worker h
    obtain ⟨e1, e2, e3, e4, e5, e6⟩ := hw w
    exact ⟨e1 ▸ w, by omega, by omega, c.outOk_congr e2 e3 e4 o⟩
  pend h := hp (a.pend h)

theorem ite_some {α : Type} {p : Prop} [Decidable p] {a b : α}
    (h : (if p then some a else none) = some b) : p ∧ a = b := by
  split at h <;> simp_all

theorem At.other {v v' : CView} {t t' : Nat} {c : Pc} (a : At v t' c) (w : v.workers = [t])
    (e : t' ≠ t) (hp : t' ∈ v.pending → t' ∈ v'.pending) : At v' t' c :=
  a.frame (fun h => absurd (List.cons.inj (w.symm.trans h)).1.symm e) hp

theorem getElem?_append_of_some {l : List Nat} {i : Nat} {x : Nat} (v : Nat)
    (h : l[i]? = some x) : (l ++ [v])[i]? = some x := by
  have hi : i < l.length := by
    rcases List.getElem?_eq_some_iff.mp h with ⟨hi, _⟩; exact hi
  rw [List.getElem?_append_left hi]; exact h

theorem getElem?_append_lt {l : List Nat} {i : Nat} (v : Nat) (hi : i < l.length) :
    (l ++ [v])[i]? = l[i]? := List.getElem?_append_left hi

theorem getElem?_append_length (l : List Nat) (v : Nat) : (l ++ [v])[l.length]? = some v := by
  simp

/-! ### the invariant of the inlined MPSC fifo

  Split in a part that does not mention program counters (`Chain`, a predicate of the
  individual cells / ghost fields, hence insensitive to `pc` updates) and what each program
  counter value guarantees (`PcOk`). -/

structure Chain (hd tl head tail : Nat) (next nodeAt : Nat → Nat) (linked : Nat → Bool)
    (own : Nat → Own) (data : Nat → Nat) (xchgd handed : List Nat) : Prop where
  hdtl : hd ≤ tl
  head_eq : head = nodeAt hd
  tail_eq : tail = nodeAt tl
  /-- a written link points to the next queue position -/
  lk : ∀ i, hd ≤ i → i < tl → linked i = true → next (nodeAt i) = nodeAt (i + 1)
  /-- an unwritten link is NULL -/
  unlk : ∀ i, hd ≤ i → i ≤ tl → linked i = false → next (nodeAt i) = 0
  lktl : ∀ i, tl ≤ i → linked i = false
  lkhd : ∀ i, i < hd → linked i = true
  /-- the nodes from the stub to the tail are pairwise distinct (nodes are recycled, so this
      is not true of the whole history) -/
  dist : ∀ i j, hd ≤ i → i < j → j ≤ tl → nodeAt i ≠ nodeAt j
  qd : ∀ i, hd ≤ i → i ≤ tl → own (nodeAt i) = .queued
  nz : ∀ i, hd ≤ i → i ≤ tl → nodeAt i ≠ 0
  /-- queued nodes carry the exchanged values, in order -/
  dat : ∀ i, hd ≤ i → i < tl → xchgd[i]? = some (data (nodeAt (i + 1)))
  xlen : xchgd.length = tl
  /-- items handed out = a prefix of the exchange order -/
  hand : handed = xchgd.take handed.length

def PcOk (tl head : Nat) (next nodeAt : Nat → Nat) (linked : Nat → Bool) (linker : Nat → Nat)
    (own : Nat → Own) (data : Nat → Nat) (xchgd handed : List Nat) (t : Nat) : Pc → Prop
  | .pushCalled v n => own n = .held t ∧ data n = v ∧ n ≠ 0
  | .pushAnnounced v n _ => own n = .held t ∧ data n = v ∧ n ≠ 0
  | .pushTerminated v n _ => own n = .held t ∧ data n = v ∧ n ≠ 0 ∧ next n = 0
  -- between its exchange and its link write a producer owns the unwritten link `i`
  | .pushXchgd n prev _ i =>
    i < tl ∧ linked i = false ∧ nodeAt i = prev ∧ nodeAt (i + 1) = n ∧ linker i = t
  | .gwGotHead h => h = head
  | .gwGotNext h nx => h = head ∧ nx = next h ∧ nx ≠ 0
  -- the item about to be handed out is the next one in exchange order
  | .gwMoved h nx => own h = .taken t ∧ nx = head ∧ xchgd[handed.length]? = some (data nx)
  | .gwGotData h v => own h = .taken t ∧ xchgd[handed.length]? = some v
  | .gwWrote h v => own h = .taken t ∧ xchgd[handed.length]? = some v
  | .gwGotOut h v _ => own h = .taken t ∧ xchgd[handed.length]? = some v
  | .gwDone v h => own h = .taken t ∧ xchgd[handed.length]? = some v
  | _ => True

structure MInv (s : St) : Prop where
  chain : Chain s.hd s.tl s.head s.tail s.next s.nodeAt s.linked s.own s.data s.xchgd s.handed
  pcok : ∀ t, PcOk s.tl s.head s.next s.nodeAt s.linked s.linker s.own s.data s.xchgd s.handed t
    (s.pc t)

theorem minv_init : MInv init := by
  constructor
  · constructor <;> simp [init]
    all_goals (intros; omega)
  · intro t; simp [init, PcOk]

/-- `PcOk` of thread `t` carries over to changed cells when those it speaks of are kept:
    the nodes `t` holds or has taken, the link `t` still has to write, and, for a thread
    inside `get_work`, the stub and the next item to hand out -/
theorem PcOk.frame {tl tl' head head' : Nat} {next next' nodeAt nodeAt' : Nat → Nat}
    {linked linked' : Nat → Bool} {linker linker' : Nat → Nat} {own own' : Nat → Own}
    {data data' : Nat → Nat} {xchgd xchgd' handed handed' : List Nat} {t : Nat} {c : Pc}
    (h : PcOk tl head next nodeAt linked linker own data xchgd handed t c)
    (hheld : ∀ m, own m = .held t →
      own' m = .held t ∧ data' m = data m ∧ (next m = 0 → next' m = 0))
    (htaken : ∀ m, own m = .taken t → own' m = .taken t)
    (hgw : c.inGetWork = true → head' = head ∧ (next head ≠ 0 → next' head = next head) ∧
      data' head = data head ∧ ∀ v, xchgd[handed.length]? = some v → xchgd'[handed'.length]? = some v)
    (hlink : ∀ i, i < tl → linked i = false → linker i = t →
      i < tl' ∧ linked' i = false ∧ nodeAt' i = nodeAt i ∧ nodeAt' (i + 1) = nodeAt (i + 1) ∧
        linker' i = t := by exact fun _ a b c => ⟨a, b, rfl, rfl, c⟩) :
    PcOk tl' head' next' nodeAt' linked' linker' own' data' xchgd' handed' t c := by
  cases c <;> simp only [PcOk, Pc.inGetWork] at h hgw ⊢ <;> grind

/-- `upd_other` with everything but the inequality implicit, which is all its uses here have -/
theorem upd_ne {α : Type} {f : Nat → α} {i j : Nat} {v : α} (h : j ≠ i) : upd f i v j = f j :=
  upd_other f i j v h

theorem ne_of_own {own : Nat → Own} {m n : Nat} {a b : Own} (hm : own m = a) (hn : own n = b)
    (h : a ≠ b) : m ≠ n := fun e => h (hm.symm.trans (e ▸ hn))

theorem pcok_upd {tl head : Nat} {next nodeAt : Nat → Nat} {linked : Nat → Bool}
    {linker : Nat → Nat} {own : Nat → Own} {data : Nat → Nat} {xchgd handed : List Nat}
    {pc : Nat → Pc} {t : Nat} {c' : Pc}
    (a : PcOk tl head next nodeAt linked linker own data xchgd handed t c')
    (o : ∀ t', t' ≠ t → PcOk tl head next nodeAt linked linker own data xchgd handed t' (pc t')) :
    ∀ t', PcOk tl head next nodeAt linked linker own data xchgd handed t' (upd pc t c' t') := by
  intro t'
  by_cases e : t' = t
  · rw [e, upd_same]; exact a
  · rw [upd_other _ _ _ _ e]; exact o t' e

/-- a step that changes nothing of what `MInv` reads but the program counter of `t` -/
theorem MInv.move {s : St} (M : MInv s) {t : Nat} {c' : Pc}
    (a : PcOk s.tl s.head s.next s.nodeAt s.linked s.linker s.own s.data s.xchgd s.handed t c') :
    ∀ t', PcOk s.tl s.head s.next s.nodeAt s.linked s.linker s.own s.data s.xchgd s.handed t'
      (upd s.pc t c' t') :=
  pcok_upd a fun t' _ => M.pcok t'

theorem CInv.not_inGetWork {s : St} (C : CInv s) {t : Nat} (hw : (s.pc t).isWorker = true)
    (t' : Nat) (e : t' ≠ t) : ¬ (s.pc t').inGetWork = true := fun h =>
  e (List.cons.inj ((C.wk t hw).symm.trans (C.wk t' (Pc.inGetWork_isWorker h)))).1.symm

-- `split_step hs`, for `hs : step s e = some s'` with `e` a constructor: one goal per accepted
-- branch of `step`, with `s'` replaced by the successor state
macro "split_step" hs:ident : tactic => `(tactic| (
  simp only [step] at $hs:ident <;> split at $hs:ident <;> simp at $hs:ident
  all_goals
    first
      | (obtain ⟨hc, hs2⟩ := $hs:ident; subst hs2)
      | (subst $hs:ident)))

/-- events that only move the program counter of `t` (and touch fields `Chain`/`PcOk` do not
    mention): the chain part is unchanged, other threads' `PcOk` is unchanged -/
macro "pc_only" ch:ident pcok:ident t:ident : tactic => `(tactic| (
  constructor
  · exact $ch
  · intro t'
    by_cases e : t' = $t
    · subst e; simp only [upd_same]
      first
        | (simp [PcOk]; done)
        | (split <;> simp [PcOk]; done)
        | (have ⟨hdtl, head_eq, tail_eq, lk, unlk, lktl, lkhd, dist, qd, nz, dat, xlen, hand⟩ := $ch
           grind [PcOk])
    · simp only [upd_other _ _ _ _ e]; exact $pcok t'))

-- `data_pcok s ch pcok t C`: the `pcok` part of `MInv` after a step of `t` that writes cells, from
-- `ch : Chain …`, `pcok : ∀ t', PcOk … (s.pc t')` and `C : CInv s`, thread by thread and pc by pc
macro "data_pcok" s:ident ch:ident pcok:ident t:ident C:ident : tactic => `(tactic| (
  have ⟨hdtl, head_eq, tail_eq, lk, unlk, lktl, lkhd, dist, qd, nz, dat, xlen, hand⟩ := $ch
  have hle := CInv.hle $C
  intro t'
  by_cases e : t' = $t
  · subst e; simp only [upd_same]
    first
      | (simp only [PcOk]; done)
      | (simp only [PcOk]; grind [upd, getElem?_append_of_some, getElem?_append_length, getElem?_append_lt, take_succ_of_getElem?])
  · simp only [upd_other _ _ _ _ e]
    have hq := $pcok t'
    have hw := CInv.wk $C t'
    cases hq' : St.pc $s t' <;> rw [hq'] at hq hw <;> simp only [PcOk, Pc.isWorker] at hq hw ⊢
    all_goals
      first
        | trivial
        | grind [upd, getElem?_append_of_some, getElem?_append_length, getElem?_append_lt, take_succ_of_getElem?]
  ))

structure Inv (s : St) : Prop where
  c : CInv s
  m : MInv s

theorem inv_init : Inv init := ⟨cinv_init, minv_init⟩

/-! ### one step preserves both invariants

  One case per accepted step of thread `t`.  Most steps change nothing the invariants read
  except the program counter of `t` (`CInv.move`, `MInv.move`).  For the others the counting
  part is put together by `CInv.of_step` (the threads other than an active worker are not
  workers, `At.other`), the fifo part from the changed `Chain` conjuncts and `PcOk.frame`. -/

theorem inv_step (s : St) (e : Ev) (s' : St) (I : Inv s) (hs : step s e = some s') : Inv s' := by
  obtain ⟨C, M⟩ := I
  obtain ⟨gc, g1, gp, gi, gl, gu, ga⟩ := C.glob
  have ch := M.chain
  cases e <;> simp only [step] at hs
  case callPush t v n =>
    obtain ⟨⟨hc, -, hn, hf⟩, rfl⟩ := ite_some hs
    -- a free node is not in the chain
    have ne : ∀ i, s.hd ≤ i → i ≤ s.tl → s.nodeAt i ≠ n := fun i h1 h2 =>
      ne_of_own (ch.qd i h1 h2) hf nofun
    refine ⟨C.move rfl rfl hc, ?_⟩
    constructor <;> dsimp only
    · exact { ch with
        qd := fun i h1 h2 => by rw [upd_ne (ne i h1 h2)]; exact ch.qd i h1 h2
        dat := fun i h1 h2 => by rw [upd_ne (ne _ (by omega) h2)]; exact ch.dat i h1 h2 }
    · refine pcok_upd ⟨upd_same .., upd_same .., hn⟩ fun t' e => (M.pcok t').frame ?_ ?_
        fun _ => ⟨rfl, fun _ => rfl, upd_ne (ch.head_eq ▸ ne _ (Nat.le_refl _) ch.hdtl), fun _ => id⟩
      · intro m hm
        have := ne_of_own hm hf nofun
        exact ⟨by rw [upd_ne this]; exact hm, upd_ne this, id⟩
      · intro m hm
        rw [upd_ne (ne_of_own hm hf nofun)]; exact hm
  case retPush t r =>
    split at hs
    next r' hc =>
      obtain ⟨rfl, rfl⟩ := ite_some hs
      refine ⟨C.move rfl rfl hc fun a => ?_, ch, M.move (by split <;> trivial)⟩
      split
      next h => subst h; exact ⟨a.worker, a.pend⟩
      next h => exact ⟨nofun, nofun⟩
    next => cases hs
  case callGw t =>
    obtain ⟨hc, rfl⟩ := ite_some hs
    exact ⟨C.move rfl rfl hc, ch, M.move trivial⟩
  case rdHead t x =>
    split at hs
    next hc =>
      obtain ⟨rfl, rfl⟩ := ite_some hs
      exact ⟨C.move rfl rfl hc, ch, M.move rfl⟩
    next => cases hs
  case rdNext t n x =>
    split at hs
    next h hc =>
      obtain ⟨⟨rfl, rfl⟩, rfl⟩ := ite_some hs
      have hp := hc ▸ M.pcok t
      refine ⟨C.move rfl rfl hc fun a => ?_, ch, M.move ?_⟩
      · split <;> exact ⟨a.worker, a.pend⟩
      · split
        · trivial
        · exact ⟨hp, rfl, ‹_›⟩
    next => cases hs
  case rdData t n x =>
    split at hs
    next h nx hc =>
      obtain ⟨⟨rfl, rfl⟩, rfl⟩ := ite_some hs
      have hp := hc ▸ M.pcok t
      exact ⟨C.move rfl rfl hc, ch, M.move ⟨hp.1, hp.2.2⟩⟩
    next => cases hs
  case rdIn t x =>
    split at hs
    next o hc =>
      obtain ⟨-, rfl⟩ := ite_some hs
      refine ⟨C.move rfl rfl hc fun a => ?_, ch, M.move (by split <;> trivial)⟩
      split <;> exact ⟨a.worker, a.pend⟩
    next => cases hs
  case rdOut t x =>
    split at hs
    next h v hc =>
      obtain ⟨rfl, rfl⟩ := ite_some hs
      have hp := hc ▸ M.pcok t
      exact ⟨C.move rfl rfl hc fun a =>
        ⟨fun _ => have ⟨w, p, r, o⟩ := a.worker rfl; ⟨w, p, r, rfl, o⟩, nofun⟩, ch, M.move hp⟩
    next hc =>
      obtain ⟨rfl, rfl⟩ := ite_some hs
      exact ⟨C.move rfl rfl hc, ch, M.move trivial⟩
    next hc =>
      obtain ⟨rfl, rfl⟩ := ite_some hs
      exact ⟨C.move rfl rfl hc fun a =>
        ⟨fun _ => have ⟨w, p, r, o⟩ := a.worker rfl; ⟨w, p, r, rfl, o⟩, nofun⟩, ch, M.move trivial⟩
    next => cases hs
  case wrOut t x =>
    split at hs
    next h v o hc =>
      obtain ⟨rfl, rfl⟩ := ite_some hs
      have hp := hc ▸ M.pcok t
      have a := hc ▸ C.at t
      obtain ⟨w, p, r, o⟩ := a.worker rfl
      refine ⟨.of_step rfl ⟨gc, g1, gp, fun h => absurd (w.symm.trans h) nofun, gl, gu, ga⟩
        ⟨fun _ => ⟨w, ?_, r, ?_⟩, nofun⟩ fun t' e => (C.at t').other w e id, ch, M.move hp⟩
      all_goals simp [St.cview, Pc.popWin, Pc.outOk] at p o ⊢; omega
    next old hc =>
      obtain ⟨rfl, rfl⟩ := ite_some hs
      have a := hc ▸ C.at t
      obtain ⟨w, p, r, o⟩ := a.worker rfl
      refine ⟨.of_step rfl ⟨gc, g1, gp, fun h => absurd (w.symm.trans h) nofun, gl, gu, ga⟩
        ⟨fun _ => ⟨w, p, r, rfl, ?_⟩, nofun⟩ fun t' e => (C.at t').other w e id, ch, M.move trivial⟩
      simp [St.cview, Pc.outOk] at o ⊢; omega
    next => cases hs
  case faddIn t old =>
    split at hs
    next v n hc =>
      obtain ⟨rfl, rfl⟩ := ite_some hs
      have hp := hc ▸ M.pcok t
      refine ⟨?_, ch, M.move hp⟩
      simp only [St.cview] at gp gi
      by_cases h0 : s.inCount = 0
      · -- `in_count = 0`: nobody is working, `t` becomes the worker
        have w := C.inCount_zero_iff.mp h0
        obtain ⟨-, i2, i3, i4, i5⟩ := gi w
        simp only [h0, if_true, w]
        refine .of_step rfl ⟨?_, ?_, ?_, nofun, gl, gu, ?_⟩
          ⟨fun _ => ⟨rfl, i4, i5, ?_⟩, fun _ => List.mem_cons_self⟩
          fun t' e => (C.at t').frame (fun h => nomatch w.symm.trans h) (List.mem_cons_of_mem _)
        all_goals simp [St.cview, Pc.outOk] at *
        all_goals omega
      · have w := mt C.inCount_zero_iff.mpr h0
        simp only [h0, if_false]
        refine .of_step rfl ⟨?_, g1, ?_, fun h => absurd h w, gl, gu, ?_⟩
          ⟨nofun, fun _ => List.mem_cons_self⟩
          fun t' e => (C.at t').frame (fun _ => ⟨rfl, rfl, rfl, rfl, rfl, rfl⟩) (List.mem_cons_of_mem _)
        all_goals simp [St.cview] at *
        all_goals omega
    next => cases hs
  case fsubIn t old op =>
    split at hs
    next o hc =>
      obtain ⟨⟨rfl, rfl, hle⟩, rfl⟩ := ite_some hs
      refine ⟨?_, ch, M.move (by split <;> trivial)⟩
      have a := hc ▸ C.at t
      obtain ⟨w, p, r, o⟩ := a.worker rfl
      simp [St.cview, Pc.popWin, Pc.retWin, Pc.outOk] at w p r o
      have ow : ∀ t', t' ≠ t → s.workers ≠ [t'] := fun t' e h =>
        e (List.cons.inj (w.symm.trans h)).1.symm
      by_cases h0 : s.inCount - op = 0
      · simp only [h0, if_true]
        refine .of_step rfl ⟨?_, ?_, ?_, fun _ => ?_, gl, gu, ga⟩ ⟨nofun, nofun⟩
          fun t' e => (C.at t').frame (absurd · (ow t' e)) id
        all_goals simp [St.cview, w] at *
        all_goals omega
      · simp only [h0, if_false]
        refine .of_step rfl ⟨?_, g1, ?_, fun h => absurd (w.symm.trans h) nofun, gl, gu, ga⟩
          ⟨fun _ => ⟨w, p, r, ?_⟩, nofun⟩ fun t' e => (C.at t').frame (absurd · (ow t' e)) id
        all_goals simp [St.cview, Pc.outOk] at *
        all_goals omega
    next => cases hs
  case wrData t n x =>
    split at hs
    next h v hc =>
      obtain ⟨-, rfl⟩ := ite_some hs
      have hp := hc ▸ M.pcok t
      have gw := C.not_inGetWork (t := t) (by rw [hc]; rfl)
      -- the node being written is taken, hence not in the chain and held by nobody
      have ne : ∀ i, s.hd ≤ i → i ≤ s.tl → s.nodeAt i ≠ h := fun i h1 h2 =>
        ne_of_own (ch.qd i h1 h2) hp.1 nofun
      refine ⟨C.move rfl rfl hc, ?_⟩
      constructor <;> dsimp only
      · exact { ch with
          dat := fun i h1 h2 => by rw [upd_ne (ne _ (by omega) h2)]; exact ch.dat i h1 h2 }
      · exact pcok_upd hp fun t' e => (M.pcok t').frame
          (fun m hm => ⟨hm, upd_ne (ne_of_own hm hp.1 nofun), id⟩) (fun _ => id)
          (absurd · (gw t' e))
    next => cases hs
  case retGw t v n =>
    split at hs
    next v' h hc =>
      obtain ⟨⟨rfl, -⟩, rfl⟩ := ite_some hs
      have hp := hc ▸ M.pcok t
      have gw := C.not_inGetWork (t := t) (by rw [hc]; rfl)
      have ne : ∀ i, s.hd ≤ i → i ≤ s.tl → s.nodeAt i ≠ h := fun i h1 h2 =>
        ne_of_own (ch.qd i h1 h2) hp.1 nofun
      have a := hc ▸ C.at t
      obtain ⟨w, p, r, o⟩ := a.worker rfl
      constructor
      · refine .of_step rfl ⟨gc, g1, gp, fun h => absurd (w.symm.trans h) nofun, ?_, ?_, ga⟩
          ⟨fun _ => ⟨w, p, ?_, o⟩, nofun⟩ fun t' e => (C.at t').other w e id
        all_goals simp [St.cview, Pc.retWin] at r ⊢; omega
      constructor <;> dsimp only
      · exact { ch with
          qd := fun i h1 h2 => by rw [upd_ne (ne i h1 h2)]; exact ch.qd i h1 h2
          hand := by
            rw [List.length_append, List.length_singleton, take_succ_of_getElem? hp.2, ← ch.hand] }
      · refine pcok_upd trivial fun t' e => (M.pcok t').frame ?_ ?_
          (absurd · (gw t' e))
        · intro m hm
          exact ⟨by rw [upd_ne (ne_of_own hm hp.1 nofun)]; exact hm, rfl, id⟩
        · intro m hm
          rw [upd_ne (ne_of_own hm hp.1 fun h => e (Own.taken.inj h))]; exact hm
    next hc =>
      obtain ⟨-, rfl⟩ := ite_some hs
      exact ⟨C.move rfl rfl hc fun _ => ⟨nofun, nofun⟩, ch, M.move trivial⟩
    next => cases hs
  case wrNext t n x =>
    split at hs
    next v n' r hc =>
      obtain ⟨⟨rfl, rfl⟩, rfl⟩ := ite_some hs
      have hp := hc ▸ M.pcok t
      have ne : ∀ i, s.hd ≤ i → i ≤ s.tl → s.nodeAt i ≠ n := fun i h1 h2 =>
        ne_of_own (ch.qd i h1 h2) hp.1 nofun
      refine ⟨C.move rfl rfl hc, ?_⟩
      constructor <;> dsimp only
      · exact { ch with
          lk := fun i h1 h2 => by rw [upd_ne (ne i h1 (by omega))]; exact ch.lk i h1 h2
          unlk := fun i h1 h2 => by rw [upd_ne (ne i h1 h2)]; exact ch.unlk i h1 h2 }
      · refine pcok_upd ⟨hp.1, hp.2.1, hp.2.2, upd_same ..⟩ fun t' e => (M.pcok t').frame
          (fun m hm => ⟨hm, rfl, fun h => ?_⟩) (fun _ => id)
          fun _ => ⟨rfl, fun _ => upd_ne (ch.head_eq ▸ ne _ (Nat.le_refl _) ch.hdtl), rfl, fun _ => id⟩
        unfold upd; split <;> simp [*]
    next n' prev r i hc =>
      obtain ⟨⟨rfl, rfl⟩, rfl⟩ := ite_some hs
      have hp := hc ▸ M.pcok t
      obtain ⟨h1, h2, rfl, rfl, h5⟩ := hp
      -- the link `t` writes is the one out of position `i`, not yet written, inside the chain
      have hi : s.hd ≤ i := Nat.le_of_not_lt fun h => by have := ch.lkhd i h; simp [h2] at this
      have ne : ∀ j, s.hd ≤ j → j ≤ s.tl → j ≠ i → s.nodeAt j ≠ s.nodeAt i := fun j a b c => by
        rcases Nat.lt_or_gt_of_ne c with c | c
        · exact ch.dist j i a c (by omega)
        · exact (ch.dist i j hi c b).symm
      refine ⟨C.move rfl rfl hc fun a => ⟨a.worker, nofun⟩, ?_⟩
      constructor <;> dsimp only
      · exact { ch with
          lk := fun j a b c => by have := ch.lk j; have := ne j; grind [upd]
          unlk := fun j a b c => by have := ch.unlk j; have := ne j; grind [upd]
          lktl := fun j a => by rw [upd_ne (by omega)]; exact ch.lktl j a
          lkhd := fun j a => by rw [upd_ne (by omega)]; exact ch.lkhd j a }
      · refine pcok_upd trivial fun t' e => (M.pcok t').frame ?_ (fun _ => id) ?_ ?_
        · intro m hm
          exact ⟨hm, rfl, by rw [upd_ne (ne_of_own hm (ch.qd i hi (by omega)) nofun)]; exact id⟩
        · refine fun _ => ⟨rfl, fun h => upd_ne fun e' => h ?_, rfl, fun _ => id⟩
          rw [e']; exact ch.unlk i hi (by omega) h2
        · intro j a b c
          have : j ≠ i := fun e' => e (by rw [← c, e', h5])
          exact ⟨a, by rw [upd_ne this]; exact b, rfl, rfl, c⟩
    next => cases hs
  case wrHead t x =>
    split at hs
    next h nx hc =>
      obtain ⟨rfl, rfl⟩ := ite_some hs
      have hp := hc ▸ M.pcok t
      obtain ⟨rfl, rfl, hnz⟩ := hp
      have a := hc ▸ C.at t
      obtain ⟨w, p, r, o⟩ := a.worker rfl
      have gw := C.not_inGetWork (t := t) (by rw [hc]; rfl)
      have hq : s.own s.head = .queued := by rw [ch.head_eq]; exact ch.qd _ (Nat.le_refl _) ch.hdtl
      -- the stub has a successor: its link is written and leads to position `hd + 1`
      rw [ch.head_eq] at hnz
      have hl : s.linked s.hd = true := by
        cases h : s.linked s.hd
        · exact absurd (ch.unlk _ (Nat.le_refl _) ch.hdtl h) hnz
        · rfl
      have hlt : s.hd < s.tl := Nat.lt_of_le_of_ne ch.hdtl fun e => by
        have := ch.lktl s.hd (by omega); simp [hl] at this
      have hnx := ch.lk _ (Nat.le_refl _) hlt hl
      have ne : ∀ i, s.hd + 1 ≤ i → i ≤ s.tl → s.nodeAt i ≠ s.head := fun i a b =>
        ch.head_eq ▸ (ch.dist s.hd i (Nat.le_refl _) a b).symm
      constructor
      · refine .of_step rfl ⟨gc, g1, gp, fun h => absurd (w.symm.trans h) nofun, ?_, ?_, ga⟩
          ⟨fun _ => ⟨w, ?_, ?_, o⟩, nofun⟩ fun t' e => (C.at t').other w e id
        all_goals simp [St.cview, Pc.popWin, Pc.retWin] at p r ⊢; omega
      constructor <;> dsimp only
      · exact { ch with
          hdtl := hlt
          head_eq := ch.head_eq ▸ hnx
          lk := fun i a => ch.lk i (by omega)
          unlk := fun i a => ch.unlk i (by omega)
          lkhd := fun i a => by
            by_cases e : i = s.hd
            · exact e ▸ hl
            · exact ch.lkhd i (by omega)
          dist := fun i j a => ch.dist i j (by omega)
          qd := fun i a b => by rw [upd_ne (ne i a b)]; exact ch.qd i (by omega) b
          nz := fun i a => ch.nz i (by omega)
          dat := fun i a => ch.dat i (by omega) }
      · refine pcok_upd ⟨upd_same .., rfl, ?_⟩ fun t' e => (M.pcok t').frame ?_ ?_
          (absurd · (gw t' e))
        · rw [show s.handed.length = s.hd from r, ch.head_eq, hnx]
          exact ch.dat _ (Nat.le_refl _) hlt
        · intro m hm
          exact ⟨by rw [upd_ne (ne_of_own hm hq nofun)]; exact hm, rfl, id⟩
        · intro m hm
          rw [upd_ne (ne_of_own hm hq nofun)]; exact hm
    next => cases hs
  case xchgTail t old new =>
    split at hs
    next v n r hc =>
      obtain ⟨⟨rfl, rfl⟩, rfl⟩ := ite_some hs
      have hp := hc ▸ M.pcok t
      obtain ⟨ho, rfl, hnz, hnx⟩ := hp
      have a := hc ▸ C.at t
      have ne : ∀ i, s.hd ≤ i → i ≤ s.tl → s.nodeAt i ≠ new := fun i h1 h2 =>
        ne_of_own (ch.qd i h1 h2) ho nofun
      have na : ∀ i, i ≤ s.tl → upd s.nodeAt (s.tl + 1) new i = s.nodeAt i := fun i h =>
        upd_ne (by omega)
      have hlt := ch.lktl s.tl (Nat.le_refl _)
      have hlen : s.handed.length ≤ s.xchgd.length := by
        have := congrArg List.length ch.hand; rw [List.length_take] at this; omega
      constructor
      · refine .of_step rfl ⟨gc, g1, gp, gi, gl, gu, ?_⟩ ⟨a.worker, nofun⟩
          fun t' e => (C.at t').frame (fun _ => ⟨rfl, rfl, rfl, rfl, rfl, rfl⟩)
            (List.mem_erase_of_ne e).mpr
        have := List.length_erase_of_mem (a.pend rfl)
        have := List.length_pos_of_mem (a.pend rfl)
        simp only [St.cview] at *; omega
      constructor <;> dsimp only
      · exact {
          hdtl := Nat.le_succ_of_le ch.hdtl
          head_eq := by rw [na _ ch.hdtl]; exact ch.head_eq
          tail_eq := (upd_same ..).symm
          lk := fun i a b c => by have := ch.lk i; grind [upd]
          unlk := fun i a b c => by have := ch.unlk i; grind [upd]
          lktl := fun i a => ch.lktl i (by omega)
          lkhd := ch.lkhd
          dist := fun i j a b c => by have := ch.dist i j; have := ne i; grind [upd]
          qd := fun i a b => by have := ch.qd i; have := ne i; grind [upd]
          nz := fun i a b => by have := ch.nz i; grind [upd]
          dat := fun i a b => by
            have := ch.dat i; have := ch.xlen; grind [upd, getElem?_append_lt]
          xlen := by rw [List.length_append, ch.xlen]; rfl
          hand := by rw [List.take_append_of_le_length hlen]; exact ch.hand }
      · refine pcok_upd ⟨Nat.lt_succ_self _, hlt, ?_, upd_same .., upd_same ..⟩ fun t' e =>
          (M.pcok t').frame ?_ ?_
            (fun _ => ⟨rfl, fun _ => rfl, rfl, fun _ h => getElem?_append_of_some _ h⟩) ?_
        · rw [na _ (Nat.le_refl _)]; exact ch.tail_eq.symm
        · intro m hm
          exact ⟨by rw [upd_ne (ne_of_own hm ho fun h => e (Own.held.inj h))]; exact hm, rfl, id⟩
        · intro m hm
          rw [upd_ne (ne_of_own hm ho nofun)]; exact hm
        · intro i a b c
          exact ⟨by omega, b, na i (by omega), na _ a, by rw [upd_ne (by omega)]; exact c⟩
    next => cases hs

theorem inv_of_run {es : List Ev} {s : St} (h : sys.run es = some s) : Inv s :=
  Sys.inv_of_run sys Inv inv_init inv_step h

/-- every exchanged value is the argument of an earlier `call push` (nothing is invented) -/
def PushedInv (s : St) (es : List Ev) : Prop :=
  (∀ v, v ∈ s.xchgd → ∃ t n, Ev.callPush t v n ∈ es) ∧
  (∀ t v n, s.pc t = .pushCalled v n → Ev.callPush t v n ∈ es) ∧
  (∀ t v n r, s.pc t = .pushAnnounced v n r → Ev.callPush t v n ∈ es) ∧
  (∀ t v n r, s.pc t = .pushTerminated v n r → Ev.callPush t v n ∈ es)

theorem pushedInv_step (s : St) (es : List Ev) (e : Ev) (s' : St) (I : PushedInv s es)
    (hs : step s e = some s') : PushedInv s' (es ++ [e]) := by
  obtain ⟨i1, i2, i3, i4⟩ := I
  cases e <;> split_step hs
  all_goals refine ⟨?_, ?_, ?_, ?_⟩ <;> intros <;> dsimp only at * <;> grind [upd]

theorem pushedInv_of_run {es : List Ev} {s : St} (h : sys.run es = some s) : PushedInv s es := by
  refine Sys.hist_inv_of_run sys PushedInv ?_ pushedInv_step h
  simp [PushedInv, sys, init]

end LibfiberVerif.WorkQueue
