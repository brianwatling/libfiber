/-
  Proof/Join.lean — the invariants Inv0..Inv3 of Proof/JoinBase.lean hold in every reachable state
  of the join / tryjoin / detach / completion protocol model (Model/Join.lean), property C04.

  Preservation is proved conjunct by conjunct, by cases on the step (`Trans`, Proof/JoinBase.lean).
  Each proof fixes the conjunct's variables, keeps the pre-state's instance of the conjunct at those
  variables (`h`), and unfolds `upd`, so that the step shows as a pointwise `if` on the one fiber
  that moves.  It then names the steps that need other conjuncts of the pre-state, and which; in
  every other case the conjunct follows from `h` alone, because the step moves one program counter
  to a place the conjunct does not speak of, or writes fields it does not read.
-/
import LibfiberVerif.Proof.JoinBase

namespace LibfiberVerif.Join

variable {s s1 : St} {e : Ev}

theorem inv0_dr (h0 : Inv0 s) (ht : Trans s e s1) :
    ∀ g, s1.det g ≤ 3 := by
  intro g
  have h := h0.dr g
  cases ht <;> dsimp only [upd]
  all_goals grind only [WFJ, DET, WTJ]

theorem inv0_wfj (h0 : Inv0 s) (ht : Trans s e s1) :
    ∀ g, s1.det g = WFJ → finX (s1.pc g) = true := by
  intro g
  have h := h0.wfj g
  cases ht <;> dsimp only [upd]
  all_goals grind only [finX, WFJ, DET, WTJ]

theorem inv0_detx (h0 : Inv0 s) (ht : Trans s e s1) :
    ∀ g, s1.det g = DET → s1.detX g = true := by
  intro g
  have h := h0.detx g
  cases ht <;> dsimp only [upd]
  all_goals grind only [WFJ, DET, WTJ]

theorem inv0_fret (h0 : Inv0 s) (ht : Trans s e s1) :
    ∀ g v, s1.pc g = .fRet v → s1.retval g = some v := by
  intro g v
  have h := h0.fret g v
  cases ht <;> dsimp only [upd]
  all_goals grind only []

theorem inv0_tl (h0 : Inv0 s) (ht : Trans s e s1) :
    ∀ a op g, s1.pc a = .loaded op g → op ≠ .join → s1.det g ≠ NONE := by
  intro a op g
  have h := h0.tl a op g
  cases ht <;> dsimp only [upd]
  all_goals grind only [WFJ, DET, NONE, WTJ]

theorem inv0_cpn (h0 : Inv0 s) (ht : Trans s e s1) :
    ∀ a g, claimPath (s1.pc a) g = true → s1.det g ≠ NONE := by
  intro a g
  have h := h0.cpn a g
  cases ht <;> dsimp only [upd]
  all_goals grind only [claimPath, WFJ, DET, NONE, WTJ]

theorem inv0_scn (h0 : Inv0 s) (ht : Trans s e s1) :
    ∀ g, s1.succ g ≠ [] → s1.det g ≠ NONE := by
  intro g
  have h := h0.scn g
  cases ht <;> dsimp only [upd]
  case retN | ret =>
    have cpn := h0.cpn
    grind only [claimPath, WFJ, DET, NONE, WTJ]
  all_goals grind only [WFJ, DET, NONE, WTJ]

theorem inv0_fxn (h0 : Inv0 s) (ht : Trans s e s1) :
    ∀ g, finX (s1.pc g) = true → s1.det g ≠ NONE := by
  intro g
  have h := h0.fxn g
  cases ht <;> dsimp only [upd]
  all_goals grind only [finX, WFJ, DET, NONE, WTJ]

theorem inv0_dst (h0 : Inv0 s) (ht : Trans s e s1) :
    ∀ g, s1.destroyed g = true → s1.pc g = .fDone := by
  intro g
  have h := h0.dst g
  cases ht <;> dsimp only [upd]
  all_goals grind only []

theorem inv0_fj (h0 : Inv0 s) (ht : Trans s e s1) :
    ∀ p g, joinerPath (s1.pc p) g = true → s1.first g = some p := by
  intro p g
  have h := h0.fj p g
  cases ht <;> dsimp only [upd]
  case xJoinPark | fPark =>
    have cpn := h0.cpn
    grind only [joinerPath, claimPath, → jp_cp]
  all_goals grind only [joinerPath]

theorem inv0_ff (h0 : Inv0 s) (ht : Trans s e s1) :
    ∀ g, (parkF (s1.pc g) = true ∨ s1.pc g = .fWoken) → s1.first g = some g := by
  intro g
  have h := h0.ff g
  cases ht <;> dsimp only [upd]
  case xJoinPark =>
    have fxn := h0.fxn
    grind only [finX, parkF, → pf_fx]
  all_goals grind only [parkF]

theorem inv0_tcl (h0 : Inv0 s) (ht : Trans s e s1) :
    ∀ b g, takePh (s1.pc b) g = true → (s1.claimed g = true ∨ s1.detX g = true) := by
  intro b g
  have h := h0.tcl b g
  cases ht <;> dsimp only [upd]
  all_goals grind only [takePh]

theorem inv0_fc (h0 : Inv0 s) (ht : Trans s e s1) :
    ∀ g, holdsFAny (s1.pc g) = true → s1.claimed g = true := by
  intro g
  have h := h0.fc g
  cases ht <;> dsimp only [upd]
  all_goals grind only [holdsFAny]

theorem inv0_trans (h0 : Inv0 s) (ht : Trans s e s1) : Inv0 s1 :=
  ⟨inv0_dr h0 ht,
   inv0_wfj h0 ht,
   inv0_detx h0 ht,
   inv0_fret h0 ht,
   inv0_tl h0 ht,
   inv0_cpn h0 ht,
   inv0_scn h0 ht,
   inv0_fxn h0 ht,
   inv0_dst h0 ht,
   inv0_fj h0 ht,
   inv0_ff h0 ht,
   inv0_tcl h0 ht,
   inv0_fc h0 ht⟩

theorem inv1_mb (h1 : Inv1 s) (ht : Trans s e s1) :
    ∀ g, s1.ji g ≠ 0 → parkedIn (s1.pc (s1.ji g)) (s1.ji g) g = true ∧ s1.holder (s1.ji g) = none := by
  intro g
  have h := h1.mb g
  cases ht <;> dsimp only [upd]
  case wakeJ | wakeFin =>
    have hw := h1.hw
    grind only [parkedIn]
  case wakeJoiner =>
    have hf := h1.hf
    grind only [parkedIn]
  case postJoiner | postFin =>
    have hh := h1.hh
    have hw := h1.hw
    have hf := h1.hf
    grind only [holds, parkedIn, → holds_inv]
  case xchgTake | xchgFin =>
    have mb := h1.mb
    grind only [parkedIn, → parkedIn_inv]
  all_goals grind only [parkedIn]

theorem inv1_hw (h1 : Inv1 s) (ht : Trans s e s1) :
    ∀ a op g v p, s1.pc a = .wake op g v p → s1.holder p = some a ∧ parkedIn (s1.pc p) p g = true := by
  intro a op g v p
  have h := h1.hw a op g v p
  cases ht <;> dsimp only [upd]
  case wakeJ | wakeFin =>
    have hw := h1.hw
    grind only [parkedIn]
  case wakeJoiner =>
    have hf := h1.hf
    grind only [parkedIn]
  case xchgTake | xchgFin =>
    have mb := h1.mb
    grind only [parkedIn]
  all_goals grind only [parkedIn]

theorem inv1_hf (h1 : Inv1 s) (ht : Trans s e s1) :
    (∀ a p, s1.pc a = .fGot p → s1.holder p = some a ∧ s1.pc p = .jParked a) ∧ (∀ a p v, s1.pc a = .fGotRes p v → s1.holder p = some a ∧ s1.pc p = .jParked a) ∧ (∀ a p, s1.pc a = .fGave p → s1.holder p = some a ∧ s1.pc p = .jParked a) := by
  have hf := h1.hf
  cases ht <;> dsimp only [upd]
  case wakeJ =>
    have hw := h1.hw
    grind only [parkedIn]
  case xchgTake =>
    have mb := h1.mb
    grind only [parkedIn]
  case xchgFin =>
    have mb := h1.mb
    grind only [parkedIn, → parkedIn_inv]
  all_goals grind only []

theorem inv1_hh (h1 : Inv1 s) (ht : Trans s e s1) :
    ∀ p, s1.holder p = none ∨ ∃ a, s1.holder p = some a ∧ holds (s1.pc a) p = true := by
  intro p
  have h := h1.hh p
  cases ht <;> dsimp only [upd]
  all_goals grind only [holds]

theorem inv1_st (h0 : Inv0 s) (h1 : Inv1 s) (ht : Trans s e s1) :
    ∀ g, stored (s1.pc g) = true → s1.retval g = some (s1.res g) := by
  intro g
  have h := h1.st g
  cases ht <;> dsimp only [upd]
  case stFin =>
    have fret := h0.fret
    grind only [stored]
  case stGive =>
    have hf := h1.hf
    grind only [stored]
  all_goals grind only [stored]

theorem inv1_t0 (h0 : Inv0 s) (h1 : Inv1 s) (ht : Trans s e s1) :
    ∀ a op g, s1.pc a = .take0 op g → finX (s1.pc g) = true := by
  intro a op g
  have h := h1.t0 a op g
  cases ht <;> dsimp only [upd]
  case xTake =>
    have wfj := h0.wfj
    grind only [finX]
  all_goals grind only [finX]

theorem inv1_tv (h0 : Inv0 s) (h1 : Inv1 s) (ht : Trans s e s1) :
    ∀ a op g v, s1.pc a = .take op g v → op ≠ .detach → s1.retval g = some v := by
  intro a op g v
  have h := h1.tv a op g v
  cases ht <;> dsimp only [upd]
  case xTake =>
    have st := h1.st
    have wfj := h0.wfj
    grind only [finX, stored, → fx_st]
  case resTake =>
    have st := h1.st
    have t0 := h1.t0
    grind only [finX, stored, → fx_st]
  all_goals grind only []

theorem inv1_wv (h1 : Inv1 s) (ht : Trans s e s1) :
    ∀ a op g v p, s1.pc a = .wake op g v p → op ≠ .detach → s1.retval g = some v := by
  intro a op g v p
  have h := h1.wv a op g v p
  cases ht <;> dsimp only [upd]
  case xchgTake =>
    have tv := h1.tv
    grind only []
  all_goals grind only []

theorem inv1_gr (h1 : Inv1 s) (ht : Trans s e s1) :
    ∀ g p v, s1.pc g = .fGotRes p v → s1.retval g = some v := by
  intro g p v
  have h := h1.gr g p v
  cases ht <;> dsimp only [upd]
  case resFin =>
    have st := h1.st
    grind only [stored]
  all_goals grind only []

theorem inv1_gv (h1 : Inv1 s) (ht : Trans s e s1) :
    ∀ g p, s1.pc g = .fGave p → s1.retval g = some (s1.res p) := by
  intro g p
  have h := h1.gv g p
  cases ht <;> dsimp only [upd]
  case stFin | stJoinerN | stJoiner =>
    have hf := h1.hf
    grind only []
  case stGive =>
    have gr := h1.gr
    have hf := h1.hf
    grind only []
  all_goals grind only []

theorem inv1_dj (h0 : Inv0 s) (h1 : Inv1 s) (ht : Trans s e s1) :
    ∀ g, (s1.pc g = .fWoken ∨ s1.pc g = .fMark ∨ s1.pc g = .fDone) → (s1.claimed g = true ∨ s1.detX g = true) := by
  intro g
  have h := h1.dj g
  cases ht <;> dsimp only [upd]
  case ldFin =>
    have detx := h0.detx
    grind only [WFJ, DET, NONE, WTJ]
  case fOver =>
    have detx := h0.detx
    have wfj := h0.wfj
    have dr := h0.dr
    grind only [finX, WFJ, DET, NONE, WTJ]
  case wakeFin =>
    have tcl := h0.tcl
    have hw := h1.hw
    grind only [takePh, parkedIn, WFJ, DET, NONE, WTJ]
  case wakeJoiner =>
    have fc := h0.fc
    grind only [holdsFAny, WFJ, DET, NONE, WTJ]
  all_goals grind only [WFJ, DET, NONE, WTJ]

theorem inv1_sc (h1 : Inv1 s) (ht : Trans s e s1) :
    ∀ a, slotFree (s1.pc a) = true → s1.res a = 0 := by
  intro a
  have h := h1.sc a
  cases ht <;> dsimp only [upd]
  case stGive =>
    have hf := h1.hf
    grind only [slotFree]
  all_goals grind only [slotFree]

theorem inv1_jo1 (h1 : Inv1 s) (ht : Trans s e s1) :
    ∀ p t, s1.pc p = .jParked t → (s1.res p = 0 ∨ s1.retval t = some (s1.res p)) := by
  intro p t
  have h := h1.jo1 p t
  cases ht <;> dsimp only [upd]
  case postJoiner =>
    have sc := h1.sc
    grind only [slotFree]
  case stGive =>
    have hf := h1.hf
    have gr := h1.gr
    grind only []
  all_goals grind only []

theorem inv1_jo2 (h1 : Inv1 s) (ht : Trans s e s1) :
    ∀ p t, s1.pc p = .jWoken t → (s1.res p = 0 ∨ s1.retval t = some (s1.res p)) := by
  intro p t
  have h := h1.jo2 p t
  cases ht <;> dsimp only [upd]
  case wakeJ | wakeJoiner =>
    have jo1 := h1.jo1
    grind only []
  case stGive =>
    have hf := h1.hf
    grind only []
  all_goals grind only []

theorem inv1_jo3 (h1 : Inv1 s) (ht : Trans s e s1) :
    ∀ p t v, s1.pc p = .jGotRes t v → (v = 0 ∨ s1.retval t = some v) := by
  intro p t v
  have h := h1.jo3 p t v
  cases ht <;> dsimp only [upd]
  case resJoiner =>
    have jo2 := h1.jo2
    grind only []
  all_goals grind only []

theorem inv1_jo4 (h1 : Inv1 s) (ht : Trans s e s1) :
    ∀ a op t v, s1.pc a = .retn op t true v → op ≠ .detach → (v = 0 ∨ s1.retval t = some v) := by
  intro a op t v
  have h := h1.jo4 a op t v
  cases ht <;> dsimp only [upd]
  case wakeJ | wakeFin =>
    have wv := h1.wv
    grind only []
  case stJoinerN =>
    have jo2 := h1.jo2
    grind only []
  case stJoiner =>
    have jo3 := h1.jo3
    grind only []
  all_goals grind only []

theorem inv1_jo5 (h1 : Inv1 s) (ht : Trans s e s1) :
    ∀ t v, v ∈ s1.succ t → (v = 0 ∨ s1.retval t = some v) := by
  intro t v
  have h := h1.jo5 t v
  cases ht <;> dsimp only [upd]
  case retN | ret =>
    have jo4 := h1.jo4
    grind only [List.mem_cons]
  all_goals grind only [List.mem_cons]

theorem inv1_trans (h0 : Inv0 s) (h1 : Inv1 s) (ht : Trans s e s1) : Inv1 s1 :=
  ⟨inv1_mb h1 ht,
   inv1_hw h1 ht,
   inv1_hf h1 ht,
   inv1_hh h1 ht,
   inv1_st h0 h1 ht,
   inv1_t0 h0 h1 ht,
   inv1_tv h0 h1 ht,
   inv1_wv h1 ht,
   inv1_gr h1 ht,
   inv1_gv h1 ht,
   inv1_dj h0 h1 ht,
   inv1_sc h1 ht,
   inv1_jo1 h1 ht,
   inv1_jo2 h1 ht,
   inv1_jo3 h1 ht,
   inv1_jo4 h1 ht,
   inv1_jo5 h1 ht⟩

theorem inv2_k3 (h0 : Inv0 s) (h2 : Inv2 s) (ht : Trans s e s1) :
    ∀ g a, untainted s1 g → claimPath (s1.pc a) g = true → (s1.det g ≠ WFJ ∨ s1.finTook g = true) := by
  intro g a
  have h := h2.k3 g a
  cases ht <;> dsimp only [upd, untainted] at h ⊢
  case fPark =>
    have cpn := h0.cpn
    grind only [claimPath, untainted, WFJ, DET, NONE, WTJ]
  case fOver =>
    have dr := h0.dr
    grind only [claimPath, untainted, WFJ, DET, NONE, WTJ]
  all_goals grind only [claimPath, WFJ, DET, NONE, WTJ]

theorem inv2_k4 (h0 : Inv0 s) (h2 : Inv2 s) (ht : Trans s e s1) :
    ∀ g, untainted s1 g → s1.succ g ≠ [] → (s1.det g ≠ WFJ ∨ s1.finTook g = true) := by
  intro g
  have h := h2.k4 g
  cases ht <;> dsimp only [upd, untainted] at h ⊢
  case retN | ret =>
    have k3 := h2.k3
    grind only [claimPath, untainted, WFJ, DET, NONE, WTJ]
  case fPark =>
    have scn := h0.scn
    grind only [untainted, WFJ, DET, NONE, WTJ]
  case fOver =>
    have dr := h0.dr
    grind only [untainted, WFJ, DET, NONE, WTJ]
  all_goals grind only [WFJ, DET, NONE, WTJ]

theorem inv2_k5 (h2 : Inv2 s) (ht : Trans s e s1) :
    ∀ g p, untainted s1 g → joinerPark (s1.pc p) g = true → (s1.det g = WTJ ∨ (s1.det g = WFJ ∧ s1.finTook g = true)) := by
  intro g p
  have h := h2.k5 g p
  cases ht <;> dsimp only [upd, untainted] at h ⊢
  all_goals grind only [joinerPark, WFJ, NONE, WTJ]

theorem inv2_uq (h0 : Inv0 s) (h2 : Inv2 s) (ht : Trans s e s1) :
    ∀ g a a', untainted s1 g → claimPath (s1.pc a) g = true → claimPath (s1.pc a') g = true → a = a' := by
  intro g a a'
  have h := h2.uq g a a'
  cases ht <;> dsimp only [upd, untainted] at h ⊢
  case xJoinPark =>
    have cpn := h0.cpn
    grind only [claimPath, untainted]
  case xTake | dTake =>
    have k3 := h2.k3
    grind only [claimPath, untainted]
  all_goals grind only [claimPath]

theorem inv2_sq (h0 : Inv0 s) (h2 : Inv2 s) (ht : Trans s e s1) :
    ∀ g a, untainted s1 g → s1.succ g ≠ [] → claimPath (s1.pc a) g = false := by
  intro g a
  have h := h2.sq g a
  cases ht <;> dsimp only [upd, untainted] at h ⊢
  case retN | ret =>
    have uq := h2.uq
    grind only [claimPath, untainted]
  case xJoinPark =>
    have scn := h0.scn
    grind only [claimPath, untainted]
  case xTake | dTake =>
    have k4 := h2.k4
    grind only [claimPath, untainted]
  all_goals grind only [claimPath]

theorem inv2_sl (h2 : Inv2 s) (ht : Trans s e s1) :
    ∀ g, untainted s1 g → (s1.succ g).length ≤ 1 := by
  intro g
  have h := h2.sl g
  cases ht <;> dsimp only [upd, untainted] at h ⊢
  case retN | ret =>
    have sq := h2.sq
    have sl := h2.sl
    grind only [claimPath, untainted, List.length_cons, List.length_nil]
  all_goals grind only [List.length_cons, List.length_nil]

theorem inv2_cv1 (h1 : Inv1 s) (h2 : Inv2 s) (ht : Trans s e s1) :
    ∀ g p, untainted s1 g → s1.pc p = .jWoken g → s1.retval g = some (s1.res p) := by
  intro g p
  have h := h2.cv1 g p
  cases ht <;> dsimp only [upd, untainted] at h ⊢
  case wakeJ =>
    have hw := h1.hw
    have uq := h2.uq
    have cv1 := h2.cv1
    grind only [claimPath, parkedIn, untainted]
  case wakeJoiner =>
    have gv := h1.gv
    have hf := h1.hf
    grind only [untainted]
  case stGive =>
    have hf := h1.hf
    grind only [untainted]
  all_goals grind only []

theorem inv2_cv2 (h2 : Inv2 s) (ht : Trans s e s1) :
    ∀ g p v, untainted s1 g → s1.pc p = .jGotRes g v → s1.retval g = some v := by
  intro g p v
  have h := h2.cv2 g p v
  cases ht <;> dsimp only [upd, untainted] at h ⊢
  case resJoiner =>
    have cv1 := h2.cv1
    grind only [untainted]
  all_goals grind only []

theorem inv2_cv3 (h1 : Inv1 s) (h2 : Inv2 s) (ht : Trans s e s1) :
    ∀ g a op v, untainted s1 g → s1.pc a = .retn op g true v → op ≠ .detach → s1.retval g = some v := by
  intro g a op v
  have h := h2.cv3 g a op v
  cases ht <;> dsimp only [upd, untainted] at h ⊢
  case wakeJ | wakeFin =>
    have wv := h1.wv
    grind only [untainted]
  case stJoinerN =>
    have cv1 := h2.cv1
    grind only [untainted]
  case stJoiner =>
    have cv2 := h2.cv2
    grind only [untainted]
  all_goals grind only []

theorem inv2_sv (h2 : Inv2 s) (ht : Trans s e s1) :
    ∀ g v, untainted s1 g → v ∈ s1.succ g → s1.retval g = some v := by
  intro g v
  have h := h2.sv g v
  cases ht <;> dsimp only [upd, untainted] at h ⊢
  case retN | ret =>
    have cv3 := h2.cv3
    grind only [untainted, List.mem_cons]
  all_goals grind only [List.mem_cons]

theorem inv2_c1 (h1 : Inv1 s) (h2 : Inv2 s) (ht : Trans s e s1) :
    ∀ g b, untainted s1 g → takePh (s1.pc b) g = true → parkF (s1.pc g) = true := by
  intro g b
  have h := h2.c1 g b
  cases ht <;> dsimp only [upd, untainted] at h ⊢
  case xTake | dTake =>
    have c4 := h2.c4
    grind only [parkF, takePh, untainted]
  case wakeFin =>
    have uq := h2.uq
    have hw := h1.hw
    grind only [parkF, takePh, claimPath, parkedIn, untainted, → tp_cp]
  all_goals grind only [parkF, takePh]

theorem inv2_c4 (h0 : Inv0 s) (h1 : Inv1 s) (h2 : Inv2 s) (ht : Trans s e s1) :
    ∀ g, untainted s1 g → s1.det g = WFJ → (s1.finTook g = true ∨ parkF (s1.pc g) = true) := by
  intro g
  have h := h2.c4 g
  cases ht <;> dsimp only [upd, untainted] at h ⊢
  case fOver =>
    have dr := h0.dr
    grind only [parkF, untainted, WFJ, DET, NONE, WTJ]
  case wakeFin =>
    have k3 := h2.k3
    have hw := h1.hw
    grind only [parkF, claimPath, parkedIn, untainted, WFJ, DET, NONE, WTJ]
  all_goals grind only [parkF, WFJ, DET, NONE, WTJ]

theorem inv2_c9 (h0 : Inv0 s) (h1 : Inv1 s) (h2 : Inv2 s) (ht : Trans s e s1) :
    ∀ g, untainted s1 g → s1.det g = WTJ → finX (s1.pc g) = false → (s1.first g ≠ none ∧ ∀ p, s1.first g = some p → joinerPark (s1.pc p) g = true) := by
  intro g
  have h := h2.c9 g
  cases ht <;> dsimp only [upd, untainted] at h ⊢
  case xTake =>
    have wfj := h0.wfj
    grind only [finX, joinerPark, untainted, WFJ, DET, NONE, WTJ]
  case xFail =>
    have tl := h0.tl
    have dr := h0.dr
    grind only [finX, joinerPark, untainted, WFJ, DET, NONE, WTJ]
  case wakeJ =>
    have uq := h2.uq
    have hw := h1.hw
    have c9 := h2.c9
    grind only [finX, joinerPark, claimPath, parkedIn, untainted, WFJ, DET, NONE, WTJ]
  case wakeJoiner =>
    have hf := h1.hf
    grind only [finX, joinerPark, untainted, WFJ, DET, NONE, WTJ]
  all_goals grind only [finX, joinerPark, WFJ, DET, NONE, WTJ]

theorem inv2_ii (h1 : Inv1 s) (h2 : Inv2 s) (ht : Trans s e s1) :
    ∀ g, untainted s1 g → s1.pc g = .fTake → (s1.first g ≠ none ∧ ∀ p, s1.first g = some p → joinerPark (s1.pc p) g = true) := by
  intro g
  have h := h2.ii g
  cases ht <;> dsimp only [upd, untainted] at h ⊢
  case fTake =>
    have c9 := h2.c9
    grind only [finX, joinerPark, untainted]
  case wakeJ =>
    have uq := h2.uq
    have hw := h1.hw
    have ii := h2.ii
    grind only [joinerPark, claimPath, parkedIn, untainted]
  case wakeJoiner =>
    have hf := h1.hf
    grind only [joinerPark, untainted]
  all_goals grind only [joinerPark]

theorem inv2_iii (h0 : Inv0 s) (h1 : Inv1 s) (h2 : Inv2 s) (ht : Trans s e s1) :
    ∀ g p, untainted s1 g → joinerPark (s1.pc p) g = true → finX (s1.pc g) = true → delivering (s1.pc g) p = true := by
  intro g p
  have h := h2.iii g p
  cases ht <;> dsimp only [upd, untainted] at h ⊢
  case ldFin | fPark =>
    have k5 := h2.k5
    grind only [finX, joinerPark, delivering, untainted, WFJ, DET, NONE, WTJ]
  case xJoinPark =>
    have fxn := h0.fxn
    grind only [finX, joinerPark, delivering, untainted, WFJ, DET, NONE, WTJ]
  case fOver =>
    have k5 := h2.k5
    have wfj := h0.wfj
    grind only [finX, joinerPark, delivering, untainted, WFJ, DET, NONE, WTJ]
  case xchgFin =>
    have mb := h1.mb
    have uq := h2.uq
    grind only [finX, joinerPark, claimPath, parkedIn, delivering, untainted, → jpk_jp, → jp_cp, → parkedIn_inv]
  all_goals grind only [finX, joinerPark, delivering]

theorem inv2_iv (h1 : Inv1 s) (h2 : Inv2 s) (ht : Trans s e s1) :
    ∀ g, untainted s1 g → parkF (s1.pc g) = true → s1.det g ≠ WFJ → (s1.taker g ≠ none ∧ ∀ b, s1.taker g = some b → takePh (s1.pc b) g = true) := by
  intro g
  have h := h2.iv g
  cases ht <;> dsimp only [upd, untainted] at h ⊢
  case wakeJ =>
    have hw := h1.hw
    have uq := h2.uq
    have iv := h2.iv
    grind only [parkF, takePh, claimPath, parkedIn, untainted, WFJ, NONE]
  case wakeFin =>
    have hw := h1.hw
    grind only [parkF, takePh, parkedIn, untainted, WFJ, NONE]
  all_goals grind only [parkF, takePh, WFJ, NONE]

theorem inv2_t4 (h2 : Inv2 s) (ht : Trans s e s1) :
    ∀ g, untainted s1 g → s1.detX g = true → s1.det g = DET := by
  intro g
  have h := h2.t4 g
  cases ht <;> dsimp only [upd, untainted] at h ⊢
  all_goals grind only [WFJ, DET, NONE, WTJ]

theorem inv2_dx1 (h0 : Inv0 s) (h2 : Inv2 s) (ht : Trans s e s1) :
    ∀ g, untainted s1 g → s1.detX g = true → s1.succ g = [] := by
  intro g
  have h := h2.dx1 g
  cases ht <;> dsimp only [upd, untainted] at h ⊢
  case retN | ret =>
    have dx2 := h2.dx2
    have dx1 := h2.dx1
    grind only [claimPath, detTake, untainted, WFJ, DET, NONE, WTJ]
  case dTake =>
    have k4 := h2.k4
    grind only [untainted, WFJ, DET, NONE, WTJ]
  case dDone =>
    have scn := h0.scn
    have dr := h0.dr
    grind only [untainted, WFJ, DET, NONE, WTJ]
  all_goals grind only [WFJ, DET, NONE, WTJ]

theorem inv2_dx2 (h0 : Inv0 s) (h2 : Inv2 s) (ht : Trans s e s1) :
    ∀ g a, untainted s1 g → s1.detX g = true → claimPath (s1.pc a) g = true → detTake (s1.pc a) g = true := by
  intro g a
  have h := h2.dx2 g a
  cases ht <;> dsimp only [upd, untainted] at h ⊢
  case xJoinPark | xTake =>
    have t4 := h2.t4
    grind only [claimPath, detTake, untainted, WFJ, DET, NONE, WTJ]
  case dTake =>
    have k3 := h2.k3
    grind only [claimPath, detTake, untainted, WFJ, DET, NONE, WTJ]
  case dDone =>
    have cpn := h0.cpn
    have dr := h0.dr
    grind only [claimPath, detTake, untainted, WFJ, DET, NONE, WTJ]
  case wakeJ | wakeFin | xchgTake =>
    grind only [claimPath, detTake, → detTake_inv, WFJ, DET, NONE, WTJ]
  all_goals grind only [claimPath, detTake, WFJ, DET, NONE, WTJ]

theorem inv2_trans (h0 : Inv0 s) (h1 : Inv1 s) (h2 : Inv2 s) (ht : Trans s e s1) : Inv2 s1 :=
  ⟨inv2_k3 h0 h2 ht,
   inv2_k4 h0 h2 ht,
   inv2_k5 h2 ht,
   inv2_uq h0 h2 ht,
   inv2_sq h0 h2 ht,
   inv2_sl h2 ht,
   inv2_cv1 h1 h2 ht,
   inv2_cv2 h2 ht,
   inv2_cv3 h1 h2 ht,
   inv2_sv h2 ht,
   inv2_c1 h1 h2 ht,
   inv2_c4 h0 h1 h2 ht,
   inv2_c9 h0 h1 h2 ht,
   inv2_ii h1 h2 ht,
   inv2_iii h0 h1 h2 ht,
   inv2_iv h1 h2 ht,
   inv2_t4 h2 ht,
   inv2_dx1 h0 h2 ht,
   inv2_dx2 h0 h2 ht⟩

theorem Trans.late (ht : Trans s e s1) : s1.late = s.late := by
  cases ht <;> rfl

theorem Trans.ut_mono (ht : Trans s e s1) : ∀ g, untainted s1 g → untainted s g := by
  cases ht <;> grind only [untainted, upd_apply]

theorem Trans.destroyed (ht : Trans s e s1) (hcnt : e.counted = true) : s1.destroyed = s.destroyed := by
  cases ht
  case destroy => cases hcnt
  all_goals rfl

/-- a counted (post-exchange) access never hits a destroyed fiber on which no window was opened -/
theorem Trans.no_late (h0 : Inv0 s) (h1 : Inv1 s) (h2 : Inv2 s) (ht : Trans s e s1) (hcnt : e.counted = true)
    (hd : s.destroyed e.cellOf = true) (hu : untainted s e.cellOf) : False := by
  have dst := h0.dst
  have c1 := h2.c1
  have iii : ∀ g p, untainted s g → s.pc p = .jParking g → finX (s.pc g) = true → delivering (s.pc g) p = true :=
    fun g p hu hp => h2.iii g p hu (by simp [hp])
  have hw := h1.hw
  have hf := h1.hf
  cases ht <;> simp only [Ev.counted, Bool.false_eq_true] at hcnt <;> dsimp only [Ev.cellOf] at hd hu <;>
    grind only [takePh, parkF, finX, delivering, parkedIn]

theorem Stay.no_late (h0 : Inv0 s) (h2 : Inv2 s) (ht : Stay s e) (hcnt : e.counted = true)
    (hd : s.destroyed e.cellOf = true) (hu : untainted s e.cellOf) : False := by
  cases ht
  case touch => cases hcnt
  case xchgNone a g hp hj =>
    have := h0.dst g hd
    have := h2.c1 g a hu
    grind only [takePh, parkF]

theorem inv0_late {s : St} (l : Nat → Nat) (h : Inv0 s) : Inv0 { s with late := l } := by
  cases h; constructor <;> assumption
theorem inv1_late {s : St} (l : Nat → Nat) (h : Inv1 s) : Inv1 { s with late := l } := by
  cases h; constructor <;> assumption
theorem inv2_late {s : St} (l : Nat → Nat) (h : Inv2 s) : Inv2 { s with late := l } := by
  cases h; constructor <;> assumption

theorem inv_init (isT : Nat → Bool) : Inv (init isT) := by
  refine ⟨?_, ?_, ?_, ?_⟩
  · constructor <;> intros <;> simp_all [init, DET, NONE, WFJ] <;> grind
  · constructor <;> intros <;> simp_all [init, DET, NONE]
  · constructor <;> intros <;> simp_all [init, DET, NONE, WFJ, WTJ, untainted] <;> grind
  · intro g _; rfl

theorem inv_step (isT : Nat → Bool) (s : St) (e : Ev) (s' : St) (hI : Inv s)
    (h : (sys isT).step s e = some s') : Inv s' := by
  obtain ⟨s1, hc, rfl⟩ := step_some h
  obtain ⟨h0, h1, h2, h3⟩ := hI
  -- on an untainted cell `late` stays as it is: the cell was untainted before the step (windows
  -- never close), and the step's own access is counted only if it hits a destroyed fiber
  have hl : s1.late = s.late ∧ (∀ g, untainted s1 g → untainted s g) ∧
      (untainted s e.cellOf → ¬(e.counted = true ∧ s1.destroyed e.cellOf = true)) := by
    rcases stepCore_trans hc with ht | ⟨hs, rfl⟩
    · exact ⟨ht.late, ht.ut_mono, fun hu hcd => ht.no_late h0 h1 h2 hcd.1 (ht.destroyed hcd.1 ▸ hcd.2) hu⟩
    · exact ⟨rfl, fun _ hu => hu, fun hu hcd => hs.no_late h0 h2 hcd.1 hcd.2 hu⟩
  have h3' : Inv3 { s1 with late := if e.counted ∧ s1.destroyed e.cellOf then upd s1.late e.cellOf (s1.late e.cellOf + 1) else s1.late } := by
    intro g hu
    have hus : untainted s g := hl.2.1 g hu
    show (if e.counted = true ∧ s1.destroyed e.cellOf = true then upd s1.late e.cellOf (s1.late e.cellOf + 1) else s1.late) g = 0
    by_cases hcd : e.counted = true ∧ s1.destroyed e.cellOf = true
    · have hg : g ≠ e.cellOf := fun hg => hl.2.2 (hg ▸ hus) hcd
      rw [if_pos hcd, upd_other _ _ _ _ hg, hl.1]; exact h3 g hus
    · rw [if_neg hcd, hl.1]; exact h3 g hus
  rcases stepCore_trans hc with ht | ⟨_, rfl⟩
  · exact ⟨inv0_late _ (inv0_trans h0 ht), inv1_late _ (inv1_trans h0 h1 ht), inv2_late _ (inv2_trans h0 h1 h2 ht), h3'⟩
  · exact ⟨inv0_late _ h0, inv1_late _ h1, inv2_late _ h2, h3'⟩

theorem inv_of_run {isT : Nat → Bool} {es : List Ev} {s : St} (h : (sys isT).run es = some s) : Inv s :=
  Sys.inv_of_run (sys isT) Inv (inv_init isT) (inv_step isT) h

end LibfiberVerif.Join
