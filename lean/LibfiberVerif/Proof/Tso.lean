/-
  Proof/Tso.lean — lemmas about the store-buffer layer `Model/Tso.lean`.

  The one idea the TSO proofs share: the states the OTHER threads can observe while `t` still
  has buffered stores are the partial drains of `t`'s buffer.  `AllViews m t P` says that `P`
  holds of every partial drain (together with what is still buffered); it is inherited by a
  `flush t` for free and extended by a `store` by looking at the fully drained view only.
-/
import LibfiberVerif.Model.Tso

namespace LibfiberVerif.Tso

theorem applyAll_nil (μ : Nat → Int) : applyAll μ [] = μ := rfl

theorem applyAll_cons (μ : Nat → Int) (e : Nat × Int) (b : Buf) :
    applyAll μ (e :: b) = applyAll (upd μ e.1 e.2) b := rfl

theorem applyAll_append (μ : Nat → Int) (a b : Buf) :
    applyAll μ (a ++ b) = applyAll (applyAll μ a) b := by
  simp [applyAll, List.foldl_append]

theorem applyAll_snoc (μ : Nat → Int) (b : Buf) (c : Nat) (v : Int) :
    applyAll μ (b ++ [(c, v)]) = upd (applyAll μ b) c v := by
  rw [applyAll_append]; rfl

theorem applyAll_apply (μ : Nat → Int) (b : Buf) (c : Nat) :
    applyAll μ b c = b.read c (μ c) := by
  induction b generalizing μ with
  | nil => rfl
  | cons e b ih =>
    rw [applyAll_cons, ih]
    simp only [Buf.read, List.foldl_cons, upd]
    by_cases h : c = e.1
    · subst h; simp
    · have : ¬ e.1 = c := fun h' => h h'.symm
      simp [h, this]

theorem load_eq_view (m : Mem) (t c : Nat) : m.load t c = m.view t c := by
  simp [Mem.load, Mem.view, applyAll_apply]

theorem applyAll_of_not_mem (μ : Nat → Int) (b : Buf) (c : Nat) (h : ∀ e ∈ b, e.1 ≠ c) :
    applyAll μ b c = μ c := by
  induction b generalizing μ with
  | nil => rfl
  | cons e b ih =>
    rw [applyAll_cons, ih _ (fun e' he' => h e' (List.mem_cons_of_mem _ he'))]
    have := h e (List.mem_cons_self)
    simp [upd]; intro hc; exact absurd hc.symm this

theorem applyAll_upd_other (μ : Nat → Int) (b : Buf) (c0 c : Nat) (v : Int) (h : c ≠ c0) :
    applyAll (upd μ c0 v) b c = applyAll μ b c := by
  rw [applyAll_apply, applyAll_apply]; simp [upd, h]

theorem view_of_drained {m : Mem} {t : Nat} (h : m.buf t = []) : m.view t = m.mem := by
  simp [Mem.view, h, applyAll]

theorem load_of_drained {m : Mem} {t : Nat} (h : m.buf t = []) (c : Nat) : m.load t c = m.mem c := by
  rw [load_eq_view, view_of_drained h]

theorem store_buf_self (m : Mem) (t c : Nat) (v : Int) :
    (m.store t c v).buf t = m.buf t ++ [(c, v)] := by simp [Mem.store]

theorem store_buf_other (m : Mem) (t u c : Nat) (v : Int) (h : u ≠ t) :
    (m.store t c v).buf u = m.buf u := by simp [Mem.store, upd, h]

theorem store_mem (m : Mem) (t c : Nat) (v : Int) : (m.store t c v).mem = m.mem := rfl

theorem view_store_self (m : Mem) (t c : Nat) (v : Int) :
    (m.store t c v).view t = upd (m.view t) c v := by
  simp [Mem.view, store_buf_self, store_mem, applyAll_snoc]

theorem poke_buf (m : Mem) (c : Nat) (v : Int) : (m.poke c v).buf = m.buf := rfl
theorem poke_mem (m : Mem) (c : Nat) (v : Int) : (m.poke c v).mem = upd m.mem c v := rfl

@[simp] theorem poke_mem_same (m : Mem) (c : Nat) (v : Int) : (m.poke c v).mem c = v := by
  simp [Mem.poke]

theorem poke_mem_other (m : Mem) {c c' : Nat} (v : Int) (h : c' ≠ c) :
    (m.poke c v).mem c' = m.mem c' := by simp [Mem.poke, upd, h]

theorem view_poke_other (m : Mem) (t c0 c : Nat) (v : Int) (h : c ≠ c0) :
    (m.poke c0 v).view t c = m.view t c := by
  simp [Mem.view, poke_buf, poke_mem, applyAll_upd_other _ _ _ _ _ h]

theorem flush_some {m m' : Mem} {t : Nat} (h : m.flush t = some m') :
    ∃ e rest, m.buf t = e :: rest ∧ m'.mem = upd m.mem e.1 e.2 ∧ m'.buf = upd m.buf t rest := by
  unfold Mem.flush at h
  split at h
  · cases h
  · next e rest hb => cases h; exact ⟨e, rest, hb, rfl, rfl⟩

theorem flush_mem_of_not_mem {m m' : Mem} {t c : Nat} (hf : m.flush t = some m')
    (hc : ∀ e ∈ m.buf t, e.1 ≠ c) : m'.mem c = m.mem c := by
  obtain ⟨e, rest, hb, hm, -⟩ := flush_some hf
  rw [hm, upd_other _ _ _ _ (Ne.symm (hc e (by rw [hb]; exact List.mem_cons_self)))]

theorem flush_buf_other {m m' : Mem} {t u : Nat} (hf : m.flush t = some m') (hu : u ≠ t) :
    m'.buf u = m.buf u := by
  obtain ⟨e, rest, -, -, hbuf⟩ := flush_some hf
  rw [hbuf, upd_other _ _ _ _ hu]

theorem flush_buf_subset {m m' : Mem} {t : Nat} (hf : m.flush t = some m') :
    ∀ e ∈ m'.buf t, e ∈ m.buf t := by
  obtain ⟨e, rest, hb, -, hbuf⟩ := flush_some hf
  intro e' he'; rw [hbuf, upd_same] at he'; rw [hb]; exact List.mem_cons_of_mem _ he'

theorem flush_none_of_drained {m : Mem} {t : Nat} (hb : m.buf t = []) : m.flush t = none := by
  simp [Mem.flush, hb]

theorem view_flush_self {m m' : Mem} {t : Nat} (h : m.flush t = some m') : m'.view t = m.view t := by
  obtain ⟨e, rest, hb, hm, hbuf⟩ := flush_some h
  simp [Mem.view, hb, hm, hbuf, applyAll_cons]

theorem drainAll_eq_flushN (m : Mem) (t : Nat) : m.flushN t (m.buf t).length = m.drainAll t := by
  generalize hk : (m.buf t).length = k
  induction k generalizing m with
  | zero =>
    have hb : m.buf t = [] := List.length_eq_zero_iff.mp hk
    simp only [Mem.flushN, Mem.drainAll, hb, applyAll_nil]
    cases m with
    | mk mem buf =>
      simp only [Mem.mk.injEq, true_and]
      funext u; simp only [upd]; split
      · next h => subst h; exact hb
      · rfl
  | succ k ih =>
    cases hb : m.buf t with
    | nil => simp [hb] at hk
    | cons e rest =>
      have hfl : m.flush t = some { mem := upd m.mem e.1 e.2, buf := upd m.buf t rest } := by
        simp [Mem.flush, hb]
      simp only [Mem.flushN, hfl]
      rw [ih]
      · simp only [Mem.drainAll, upd_same, hb, applyAll_cons, Mem.mk.injEq, true_and]
        funext u; simp only [upd]; split <;> rfl
      · simp [hb] at hk; simpa using hk

/-- `P μ suf` holds whenever `μ` is memory after a prefix of `t`'s buffer has drained and `suf`
    is what is still buffered.  `pre = []`: memory as the other threads see it now;
    `suf = []`: `t`'s own view. -/
def AllViews (m : Mem) (t : Nat) (P : (Nat → Int) → Buf → Prop) : Prop :=
  ∀ pre suf, m.buf t = pre ++ suf → P (applyAll m.mem pre) suf

theorem AllViews.now {m : Mem} {t : Nat} {P} (h : AllViews m t P) : P m.mem (m.buf t) :=
  h [] (m.buf t) rfl

theorem AllViews.own {m : Mem} {t : Nat} {P} (h : AllViews m t P) : P (m.view t) [] :=
  h (m.buf t) [] (by simp)

theorem AllViews.and {m : Mem} {t : Nat} {P Q : (Nat → Int) → Buf → Prop}
    (h1 : AllViews m t P) (h2 : AllViews m t Q) : AllViews m t (fun μ suf => P μ suf ∧ Q μ suf) :=
  fun pre suf hb => ⟨h1 pre suf hb, h2 pre suf hb⟩

theorem AllViews.mono {m : Mem} {t : Nat} {P Q : (Nat → Int) → Buf → Prop}
    (h : AllViews m t P) (hPQ : ∀ μ suf, (∀ e ∈ suf, e ∈ m.buf t) → P μ suf → Q μ suf) :
    AllViews m t Q := by
  intro pre suf hb
  exact hPQ _ _ (fun e he => by rw [hb]; exact List.mem_append_right _ he) (h pre suf hb)

theorem AllViews.flush {m m' : Mem} {t : Nat} {P} (h : AllViews m t P)
    (hf : m.flush t = some m') : AllViews m' t P := by
  obtain ⟨e, rest, hb, hm, hbuf⟩ := flush_some hf
  intro pre suf hps
  rw [hbuf, upd_same] at hps
  have := h (e :: pre) suf (by rw [hb, hps]; rfl)
  rw [applyAll_cons] at this
  rw [hm]; exact this

theorem append_snoc_split {α : Type} {pre suf b : List α} {e : α} (h : b ++ [e] = pre ++ suf) :
    (∃ suf', suf = suf' ++ [e] ∧ b = pre ++ suf') ∨ (suf = [] ∧ pre = b ++ [e]) := by
  rcases List.eq_nil_or_concat suf with hs | ⟨suf', x, hs⟩
  · right; subst hs; simp at h; exact ⟨rfl, h.symm⟩
  · left
    subst hs
    rw [List.concat_eq_append, ← List.append_assoc] at h
    have h1 := List.append_inj' h (by simp)
    refine ⟨suf', ?_, h1.1⟩
    have := h1.2; simp at this; rw [List.concat_eq_append, this]

/-- extended by a store of the same thread: the old partial drains see one more buffered entry,
    and there is one new, fully drained view -/
theorem AllViews.store {m : Mem} {t c : Nat} {v : Int} {P Q : (Nat → Int) → Buf → Prop}
    (h : AllViews m t P)
    (hold : ∀ μ suf, (∀ e ∈ suf, e ∈ m.buf t) → P μ suf → Q μ (suf ++ [(c, v)]))
    (hnew : Q (upd (m.view t) c v) []) : AllViews (m.store t c v) t Q := by
  intro pre suf hps
  rw [store_buf_self] at hps
  rw [store_mem]
  rcases append_snoc_split hps with ⟨suf', rfl, hb⟩ | ⟨rfl, rfl⟩
  · exact hold _ _ (fun e he => by rw [hb]; exact List.mem_append_right _ he) (h pre suf' hb)
  · rw [applyAll_snoc]; exact hnew

/-- a write to memory at a cell `P` does not look at -/
theorem AllViews.poke {m : Mem} {t c0 : Nat} {v : Int} {P Q : (Nat → Int) → Buf → Prop}
    (h : AllViews m t P)
    (hPQ : ∀ μ μ' suf, (∀ e ∈ suf, e ∈ m.buf t) → (∀ c, c ≠ c0 → μ' c = μ c) → P μ suf → Q μ' suf) :
    AllViews (m.poke c0 v) t Q := by
  intro pre suf hb
  rw [poke_buf] at hb
  rw [poke_mem]
  exact hPQ _ _ _ (fun e he => by rw [hb]; exact List.mem_append_right _ he)
    (fun c hc => applyAll_upd_other _ _ _ _ _ hc) (h pre suf hb)

theorem AllViews.of_drained {m : Mem} {t : Nat} {P} (hb : m.buf t = []) (h : P m.mem []) :
    AllViews m t P := by
  intro pre suf hps
  rw [hb] at hps
  obtain ⟨h1, h2⟩ := List.append_eq_nil_iff.mp hps.symm
  subst h1; subst h2; exact h

end LibfiberVerif.Tso
