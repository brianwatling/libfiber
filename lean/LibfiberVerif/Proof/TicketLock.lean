/-
  Proof/TicketLock.lean — the ticket lock as its callers see it, for any memory model: a counter
  `next` of releases, a counter `tail` of tickets handed out, and what each thread is to the lock
  (`TicketRole`).  The invariant says who owns the outstanding tickets `next … tail-1`; the four
  operations on the lock word (`draw`, `enter`, `tryAcq`, `release`) keep it, and mutual exclusion,
  FIFO order and "every ticket has one owner" are read off it.  `Proof/Spin.lean` (sequentially
  consistent, counters modulo 2^32) and `Proof/SpinTso.lean` (store buffers) map their program
  counters to roles and add what is theirs: the arithmetic modulo 2^32, the buffers.
-/
import LibfiberVerif.Core.Sys

namespace LibfiberVerif

inductive TicketRole
  | out
  /-- waits with ticket `g` -/
  | wait (g : Nat)
  | hold

/-- ticket `next` is the holder's (`h`), if somebody holds the lock; the following ones are, one
    each and in this order, those of the waiting threads `q`: the threads in the order `order` of
    all ticket draws after those (`acq`) that have been served -/
structure TicketLock (next tail : Nat) (role : Nat → TicketRole) (order acq : List Nat)
    (h : Option Nat) (q : List Nat) : Prop where
  hold : ∀ t, role t = .hold ↔ h = some t
  mem : ∀ t g, role t = .wait g ↔ (t, g) ∈ q.zipIdx (next + h.toList.length)
  tail : tail = next + h.toList.length + q.length
  ord : order = acq ++ q

namespace TicketLock

variable {next tail : Nat} {role : Nat → TicketRole} {order acq : List Nat} {h : Option Nat}
  {q : List Nat}

theorem init (n : Nat) : TicketLock n n (fun _ => .out) [] [] none [] := by
  constructor <;> simp

/-! ### the operations -/

theorem draw (l : TicketLock next tail role order acq h q) {t : Nat} (ht : role t = .out) :
    TicketLock next (tail + 1) (upd role t (.wait tail)) (order ++ [t]) acq h (q ++ [t]) where
  hold t' := by
    rw [← l.hold]
    by_cases e : t' = t
    · simp [e, ht]
    · rw [upd_other _ _ _ _ e]
  mem t' g := by
    rw [List.zipIdx_append, List.zipIdx_singleton, List.mem_append, ← l.mem, ← l.tail]
    by_cases e : t' = t
    · simp [e, ht, eq_comm]
    · simp [e]
  tail := by simp [l.tail]; omega
  ord := by simp [l.ord]

/-- the thread waiting with ticket `next` finds it served: nobody holds the lock, and the thread
    is the head of the queue -/
theorem enter (l : TicketLock next tail role order acq h q) {t : Nat} (ht : role t = .wait next) :
    h = none ∧ ∃ rest, q = t :: rest ∧
      TicketLock next tail (upd role t .hold) order (acq ++ [t]) (some t) rest := by
  have hm := (l.mem t next).mp ht
  obtain rfl : h = none := by
    have := List.le_snd_of_mem_zipIdx hm
    cases h <;> simp at this ⊢; omega
  obtain ⟨hhold, hmem, htail, hord⟩ := l
  simp only [Option.toList_none, List.length_nil, Nat.add_zero] at hmem htail hm
  cases q with
  | nil => simp at hm
  | cons hd rest =>
    rw [List.zipIdx_cons] at hm hmem
    -- the tickets behind the head are above `next`
    have hnot : ∀ t', (t', next) ∉ rest.zipIdx (next + 1) := fun t' hm' => by
      have := List.le_snd_of_mem_zipIdx hm'; simp at this; omega
    obtain rfl : t = hd := by simpa [hnot t] using hm
    refine ⟨rfl, rest, rfl, fun t' => ?_, fun t' g => ?_, by simp at htail ⊢; omega, by simp [hord]⟩
    · by_cases e : t' = t
      · simp [e]
      · simpa [e, Ne.symm e] using hhold t'
    · by_cases e : t' = t
      · subst e
        suffices (t', g) ∉ rest.zipIdx (next + 1) by simpa
        intro hm'
        obtain rfl : next = g := by simpa [ht] using (hmem t' g).mpr (.tail _ hm')
        exact hnot _ hm'
      · simpa [e] using hmem t' g

/-- `trylock` finds `next = tail`: nobody holds the lock, nobody waits -/
theorem tryAcq (l : TicketLock next tail role order acq h q) {t : Nat} (hidle : next = tail) :
    h = none ∧ q = [] ∧ TicketLock next (tail + 1) (upd role t .hold) order acq (some t) [] := by
  have := l.tail
  obtain rfl : h = none := by cases h <;> simp at this ⊢; omega
  obtain rfl : q = [] := List.eq_nil_of_length_eq_zero (by omega)
  refine ⟨rfl, rfl, fun t' => ?_, fun t' g => ?_, by simp; omega, by simpa using l.ord⟩
  · by_cases e : t' = t
    · simp [e]
    · simpa [e, Ne.symm e] using l.hold t'
  · by_cases e : t' = t
    · simp [e]
    · simpa [e] using l.mem t' g

theorem release (l : TicketLock next tail role order acq h q) {t : Nat} (ht : role t = .hold) :
    TicketLock (next + 1) tail (upd role t .out) order acq none q := by
  obtain rfl := (l.hold t).mp ht
  refine ⟨fun t' => ?_, fun t' g => ?_, by simpa [Nat.add_comm] using l.tail, l.ord⟩
  · by_cases e : t' = t
    · simp [e]
    · simpa [e, Ne.symm e] using l.hold t'
  · by_cases e : t' = t
    · subst e
      have := l.mem t' g
      simp_all
    · simpa [e] using l.mem t' g

/-- for a model whose threads have program counters `pc`, read as roles through `r` -/
theorem of_upd {α : Type} {r : α → TicketRole} {pc : Nat → α} {t : Nat} {c : α}
    (l : TicketLock next tail (upd (fun j => r (pc j)) t (r c)) order acq h q) :
    TicketLock next tail (fun j => r (upd pc t c j)) order acq h q := by
  have : (fun j => r (upd pc t c j)) = upd (fun j => r (pc j)) t (r c) := by
    funext j; simp only [upd]; split <;> rfl
  rwa [this]

/-- a step that leaves the role of its thread as it is -/
theorem move {α : Type} {r : α → TicketRole} {pc : Nat → α} {t : Nat} {c : α}
    (l : TicketLock next tail (fun j => r (pc j)) order acq h q) (hr : r c = r (pc t)) :
    TicketLock next tail (fun j => r (upd pc t c j)) order acq h q :=
  of_upd (by rw [hr, upd_self]; exact l)

/-! ### what the invariant says -/

theorem excl (l : TicketLock next tail role order acq h q) {t1 t2 : Nat} (h1 : role t1 = .hold)
    (h2 : role t2 = .hold) : t1 = t2 :=
  Option.some.inj (((l.hold t1).mp h1).symm.trans ((l.hold t2).mp h2))

theorem free (l : TicketLock next tail role order acq none q) (t : Nat) : role t ≠ .hold :=
  fun ht => nomatch (l.hold t).mp ht

theorem le (l : TicketLock next tail role order acq h q) : next ≤ tail := by
  have := l.tail; omega

theorem lt_of_hold (l : TicketLock next tail role order acq h q) {t : Nat} (ht : role t = .hold) :
    next < tail := by
  have := l.tail
  simp [(l.hold t).mp ht] at this
  omega

/-- a waiter's ticket is outstanding, and is not `next` while somebody holds the lock -/
theorem wait_bounds (l : TicketLock next tail role order acq h q) {t g : Nat}
    (ht : role t = .wait g) : next ≤ g ∧ g < tail ∧ ∀ t', role t' = .hold → g ≠ next := by
  have hm := (l.mem t g).mp ht
  have := List.le_snd_of_mem_zipIdx hm
  have := List.snd_lt_add_of_mem_zipIdx hm
  refine ⟨by simp at *; omega, by rw [l.tail]; exact this, fun t' h' => ?_⟩
  simp [(l.hold t').mp h'] at *
  omega

theorem wait_inj (l : TicketLock next tail role order acq h q) {t1 t2 g : Nat}
    (h1 : role t1 = .wait g) (h2 : role t2 = .wait g) : t1 = t2 :=
  (List.mem_zipIdx ((l.mem t1 g).mp h1)).2.2.trans (List.mem_zipIdx ((l.mem t2 g).mp h2)).2.2.symm

theorem role_getElem (l : TicketLock next tail role order acq h q) {i : Nat} (hi : i < q.length) :
    role q[i] = .wait (next + h.toList.length + i) :=
  (l.mem _ _).mpr (List.mk_add_mem_zipIdx_iff_getElem?.mpr (by simp [hi]))

/-- every outstanding ticket has an owner -/
theorem owned (l : TicketLock next tail role order acq h q) {k : Nat} (h1 : next ≤ k)
    (h2 : k < tail) : ∃ t, role t = .wait k ∨ (k = next ∧ role t = .hold) := by
  have htail := l.tail
  by_cases e : next + h.toList.length ≤ k
  · obtain ⟨i, rfl⟩ := Nat.exists_eq_add_of_le e
    exact ⟨q[i]'(by omega), .inl (l.role_getElem _)⟩
  · cases h with
    | none => simp at e; omega
    | some t0 => exact ⟨t0, .inr ⟨by simp at e; omega, (l.hold t0).mpr rfl⟩⟩

/-- the owners of the outstanding tickets are distinct threads, none of them `out` -/
theorem owners (l : TicketLock next tail role order acq h q) :
    (h.toList ++ q).Nodup ∧ ∀ t ∈ h.toList ++ q, role t ≠ .out := by
  have hq : ∀ t ∈ q, ∃ g, role t = .wait g := fun t ht => by
    obtain ⟨i, hi, rfl⟩ := List.getElem_of_mem ht
    exact ⟨_, l.role_getElem hi⟩
  refine ⟨List.nodup_append.mpr ⟨by cases h <;> simp, ?_, fun a ha b hb e => ?_⟩, fun t ht => ?_⟩
  · refine List.pairwise_iff_getElem.mpr fun i j hi hj lt e => ?_
    have := (l.role_getElem hi).symm.trans (e ▸ l.role_getElem hj)
    simp at this; omega
  · obtain ⟨g, hg⟩ := hq b hb
    rw [← e, (l.hold a).mpr (by simpa using ha)] at hg; cases hg
  · rcases List.mem_append.mp ht with ht | ht
    · rw [(l.hold t).mpr (by simpa using ht)]; nofun
    · obtain ⟨g, hg⟩ := hq t ht
      rw [hg]; nofun

/-- the waiters with their tickets, by ascending ticket -/
theorem sorted (next : Nat) (q : List Nat) :
    (q.zipIdx next).Pairwise (fun a b => a.2 < b.2) := by
  have := List.pairwise_lt_range' (s := next) (n := q.length)
  rwa [← List.zipIdx_map_snd, List.pairwise_map] at this

end TicketLock

end LibfiberVerif
