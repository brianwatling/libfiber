/-
  Proof/RwLock.lean — the inductive invariant of Model/RwLock.lean (property C07).

  The invariant is split into four groups, each a predicate over just the state components
  it talks about (and over the fibers' pcs only through `view`):
    A  the state word against the ghost holder / waiter lists and grants (counts),
    B  the ghost lists against the pcs (who is in them),
    C  the abstract waiter queues against the pcs,
    D  the wakers (grants in flight, popped-not-yet-woken fibers, one consumer per queue).
  A fifth clause says that no pc holds an illegal try snapshot.
  A step re-proves only the groups whose components it changes.
-/
import LibfiberVerif.Model.RwLock

namespace LibfiberVerif.RwLock

theorem decode_encode (w : Word)
    (h : w.wl < 2 ∧ w.rc < 2097152 ∧ w.wr < 2097152 ∧ w.ww < 2097152) : decode (encode w) = w := by
  cases w
  simp only [decode, encode, Word.mk.injEq] at *
  omega

theorem encode_eq_zero (w : Word) :
    encode w = 0 ↔ (w.wl = 0 ∧ w.rc = 0 ∧ w.wr = 0 ∧ w.ww = 0) := by
  simp only [encode]; omega

theorem encode_inj (w w' : Word)
    (h : w.wl < 2 ∧ w.rc < 2097152 ∧ w.wr < 2097152 ∧ w.ww < 2097152)
    (h' : w'.wl < 2 ∧ w'.rc < 2097152 ∧ w'.wr < 2097152 ∧ w'.ww < 2097152)
    (he : encode w = encode w') : w = w' := by
  rw [← decode_encode w h, ← decode_encode w' h', he]

theorem fits_iff (w : Word) :
    w.fits = true ↔ (w.wl < 2 ∧ w.rc < 2097152 ∧ w.wr < 2097152 ∧ w.ww < 2097152) := by
  simp [Word.fits, and_assoc]

structure View where
  /-- holds in mode b (identified holder, not parked) -/
  hold : Option Bool := none
  /-- counted as a waiter on queue b, not yet parked -/
  wait : Option Bool := none
  /-- in a wake loop on queue q, k pops to go, no pop in progress beyond reading -/
  pre : Option (Bool × Nat) := none
  /-- in a wake loop on queue q, k pops to go after this one, finishing the pop of fiber g -/
  post : Option (Bool × Nat × Nat) := none
  /-- `xchg(&tail)` done on queue b with node n as entry i, not yet linked -/
  xch : Option (Bool × Nat × Nat) := none
  /-- linked entry i of queue b -/
  prk : Option (Bool × Nat) := none
  /-- a try operation about to CAS from a snapshot that does not allow immediate acquisition
      (never happens: the code returns FIBER_ERROR before) -/
  bad : Bool := false

def view : Pc → View
  | .counted b => { wait := some b }
  | .waitSaving b => { wait := some b }
  | .waitGotNode b _ => { wait := some b }
  | .waitWroteData b _ => { wait := some b }
  | .waitClearedNode b _ => { wait := some b }
  | .pushCleared b _ => { wait := some b }
  | .pushXchgd b n _ i => { wait := some b, xch := some (b, n, i) }
  | .parked b i => { prk := some (b, i) }
  | .acquired b => { hold := some b }
  | .tryDone b true => { hold := some b }
  | .held b => { hold := some b }
  | .inCs b => { hold := some b }
  | .unlockCalled b => { hold := some b }
  | .unlockRead b _ => { hold := some b }
  | .tryRead b snap => { bad := !tryLegal b snap }
  | .wakeLoop q k => { pre := some (q, k) }
  | .popGotHead q k _ => { pre := some (q, k) }
  | .popGotNext q k _ _ => { pre := some (q, k) }
  | .popMoved q k _ _ g => { post := some (q, k, g) }
  | .popGotData q k _ _ g => { post := some (q, k, g) }
  | .popWrote q k _ g => { post := some (q, k, g) }
  | .wakeGotFiber q k _ g => { post := some (q, k, g) }
  | .wakeGaveNode q k _ g => { post := some (q, k, g) }
  | .wakeReadState q k g _ => { post := some (q, k, g) }
  | _ => {}

/-- the mode in which a fiber holds the lock: an identified holder, or a parked waiter whose
    queue entry has been popped (handed off, possibly not yet resumed) -/
def holdMode (hd : Bool → Nat) (v : View) : Option Bool :=
  match v.hold, v.prk with
  | some b, _ => some b
  | none, some (b, i) => if i < hd b then some b else none
  | none, none => none

/-- the queue a fiber is counted on as a waiter (from its counting CAS until it is popped) -/
def waitMode (hd : Bool → Nat) (v : View) : Option Bool :=
  match v.wait, v.prk with
  | some b, _ => some b
  | none, some (b, i) => if hd b ≤ i then some b else none
  | none, none => none

/-- the queue a fiber is consuming from (it is inside fiber_manager_wake_from_mpsc_queue) -/
def popQ (a : Option (Bool × Nat)) (b : Option (Bool × Nat × Nat)) : Option Bool :=
  match a, b with
  | some (q, _), _ => some q
  | none, some (q, _, _) => some q
  | none, none => none

def St.hm (s : St) : Nat → Option Bool := fun g => holdMode s.hd (view (s.pc g))
def St.wm (s : St) : Nat → Option Bool := fun g => waitMode s.hd (view (s.pc g))
def St.xch (s : St) : Nat → Option (Bool × Nat × Nat) := fun g => (view (s.pc g)).xch
def St.prk (s : St) : Nat → Option (Bool × Nat) := fun g => (view (s.pc g)).prk
def St.pre (s : St) : Nat → Option (Bool × Nat) := fun g => (view (s.pc g)).pre
def St.post (s : St) : Nat → Option (Bool × Nat × Nat) := fun g => (view (s.pc g)).post

structure InvA (w : Word) (holders waiters : Bool → List Nat) (tok : Bool → Nat) : Prop where
  fits : w.wl < 2 ∧ w.rc < 2097152 ∧ w.wr < 2097152 ∧ w.ww < 2097152
  cnt_w : w.wl = (holders true).length + tok true
  cnt_r : w.rc = (holders false).length + tok false
  excl : w.wl = 1 → w.rc = 0
  wait_r : (waiters false).length = w.wr + tok false
  wait_w : (waiters true).length = w.ww + tok true
  ns_r : 0 < w.wr → w.wl = 1 ∨ 0 < w.ww
  ns_w : 0 < w.ww → w.wl = 1 ∨ 0 < w.rc

structure InvB (holders waiters : Bool → List Nat) (hm wm : Nat → Option Bool) : Prop where
  hold : ∀ f b, f ∈ holders b ↔ hm f = some b
  hnd : ∀ b, (holders b).Nodup
  wait : ∀ f b, f ∈ waiters b ↔ wm f = some b
  wnd : ∀ b, (waiters b).Nodup

structure InvC (order : Bool → List (Nat × Nat)) (linked : Bool → Nat → Bool) (hd : Bool → Nat)
    (xch : Nat → Option (Bool × Nat × Nat)) (prk : Nat → Option (Bool × Nat)) : Prop where
  q1 : ∀ b i n g, hd b ≤ i → (order b)[i]? = some (n, g) →
    (xch g = some (b, n, i) ∧ linked b i = false) ∨ (prk g = some (b, i) ∧ linked b i = true)
  q2 : ∀ f b n i, xch f = some (b, n, i) → (order b)[i]? = some (n, f) ∧ hd b ≤ i ∧ linked b i = false
  q3 : ∀ f b i, prk f = some (b, i) → ∃ n, (order b)[i]? = some (n, f)
  q4 : ∀ b i, (order b).length ≤ i → linked b i = false
  q5 : ∀ b, hd b ≤ (order b).length

structure InvD (woken : Nat → Bool) (tok hd : Bool → Nat) (pre : Nat → Option (Bool × Nat))
    (post : Nat → Option (Bool × Nat × Nat)) (prk : Nat → Option (Bool × Nat)) : Prop where
  wk : ∀ g, woken g = true → ∃ b i, prk g = some (b, i) ∧ i < hd b
  p1 : ∀ p q k, pre p = some (q, k) → tok q = k ∧ 0 < k
  p2 : ∀ p q k g, post p = some (q, k, g) →
    tok q = k ∧ woken g = false ∧ ∃ i, prk g = some (q, i) ∧ i < hd q
  p3 : ∀ p p' q, popQ (pre p) (post p) = some q → popQ (pre p') (post p') = some q → p = p'
  p4 : ∀ q, 0 < tok q → ∃ p, popQ (pre p) (post p) = some q

structure Inv (s : St) : Prop where
  a : InvA s.w s.holders s.waiters s.tok
  b : InvB s.holders s.waiters s.hm s.wm
  c : InvC s.order s.linked s.hd s.xch s.prk
  d : InvD s.woken s.tok s.hd s.pre s.post s.prk
  e : ∀ f, (view (s.pc f)).bad = false

theorem InvB.congr {H W : Bool → List Nat} {hm wm hm' wm' : Nat → Option Bool}
    (h : InvB H W hm wm) (e1 : ∀ g, hm' g = hm g) (e2 : ∀ g, wm' g = wm g) : InvB H W hm' wm' := by
  have := funext e1; have := funext e2; subst_vars; exact h

theorem InvC.congr {o l hd} {x x' : Nat → Option (Bool × Nat × Nat)} {p p' : Nat → Option (Bool × Nat)}
    (h : InvC o l hd x p) (e1 : ∀ g, x' g = x g) (e2 : ∀ g, p' g = p g) : InvC o l hd x' p' := by
  have := funext e1; have := funext e2; subst_vars; exact h

theorem InvD.congr {wo t hd} {a a' : Nat → Option (Bool × Nat)} {b b' : Nat → Option (Bool × Nat × Nat)}
    {p p' : Nat → Option (Bool × Nat)}
    (h : InvD wo t hd a b p) (e1 : ∀ g, a' g = a g) (e2 : ∀ g, b' g = b g) (e3 : ∀ g, p' g = p g) :
    InvD wo t hd a' b' p' := by
  have := funext e1; have := funext e2; have := funext e3; subst_vars; exact h

theorem inv_init (stub : Bool → Nat) (nodeOf : Nat → Nat) : Inv (init stub nodeOf) := by
  refine ⟨?_, ?_, ?_, ?_, ?_⟩
  rotate_right
  · intro f; simp [init, view]
  all_goals constructor <;>
    simp [init, view, holdMode, waitMode, popQ, St.hm, St.wm, St.xch, St.prk, St.pre, St.post]

/-- `∀ g, proj s' g = proj s g` when s' differs from s in the pc of `f` only and the views agree -/
macro "same_view " f:ident hpc:ident : tactic =>
  `(tactic| (intro g; by_cases hg : g = $f
             · subst hg
               simp [St.hm, St.wm, St.xch, St.prk, St.pre, St.post, view, holdMode, waitMode, $hpc:ident]
             · simp [St.hm, St.wm, St.xch, St.prk, St.pre, St.post, upd, hg]))

/-! ### moving one fiber

  A step moves the acting fiber `f` to a new pc; every projection of the pcs that the groups
  look at is then the old one updated at `f`.  Each group has one lemma per step that changes
  it, about arbitrary components and projections; where a projection shows the same for the
  old and the new pc of `f` the update is undone by `congr` with `upd_view` / `upd_self`; the
  groups are put together by `Inv.of_upd`. -/

theorem upd_self {α : Type} {h : Nat → α} {f : Nat} {v : α} (e : h f = v) (g : Nat) :
    upd h f v g = h g := by
  rw [upd_apply]; split
  · next hg => rw [hg, e]
  · rfl

theorem upd_view {β : Type} (φ : View → β) {pc : Nat → Pc} {f : Nat} {v : View} {y : β}
    (hv : view (pc f) = v) (hy : φ v = y) (g : Nat) :
    upd (fun g => φ (view (pc g))) f y g = φ (view (pc g)) :=
  upd_self (hv ▸ hy) g

/-- `s'` is `s` with fiber `f` moved to `pc'`, whose view is `v'`, and any other components
    changed (for a state written `{ s with … }` the first two hypotheses are `rfl`) -/
theorem Inv.of_upd {s s' : St} {f : Nat} {pc' : Pc} {v' : View} (hI : Inv s)
    (hpc : s'.pc = upd s.pc f pc') (hv' : view pc' = v')
    (ha : InvA s'.w s'.holders s'.waiters s'.tok)
    (hb : InvB s'.holders s'.waiters
      (upd (fun g => holdMode s'.hd (view (s.pc g))) f (holdMode s'.hd v'))
      (upd (fun g => waitMode s'.hd (view (s.pc g))) f (waitMode s'.hd v')))
    (hc : InvC s'.order s'.linked s'.hd (upd s.xch f v'.xch) (upd s.prk f v'.prk))
    (hd : InvD s'.woken s'.tok s'.hd (upd s.pre f v'.pre) (upd s.post f v'.post)
      (upd s.prk f v'.prk))
    (he : v'.bad = false) : Inv s' := by
  subst hv'
  have e {β : Type} (φ : Pc → β) (g : Nat) : φ (s'.pc g) = upd (fun g => φ (s.pc g)) f (φ pc') g := by
    simp only [hpc, upd_apply]; split <;> rfl
  exact ⟨ha,
    hb.congr (e fun p => holdMode s'.hd (view p)) (e fun p => waitMode s'.hd (view p)),
    hc.congr (e fun p => (view p).xch) (e fun p => (view p).prk),
    hd.congr (e fun p => (view p).pre) (e fun p => (view p).post) (e fun p => (view p).prk),
    fun g => by
      rw [e fun p => (view p).bad, upd_apply]; split
      · exact he
      · exact hI.e g⟩

/-- a step that only moves the acting fiber to a pc with the same view (it may hand a queue
    node over as well: `fnode` is no part of the invariant) -/
theorem inv_local {s : St} (hI : Inv s) (f : Nat) (pc' : Pc) (hv : view pc' = view (s.pc f))
    {fn : Nat → Nat} : Inv { s with fnode := fn, pc := upd s.pc f pc' } :=
  Inv.of_upd hI rfl hv hI.a (hI.b.congr (upd_self rfl) (upd_self rfl))
    (hI.c.congr (upd_self rfl) (upd_self rfl))
    (hI.d.congr (upd_self rfl) (upd_self rfl) (upd_self rfl)) (hI.e f)

theorem mem_updB_cons {H : Bool → List Nat} {b c : Bool} {f g : Nat} :
    g ∈ updB H b (f :: H b) c ↔ (c = b ∧ g = f) ∨ g ∈ H c := by
  rw [updB_apply]; split
  · next hc => subst hc; simp
  · next hc => simp [hc]

theorem mem_updB_erase {H : Bool → List Nat} {b c : Bool} {f g : Nat} (hn : (H b).Nodup) :
    g ∈ updB H b ((H b).erase f) c ↔ g ∈ H c ∧ ¬(c = b ∧ g = f) := by
  rw [updB_apply]; split
  · next hc => subst hc; rw [hn.mem_erase_iff]; simp [and_comm]
  · next hc => simp [hc]

theorem InvB.swap {H W : Bool → List Nat} {hm wm : Nat → Option Bool} (h : InvB H W hm wm) :
    InvB W H wm hm := ⟨h.wait, h.wnd, h.hold, h.hnd⟩

theorem InvB.cons_hold {H W : Bool → List Nat} {hm wm : Nat → Option Bool}
    (h : InvB H W hm wm) (f : Nat) (b : Bool) (h0 : hm f = none) :
    InvB (updB H b (f :: H b)) W (upd hm f (some b)) wm := by
  have hnot : ∀ c, f ∉ H c := fun c hc => by rw [h.hold, h0] at hc; cases hc
  refine ⟨fun g c => ?_, fun c => ?_, h.wait, h.wnd⟩
  · rw [mem_updB_cons, upd_apply]; split
    · next hg => subst hg; simp [hnot c, eq_comm]
    · next hg => simp [hg, h.hold]
  · rw [updB_apply]; split
    · next hc => subst hc; exact List.nodup_cons.2 ⟨hnot c, h.hnd c⟩
    · exact h.hnd c

theorem InvB.erase_hold {H W : Bool → List Nat} {hm wm : Nat → Option Bool}
    (h : InvB H W hm wm) (f : Nat) (b : Bool) (h0 : hm f = some b) :
    InvB (updB H b ((H b).erase f)) W (upd hm f none) wm := by
  refine ⟨fun g c => ?_, fun c => ?_, h.wait, h.wnd⟩
  · rw [mem_updB_erase (h.hnd b), upd_apply, h.hold]; split
    · next hg => subst hg; simp [h0, eq_comm]
    · next hg => simp [hg]
  · rw [updB_apply]; split
    · next hc => subst hc; exact (h.hnd c).erase f
    · exact h.hnd c

theorem InvB.cons_wait {H W : Bool → List Nat} {hm wm : Nat → Option Bool}
    (h : InvB H W hm wm) (f : Nat) (b : Bool) (h0 : wm f = none) :
    InvB H (updB W b (f :: W b)) hm (upd wm f (some b)) :=
  (h.swap.cons_hold f b h0).swap

theorem InvB.erase_wait {H W : Bool → List Nat} {hm wm : Nat → Option Bool}
    (h : InvB H W hm wm) (f : Nat) (b : Bool) (h0 : wm f = some b) :
    InvB H (updB W b ((W b).erase f)) hm (upd wm f none) :=
  (h.swap.erase_hold f b h0).swap

theorem InvB.hold_len {H W : Bool → List Nat} {hm wm : Nat → Option Bool}
    (h : InvB H W hm wm) {f : Nat} {b : Bool} (h0 : hm f = some b) : 0 < (H b).length :=
  List.length_pos_of_mem ((h.hold f b).2 h0)

theorem InvB.wait_len {H W : Bool → List Nat} {hm wm : Nat → Option Bool}
    (h : InvB H W hm wm) {f : Nat} {b : Bool} (h0 : wm f = some b) : 0 < (W b).length :=
  List.length_pos_of_mem ((h.wait f b).2 h0)

theorem len_le_one_unique {l : List Nat} (h : l.length ≤ 1) {a b : Nat} (ha : a ∈ l) (hb : b ∈ l) :
    a = b := by
  match l, h with
  | [x], _ => simp at ha hb; rw [ha, hb]
  | [], _ => simp at ha

theorem lockNew_enc (w : Word) (hf : w.wl < 2 ∧ w.rc < 2097152 ∧ w.wr < 2097152 ∧ w.ww < 2097152)
    (b : Bool) :
    lockNew b (encode w) =
      if b then
        if ¬(w.wl = 0 ∧ w.rc = 0 ∧ w.wr = 0 ∧ w.ww = 0) then ({ w with ww := w.ww + 1 }, true)
        else ({ w with wl := 1 }, false)
      else
        if w.ww ≠ 0 ∨ w.wl ≠ 0 ∨ w.wr ≠ 0 then ({ w with wr := w.wr + 1 }, true)
        else ({ w with rc := w.rc + 1 }, false) := by
  simp only [lockNew, decode_encode w hf, ne_eq, encode_eq_zero]

theorem tryLegal_enc (w : Word) (hf : w.wl < 2 ∧ w.rc < 2097152 ∧ w.wr < 2097152 ∧ w.ww < 2097152)
    (b : Bool) :
    tryLegal b (encode w) = true ↔
      (if b then (w.wl = 0 ∧ w.rc = 0 ∧ w.wr = 0 ∧ w.ww = 0) else (w.ww = 0 ∧ w.wl = 0 ∧ w.wr = 0)) := by
  cases b <;> simp [tryLegal, decode_encode w hf, encode_eq_zero, and_assoc]

theorem tryNew_enc (w : Word) (hf : w.wl < 2 ∧ w.rc < 2097152 ∧ w.wr < 2097152 ∧ w.ww < 2097152)
    (b : Bool) :
    tryNew b (encode w) = if b then { w with wl := 1 } else { w with rc := w.rc + 1 } := by
  simp only [tryNew, decode_encode w hf]

theorem tryNew_eq_lockNew {b : Bool} {snap : Nat} (h : tryLegal b snap = true) :
    tryNew b snap = (lockNew b snap).1 ∧ (lockNew b snap).2 = false := by
  cases b <;> simp_all [tryLegal, tryNew, lockNew]

theorem unlockNew_enc (w : Word) (hf : w.wl < 2 ∧ w.rc < 2097152 ∧ w.wr < 2097152 ∧ w.ww < 2097152)
    (b : Bool) :
    unlockNew b (encode w) =
      if b then
        if w.ww ≠ 0 then ({ wl := 1, rc := w.rc, wr := w.wr, ww := w.ww - 1 }, some (true, 1))
        else if w.wr ≠ 0 then ({ wl := 0, rc := w.wr, wr := 0, ww := w.ww }, some (false, w.wr))
        else ({ w with wl := 0 }, none)
      else
        if (w.rc + 2097152 - 1) % 2097152 = 0 then
          if w.ww ≠ 0 then ({ wl := 1, rc := 0, wr := w.wr, ww := w.ww - 1 }, some (true, 1))
          else if w.wr ≠ 0 then ({ wl := w.wl, rc := w.wr, wr := 0, ww := w.ww }, some (false, w.wr))
          else ({ w with rc := 0 }, none)
        else ({ w with rc := (w.rc + 2097152 - 1) % 2097152 }, none) := by
  simp only [unlockNew, decode_encode w hf]

/-- rdlock / wrlock CAS: the caller is counted as a waiter, or acquires directly -/
theorem InvA.lock {w : Word} {H W : Bool → List Nat} {T : Bool → Nat} (hA : InvA w H W T)
    (b : Bool) (f : Nat) (hfit : (lockNew b (encode w)).1.fits = true) :
    if (lockNew b (encode w)).2 then InvA (lockNew b (encode w)).1 H (updB W b (f :: W b)) T
    else InvA (lockNew b (encode w)).1 (updB H b (f :: H b)) W T := by
  rw [fits_iff] at hfit
  rw [lockNew_enc w hA.fits b] at hfit ⊢
  obtain ⟨h1, h2, h3, h4, h5, h6, h7, h8⟩ := hA
  cases b
  · by_cases hc : w.ww ≠ 0 ∨ w.wl ≠ 0 ∨ w.wr ≠ 0
    · simp only [Bool.false_eq_true, if_false, if_pos hc, if_true] at hfit ⊢
      constructor <;> simp [updB] <;> omega
    · simp only [Bool.false_eq_true, if_false, if_neg hc] at hfit ⊢
      constructor <;> simp [updB] <;> omega
  · by_cases hc : ¬(w.wl = 0 ∧ w.rc = 0 ∧ w.wr = 0 ∧ w.ww = 0)
    · simp only [if_true, if_pos hc] at hfit ⊢
      constructor <;> simp [updB] <;> omega
    · simp only [if_true, if_neg hc, Bool.false_eq_true, if_false] at hfit ⊢
      constructor <;> simp [updB] <;> omega

/-- what a releasing CAS computes in a state of the invariant: only the last holder hands off
    (then no grant is pending), and a reader hands off to a writer only -/
theorem InvA.unlock_eq {w : Word} {H W : Bool → List Nat} {T : Bool → Nat} (hA : InvA w H W T)
    {b : Bool} {f : Nat} (hf : f ∈ H b) :
    unlockNew b (encode w) =
      (if w.wl + w.rc = 1 then
        if w.ww ≠ 0 then (⟨1, 0, w.wr, w.ww - 1⟩, some (true, 1))
        else if w.wr ≠ 0 then (⟨0, w.wr, 0, 0⟩, some (false, w.wr))
        else (⟨0, 0, 0, 0⟩, none)
      else ({ w with rc := w.rc - 1 }, none)) ∧
    (w.wl + w.rc = 1 → T true = 0 ∧ T false = 0) ∧ (b = false → w.ww = 0 → w.wr = 0) := by
  have hpos := List.length_pos_of_mem hf
  obtain ⟨h1, h2, h3, h4, -, -, h7, -⟩ := hA
  refine ⟨?_, by cases b <;> omega, fun hb => by subst hb; omega⟩
  rw [unlockNew_enc w h1 b]
  cases b <;> simp only [Bool.false_eq_true, if_true, if_false]
  · have h0 : w.wl = 0 := by omega
    have hr : (w.rc + 2097152 - 1) % 2097152 = w.rc - 1 := by omega
    rw [hr]
    by_cases hl : w.rc = 1
    · have hwr : w.ww = 0 → w.wr = 0 := by omega
      by_cases hww : w.ww = 0 <;> simp [h0, hl, hww, hwr]
    · rw [if_neg (show ¬w.rc - 1 = 0 by omega), if_neg (show ¬w.wl + w.rc = 1 by omega)]
  · have h0 : w.wl = 1 ∧ w.rc = 0 := by omega
    by_cases hww : w.ww = 0 <;> by_cases hwr : w.wr = 0 <;> simp [h0, hww, hwr]

/-- a releasing CAS, plus what makes the hand-off safe: no grant is pending on the target queue
    and nobody but the releaser is an identified holder in that mode -/
theorem InvA.unlock {w : Word} {H W : Bool → List Nat} {T : Bool → Nat} (hA : InvA w H W T)
    (b : Bool) (f : Nat) (hf : f ∈ H b) :
    match (unlockNew b (encode w)).2 with
    | none => InvA (unlockNew b (encode w)).1 (updB H b ((H b).erase f)) W T
    | some (q, n) =>
      InvA (unlockNew b (encode w)).1 (updB H b ((H b).erase f)) W (updB T q (T q + n)) ∧
        T q = 0 ∧ 0 < n ∧ (∀ g ∈ H q, g = f) := by
  have hpos := List.length_pos_of_mem hf
  have hl := List.length_erase_of_mem hf
  rw [unlockNew_enc w hA.fits b]
  obtain ⟨h1, h2, h3, h4, h5, h6, h7, h8⟩ := hA
  have nil_of : ∀ c, (H c).length = 0 → ∀ g ∈ H c, g = f := by
    intro c hc g hg; rw [List.length_eq_zero_iff.1 hc] at hg; cases hg
  cases b
  · -- rdunlock; the hand-off to readers cannot happen: `wr ≠ 0` needs a writer holding or waiting
    generalize hr : (w.rc + 2097152 - 1) % 2097152 = r
    have hr' : r = w.rc - 1 := by omega
    clear hr
    by_cases h0 : r = 0
    · by_cases hww : w.ww ≠ 0
      · simp only [Bool.false_eq_true, if_false, if_pos h0, if_pos hww]
        refine ⟨?_, by omega, by omega, nil_of true (by omega)⟩
        constructor <;> simp [updB, hl] <;> omega
      · have hwr : ¬w.wr ≠ 0 := by omega
        simp only [Bool.false_eq_true, if_false, if_pos h0, if_neg hww, if_neg hwr]
        constructor <;> simp [updB, hl] <;> omega
    · simp only [Bool.false_eq_true, if_false, if_neg h0]
      constructor <;> simp [updB, hl] <;> omega
  · by_cases hww : w.ww ≠ 0
    · simp only [if_true, if_pos hww]
      refine ⟨?_, by omega, by omega, fun g hg => len_le_one_unique (by omega) hg hf⟩
      constructor <;> simp [updB, hl] <;> omega
    · by_cases hwr : w.wr ≠ 0
      · simp only [if_true, if_neg hww, if_pos hwr]
        refine ⟨?_, by omega, by omega, nil_of false (by omega)⟩
        constructor <;> simp [updB, hl] <;> omega
      · simp only [if_true, if_neg hww, if_neg hwr]
        constructor <;> simp [updB, hl] <;> omega

/-- the pop moves the head waiter of queue `q` to the holders and consumes one grant -/
theorem InvA.pop {w : Word} {H W : Bool → List Nat} {T : Bool → Nat} (hA : InvA w H W T)
    (q : Bool) (g : Nat) (hg : g ∈ W q) (ht : 0 < T q) :
    InvA w (updB H q (g :: H q)) (updB W q ((W q).erase g)) (updB T q (T q - 1)) := by
  have hpos := List.length_pos_of_mem hg
  have hl := List.length_erase_of_mem hg
  obtain ⟨h1, h2, h3, h4, h5, h6, h7, h8⟩ := hA
  cases q <;> refine ⟨h1, ?_, ?_, h4, ?_, ?_, h7, h8⟩ <;> simp [updB, hl] <;> omega

theorem getElem?_lt {α : Type} {l : List α} {i : Nat} {a : α} (h : l[i]? = some a) : i < l.length := by
  obtain ⟨h, _⟩ := List.getElem?_eq_some_iff.1 h; exact h

theorem getElem?_push {o : Bool → List (Nat × Nat)} {b c : Bool} {e a : Nat × Nat} {i : Nat} :
    (updB o b (o b ++ [e]) c)[i]? = some a ↔
      (o c)[i]? = some a ∨ (c = b ∧ i = (o b).length ∧ a = e) := by
  rw [updB_apply]; split
  · next hc =>
    subst hc
    rw [List.getElem?_append]; split
    · next hi => simp [Nat.ne_of_lt hi]
    · next hi =>
      rw [List.getElem?_eq_none (Nat.le_of_not_lt hi), List.getElem?_singleton]
      split <;> simp [eq_comm] <;> omega
  · next hc => simp [hc]

theorem le_hd_bump (hd : Bool → Nat) (q c : Bool) : hd c ≤ updB hd q (hd q + 1) c := by
  rw [updB_apply]; split
  · next hc => subst hc; exact Nat.le_succ _
  · exact Nat.le_refl _

section
variable {o : Bool → List (Nat × Nat)} {l : Bool → Nat → Bool} {hd : Bool → Nat}
  {x : Nat → Option (Bool × Nat × Nat)} {p : Nat → Option (Bool × Nat)}

theorem InvC.owner (h : InvC o l hd x p) {c : Bool} {i n g : Nat} (hi : hd c ≤ i)
    (hget : (o c)[i]? = some (n, g)) : x g = some (c, n, i) ∨ p g = some (c, i) :=
  (h.q1 c i n g hi hget).imp And.left And.left

/-- `prev = xchg(&tail, node)`: the entry is appended, unlinked -/
theorem InvC.push (h : InvC o l hd x p) (f : Nat) (b : Bool) (m : Nat) (hx : x f = none)
    (hp : p f = none) :
    InvC (updB o b (o b ++ [(m, f)])) l hd (upd x f (some (b, m, (o b).length))) p := by
  have hlen : ∀ c, (o c).length ≤ (updB o b (o b ++ [(m, f)]) c).length := by
    intro c; rw [updB_apply]; split
    · next hc => subst hc; simp
    · exact Nat.le_refl _
  constructor
  · intro c i n g hi hget
    rcases getElem?_push.1 hget with h0 | ⟨rfl, rfl, he⟩
    · have hne : g ≠ f := by rintro rfl; simpa [hx, hp] using h.owner hi h0
      rw [upd_other _ _ _ _ hne]; exact h.q1 c i n g hi h0
    · cases he; exact Or.inl ⟨upd_same .., h.q4 _ _ (Nat.le_refl _)⟩
  · intro g c n i hg
    rw [upd_apply] at hg; split at hg
    · next e =>
      subst e; cases hg
      exact ⟨getElem?_push.2 (Or.inr ⟨rfl, rfl, rfl⟩), h.q5 _, h.q4 _ _ (Nat.le_refl _)⟩
    · obtain ⟨h1, h2⟩ := h.q2 g c n i hg; exact ⟨getElem?_push.2 (Or.inl h1), h2⟩
  · intro g c i hg
    obtain ⟨n, h1⟩ := h.q3 g c i hg; exact ⟨n, getElem?_push.2 (Or.inl h1)⟩
  · intro c i hl; exact h.q4 c i (Nat.le_trans (hlen c) hl)
  · intro c; exact Nat.le_trans (h.q5 c) (hlen c)

/-- `prev->next = node`: the entry becomes visible to the consumer, its fiber is parked -/
theorem InvC.link (h : InvC o l hd x p) (f : Nat) (b : Bool) (m i : Nat)
    (hx : x f = some (b, m, i)) (hp : p f = none) :
    InvC o (updB l b (upd (l b) i true)) hd (upd x f none) (upd p f (some (b, i))) := by
  obtain ⟨hof, -, -⟩ := h.q2 f b m i hx
  have linked_set : ∀ c j, updB l b (upd (l b) i true) c j = if c = b ∧ j = i then true else l c j := by
    intro c j; rw [updB_apply]; split
    · next hc => subst hc; simp [upd_apply]
    · next hc => simp [hc]
  constructor
  · intro c j n g hj hget
    rw [linked_set]
    by_cases hcj : c = b ∧ j = i
    · obtain ⟨rfl, rfl⟩ := hcj
      rw [hof] at hget; cases hget
      exact Or.inr ⟨upd_same .., if_pos ⟨rfl, rfl⟩⟩
    · have h1 := h.q1 c j n g hj hget
      have hne : g ≠ f := by
        rintro rfl
        have := h.owner hj hget
        simp [hx, hp] at this; exact hcj ⟨this.1.symm, this.2.2.symm⟩
      rw [if_neg hcj, upd_other _ _ _ _ hne, upd_other _ _ _ _ hne]; exact h1
  · intro g c n j hg
    rw [upd_apply] at hg; split at hg
    · cases hg
    · next hne =>
      obtain ⟨h1, h2, h3⟩ := h.q2 g c n j hg
      refine ⟨h1, h2, ?_⟩
      rw [linked_set, if_neg]; exact h3
      rintro ⟨rfl, rfl⟩; rw [hof] at h1; cases h1; exact hne rfl
  · intro g c j hg
    rw [upd_apply] at hg; split at hg
    · next e => subst e; cases hg; exact ⟨m, hof⟩
    · exact h.q3 g c j hg
  · intro c j hlen
    rw [linked_set, if_neg]; exact h.q4 c j hlen
    rintro ⟨rfl, rfl⟩; have := getElem?_lt hof; omega
  · exact h.q5

theorem InvC.unpark (h : InvC o l hd x p) (f : Nat) (b : Bool) (i : Nat) (hx : x f = none)
    (hp : p f = some (b, i)) (hi : i < hd b) : InvC o l hd x (upd p f none) := by
  constructor
  · intro c j n g hj hget
    have h1 := h.q1 c j n g hj hget
    have hne : g ≠ f := by
      rintro rfl
      have := h.owner hj hget
      simp [hx, hp] at this; obtain ⟨rfl, rfl⟩ := this; omega
    rw [upd_other _ _ _ _ hne]; exact h1
  · exact h.q2
  · intro g c j hg
    rw [upd_apply] at hg; split at hg
    · cases hg
    · exact h.q3 g c j hg
  · exact h.q4
  · exact h.q5

/-- `head = next`: the oldest entry, which is linked, is consumed -/
theorem InvC.pop (h : InvC o l hd x p) (q : Bool) {n g : Nat} (hget : (o q)[hd q]? = some (n, g))
    (hl : l q (hd q) = true) : InvC o l (updB hd q (hd q + 1)) x p := by
  constructor
  · intro c i n' g' hi; exact h.q1 c i n' g' (Nat.le_trans (le_hd_bump hd q c) hi)
  · intro g' c n' i hg
    obtain ⟨h1, h2, h3⟩ := h.q2 g' c n' i hg
    refine ⟨h1, ?_, h3⟩
    rw [updB_apply]; split
    · next hc =>
      subst hc
      have : i ≠ hd c := by rintro rfl; rw [hl] at h3; cases h3
      omega
    · exact h2
  · exact h.q3
  · exact h.q4
  · intro c; rw [updB_apply]; split
    · next hc => subst hc; exact getElem?_lt hget
    · exact h.q5 c

end

theorem view_post_pre (pc : Pc) {x} (h : (view pc).post = some x) : (view pc).pre = none := by
  cases pc with
  | tryDone b r => cases r <;> cases h
  | _ => first | rfl | cases h

theorem view_prk (pc : Pc) {x} (h : (view pc).prk = some x) :
    (view pc).hold = none ∧ (view pc).wait = none ∧ (view pc).xch = none ∧ (view pc).pre = none
      ∧ (view pc).post = none := by
  cases pc with
  | tryDone b r => cases r <;> cases h
  | _ => first | exact ⟨rfl, rfl, rfl, rfl, rfl⟩ | cases h

theorem popQ_cases {a : Option (Bool × Nat)} {b : Option (Bool × Nat × Nat)} {q : Bool}
    (h : popQ a b = some q) : (∃ k, a = some (q, k)) ∨ (a = none ∧ ∃ k g, b = some (q, k, g)) := by
  unfold popQ at h; split at h
  · cases h; exact Or.inl ⟨_, rfl⟩
  · cases h; exact Or.inr ⟨rfl, _, _, rfl⟩
  · cases h

theorem popQ_upd {a : Nat → Option (Bool × Nat)} {b : Nat → Option (Bool × Nat × Nat)} {f : Nat}
    {a' : Option (Bool × Nat)} {b' : Option (Bool × Nat × Nat)} (x : Nat) :
    popQ (upd a f a' x) (upd b f b' x) = if x = f then popQ a' b' else popQ (a x) (b x) := by
  simp only [upd_apply]; split <;> rfl

section
variable {wo : Nat → Bool} {t hd : Bool → Nat} {a : Nat → Option (Bool × Nat)}
  {b : Nat → Option (Bool × Nat × Nat)} {p : Nat → Option (Bool × Nat)}

theorem popQ_of_pre {x : Nat} {q : Bool} {k : Nat} (h : a x = some (q, k)) :
    popQ (a x) (b x) = some q := by
  rw [h]; rfl

/-- `hab` is what `view_post_pre` says of the projections of a state -/
theorem popQ_of_post (hab : ∀ x y, b x = some y → a x = none) {x : Nat} {q : Bool} {k g : Nat}
    (h : b x = some (q, k, g)) : popQ (a x) (b x) = some q := by
  rw [hab x _ h, h]; rfl

/-- parking a fiber takes nothing away from what group D knows of the parked ones -/
theorem InvD.park (h : InvD wo t hd a b p) (f : Nat) (v : Option (Bool × Nat)) (hp : p f = none) :
    InvD wo t hd a b (upd p f v) := by
  have mono : ∀ {g y}, p g = some y → upd p f v g = some y := by
    intro g y hg; rw [upd_other]; exact hg
    rintro rfl; rw [hp] at hg; cases hg
  refine ⟨fun g hw => ?_, h.p1, fun x q k g hx => ?_, h.p3, h.p4⟩
  · obtain ⟨c, i, h1, h2⟩ := h.wk g hw; exact ⟨c, i, mono h1, h2⟩
  · obtain ⟨h1, h2, i, h3, h4⟩ := h.p2 x q k g hx; exact ⟨h1, h2, i, mono h3, h4⟩

/-- a woken waiter leaves `parked`; no waker is still busy with it -/
theorem InvD.unpark (h : InvD wo t hd a b p) (f : Nat) (hw : wo f = true) :
    InvD (upd wo f false) t hd a b (upd p f none) := by
  refine ⟨fun g hg => ?_, h.p1, fun x q k g hx => ?_, h.p3, h.p4⟩
  · rw [upd_apply] at hg; split at hg
    · cases hg
    · next hne =>
      obtain ⟨c, i, h1, h2⟩ := h.wk g hg
      exact ⟨c, i, by rw [upd_other _ _ _ _ hne]; exact h1, h2⟩
  · obtain ⟨h1, h2, i, h3, h4⟩ := h.p2 x q k g hx
    have hne : g ≠ f := by rintro rfl; rw [hw] at h2; cases h2
    exact ⟨h1, by rw [upd_other _ _ _ _ hne]; exact h2, i, by rw [upd_other _ _ _ _ hne]; exact h3, h4⟩

/-- the waker is done with the popped fiber `g` and goes on to `afterPop q k` -/
theorem InvD.woke (h : InvD wo t hd a b p) (hab : ∀ x y, b x = some y → a x = none) (f : Nat)
    (q : Bool) (k g : Nat) (ha : a f = none) (hb : b f = some (q, k, g)) :
    InvD (upd wo g true) t hd (upd a f (if k = 0 then none else some (q, k))) (upd b f none) p := by
  obtain ⟨htk, -, i, hpg, hig⟩ := h.p2 f q k g hb
  -- whoever consumes afterwards did so before
  have sub : ∀ x c, popQ (upd a f (if k = 0 then none else some (q, k)) x) (upd b f none x) = some c →
      popQ (a x) (b x) = some c := by
    intro x c; rw [popQ_upd]; split
    · next hx =>
      subst hx; rw [ha, hb]; split
      · intro hc; cases hc
      · exact id
    · exact id
  constructor
  · intro g' hw
    rw [upd_apply] at hw; split at hw
    · next hg => subst hg; exact ⟨q, i, hpg, hig⟩
    · exact h.wk g' hw
  · intro x c k' hx
    rw [upd_apply] at hx; split at hx
    · split at hx
      · cases hx
      · next hk => cases hx; exact ⟨htk, Nat.pos_of_ne_zero hk⟩
    · exact h.p1 x c k' hx
  · intro x c k' g' hx
    rw [upd_apply] at hx; split at hx
    · cases hx
    · next hxf =>
      obtain ⟨h1, h2, j, h3, h4⟩ := h.p2 x c k' g' hx
      have hg : g' ≠ g := by
        rintro rfl; rw [hpg] at h3; cases h3
        exact hxf (h.p3 x f q (popQ_of_post hab hx) (popQ_of_post hab hb))
      exact ⟨h1, by rw [upd_other _ _ _ _ hg]; exact h2, j, h3, h4⟩
  · exact fun x x' c h1 h2 => h.p3 x x' c (sub x c h1) (sub x' c h2)
  · intro c hc
    obtain ⟨x, hx⟩ := h.p4 c hc
    refine ⟨x, ?_⟩
    rw [popQ_upd]; split
    · next hxf =>
      subst hxf; rw [ha, hb] at hx; cases hx
      rw [if_neg (by omega)]; rfl
    · exact hx

/-- a releasing CAS hands `n` grants to queue `q`, on which nothing is pending -/
theorem InvD.hand (h : InvD wo t hd a b p) (hab : ∀ x y, b x = some y → a x = none) (f : Nat)
    (q : Bool) (n : Nat) (ha : a f = none) (hb : b f = none) (ht : t q = 0) (hn : 0 < n)
    (hnp : ∀ x, popQ (a x) (b x) ≠ some q) :
    InvD wo (updB t q (t q + n)) hd (upd a f (some (q, n))) b p := by
  have other : ∀ x c, popQ (a x) (b x) = some c → updB t q (t q + n) c = t c := by
    intro x c hx; rw [updB_apply, if_neg]; rintro rfl; exact hnp x hx
  have new : ∀ x, popQ (upd a f (some (q, n)) x) (b x) = if x = f then some q else popQ (a x) (b x) := by
    intro x; rw [upd_apply]; split <;> rfl
  constructor
  · exact h.wk
  · intro x c k hx
    rw [upd_apply] at hx; split at hx
    · cases hx; rw [updB_same, ht]; exact ⟨Nat.zero_add n, hn⟩
    · rw [other x c (popQ_of_pre hx)]; exact h.p1 x c k hx
  · intro x c k g hx
    rw [other x c (popQ_of_post hab hx)]; exact h.p2 x c k g hx
  · intro x x' c h1 h2
    rw [new] at h1 h2
    split at h1 <;> split at h2
    · next e1 e2 => rw [e1, e2]
    · cases h1; exact absurd h2 (hnp x')
    · cases h2; exact absurd h1 (hnp x)
    · exact h.p3 x x' c h1 h2
  · intro c hc
    rw [updB_apply] at hc; split at hc
    · next hcq => subst hcq; exact ⟨f, by rw [new, if_pos rfl]⟩
    · obtain ⟨x, hx⟩ := h.p4 c hc
      refine ⟨x, ?_⟩
      rw [new, if_neg]; exact hx
      rintro rfl; rw [ha, hb] at hx; cases hx

/-- the pop takes effect: the waker, the only consumer of `q`, has fiber `g` in hand -/
theorem InvD.pop (h : InvD wo t hd a b p) (hab : ∀ x y, b x = some y → a x = none) (f : Nat)
    (q : Bool) (k g : Nat) (ha : a f = some (q, k)) (hb : b f = none) (hg : p g = some (q, hd q)) :
    InvD wo (updB t q (t q - 1)) (updB hd q (hd q + 1)) (upd a f none)
      (upd b f (some (q, k - 1, g))) p := by
  obtain ⟨htk, -⟩ := h.p1 f q k ha
  have same : ∀ x, popQ (upd a f none x) (upd b f (some (q, k - 1, g)) x) = popQ (a x) (b x) := by
    intro x; rw [popQ_upd]; split
    · next hx => rw [hx, ha, hb]; rfl
    · rfl
  have other : ∀ x c, popQ (a x) (b x) = some c → x ≠ f → updB t q (t q - 1) c = t c := by
    intro x c hx hxf; rw [updB_apply, if_neg]; rintro rfl
    exact hxf (h.p3 x f c hx (popQ_of_pre ha))
  have lt_hd : ∀ {c i}, i < hd c → i < updB hd q (hd q + 1) c :=
    fun hi => Nat.lt_of_lt_of_le hi (le_hd_bump hd q _)
  constructor
  · intro x hw; obtain ⟨c, j, h1, h2⟩ := h.wk x hw; exact ⟨c, j, h1, lt_hd h2⟩
  · intro x c k' hx
    rw [upd_apply] at hx; split at hx
    · cases hx
    · next hxf => rw [other x c (popQ_of_pre hx) hxf]; exact h.p1 x c k' hx
  · intro x c k' g' hx
    rw [upd_apply] at hx; split at hx
    · cases hx
      refine ⟨by rw [updB_same, htk], ?_, hd q, hg, by rw [updB_same]; exact Nat.lt_succ_self _⟩
      -- `g` was not popped before, so no waker has finished with it
      cases hw : wo g with
      | false => rfl
      | true => obtain ⟨c', j, h1, h2⟩ := h.wk g hw; rw [hg] at h1; cases h1; omega
    · next hxf =>
      obtain ⟨h1, h2, j, h3, h4⟩ := h.p2 x c k' g' hx
      rw [other x c (popQ_of_post hab hx) hxf]
      exact ⟨h1, h2, j, h3, lt_hd h4⟩
  · intro x x' c h1 h2; rw [same] at h1 h2; exact h.p3 x x' c h1 h2
  · intro c hc
    rw [updB_apply] at hc; split at hc
    · next hcq => subst hcq; exact ⟨f, by rw [same]; exact popQ_of_pre ha⟩
    · obtain ⟨x, hx⟩ := h.p4 c hc; exact ⟨x, by rw [same]; exact hx⟩

end

theorem St.post_pre (s : St) (x : Nat) (y : Bool × Nat × Nat) (h : s.post x = some y) :
    s.pre x = none :=
  view_post_pre (s.pc x) h

theorem modes_parked (hd : Bool → Nat) {v : View} {b : Bool} {i : Nat} (hh : v.hold = none)
    (hw : v.wait = none) (h : v.prk = some (b, i)) :
    holdMode hd v = (if i < hd b then some b else none) ∧
      waitMode hd v = (if hd b ≤ i then some b else none) := by
  simp only [holdMode, waitMode, hh, hw, h, and_self]

theorem modes_unparked (hd hd' : Bool → Nat) {v : View} (h : v.prk = none) :
    holdMode hd v = holdMode hd' v ∧ waitMode hd v = waitMode hd' v := by
  simp only [holdMode, waitMode, h]
  cases v.hold <;> cases v.wait <;> exact ⟨rfl, rfl⟩

theorem view_afterPop (q : Bool) (k : Nat) :
    view (afterPop q k) = { pre := if k = 0 then none else some (q, k) } := by
  unfold afterPop; split <;> rfl

/-- the waker is done with the popped fiber g (read SAVING, or wrote READY): g may run -/
theorem inv_woke {s : St} (hI : Inv s) (f : Nat) (q : Bool) (k g : Nat)
    (hv : view (s.pc f) = { post := some (q, k, g) }) :
    Inv { s with woken := upd s.woken g true, pc := upd s.pc f (afterPop q k) } :=
  Inv.of_upd hI rfl (view_afterPop q k) hI.a
    (hI.b.congr (upd_view (holdMode s.hd) hv rfl) (upd_view (waitMode s.hd) hv rfl))
    (hI.c.congr (upd_view View.xch hv rfl) (upd_view View.prk hv rfl))
    ((hI.d.woke s.post_pre f q k g (congrArg View.pre hv) (congrArg View.post hv)).congr
      (fun _ => rfl) (fun _ => rfl) (upd_view View.prk hv rfl))
    rfl

/-- CAS of rdlock / wrlock or of a try variant that acquires directly -/
theorem inv_acquire {s : St} (hI : Inv s) (f : Nat) (b : Bool) (pc' : Pc) (hv : view (s.pc f) = {})
    (hv' : view pc' = { hold := some b }) (hfit : (lockNew b (encode s.w)).1.fits = true)
    (hacq : (lockNew b (encode s.w)).2 = false) :
    Inv { s with w := (lockNew b (encode s.w)).1, holders := updB s.holders b (f :: s.holders b),
                 pc := upd s.pc f pc' } := by
  have hA := hI.a.lock b f hfit
  rw [hacq] at hA
  exact Inv.of_upd hI rfl hv' hA
    ((hI.b.cons_hold f b (congrArg (holdMode s.hd) hv)).congr (fun _ => rfl)
      (upd_view (waitMode s.hd) hv rfl))
    (hI.c.congr (upd_view View.xch hv rfl) (upd_view View.prk hv rfl))
    (hI.d.congr (upd_view View.pre hv rfl) (upd_view View.post hv rfl)
      (upd_view View.prk hv rfl))
    rfl

/-- nobody is consuming from queue q when no grant is pending on it and the only identified
    holder in mode q (if any) is not parked -/
theorem no_popper {s : St} (hI : Inv s) (q : Bool) (f : Nat) (ht : s.tok q = 0)
    (hh : ∀ g ∈ s.holders q, g = f) (hpf : s.prk f = none) (p : Nat) :
    popQ (s.pre p) (s.post p) ≠ some q := by
  intro hp
  rcases popQ_cases hp with ⟨k, h1⟩ | ⟨_, k, g, h1⟩
  · have := hI.d.p1 p q k h1; omega
  · obtain ⟨-, -, i, h3, h4⟩ := hI.d.p2 p q k g h1
    obtain ⟨hh', hw', -⟩ := view_prk (s.pc g) h3
    have hg : s.hm g = some q := (modes_parked s.hd hh' hw' h3).1.trans (if_pos h4)
    rw [hh g ((hI.b.hold g q).2 hg), hpf] at h3; cases h3

/-- the modes after the pop of `g`, the owner of the head entry of queue `q`: only `g` moves -/
theorem modes_pop {s : St} (hC : InvC s.order s.linked s.hd s.xch s.prk) {q : Bool} {n g : Nat}
    (hget : (s.order q)[s.hd q]? = some (n, g)) (hpg : s.prk g = some (q, s.hd q)) (p : Nat) :
    holdMode (updB s.hd q (s.hd q + 1)) (view (s.pc p)) = upd s.hm g (some q) p ∧
      waitMode (updB s.hd q (s.hd q + 1)) (view (s.pc p)) = upd s.wm g none p := by
  cases hp : (view (s.pc p)).prk with
  | none =>
    have hne : p ≠ g := by rintro rfl; rw [St.prk, hp] at hpg; cases hpg
    rw [upd_other _ _ _ _ hne, upd_other _ _ _ _ hne]
    exact modes_unparked _ _ hp
  | some ci =>
    obtain ⟨c, i⟩ := ci
    obtain ⟨hh, hw, -⟩ := view_prk (s.pc p) hp
    rw [(modes_parked _ hh hw hp).1, (modes_parked _ hh hw hp).2]
    by_cases hpg' : p = g
    · subst hpg'
      rw [St.prk, hp] at hpg; cases hpg
      rw [upd_same, upd_same, updB_same]
      exact ⟨if_pos (Nat.lt_succ_self _), if_neg (Nat.not_succ_le_self _)⟩
    · rw [upd_other _ _ _ _ hpg', upd_other _ _ _ _ hpg', St.hm, St.wm,
        (modes_parked _ hh hw hp).1, (modes_parked _ hh hw hp).2, updB_apply]
      split
      · next hc =>
        subst hc
        -- the head entry belongs to `g`
        have : i ≠ s.hd c := by
          rintro rfl; obtain ⟨n', hn⟩ := hC.q3 p c _ hp
          rw [hget] at hn; cases hn; exact hpg' rfl
        exact ⟨ite_congr (propext (by omega)) (fun _ => rfl) (fun _ => rfl),
          ite_congr (propext (by omega)) (fun _ => rfl) (fun _ => rfl)⟩
      · exact ⟨rfl, rfl⟩

/-- the three CAS loops of `step` have this shape: a successful CAS saw the snapshot unchanged
    and its new word fits; a failed one goes back to the read -/
theorem cas_cases {α : Type} {snap found expected desired : Nat} {ok : Bool} {w new : Word}
    {succ : Option α} {back r : α}
    (h : (if expected = snap ∧ found = encode w ∧ ok = decide (found = expected)
            ∧ desired = encode new then
          if ok = true then (if new.fits = true then succ else none) else some back
        else none) = some r) :
    (ok = true ∧ snap = encode w ∧ new.fits = true ∧ succ = some r) ∨ (ok = false ∧ back = r) := by
  split at h
  · next hc =>
    obtain ⟨he, hfo, hok, -⟩ := hc
    cases ok
    · exact Or.inr ⟨rfl, Option.some.inj h⟩
    · rw [if_pos rfl] at h
      split at h
      · next hfit => exact Or.inl ⟨rfl, by rw [← he, ← of_decide_eq_true hok.symm, hfo], hfit, h⟩
      · cases h
  · cases h

-- `loc hpc` (`loc2 hpc hc` with one more simp fact): finish a case of `inv_step` whose step only
-- moves the acting fiber inside one view; `h` and `hI` are the names used there
set_option hygiene false in
macro "loc2 " hpc:ident hc:ident : tactic =>
  `(tactic| (simp only [Option.some.injEq] at h; subst h; exact inv_local hI _ _ (by simp [view, $hpc:ident, $hc:ident])))

set_option hygiene false in
macro "loc " hpc:ident : tactic =>
  `(tactic| (simp only [Option.some.injEq] at h; subst h; exact inv_local hI _ _ (by simp [view, $hpc:ident])))

theorem inv_step {s s' : St} {e : Ev} (hI : Inv s) (h : step s e = some s') : Inv s' := by
  cases e with
  | cas f found expected desired ok =>
    simp only [step] at h
    split at h
    · next b snap hpc =>
      have hv := congrArg view hpc
      obtain ⟨-, rfl, hfit, h⟩ | ⟨-, rfl⟩ := cas_cases h
      · split at h
        · next hw =>
          -- rdlock / wrlock CAS that counts the caller as a waiter
          cases h
          have hA := hI.a.lock b f hfit
          rw [hw] at hA
          exact Inv.of_upd hI rfl rfl hA
            ((hI.b.cons_wait f b (congrArg (waitMode s.hd) hv)).congr
              (upd_view (holdMode s.hd) hv rfl) (fun _ => rfl))
            (hI.c.congr (upd_view View.xch hv rfl) (upd_view View.prk hv rfl))
            (hI.d.congr (upd_view View.pre hv rfl) (upd_view View.post hv rfl)
              (upd_view View.prk hv rfl))
            rfl
        · next hw =>
          cases h
          exact inv_acquire hI f b _ hv rfl hfit (by simpa using hw)
      · exact inv_local hI _ _ (by simp [view, hpc])
    · next b snap hpc =>
      have hleg : tryLegal b snap = true := by
        have := hI.e f; rw [hpc] at this; simpa [view] using this
      obtain ⟨hnew, hacq⟩ := tryNew_eq_lockNew hleg
      rw [hnew] at h
      obtain ⟨-, rfl, hfit, h⟩ | ⟨-, rfl⟩ := cas_cases h
      · cases h
        exact inv_acquire hI f b _ (by simp [view, hpc, hleg]) rfl hfit hacq
      · exact inv_local hI _ _ (by simp [view, hpc, hleg])
    · next b snap hpc =>
      obtain ⟨-, rfl, -, h⟩ | ⟨-, rfl⟩ := cas_cases h
      · have hv := congrArg view hpc
        have hh : s.hm f = some b := congrArg (holdMode s.hd) hv
        have hp : s.prk f = none := congrArg View.prk hv
        have hA := hI.a.unlock b f ((hI.b.hold f b).2 hh)
        have hB := (hI.b.erase_hold f b hh).congr (fun _ => rfl) (upd_view (waitMode s.hd) hv rfl)
        have hC := hI.c.congr (upd_view View.xch hv rfl) (upd_self hp)
        split at h
        · next hn =>
          -- releasing CAS without hand-off
          cases h
          rw [hn] at hA
          exact Inv.of_upd hI rfl rfl hA hB hC
            (hI.d.congr (upd_view View.pre hv rfl) (upd_view View.post hv rfl) (upd_self hp)) rfl
        · next q n hn =>
          -- releasing CAS that hands the lock to `n` waiters of queue `q`
          cases h
          rw [hn] at hA
          obtain ⟨hA, ht, hn, hall⟩ := hA
          exact Inv.of_upd hI rfl rfl hA hB hC
            ((hI.d.hand s.post_pre f q n (congrArg View.pre hv) (congrArg View.post hv) ht hn
              (no_popper hI q f ht hall hp)).congr (fun _ => rfl)
              (upd_view View.post hv rfl) (upd_self hp))
            rfl
      · exact inv_local hI _ _ (by simp [view, hpc])
    · cases h
  | wState f g v =>
    simp only [step] at h
    split at h
    · next hpc => split at h
                  · loc hpc
                  · cases h
    · next q k g' st hpc =>
      split at h
      · next hc =>
        obtain ⟨rfl, -, -⟩ := hc
        cases h
        exact inv_woke hI f q k g (congrArg view hpc)
      · cases h
    · cases h
  | rState f g v =>
    simp only [step] at h
    split at h
    · next q k hh g' hpc =>
      split at h
      · next hc =>
        obtain ⟨rfl, -⟩ := hc
        split at h
        · loc hpc
        · cases h
          exact inv_woke hI f q k g (congrArg view hpc)
      · cases h
    · cases h
  | wNext f n x =>
    simp only [step] at h
    split at h
    · next hpc => split at h
                  · loc hpc
                  · cases h
    · next b m p i hpc =>
      split at h
      · -- `prev->next = node`: the entry becomes visible to the consumer, the fiber is parked
        cases h
        have hv := congrArg view hpc
        have hx : s.xch f = some (b, m, i) := congrArg View.xch hv
        have hp : s.prk f = none := congrArg View.prk hv
        obtain ⟨-, hi, -⟩ := hI.c.q2 f b m i hx
        exact Inv.of_upd hI rfl rfl hI.a
          (hI.b.congr (upd_view (holdMode s.hd) hv (if_neg (Nat.not_lt.2 hi)).symm)
            (upd_view (waitMode s.hd) hv (if_pos hi).symm))
          (hI.c.link f b m i hx hp)
          ((hI.d.park f _ hp).congr (upd_view View.pre hv rfl) (upd_view View.post hv rfl)
            (fun _ => rfl))
          rfl
      · cases h
    · cases h
  | xchgTail f q old new =>
    simp only [step] at h
    split at h
    · next b m hpc =>
      split at h
      · -- `prev = xchg(&tail, node)`
        cases h
        have hv := congrArg view hpc
        have hp : s.prk f = none := congrArg View.prk hv
        exact Inv.of_upd hI rfl rfl hI.a
          (hI.b.congr (upd_view (holdMode s.hd) hv rfl) (upd_view (waitMode s.hd) hv rfl))
          ((hI.c.push f b m (congrArg View.xch hv) hp).congr (fun _ => rfl) (upd_self hp))
          (hI.d.congr (upd_view View.pre hv rfl) (upd_view View.post hv rfl) (upd_self hp))
          rfl
      · cases h
    · cases h
  | retLock f b =>
    simp only [step] at h
    split at h
    · next hpc => split at h
                  · next hb => subst hb; loc hpc
                  · cases h
    · next b' i hpc =>
      split at h
      · next hc =>
        -- a popped and woken waiter returns from rdlock / wrlock
        obtain ⟨rfl, hi, hw⟩ := hc
        cases h
        have hv := congrArg view hpc
        have hx : s.xch f = none := congrArg View.xch hv
        exact Inv.of_upd hI rfl rfl hI.a
          (hI.b.congr (upd_view (holdMode s.hd) hv (if_pos hi))
            (upd_view (waitMode s.hd) hv (if_neg (Nat.not_le.2 hi))))
          ((hI.c.unpark f b i hx (congrArg View.prk hv) hi).congr (upd_self hx) (fun _ => rfl))
          ((hI.d.unpark f hw).congr (upd_view View.pre hv rfl) (upd_view View.post hv rfl)
            (fun _ => rfl))
          rfl
      · cases h
    · cases h
  | wHead f q n =>
    simp only [step] at h
    split at h
    · next q' k hh x hpc =>
      split at h
      · next hc =>
        obtain ⟨rfl, rfl⟩ := hc
        split at h
        · next n' g hget =>
          split at h
          · next hc2 =>
            -- `head = next`: the pop takes effect, the oldest linked waiter consumes one grant
            obtain ⟨rfl, hlk⟩ := hc2
            cases h
            have hv := congrArg view hpc
            have hpre : s.pre f = some (q, k) := congrArg View.pre hv
            have htk := hI.d.p1 f q k hpre
            have hpg : s.prk g = some (q, s.hd q) := by
              rcases hI.c.q1 q (s.hd q) n' g (Nat.le_refl _) hget with ⟨-, h2⟩ | ⟨h1, -⟩
              · rw [hlk] at h2; cases h2
              · exact h1
            obtain ⟨hgh, hgw, -⟩ := view_prk (s.pc g) hpg
            have hm := modes_parked s.hd hgh hgw hpg
            have hwg : s.wm g = some q := hm.2.trans (if_pos (Nat.le_refl _))
            have hb := ((hI.b.erase_wait g q hwg).cons_hold g q
                (hm.1.trans (if_neg (Nat.lt_irrefl _)))).congr
              (fun p => (modes_pop hI.c hget hpg p).1) (fun p => (modes_pop hI.c hget hpg p).2)
            exact Inv.of_upd hI rfl rfl (hI.a.pop q g ((hI.b.wait g q).2 hwg) (by omega))
              (hb.congr (upd_view (holdMode _) hv rfl) (upd_view (waitMode _) hv rfl))
              ((hI.c.pop q hget hlk).congr (upd_view View.xch hv rfl) (upd_view View.prk hv rfl))
              ((hI.d.pop s.post_pre f q k g hpre (congrArg View.post hv) hpg).congr (fun _ => rfl)
                (fun _ => rfl) (upd_view View.prk hv rfl))
              rfl
          · cases h
        · cases h
      · cases h
    · cases h
  | _ =>
    -- every accepted instance of the other events moves the acting fiber inside one view
    simp only [step] at h
    (repeat' split at h) <;> cases h <;> exact inv_local hI _ _ (by simp_all [view])

theorem inv_of_run {stub : Bool → Nat} {nodeOf : Nat → Nat} {es : List Ev} {s : St}
    (h : (sys stub nodeOf).run es = some s) : Inv s :=
  Sys.inv_of_run (sys stub nodeOf) Inv (inv_init stub nodeOf)
    (fun _ _ _ hI hs => inv_step hI hs) h

/-- fiber f holds the lock in mode b (true = write): it acquired by its own CAS and has not
    yet released, or it is a parked waiter whose queue entry a releaser has popped
    (handed off — possibly not yet resumed) -/
def Holds (s : St) (f : Nat) (b : Bool) : Prop := holdMode s.hd (view (s.pc f)) = some b

/-- fiber f is counted as a waiter of queue b and has not been popped yet -/
def Waits (s : St) (f : Nat) (b : Bool) : Prop := waitMode s.hd (view (s.pc f)) = some b

/-- fiber p is consuming from queue q (it is inside fiber_manager_wake_from_mpsc_queue) -/
def Popping (s : St) (p : Nat) (q : Bool) : Prop := popQ (s.pre p) (s.post p) = some q

theorem holds_iff (s : St) (f : Nat) (b : Bool) :
    Holds s f b ↔ (s.pc f = .acquired b ∨ s.pc f = .tryDone b true ∨ s.pc f = .held b ∨
      s.pc f = .inCs b ∨ s.pc f = .unlockCalled b ∨ (∃ snap, s.pc f = .unlockRead b snap) ∨
      ∃ i, s.pc f = .parked b i ∧ i < s.hd b) := by
  unfold Holds
  cases hpc : s.pc f <;> simp [view, holdMode]
  case tryDone b' r => cases r <;> simp
  case parked b' i =>
    constructor
    · rintro ⟨h1, rfl⟩; exact ⟨i, ⟨rfl, rfl⟩, h1⟩
    · rintro ⟨j, ⟨rfl, rfl⟩, h⟩; exact ⟨h, rfl⟩

theorem Holds.of_pc {s : St} {f : Nat} {b : Bool} {pc : Pc} (hpc : s.pc f = pc)
    (hv : (view pc).hold = some b) : Holds s f b := by
  subst hpc; simp only [Holds, holdMode, hv]

theorem waits_iff (s : St) (f : Nat) (b : Bool) :
    Waits s f b ↔ (s.pc f = .counted b ∨ s.pc f = .waitSaving b ∨ (∃ n, s.pc f = .waitGotNode b n) ∨
      (∃ n, s.pc f = .waitWroteData b n) ∨ (∃ n, s.pc f = .waitClearedNode b n) ∨
      (∃ n, s.pc f = .pushCleared b n) ∨ (∃ n p i, s.pc f = .pushXchgd b n p i) ∨
      ∃ i, s.pc f = .parked b i ∧ s.hd b ≤ i) := by
  unfold Waits
  cases hpc : s.pc f <;> simp [view, waitMode]
  case tryDone b' r => cases r <;> simp
  case parked b' i =>
    constructor
    · rintro ⟨h1, rfl⟩; exact ⟨i, ⟨rfl, rfl⟩, h1⟩
    · rintro ⟨j, ⟨rfl, rfl⟩, h⟩; exact ⟨h, rfl⟩

theorem popping_iff (s : St) (p : Nat) (q : Bool) :
    Popping s p q ↔ ((∃ k, s.pc p = .wakeLoop q k) ∨ (∃ k h, s.pc p = .popGotHead q k h) ∨
      (∃ k h x, s.pc p = .popGotNext q k h x) ∨ (∃ k h x g, s.pc p = .popMoved q k h x g) ∨
      (∃ k h x g, s.pc p = .popGotData q k h x g) ∨ (∃ k h g, s.pc p = .popWrote q k h g) ∨
      (∃ k h g, s.pc p = .wakeGotFiber q k h g) ∨ (∃ k h g, s.pc p = .wakeGaveNode q k h g) ∨
      ∃ k g st, s.pc p = .wakeReadState q k g st) := by
  unfold Popping St.pre St.post
  cases hpc : s.pc p <;> simp [view, popQ]
  case tryDone b' r => cases r <;> simp

theorem Inv.excl_lists {s : St} (hI : Inv s) :
    (s.holders true).length + s.tok true ≤ 1 ∧
    ((s.holders true).length + s.tok true = 1 → s.holders false = [] ∧ s.tok false = 0) := by
  obtain ⟨h1, h2, h3, h4, -, -, -, -⟩ := hI.a
  refine ⟨by omega, fun h => ?_⟩
  have : (s.holders false).length = 0 ∧ s.tok false = 0 := by omega
  exact ⟨List.length_eq_zero_iff.1 this.1, this.2⟩

theorem Inv.holds_mem {s : St} (hI : Inv s) {f : Nat} {b : Bool} : Holds s f b ↔ f ∈ s.holders b :=
  (hI.b.hold f b).symm

theorem Inv.exists_holds {s : St} (hI : Inv s) {b : Bool} (h : 0 < (s.holders b).length) :
    ∃ f, Holds s f b :=
  let ⟨f, hf⟩ := List.exists_mem_of_length_pos h
  ⟨f, hI.holds_mem.2 hf⟩

theorem Inv.waits_mem {s : St} (hI : Inv s) {f : Nat} {b : Bool} : Waits s f b ↔ f ∈ s.waiters b :=
  (hI.b.wait f b).symm

theorem Inv.writer_alone {s : St} (hI : Inv s) {f g : Nat} {b : Bool}
    (hf : Holds s f true) (hg : Holds s g b) : g = f ∧ b = true := by
  have hf' := hI.holds_mem.1 hf
  have hg' := hI.holds_mem.1 hg
  have hpos := List.length_pos_of_mem hf'
  obtain ⟨h1, h2⟩ := hI.excl_lists
  cases b
  · have := (h2 (by omega)).1; rw [this] at hg'; simp at hg'
  · exact ⟨len_le_one_unique (by omega) hg' hf', rfl⟩

def actor : Ev → Nat
  | .callLock f _ | .retLock f _ | .callTry f _ | .retTry f _ _ | .callUnlock f _ | .retUnlock f
  | .csEnter f _ | .csExit f | .rBlob f _ | .cas f _ _ _ _ | .wState f _ _ | .rState f _ _
  | .rNode f _ _ | .wNode f _ _ | .wData f _ _ | .rData f _ _ | .wNext f _ _ | .rNext f _ _
  | .xchgTail f _ _ _ | .rHead f _ _ | .wHead f _ _ => f

theorem step_frame {s s' : St} {e : Ev} (h : step s e = some s') (g : Nat) (hg : g ≠ actor e) :
    s'.pc g = s.pc g := by
  cases e <;> simp only [step] at h <;> simp only [actor] at hg <;>
    (repeat' split at h) <;> cases h <;> exact upd_other _ _ _ _ hg

theorem step_from_inCs {s s' : St} {e : Ev} (h : step s e = some s') {c : Bool}
    (hc : s.pc (actor e) = .inCs c) : e = .csExit (actor e) := by
  cases e <;> simp only [actor] at hc <;> simp [step, hc] at h
  rfl

theorem step_cas_unlock {s s' : St} {f found expected desired : Nat} {ok b : Bool} {snap : Nat}
    (h : step s (.cas f found expected desired ok) = some s') (hok : ok = true)
    (hpc : s.pc f = .unlockRead b snap) :
    snap = encode s.w ∧ s'.w = (unlockNew b snap).1 ∧
      match (unlockNew b snap).2 with
      | none => s'.tok = s.tok ∧ s'.pc f = .unlockDone
      | some (q, n) => s'.tok = updB s.tok q (s.tok q + n) ∧ s'.pc f = .wakeLoop q n := by
  simp only [step, hpc] at h
  obtain ⟨-, hs, -, h'⟩ | ⟨h', -⟩ := cas_cases h
  · refine ⟨hs, ?_⟩
    clear hs h
    split at h' <;> cases h' <;> simp [*]
  · cases hok.symm.trans h'

/-! ### the occupancy monitor never fires on an accepted trace -/

structure MonInv (s : St) (m : Mon) : Prop where
  ok : m.err = none
  ins : ∀ p ∈ m.inside, s.pc p.1 = .inCs p.2

theorem no_conflict {s : St} {m : Mon} (hI : Inv s) (hm : MonInv s m) {f : Nat} {b : Bool}
    (hf : Holds s f b) (hnot : ∀ c, s.pc f ≠ .inCs c) : conflict b m.inside = false := by
  have key : ∀ p ∈ m.inside, Holds s p.1 p.2 := fun p hp => Holds.of_pc (hm.ins p hp) rfl
  cases b
  · simp only [conflict, Bool.false_eq_true, if_false]
    rw [List.any_eq_false]
    intro p hp hp2
    have hp' := key p hp; rw [hp2] at hp'
    cases (hI.writer_alone hp' hf).2
  · simp only [conflict, if_true]
    cases hin : m.inside with
    | nil => rfl
    | cons p l =>
      have hp : p ∈ m.inside := by rw [hin]; exact List.mem_cons_self
      exact absurd ((hI.writer_alone hf (key p hp)).1 ▸ hm.ins p hp) (hnot p.2)

theorem mon_step {s s' : St} {e : Ev} {m : Mon} (hI : Inv s) (hm : MonInv s m)
    (h : step s e = some s') : MonInv s' (monStep m e) := by
  -- whoever is inside stays inside, unless it is the one that leaves
  have hmem : ∀ p ∈ m.inside, e ≠ .csExit p.1 → s'.pc p.1 = .inCs p.2 := by
    intro p hp hne
    have hpc := hm.ins p hp
    by_cases ha : p.1 = actor e
    · exfalso; rw [ha] at hpc hne; exact hne (step_from_inCs h hpc)
    · rw [step_frame h p.1 ha]; exact hpc
  cases e with
  | csEnter f b =>
    simp only [step] at h
    split at h
    · next hpc =>
      cases h
      simp only [monStep, no_conflict hI hm (Holds.of_pc hpc rfl) (by simp [hpc]),
        Bool.false_eq_true, if_false]
      refine ⟨hm.ok, fun p hp => ?_⟩
      rcases List.mem_cons.1 hp with rfl | hp
      · exact upd_same ..
      · exact hmem p hp (by simp)
    · cases h
  | csExit f =>
    refine ⟨hm.ok, fun p hp => ?_⟩
    simp only [monStep, List.mem_filter, decide_eq_true_eq] at hp
    rw [step_frame h p.1 hp.2]; exact hm.ins p hp.1
  | retTry f b r =>
    cases r
    · exact ⟨hm.ok, fun p hp => hmem p hp (by simp)⟩
    · simp only [step] at h
      split at h
      · next b' r' hpc =>
        split at h
        · next hc =>
          obtain ⟨rfl, rfl⟩ := hc
          simp only [monStep, no_conflict hI hm (Holds.of_pc hpc rfl) (by simp [hpc]),
            Bool.false_eq_true, if_false]
          exact ⟨hm.ok, fun p hp => hmem p hp (by simp)⟩
        · cases h
      · cases h
  | _ => exact ⟨hm.ok, fun p hp => hmem p hp (by simp)⟩

end LibfiberVerif.RwLock
