/-
  The access-level model of include/mpsc_fifo.h refines the abstract waiter queue of
  Model/AbsQueue.lean.

  `MpscCore.coreStep` contains `Mpsc.step .mpsc` and preserves C15's structural invariant
  `Mpsc.Inv .mpsc`, which never mentions payload distinctness.  `Eff` says what one
  `MpscCore.step` does to the fields the abstraction looks at; `J` couples the recordings
  `hist` / `npop` to the queue.  Under both invariants the concrete cells hold the values derived
  from `abs c`, and each step is the abstract operation `proj c e`.
-/
import LibfiberVerif.Model.AbsQueue
import LibfiberVerif.Proof.Mpsc

namespace LibfiberVerif.AbsQueue

theorem step_eq_some {a a' : St} {o : Op} :
    step a o = some a' ↔ ok a o = true ∧ apply a o = a' := by
  simp only [step]
  split <;> simp [*]

structure WF (a : St) : Prop where
  hdLe : a.hd ≤ a.order.length
  /-- a freshly exchanged entry is not linked: `enq` need not reset `linked` -/
  fresh : ∀ i, a.order.length ≤ i → a.linked i = false
  /-- only linked entries are popped -/
  dead : ∀ i, i < a.hd → a.linked i = true
  /-- the current stub is the node of the entry popped last (the initial stub at first) -/
  head : a.headNode = prevNode a a.hd

theorem wf_init (stub : Nat) : WF (init stub) := by
  constructor <;> simp [init, prevNode]

theorem wf_step {a a' : St} {o : Op} (h : WF a) (hs : step a o = some a') : WF a' := by
  obtain ⟨hok, rfl⟩ := step_eq_some.mp hs
  obtain ⟨h1, h2, h3, h4⟩ := h
  cases o with
  | enq n f old =>
    constructor
    · simp [apply, enq]; omega
    · intro i hi; simp [apply, enq] at hi ⊢; exact h2 i (by omega)
    · exact h3
    · show a.headNode = prevNode { a with order := a.order ++ [(n, f)] } a.hd
      rw [h4]
      cases hh : a.hd with
      | zero => rfl
      | succ k =>
        have : k < a.order.length := by omega
        simp only [prevNode, List.getElem?_append_left this]
  | link i =>
    simp only [ok, Bool.and_eq_true, decide_eq_true_eq, Bool.not_eq_true'] at hok
    constructor
    · exact h1
    · intro j hj
      have hj : a.order.length ≤ j := hj
      show upd a.linked i true j = false
      rw [upd_other _ _ _ _ (by have := hok.1; omega)]; exact h2 j hj
    · intro j hj
      show upd a.linked i true j = true
      by_cases hji : j = i
      · rw [hji, upd_same]
      · rw [upd_other _ _ _ _ hji]; exact h3 j hj
    · exact h4
  | popTry x => exact ⟨h1, h2, h3, h4⟩
  | popCommit x g =>
    simp only [ok, Bool.and_eq_true, beq_iff_eq] at hok
    have hlt : a.hd < a.order.length := (List.getElem?_eq_some_iff.mp hok.1).1
    constructor
    · show a.hd + 1 ≤ a.order.length; omega
    · exact h2
    · intro j hj
      have hj : j < a.hd + 1 := hj
      by_cases hji : j = a.hd
      · rw [hji]; exact hok.2
      · exact h3 j (by omega)
    · show x = prevNode { a with hd := a.hd + 1, headNode := x } (a.hd + 1)
      simp only [prevNode, hok.1]

theorem wf_of_reachable {stub : Nat} {a : St} (h : Sys.Reachable (sys stub) a) : WF a :=
  Sys.inv_of_step (sys stub) WF (wf_init stub) (fun _ _ _ hi hs => wf_step hi hs) h

/-- `popCommit` (the function) and the labelled step agree -/
theorem popCommit_eq_step {a : St} {x g : Nat} (h : ok a (.popCommit x g) = true) :
    popCommit a = some (g, apply a (.popCommit x g)) := by
  simp only [ok, Bool.and_eq_true, beq_iff_eq] at h
  simp [popCommit, h.1, h.2, apply]

end LibfiberVerif.AbsQueue

namespace LibfiberVerif.MpscCore

open Mpsc (Ev idx_lt mem_of_idx idx_drop1 nodup_idx drop1_app head_mem)

theorem coreStep_of_mpsc {s s' : Mpsc.St} {e : Ev} (h : Mpsc.step .mpsc s e = some s') :
    coreStep s e = some s' := by
  cases Mpsc.Step.of_step h with
  | callPush hpc _ _ hct => simp [coreStep, hpc, hct]
  | _ => exact h

theorem coreStep_cases {s s' : Mpsc.St} {e : Ev} (h : coreStep s e = some s') :
    Mpsc.step .mpsc s e = some s' ∨
      ∃ t v, e = .callPush t v ∧ s.pc t = .idle ∧ (s.cpc = .idle ∨ s.ct ≠ t) ∧
        s' = { s with pc := upd s.pc t (.called v), called := s.called ++ [v] } := by
  cases e <;> try exact Or.inl h
  case callPush t v =>
    right
    simp only [coreStep] at h
    split at h <;> simp at h
    rename_i hc
    exact ⟨t, v, rfl, hc.1, hc.2, h.symm⟩

theorem inv_coreStep {s s' : Mpsc.St} {e : Ev} (h : Mpsc.Inv .mpsc s)
    (hs : coreStep s e = some s') : Mpsc.Inv .mpsc s' := by
  rcases coreStep_cases hs with hs | ⟨t, v, -, hidle, -, rfl⟩
  · exact Mpsc.inv_step h hs
  · exact h.producer (by rw [hidle]; nofun) trivial nofun

theorem step_unfold {c c' : St} {e : Ev} (h : step c e = some c') :
    ∃ m', coreStep c.m e = some m' ∧ c'.m = m' ∧ c'.stub = c.stub ∧
      c'.hist = (match (generalizing := false) e with
        | .xchgTail _ _ n => c.hist ++ [(n, c.m.data n)]
        | _ => c.hist) ∧
      c'.npop = (match (generalizing := false) e with
        | .wrHead _ _ => c.npop + 1
        | _ => c.npop) := by
  cases hm : coreStep c.m e with
  | none => simp [step, hm] at h
  | some m' =>
    simp only [step, hm, Option.some.injEq] at h
    subst h
    exact ⟨m', rfl, rfl, rfl, rfl, rfl⟩

structure J (c : St) : Prop where
  len : c.npop + c.m.q.length = c.hist.length + 1
  /-- the entries not popped yet are the nodes after the stub … -/
  nodes : (c.hist.drop c.npop).map Prod.fst = c.m.q.drop 1
  /-- … and the recorded payloads are what their `data` cells hold -/
  pay : (c.hist.drop c.npop).map Prod.snd = (c.m.q.drop 1).map c.m.data
  first : c.npop = 0 → c.m.head = c.stub
  /-- the current stub is the node of the entry popped last, and still carries its payload -/
  last : ∀ k, c.npop = k + 1 → c.hist[k]? = some (c.m.head, c.m.data c.m.head)
  pushed : c.hist.map Prod.snd = c.m.pushed
  moved : ∀ h x, c.m.cpc = .moved h x → 0 < c.npop

theorem entry_iff {c : St} (hJ : J c) {j n f : Nat} :
    c.hist[c.npop + j]? = some (n, f) ↔ c.m.q[j + 1]? = some n ∧ c.m.data n = f := by
  have h1 := congrArg (fun l => l[j]?) hJ.nodes
  have h2 := congrArg (fun l => l[j]?) hJ.pay
  simp only [List.getElem?_map, List.getElem?_drop, Nat.add_comm 1 j] at h1 h2
  rw [← h1] at h2 ⊢
  generalize c.hist[c.npop + j]? = o at h2 ⊢
  cases o with
  | none => simp
  | some e =>
    simp only [Option.map_some, Option.some.injEq] at h2 ⊢
    constructor
    · rintro rfl; exact ⟨rfl, h2.symm⟩
    · rintro ⟨rfl, rfl⟩; exact Prod.ext rfl h2

theorem entry_of {c : St} (hJ : J c) {j n : Nat} (h : c.m.q[j + 1]? = some n) :
    c.hist[c.npop + j]? = some (n, c.m.data n) :=
  (entry_iff hJ).mpr ⟨h, rfl⟩

/-- `J` reads the queue, `head`, the `data` of the queued nodes and the recordings, not `next` -/
theorem J.frame {c c' : St} (hJ : J c) (hI : Mpsc.Inv .mpsc c.m) (hq : c'.m.q = c.m.q)
    (hhead : c'.m.head = c.m.head) (hdata : ∀ a, a ∈ c.m.q → c'.m.data a = c.m.data a)
    (hpushed : c'.m.pushed = c.m.pushed)
    (hcpc : c'.m.cpc = c.m.cpc ∨ ∀ h x, c'.m.cpc ≠ .moved h x)
    (hhist : c'.hist = c.hist) (hnpop : c'.npop = c.npop) (hstub : c'.stub = c.stub) : J c' := by
  have hmap : (c.m.q.drop 1).map c'.m.data = (c.m.q.drop 1).map c.m.data :=
    List.map_congr_left (fun a ha => hdata a (List.mem_of_mem_drop ha))
  constructor
  case len => rw [hq, hhist, hnpop]; exact hJ.len
  case nodes => rw [hq, hhist, hnpop]; exact hJ.nodes
  case pay => rw [hq, hhist, hnpop, hmap]; exact hJ.pay
  case first => rw [hhead, hstub, hnpop]; exact hJ.first
  case last => rw [hhead, hhist, hnpop, hdata _ (head_mem hI)]; exact hJ.last
  case pushed => rw [hhist, hpushed]; exact hJ.pushed
  case moved =>
    intro h x hm
    rw [hnpop]
    rcases hcpc with hc | hc
    · rw [hc] at hm; exact hJ.moved _ _ hm
    · exact absurd hm (hc h x)

theorem J.publish {c c' : St} (hJ : J c) (hqpos : 0 < c.m.q.length) {n : Nat}
    (hq : c'.m.q = c.m.q ++ [n]) (hhead : c'.m.head = c.m.head) (hdata : c'.m.data = c.m.data)
    (hpushed : c'.m.pushed = c.m.pushed ++ [c.m.data n]) (hcpc : c'.m.cpc = c.m.cpc)
    (hhist : c'.hist = c.hist ++ [(n, c.m.data n)]) (hnpop : c'.npop = c.npop)
    (hstub : c'.stub = c.stub) : J c' := by
  have hle : c.npop ≤ c.hist.length := by have := hJ.len; omega
  constructor
  case len => rw [hq, hhist, hnpop]; have := hJ.len; simp; omega
  case nodes =>
    rw [hq, hhist, hnpop, List.drop_append_of_le_length hle, drop1_app n hqpos,
      List.map_append, hJ.nodes]
    rfl
  case pay =>
    rw [hq, hhist, hnpop, hdata, List.drop_append_of_le_length hle, drop1_app n hqpos,
      List.map_append, List.map_append, hJ.pay]
    rfl
  case first => rw [hhead, hstub, hnpop]; exact hJ.first
  case last =>
    intro k hk
    rw [hnpop] at hk
    have := hJ.last k hk
    have hlt : k < c.hist.length := by omega
    rw [hhead, hhist, hdata, List.getElem?_append_left hlt]; exact this
  case pushed => rw [hhist, hpushed, List.map_append, hJ.pushed]; rfl
  case moved => rw [hcpc, hnpop]; exact hJ.moved

theorem J.pop {c c' : St} (hJ : J c) {x : Nat} (hq1 : c.m.q[1]? = some x)
    (hq : c'.m.q = c.m.q.drop 1) (hhead : c'.m.head = x) (hdata : c'.m.data = c.m.data)
    (hpushed : c'.m.pushed = c.m.pushed) (hhist : c'.hist = c.hist)
    (hnpop : c'.npop = c.npop + 1) : J c' := by
  constructor
  case len => rw [hq, hhist, hnpop, List.length_drop]; have := hJ.len; have := idx_lt hq1; omega
  case nodes =>
    rw [hq, hhist, hnpop, List.drop_drop]
    have := congrArg (List.drop 1) hJ.nodes
    rw [← List.map_drop, List.drop_drop] at this
    simpa using this
  case pay =>
    rw [hq, hhist, hnpop, hdata, List.drop_drop]
    have := congrArg (List.drop 1) hJ.pay
    rw [← List.map_drop, ← List.map_drop, List.drop_drop, List.drop_drop] at this
    simpa using this
  case first => intro h0; rw [hnpop] at h0; omega
  case last =>
    intro k hk
    rw [hnpop] at hk
    have hk' : k = c.npop + 0 := by omega
    rw [hhead, hhist, hdata, hk']
    exact entry_of hJ hq1
  case pushed => rw [hhist, hpushed]; exact hJ.pushed
  case moved => intro _ _ _; rw [hnpop]; omega

def CInv (c : St) : Prop := Mpsc.Inv .mpsc c.m ∧ J c

theorem cinv_init {stub : Nat} (h0 : stub ≠ 0) : CInv (init stub) :=
  ⟨Mpsc.inv_init .mpsc stub h0, by constructor <;> simp [init, Mpsc.init]⟩

theorem st_ext {a b : AbsQueue.St} (h1 : a.stub = b.stub) (h2 : a.order = b.order)
    (h3 : ∀ i, a.linked i = b.linked i) (h4 : a.hd = b.hd) (h5 : a.headNode = b.headNode) :
    a = b := by
  cases a; cases b
  simp only [AbsQueue.St.mk.injEq] at *
  exact ⟨h1, h2, funext h3, h4, h5⟩

theorem getD_idx {l : List Nat} {k : Nat} (h : k < l.length) : l[k]? = some (l.getD k 0) := by
  rw [List.getD_eq_getElem?_getD, List.getElem?_eq_getElem h]; rfl

theorem idxOf_of_idx {l : List Nat} (hnd : l.Nodup) {k a : Nat} (h : l[k]? = some a) :
    l.idxOf a = k := by
  have hlt : l.idxOf a < l.length := List.idxOf_lt_length_of_mem (mem_of_idx h)
  have h2 : l[l.idxOf a]? = some a := by
    rw [List.getElem?_eq_getElem hlt, List.getElem_idxOf hlt]
  exact nodup_idx hnd h2 h

/-! `(abs c).linked` is the function given by three equations: popped entries are linked,
    indices beyond the history are not, and a live entry `npop + j` is linked iff the `next` cell of
    the node before it, `q[j]`, is not NULL (`linked_ext`). -/

theorem linked_dead_fresh (c : St) :
    (∀ i, i < (abs c).hd → (abs c).linked i = true) ∧
      (∀ i, (abs c).order.length ≤ i → (abs c).hd ≤ i → (abs c).linked i = false) := by
  refine ⟨fun i hi => by simp [abs, show i < c.npop from hi], fun i hi hh => ?_⟩
  have h1 : ¬ i < c.npop := Nat.not_lt.mpr hh
  have h2 : ¬ i < c.hist.length := Nat.not_lt.mpr hi
  simp [abs, h1, h2]

theorem linked_live {c : St} (hJ : J c) {j p : Nat} (hp : c.m.q[j]? = some p)
    (hj : j + 1 < c.m.q.length) : (abs c).linked (c.npop + j) = (c.m.next p != 0) := by
  have := hJ.len
  have h1 : ¬ c.npop + j < c.npop := by omega
  have h2 : c.npop + j < c.hist.length := by omega
  simp [abs, h1, h2, hp]

theorem npop_le {c : St} (h : CInv c) : c.npop ≤ c.hist.length := by
  have := h.2.len; have := h.1.qpos; omega

theorem linked_fresh {c : St} (h : CInv c) {i : Nat} (hi : c.hist.length ≤ i) :
    (abs c).linked i = false :=
  (linked_dead_fresh c).2 i hi (Nat.le_trans (npop_le h) hi)

theorem linked_ext {c : St} (h : CInv c) {f : Nat → Bool} (hd : ∀ i, i < c.npop → f i = true)
    (hf : ∀ i, c.hist.length ≤ i → f i = false)
    (hv : ∀ j p, c.m.q[j]? = some p → j + 1 < c.m.q.length → f (c.npop + j) = (c.m.next p != 0))
    (i : Nat) : (abs c).linked i = f i := by
  have hlen := h.2.len
  by_cases h1 : i < c.npop
  · rw [(linked_dead_fresh c).1 i h1, hd i h1]
  · by_cases h2 : i < c.hist.length
    · obtain ⟨j, rfl⟩ : ∃ j, i = c.npop + j := ⟨i - c.npop, by omega⟩
      have hp := getD_idx (show j < c.m.q.length by omega)
      rw [linked_live h.2 hp (by omega), hv j _ hp (by omega)]
    · rw [linked_fresh h (by omega), hf i (by omega)]

theorem prevNode_live {c : St} (h : CInv c) {j p : Nat} (hp : c.m.q[j]? = some p) :
    AbsQueue.prevNode (abs c) (c.npop + j) = p := by
  obtain ⟨hI, hJ⟩ := h
  cases j with
  | zero =>
    have : p = c.m.head := by rw [hI.hq] at hp; exact (Option.some.inj hp).symm
    subst this
    cases hn : c.npop with
    | zero => simp only [AbsQueue.prevNode, abs]; exact (hJ.first hn).symm
    | succ k => simp only [AbsQueue.prevNode, abs, hJ.last k hn]
  | succ j =>
    have := entry_of hJ hp
    show AbsQueue.prevNode (abs c) ((c.npop + j) + 1) = p
    simp only [AbsQueue.prevNode, abs, this]

/-- Everything about a live entry (published, not popped yet): where it sits in `q`, what its
    cells hold, and that its `linked` flag is false exactly while its producer has not written
    the link. -/
theorem live_entry {c : St} (h : CInv c) {i n f : Nat} (hi : c.npop ≤ i)
    (he : c.hist[i]? = some (n, f)) :
    ∃ p, c.m.q[i - c.npop]? = some p ∧ AbsQueue.prevNode (abs c) i = p ∧ c.m.data n = f ∧ n ≠ 0 ∧
      c.m.next p = (if (abs c).linked i then n else 0) ∧
      ((abs c).linked i = false ↔ ∃ t v, c.m.pc t = .xchgd v n p) := by
  obtain ⟨j, rfl⟩ : ∃ j, i = c.npop + j := ⟨i - c.npop, by omega⟩
  obtain ⟨hq1, hd⟩ := (entry_iff h.2).mp he
  have hlt := idx_lt hq1
  obtain ⟨p, hp⟩ : ∃ p, c.m.q[j]? = some p := ⟨_, getD_idx (show j < c.m.q.length by omega)⟩
  have hn0 : n ≠ 0 := fun h0 => h.1.nz (h0 ▸ mem_of_idx hq1)
  rw [Nat.add_sub_cancel_left, linked_live h.2 hp hlt]
  refine ⟨_, hp, prevNode_live h hp, hd, hn0, ?_⟩
  rcases h.1.lk j _ _ hp hq1 with hnx | ⟨hnx, hx⟩
  · refine ⟨by simp [hnx, hn0], by simp [hnx, hn0], fun ⟨t, v, hpc⟩ => ?_⟩
    exact absurd (hnx.symm.trans (h.1.pX _ _ _ _ hpc).2.1) hn0
  · exact ⟨by simp [hnx], fun _ => hx, fun _ => by simp [hnx]⟩

theorem tail_eq {c : St} (h : CInv c) : c.m.tail = AbsQueue.tailNode (abs c) := by
  obtain ⟨hI, hJ⟩ := h
  have htl := hI.tl
  have hlen := hJ.len
  have hqpos := hI.qpos
  simp only [AbsQueue.tailNode, abs, List.getLast?_eq_getElem?]
  by_cases hq : c.m.q.length = 1
  · -- nothing queued: the tail is the stub
    have hth : c.m.tail = c.m.head := by
      rw [hq, Nat.sub_self, hI.hq] at htl; exact (Option.some.inj htl).symm
    cases hn : c.npop with
    | zero =>
      have : c.hist = [] := List.eq_nil_of_length_eq_zero (by omega)
      rw [this, hth]; exact hJ.first hn
    | succ k =>
      rw [show c.hist.length - 1 = k by omega, hJ.last k hn]; exact hth
  · have hj : c.m.q[(c.m.q.length - 2) + 1]? = some c.m.tail := by
      rw [show c.m.q.length - 2 + 1 = c.m.q.length - 1 by omega]; exact htl
    rw [show c.hist.length - 1 = c.npop + (c.m.q.length - 2) by omega, entry_of hJ hj]

theorem headNext_eq {c : St} (h : CInv c) : c.m.next c.m.head = AbsQueue.headNext (abs c) := by
  show _ = match c.hist[c.npop]? with
    | some (n, _) => if (abs c).linked c.npop then n else 0
    | none => 0
  cases he : c.hist[c.npop]? with
  | none =>
    -- nothing queued: head = tail, whose next is NULL
    have hlen := h.2.len
    have hq : c.m.q.length = 1 := by
      have := List.getElem?_eq_none_iff.mp he; have := h.1.qpos; omega
    have htl := h.1.tl
    rw [hq, Nat.sub_self, h.1.hq] at htl
    rw [Option.some.inj htl]; exact h.1.last
  | some e =>
    obtain ⟨p, hp, -, -, -, hnx, -⟩ := live_entry h (Nat.le_refl _) he
    rw [Nat.sub_self, h.1.hq] at hp
    rw [Option.some.inj hp]; exact hnx

theorem abs_frame {c c' : St} (h : CInv c) (h' : CInv c') (hq : c'.m.q = c.m.q)
    (hhead : c'.m.head = c.m.head) (hnext : ∀ a, a ∈ c.m.q → c'.m.next a = c.m.next a)
    (hhist : c'.hist = c.hist) (hnpop : c'.npop = c.npop) (hstub : c'.stub = c.stub) :
    abs c' = abs c := by
  refine st_ext hstub hhist (linked_ext h' ?_ ?_ ?_) hnpop hhead
  · rw [hnpop]; exact (linked_dead_fresh c).1
  · exact fun i hi => linked_fresh h (hhist ▸ hi)
  · intro j p hp hj
    rw [hq] at hp hj
    rw [hnpop]
    rw [linked_live h.2 hp hj, hnext p (mem_of_idx hp)]

theorem abs_publish {c c' : St} (h : CInv c) (h' : CInv c') {n : Nat}
    (hq : c'.m.q = c.m.q ++ [n]) (hhead : c'.m.head = c.m.head) (hnext : c'.m.next = c.m.next)
    (hhist : c'.hist = c.hist ++ [(n, c.m.data n)]) (hnpop : c'.npop = c.npop)
    (hstub : c'.stub = c.stub) :
    AbsQueue.step (abs c) (.enq n (c.m.data n) c.m.tail) = some (abs c') := by
  have hlen := h.2.len
  have hle := npop_le h
  refine AbsQueue.step_eq_some.mpr ⟨by simp [AbsQueue.ok, tail_eq h], Eq.symm <|
    st_ext hstub hhist (linked_ext h' (f := (abs c).linked) ?_ ?_ ?_) hnpop hhead⟩
  · rw [hnpop]; exact (linked_dead_fresh c).1
  · intro i hi
    rw [hhist, List.length_append] at hi
    exact linked_fresh h (by omega)
  · intro j p hp hj
    rw [hq] at hp
    rw [hq, List.length_append] at hj
    rw [hnext, hnpop]
    by_cases hjl : j + 1 < c.m.q.length
    · rw [List.getElem?_append_left (by omega)] at hp
      exact linked_live h.2 hp hjl
    · -- the new entry: the node before it is the old tail, whose `next` is NULL
      have hj' : j = c.m.q.length - 1 := by simp at hj; omega
      rw [List.getElem?_append_left (by omega), hj', h.1.tl] at hp
      rw [← Option.some.inj hp, h.1.last, linked_fresh h (by omega)]
      rfl

theorem abs_link {c c' : St} (h : CInv c) (h' : CInv c') {t v m p : Nat}
    (hpc : c.m.pc t = .xchgd v m p) (hq : c'.m.q = c.m.q) (hhead : c'.m.head = c.m.head)
    (hnext : c'.m.next = upd c.m.next p m) (hhist : c'.hist = c.hist) (hnpop : c'.npop = c.npop)
    (hstub : c'.stub = c.stub) :
    AbsQueue.step (abs c) (.link (c.npop + c.m.q.idxOf p)) = some (abs c') := by
  have hlen := h.2.len
  obtain ⟨-, hnx, -, i0, hi0, hi1⟩ := h.1.pX _ _ _ _ hpc
  rw [idxOf_of_idx h.1.nd hi0]
  have hlt := idx_lt hi1
  have hm0 : m ≠ 0 := fun h0 => h.1.nz (h0 ▸ mem_of_idx hi1)
  -- the entry exists and is not linked yet: the `next` of the node before it is still NULL
  have hok : AbsQueue.ok (abs c) (.link (c.npop + i0)) = true := by
    have : c.npop + i0 < (abs c).order.length := by show _ < c.hist.length; omega
    simp [AbsQueue.ok, this, linked_live h.2 hi0 hlt, hnx]
  refine AbsQueue.step_eq_some.mpr ⟨hok, Eq.symm <| st_ext hstub hhist
    (linked_ext h' (f := upd (abs c).linked (c.npop + i0) true) ?_ ?_ ?_) hnpop hhead⟩
  · rw [hnpop]
    exact fun i hi => (upd_other _ _ _ _ (by omega)).trans ((linked_dead_fresh c).1 i hi)
  · intro i hi
    rw [hhist] at hi
    exact (upd_other _ _ _ _ (by omega)).trans (linked_fresh h hi)
  · intro j a ha hj
    rw [hq] at ha hj
    rw [hnext, hnpop]
    by_cases e : j = i0
    · subst e
      rw [Option.some.inj (ha.symm.trans hi0), upd_same, upd_same]
      simp [hm0]
    · have hap : a ≠ p := fun e' => e (nodup_idx h.1.nd ha (e' ▸ hi0))
      rw [upd_other _ _ _ _ (by omega), upd_other _ _ _ _ hap]
      exact linked_live h.2 ha hj

theorem abs_pop {c c' : St} (h : CInv c) (h' : CInv c') {x : Nat} (hx : x ≠ 0)
    (hnx : c.m.next c.m.head = x) (hq : c'.m.q = c.m.q.drop 1) (hhead : c'.m.head = x)
    (hnext : c'.m.next = c.m.next) (hhist : c'.hist = c.hist) (hnpop : c'.npop = c.npop + 1)
    (hstub : c'.stub = c.stub) :
    AbsQueue.step (abs c) (.popCommit x (c.m.data x)) = some (abs c') := by
  have hq1 := Mpsc.second_of_next h.1 hx hnx
  have hl : (abs c).linked c.npop = true := by
    have := linked_live h.2 h.1.hq (idx_lt hq1)
    rw [Nat.add_zero, hnx] at this
    rw [this]; simp [hx]
  have hent : (abs c).order[(abs c).hd]? = some (x, c.m.data x) := entry_of (j := 0) h.2 hq1
  have hok : AbsQueue.ok (abs c) (.popCommit x (c.m.data x)) = true := by
    simp [AbsQueue.ok, hent, show (abs c).linked (abs c).hd = true from hl]
  refine AbsQueue.step_eq_some.mpr ⟨hok, Eq.symm <| st_ext hstub hhist
    (linked_ext h' (f := (abs c).linked) ?_ ?_ ?_) hnpop hhead⟩
  · rw [hnpop]
    intro i hi
    by_cases e : i = c.npop
    · rw [e, hl]
    · exact (linked_dead_fresh c).1 i (by show i < c.npop; omega)
  · exact fun i hi => linked_fresh h (hhist ▸ hi)
  · intro j p hp hj
    rw [hq, idx_drop1] at hp
    rw [hq, List.length_drop] at hj
    rw [hnext, hnpop, Nat.add_assoc, Nat.add_comm 1 j]
    exact linked_live h.2 hp (by omega)

/-- a step that leaves alone what the abstraction looks at -/
theorem sim_frame {c c' : St} (h : CInv c) (hI' : Mpsc.Inv .mpsc c'.m) (hq : c'.m.q = c.m.q)
    (hhead : c'.m.head = c.m.head) (hnext : ∀ a, a ∈ c.m.q → c'.m.next a = c.m.next a)
    (hdata : ∀ a, a ∈ c.m.q → c'.m.data a = c.m.data a) (hpushed : c'.m.pushed = c.m.pushed)
    (hcpc : c'.m.cpc = c.m.cpc ∨ ∀ h x, c'.m.cpc ≠ .moved h x)
    (hhist : c'.hist = c.hist) (hnpop : c'.npop = c.npop) (hstub : c'.stub = c.stub) :
    CInv c' ∧ AbsQueue.stepO (abs c) none = some (abs c') :=
  have h' : CInv c' := ⟨hI', h.2.frame h.1 hq hhead hdata hpushed hcpc hhist hnpop hstub⟩
  ⟨h', congrArg some (abs_frame h h' hq hhead hnext hhist hnpop hstub).symm⟩

/-- the consumer's read of `head->next` observes `headNext` and changes nothing -/
theorem sim_popTry {c c' : St} (h : CInv c) {t n x : Nat} (hx : x = c.m.next c.m.head)
    (ha : AbsQueue.stepO (abs c) none = some (abs c')) :
    AbsQueue.stepO (abs c) (proj c (.rdNext t n x)) = some (abs c') := by
  rw [← Option.some.inj ha]
  simp [proj, AbsQueue.stepO, AbsQueue.step, AbsQueue.ok, AbsQueue.apply, hx, headNext_eq h]

/-- One pass over the steps: each keeps `CInv` and is the abstract operation `proj c e`. -/
theorem cinv_sim {c c' : St} {e : Ev} (h : CInv c) (hs : step c e = some c') :
    CInv c' ∧ AbsQueue.stepO (abs c) (proj c e) = some (abs c') := by
  obtain ⟨m', hcs, hm', hstub, hhist, hnpop⟩ := step_unfold hs
  obtain ⟨m0, st0, hi0, np0⟩ := c'
  subst hm'
  have hI := h.1
  have hI' := inv_coreStep hI hcs
  -- a cell of a node outside the queue is written
  have off : ∀ {f : Nat → Nat} {n x : Nat}, n ∉ c.m.q → ∀ a, a ∈ c.m.q → upd f n x a = f a :=
    fun hn a ha => upd_other _ _ _ _ fun e => hn (e ▸ ha)
  rcases coreStep_cases hcs with hm | ⟨t, v, rfl, -, -, rfl⟩
  · cases Mpsc.Step.of_step hm with
    | callPush | retPush =>
      exact sim_frame h hI' rfl rfl (fun _ _ => rfl) (fun _ _ => rfl) rfl (.inl rfl) hhist hnpop hstub
    | wrDataClient _ _ hnq =>
      exact sim_frame h hI' rfl rfl (fun _ _ => rfl) (off hnq) rfl (.inl rfl) hhist hnpop hstub
    | clearNext hpc =>
      simp only [proj, hpc]
      exact sim_frame h hI' rfl rfl (off (hI.pHave _ _ _ hpc).2.1) (fun _ _ => rfl) rfl (.inl rfl)
        hhist hnpop hstub
    | linkNext hpc =>
      have h' : CInv _ := ⟨hI', h.2.frame hI rfl rfl (fun _ _ => rfl) rfl (.inl rfl) hhist hnpop hstub⟩
      simp only [proj, hpc]
      exact ⟨h', abs_link h h' hpc rfl rfl rfl hhist hnpop hstub⟩
    | xchgTail hpc _ ho =>
      subst ho
      have hd := (hI.pClr _ _ _ hpc).1.2.2.2.1
      have h' : CInv _ := ⟨hI', h.2.publish hI.qpos rfl rfl rfl (by rw [hd]) rfl hhist hnpop hstub⟩
      exact ⟨h', abs_publish h h' rfl rfl rfl hhist hnpop hstub⟩
    | ldTail _ hk => cases hk
    | stTail hpc => cases (hI.pGot _ _ _ _ hpc).2.2.1
    | callPop | callPeek | rdHead | rdHeadPeek | rdDataPop | rdDataClient | retPopEmpty | retPop
    | rdDataPeek | retPeekEmpty | retPeek =>
      exact sim_frame h hI' rfl rfl (fun _ _ => rfl) (fun _ _ => rfl) rfl (.inr fun _ _ => nofun)
        hhist hnpop hstub
    | rdNext hcp _ hx =>
      have ⟨h', ha⟩ := sim_frame h hI' rfl rfl (fun _ _ => rfl) (fun _ _ => rfl) rfl
        (.inr fun _ _ => nofun) hhist hnpop hstub
      exact ⟨h', sim_popTry h (hI.cGotHead _ hcp ▸ hx) ha⟩
    | rdNextPeek hcp _ hx =>
      have ⟨h', ha⟩ := sim_frame h hI' rfl rfl (fun _ _ => rfl) (fun _ _ => rfl) rfl
        (.inr fun _ _ => nofun) hhist hnpop hstub
      exact ⟨h', sim_popTry h (hI.cPkGotHead _ hcp ▸ hx) ha⟩
    | wrHead hcp _ hx0 =>
      obtain ⟨hh, hnx⟩ := hI.cGotNext _ _ hcp
      have hnx' := hh ▸ hnx hx0
      have h' : CInv _ :=
        ⟨hI', h.2.pop (Mpsc.second_of_next hI hx0 hnx') rfl rfl rfl rfl hhist hnpop⟩
      exact ⟨h', abs_pop h h' hx0 hnx' rfl rfl rfl hhist hnpop hstub⟩
    | wrDataPop hcp =>
      exact sim_frame h hI' rfl rfl (fun _ _ => rfl) (off (hI.cGotData _ _ _ hcp)) rfl
        (.inr fun _ _ => nofun) hhist hnpop hstub
  · exact sim_frame h hI' rfl rfl (fun _ _ => rfl) (fun _ _ => rfl) rfl (.inl rfl) hhist hnpop hstub

theorem cinv_step {c c' : St} {e : Ev} (h : CInv c) (hs : step c e = some c') : CInv c' :=
  (cinv_sim h hs).1

theorem step_simulates_core {c c' : St} {e : Ev} (h : CInv c) (hs : step c e = some c') :
    AbsQueue.stepO (abs c) (proj c e) = some (abs c') :=
  (cinv_sim h hs).2

theorem cinv_of_reachable {stub : Nat} (h0 : stub ≠ 0) {c : St}
    (h : Sys.Reachable (sys stub) c) : CInv c :=
  Sys.inv_of_step (sys stub) CInv (cinv_init h0) (fun _ _ _ hi hs => cinv_step hi hs) h

theorem cinv_of_run {stub : Nat} (h0 : stub ≠ 0) {es : List Ev} {c : St}
    (h : (sys stub).run es = some c) : CInv c :=
  cinv_of_reachable h0 (Sys.reachable_of_run _ h)

theorem stepO_apply {a a' : AbsQueue.St} {o : Option AbsQueue.Op}
    (h : AbsQueue.stepO a o = some a') : a' = AbsQueue.applyO a o := by
  cases o with
  | none => cases h; rfl
  | some o => exact (AbsQueue.step_eq_some.mp h).2.symm

theorem abs_init (stub : Nat) : abs (init stub) = AbsQueue.init stub := by
  refine st_ext rfl rfl ?_ rfl rfl
  intro i
  simp [abs, init, AbsQueue.init]

theorem abs_reachable {stub : Nat} (h0 : stub ≠ 0) {c : St} (h : Sys.Reachable (sys stub) c) :
    Sys.Reachable (AbsQueue.sys stub) (abs c) := by
  induction h with
  | init => rw [show (sys stub).init = init stub from rfl, abs_init]; exact Sys.Reachable.init
  | @step c1 c2 e hr hst ih =>
    have hsim := step_simulates_core (cinv_of_reachable h0 hr) hst
    cases hp : proj c1 e with
    | none => rw [hp] at hsim; simp only [AbsQueue.stepO, Option.some.injEq] at hsim; rw [← hsim]; exact ih
    | some o => rw [hp] at hsim; exact Sys.Reachable.step ih hsim

theorem runFrom_stepO {stub : Nat} {a a' : AbsQueue.St} {o : Option AbsQueue.Op}
    (h : AbsQueue.stepO a o = some a') (l : List AbsQueue.Op) :
    (AbsQueue.sys stub).runFrom a (o.toList ++ l) = (AbsQueue.sys stub).runFrom a' l := by
  cases o with
  | none => cases h; rfl
  | some o =>
    have h : (AbsQueue.sys stub).step a o = some a' := h
    simp only [Option.toList, List.singleton_append, Sys.runFrom, h]

theorem refines_runFrom {stub : Nat} {es : List Ev} {c c' : St} (h : CInv c)
    (hr : (sys stub).runFrom c es = some c') :
    (AbsQueue.sys stub).runFrom (abs c) (opsFrom c es) = some (abs c') := by
  induction es generalizing c with
  | nil => cases hr; rfl
  | cons e es ih =>
    obtain ⟨c1, hst, hr⟩ := Sys.runFrom_cons_some.mp hr
    have hst : step c e = some c1 := hst
    simp only [opsFrom, hst]
    rw [runFrom_stepO (step_simulates_core h hst)]
    exact ih (cinv_step h hst) hr

theorem lift_runFrom {stub : Nat} {es : List Ev} {s s' : Mpsc.St} {c : St} (hc : c.m = s)
    (hr : (Mpsc.sys .mpsc stub).runFrom s es = some s') :
    ∃ c', (sys stub).runFrom c es = some c' ∧ c'.m = s' := by
  induction es generalizing s c with
  | nil => cases hr; exact ⟨c, rfl, hc⟩
  | cons e es ih =>
    obtain ⟨s1, hst, hr⟩ := Sys.runFrom_cons_some.mp hr
    have hcs : coreStep c.m e = some s1 := hc ▸ coreStep_of_mpsc hst
    obtain ⟨c', hr', hc'⟩ := ih (c := { c with m := s1, hist := _, npop := _ }) rfl hr
    exact ⟨c', Sys.runFrom_cons_some.mpr
      ⟨_, by show step c e = _; simp only [step, hcs]; rfl, hr'⟩, hc'⟩

theorem lift_run {stub : Nat} {es : List Ev} {s : Mpsc.St}
    (hr : (Mpsc.sys .mpsc stub).run es = some s) : ∃ c, (sys stub).run es = some c ∧ c.m = s :=
  lift_runFrom (c := init stub) rfl hr

theorem interior {c : St} (h : CInv c) {i n f : Nat} (hi : (abs c).hd ≤ i)
    (he : (abs c).order[i]? = some (n, f)) :
    c.m.next (AbsQueue.prevNode (abs c) i) = (if (abs c).linked i then n else 0) ∧
      c.m.data n = f ∧ n ≠ 0 := by
  obtain ⟨p, -, hp, hd, hn0, hnx, -⟩ := live_entry h hi he
  exact ⟨hp ▸ hnx, hd, hn0⟩

theorem linked_false_iff {c : St} (h : CInv c) {i n f : Nat} (hi : (abs c).hd ≤ i)
    (he : (abs c).order[i]? = some (n, f)) :
    (abs c).linked i = false ↔
      ∃ t v, c.m.pc t = .xchgd v n (AbsQueue.prevNode (abs c) i) := by
  obtain ⟨p, -, hp, -, -, -, hx⟩ := live_entry h hi he
  exact hp ▸ hx

theorem headNext_zero_iff {c : St} (h : CInv c) :
    AbsQueue.headNext (abs c) = 0 ↔
      ((abs c).order[(abs c).hd]? = none ∨ (abs c).linked (abs c).hd = false) := by
  simp only [AbsQueue.headNext]
  cases he : (abs c).order[(abs c).hd]? with
  | none => simp
  | some e =>
    obtain ⟨n, f⟩ := e
    have hn0 := (interior h (Nat.le_refl _) he).2.2
    cases hb : (abs c).linked (abs c).hd <;> simp [hn0]

theorem fifo {c : St} (h : CInv c) :
    c.m.popped ++ Mpsc.inflight c.m = ((abs c).order.take (abs c).hd).map Prod.snd := by
  have hv := h.1.vals
  have hp := h.2.pushed
  have hy := h.2.pay
  show _ = (c.hist.take c.npop).map Prod.snd
  rw [← hp, ← hy] at hv
  have hsplit : c.hist.map Prod.snd =
      (c.hist.take c.npop).map Prod.snd ++ (c.hist.drop c.npop).map Prod.snd := by
    rw [← List.map_append, List.take_append_drop]
  rw [hsplit] at hv
  exact (List.append_cancel_right hv).symm

theorem pop_commit {c c' : St} {t x : Nat} (h : CInv c) (hs : step c (.wrHead t x) = some c') :
    (abs c).order[(abs c).hd]? = some (x, c.m.data x) ∧ (abs c).linked (abs c).hd = true ∧
      AbsQueue.headNext (abs c) = x ∧ x ≠ 0 ∧
      abs c' = { abs c with hd := (abs c).hd + 1, headNode := x } := by
  obtain ⟨hok, ha⟩ := AbsQueue.step_eq_some.mp
    (show AbsQueue.step (abs c) (.popCommit x (c.m.data x)) = _ from step_simulates_core h hs)
  simp only [AbsQueue.ok, Bool.and_eq_true, beq_iff_eq] at hok
  refine ⟨hok.1, hok.2, ?_, (interior h (Nat.le_refl _) hok.1).2.2, ha.symm⟩
  simp [AbsQueue.headNext, hok.1, hok.2]

theorem pop_data {c c' : St} {t n d : Nat} (h : CInv c)
    (hs : step c (.rdDataPop t n d) = some c') :
    ∃ k, (abs c).hd = k + 1 ∧ (abs c).order[k]? = some (n, d) ∧ (abs c).headNode = n := by
  obtain ⟨m', hm, -⟩ := step_unfold hs
  cases Mpsc.Step.of_step (k := .mpsc) (s := c.m) (e := .rdDataPop t n d) hm with
  | rdDataPop hcp _ hd =>
    subst hd
    have hx := (h.1.cMoved _ _ hcp).1
    obtain ⟨k, hk⟩ : ∃ k, c.npop = k + 1 := ⟨c.npop - 1, by have := h.2.moved _ _ hcp; omega⟩
    exact ⟨k, hk, hx ▸ h.2.last k hk, hx.symm⟩

theorem pop_return {c c' : St} {t v : Nat} (h : CInv c) (hs : step c (.retPop t v) = some c') :
    (∃ h0, c.m.cpc = .gotNext h0 0 ∧ v = 0 ∧ c'.m.popped = c.m.popped) ∨
      (∃ n, (abs c).hd = c.m.popped.length + 1 ∧ (abs c).order[c.m.popped.length]? = some (n, v) ∧
        c'.m.popped = c.m.popped ++ [v]) := by
  obtain ⟨m', hm, hm', -⟩ := step_unfold hs
  cases Mpsc.Step.of_step (k := .mpsc) (s := c.m) (e := .retPop t v) hm with
  | retPopEmpty hcp => exact .inl ⟨_, hcp, rfl, by rw [hm']⟩
  | retPop hcp =>
    -- `v` sits at place `popped.length` of `pushed`, hence of the history; `hd` counts it
    have hl : (c.m.popped ++ Mpsc.inflight c.m).length = ((c.hist.take c.npop).map Prod.snd).length :=
      congrArg List.length (fifo h)
    simp only [Mpsc.inflight, hcp, List.length_append, List.length_singleton, List.length_map,
      List.length_take] at hl
    have hle := npop_le h
    have hv : c.m.pushed[c.m.popped.length]? = some v := by
      rw [h.1.vals]; simp [Mpsc.inflight, hcp]
    rw [← h.2.pushed, List.getElem?_map] at hv
    obtain ⟨⟨n, f⟩, he, rfl⟩ := Option.map_eq_some_iff.mp hv
    exact .inr ⟨n, by show c.npop = _; omega, he, by rw [hm']⟩

theorem empty_read {c c' : St} {t n : Nat} (h : CInv c) (hs : step c (.rdNext t n 0) = some c') :
    n = (abs c).headNode ∧ AbsQueue.headNext (abs c) = 0 ∧
      ((abs c).order[(abs c).hd]? = none ∨
        ∃ m f p v, (abs c).order[(abs c).hd]? = some (m, f) ∧ (abs c).linked (abs c).hd = false ∧
          c.m.pc p = .xchgd v m (abs c).headNode) := by
  obtain ⟨m', hm, -⟩ := step_unfold hs
  obtain ⟨hn, hz, -⟩ := Mpsc.null_read_shape (k := .mpsc) (s := c.m) (t := t) (h := n) h.1 hm
  refine ⟨hn, (headNext_eq h).symm.trans hz, ?_⟩
  cases he : (abs c).order[(abs c).hd]? with
  | none => exact .inl rfl
  | some e =>
    obtain ⟨m, f⟩ := e
    obtain ⟨p, hp, -, -, hm0, hnx, hx⟩ := live_entry h (Nat.le_refl _) he
    rw [Nat.sub_self, h.1.hq] at hp
    cases Option.some.inj hp
    -- the stub's `next` is NULL, so the entry is not linked
    have hl : (abs c).linked (abs c).hd = false := by
      cases hb : (abs c).linked (abs c).hd with
      | false => rfl
      | true => rw [show (abs c).linked c.npop = true from hb, hz] at hnx; exact absurd hnx.symm hm0
    obtain ⟨p, v, hpc⟩ := hx.mp hl
    exact .inr ⟨m, f, p, v, rfl, hl, hpc⟩

end LibfiberVerif.MpscCore
