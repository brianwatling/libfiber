/-
  Proof/HpTso.lean — the inductive invariant of the hazard-pointer handshake on TSO with a real
  `store_load_barrier()` (`Model/HpTso.lean`, `fenced = true`).

  Each thread buffers stores to its own slot only.  The barrier enters in exactly one place:
  at the validating re-load of `G` the reader's buffer is empty, so its slot store IS in memory;
  if the re-load still finds `p` in `G`, `p` has not been unlinked yet, hence every scan for `p`
  starts later and reads the slot from memory after that store.
-/
import LibfiberVerif.Model.HpTso
import LibfiberVerif.Proof.Tso

namespace LibfiberVerif.HpTso
open LibfiberVerif.Tso

theorem cSlot_ne_cG (t : Nat) : cSlot t ≠ cG := by simp [cSlot, cG]
theorem cSlot_inj {t u : Nat} (h : cSlot t = cSlot u) : t = u := by simp [cSlot] at h; exact h

def pcOk (N : Nat) (m : Mem) (ns : Int → NSt) (t : Nat) : Pc → Prop
  | .idle => True
  | .rdCalled => t < N
  | .rdLoaded p => p ≠ 0 ∧ t < N
  | .rdPublished p => p ≠ 0 ∧ t < N ∧ m.view t (cSlot t) = p
  | .rdFenced p => p ≠ 0 ∧ t < N ∧ m.buf t = [] ∧ m.mem (cSlot t) = p
  /- a validated reader: its slot store is IN MEMORY and the node is not reclaimed -/
  | .using p => p ≠ 0 ∧ t < N ∧ m.buf t = [] ∧ m.mem (cSlot t) = p ∧ ns p ≠ .free
  | .wScan n i _ => n ≠ 0 ∧ ns n = .retired t ∧ i ≤ N

structure Inv (s : St) : Prop where
  fen : s.fenced = true
  cells : ∀ u e, e ∈ s.m.buf u → e.1 = cSlot u
  g_ok : ∀ n, s.ns n = .inG ↔ (n ≠ 0 ∧ s.m.mem cG = n)
  pcs : ∀ t, pcOk s.N s.m s.ns t (s.pc t)
  /-- a scan for `p` that has passed the slot of a validated reader of `p` has found it -/
  scan_ok : ∀ t p w i f, s.pc t = .using p → s.pc w = .wScan p i f → t < i → f = true

theorem inv_init (N : Nat) : Inv (init true N) := by
  constructor <;> simp [init, Mem.init, pcOk]
  intro n h1 h2; exact h1 h2.symm

theorem load_G {s : St} (hI : Inv s) (t : Nat) : s.m.load t cG = s.m.mem cG := by
  rw [load_eq_view, Mem.view, applyAll_of_not_mem]
  intro e he; rw [hI.cells t e he]; exact cSlot_ne_cG t

/-! ### the accepted steps, read off `step` once -/

/-- the steps that only move the program counter of thread `t`: from `p`, by event `e`, to `p'` -/
inductive PcMove (s : St) (t : Nat) : Pc → Ev → Pc → Prop
  | callAcq (ht : t < s.N) : PcMove s t .idle (.callAcq t) .rdCalled
  | ldG_null (h0 : s.m.load t cG = 0) : PcMove s t .rdCalled (.ldG t (s.m.load t cG)) .idle
  | ldG_load (h0 : ¬s.m.load t cG = 0) :
      PcMove s t .rdCalled (.ldG t (s.m.load t cG)) (.rdLoaded (s.m.load t cG))
  | ldG_valid : PcMove s t (.rdFenced (s.m.load t cG)) (.ldG t (s.m.load t cG)) (.using (s.m.load t cG))
  | ldG_retry (p : Int) (hvp : ¬s.m.load t cG = p) :
      PcMove s t (.rdFenced p) (.ldG t (s.m.load t cG)) .rdCalled
  | fence (p : Int) (hd : s.fenced = true → s.m.drained t) : PcMove s t (.rdPublished p) (.fence t) (.rdFenced p)
  | ldSlot (old : Int) (j : Nat) (f : Bool) (hj : j < s.N) :
      PcMove s t (.wScan old j f) (.ldSlot t j (s.m.load t (cSlot j)))
        (.wScan old (j + 1) (f || decide (s.m.load t (cSlot j) = old)))
  | keep (old : Int) : PcMove s t (.wScan old s.N true) (.keep t old) (.wScan old 0 false)

/-- the accepted steps of the model with their successor states -/
inductive Step (s : St) : Ev → St → Prop
  | move (t : Nat) (p p' : Pc) (e : Ev) (hpc : s.pc t = p) (hm : PcMove s t p e p') :
      Step s e { s with pc := upd s.pc t p' }
  | use (t : Nat) (p : Int) (hpc : s.pc t = .using p) : Step s (.use t p) s
  | stSlot (t : Nat) (p : Int) (hpc : s.pc t = .rdLoaded p) :
      Step s (.stSlot t p) { s with m := s.m.store t (cSlot t) p, pc := upd s.pc t (.rdPublished p) }
  | release (t : Nat) (p : Int) (hpc : s.pc t = .using p) :
      Step s (.release t) { s with m := s.m.store t (cSlot t) 0, pc := upd s.pc t .idle }
  | xchgG_null (t : Nat) (new : Int) (hpc : s.pc t = .idle) (hd : s.m.drained t) (hG : s.m.mem cG = 0)
      (hnew : new = 0 ∨ s.ns new = .free) :
      Step s (.xchgG t (s.m.mem cG) new)
        { s with m := s.m.poke cG new, ns := if new = 0 then s.ns else setNs s.ns new .inG }
  | xchgG (t : Nat) (new : Int) (hpc : s.pc t = .idle) (hd : s.m.drained t) (hG : ¬s.m.mem cG = 0)
      (hnew : new = 0 ∨ s.ns new = .free) :
      Step s (.xchgG t (s.m.mem cG) new)
        { s with m := s.m.poke cG new,
                 ns := setNs (if new = 0 then s.ns else setNs s.ns new .inG) (s.m.mem cG) (.retired t),
                 pc := upd s.pc t (.wScan (s.m.mem cG) 0 false) }
  | reclaim (t : Nat) (old : Int) (hpc : s.pc t = .wScan old s.N false) :
      Step s (.reclaim t old) { s with ns := setNs s.ns old .free, pc := upd s.pc t .idle }
  | flush (t : Nat) (m' : Mem) (hf : s.m.flush t = some m') : Step s (.flush t) { s with m := m' }

theorem step_sound {s s' : St} {e : Ev} (h : step s e = some s') : Step s e s' := by
  cases e with
  -- the successor of `xchgG` contains an `if` that is to stay
  | xchgG t old new =>
    conv at h => lhs; whnf
    split at h
    · split at h
      · next hpc hg =>
        obtain ⟨hd, rfl, hnew⟩ := hg
        by_cases hG : s.m.mem cG = 0
        · simp only [hG, if_true, Option.some.injEq] at h; subst h
          exact .xchgG_null _ _ hpc hd hG hnew
        · simp only [hG, if_false, Option.some.injEq] at h; subst h
          exact .xchgG _ _ hpc hd hG hnew
      · cases h
    · cases h
  | _ =>
    conv at h => lhs; whnf
    repeat' split at h
    all_goals (try simp only [Option.some.injEq, reduceCtorEq] at h)
    all_goals (try subst h)
    -- substitute what the guard says of the event's arguments
    all_goals (repeat (cases ‹_ ∧ _›))
    all_goals subst_vars
    all_goals first | (refine .move _ _ _ _ ‹_› ?_; constructor <;> assumption) | (constructor <;> assumption)
/-! ### steps that only move a program counter -/

/-- `scan_ok` survives a move of thread `u` to a pc `p'` other than `using`, if the scan `u` may now
    be running has found every validated reader it has passed -/
theorem scan_move {s : St} (hI : Inv s) (u : Nat) (p' : Pc) (h1 : ∀ p, p' ≠ .using p)
    (h2 : ∀ t p i f, t ≠ u → s.pc t = .using p → p' = .wScan p i f → t < i → f = true) :
    ∀ t p w i f, upd s.pc u p' t = .using p → upd s.pc u p' w = .wScan p i f → t < i → f = true := by
  intro t p w i f ht hw hlt
  have htu : t ≠ u := by intro h; subst h; rw [upd_same] at ht; exact h1 p ht
  rw [upd_other _ _ _ _ htu] at ht
  by_cases hwu : w = u
  · subst hwu; rw [upd_same] at hw; exact h2 t p i f htu ht hw hlt
  · rw [upd_other _ _ _ _ hwu] at hw; exact hI.scan_ok t p w i f ht hw hlt

theorem scan_plain {s : St} (hI : Inv s) (u : Nat) (p' : Pc) (h1 : ∀ p, p' ≠ .using p)
    (h2 : ∀ p i f, p' ≠ .wScan p i f) :
    ∀ t p w i f, upd s.pc u p' t = .using p → upd s.pc u p' w = .wScan p i f → t < i → f = true :=
  scan_move hI u p' h1 (fun _ p i f _ _ hw => absurd hw (h2 p i f))

/-- thread `u` moves to `p'` and nothing else changes -/
theorem inv_local {s : St} (hI : Inv s) (u : Nat) (p' : Pc) (hok : pcOk s.N s.m s.ns u p')
    (hscan : ∀ t p w i f, upd s.pc u p' t = .using p → upd s.pc u p' w = .wScan p i f → t < i → f = true) :
    Inv { s with pc := upd s.pc u p' } := by
  refine ⟨hI.fen, hI.cells, hI.g_ok, fun t => ?_, hscan⟩
  show pcOk s.N s.m s.ns t (upd s.pc u p' t)
  by_cases ht : t = u
  · subst ht; rw [upd_same]; exact hok
  · rw [upd_other _ _ _ _ ht]; exact hI.pcs t

theorem inv_move {s : St} {t : Nat} {p p' : Pc} {e : Ev} (hI : Inv s) (hpc : s.pc t = p)
    (hm : PcMove s t p e p') : Inv { s with pc := upd s.pc t p' } := by
  have ho := hI.pcs t
  rw [hpc] at ho
  cases hm with
  | callAcq ht => exact inv_local hI t _ ht (scan_plain hI t _ (by simp) (by simp))
  | ldG_null h0 => exact inv_local hI t _ trivial (scan_plain hI t _ (by simp) (by simp))
  | ldG_load h0 => exact inv_local hI t _ ⟨h0, ho⟩ (scan_plain hI t _ (by simp) (by simp))
  | ldG_retry p hvp =>
    simp only [pcOk] at ho
    exact inv_local hI t _ ho.2.1 (scan_plain hI t _ (by simp) (by simp))
  | ldG_valid =>
    -- validated: the node is still in `G`, so nobody is scanning for it yet
    simp only [pcOk] at ho
    have hin : s.ns (s.m.load t cG) = .inG := (hI.g_ok _).mpr ⟨ho.1, (load_G hI t).symm⟩
    refine inv_local hI t _ ⟨ho.1, ho.2.1, ho.2.2.1, ho.2.2.2, by rw [hin]; simp⟩ ?_
    intro t' p' w i f ht' hw hlt
    simp only [upd] at ht' hw
    by_cases hwt : w = t
    · simp [hwt] at hw
    · simp only [hwt, if_false] at hw
      by_cases htt : t' = t
      · simp only [htt, if_true, Pc.using.injEq] at ht'
        subst ht'
        have := (hI.pcs w); rw [hw] at this; simp only [pcOk] at this
        rw [hin] at this; simp at this
      · simp only [htt, if_false] at ht'
        exact hI.scan_ok t' p' w i f ht' hw hlt
  | fence p hd =>
    simp only [pcOk] at ho
    have hE : s.m.buf t = [] := hd hI.fen
    exact inv_local hI t _ ⟨ho.1, ho.2.1, hE, by rw [← ho.2.2, view_of_drained hE]⟩
      (scan_plain hI t _ (by simp) (by simp))
  | ldSlot old i f hj =>
    simp only [pcOk] at ho
    refine inv_local hI t _ ⟨ho.1, ho.2.1, by omega⟩ (scan_move hI t _ (by simp) ?_)
    intro t' p' k g htt ht' hw hlt
    simp only [Pc.wScan.injEq] at hw
    obtain ⟨hp, hk, hg⟩ := hw
    subst hp; subst hk
    by_cases hlt' : t' < i
    · have := hI.scan_ok t' old t i f ht' hpc hlt'
      rw [← hg, this]; simp
    · have hti : t' = i := by omega
      subst hti
      -- the scan reads the slot of a validated reader: from memory, where its store is
      have hu := hI.pcs t'; rw [ht'] at hu; simp only [pcOk] at hu
      have hmem : s.m.load t (cSlot t') = s.m.mem (cSlot t') := by
        rw [load_eq_view, Mem.view, applyAll_of_not_mem]
        intro e he; rw [hI.cells t e he]
        intro h; exact htt (cSlot_inj h).symm
      rw [← hg, hmem, hu.2.2.2.1]; simp
  | keep old =>
    simp only [pcOk] at ho
    refine inv_local hI t _ ⟨ho.1, ho.2.1, by omega⟩ (scan_move hI t _ (by simp) ?_)
    intro t' p' k g _ _ hw hlt
    simp only [Pc.wScan.injEq] at hw
    omega

/-! ### stores to the own slot -/

theorem pcOk_store_other {N m ns t u p} {v : Int} (h : pcOk N m ns t p) (htu : t ≠ u) :
    pcOk N (m.store u (cSlot u) v) ns t p := by
  have hb : (m.store u (cSlot u) v).buf t = m.buf t := store_buf_other _ _ _ _ _ htu
  have hv : (m.store u (cSlot u) v).view t = m.view t := by simp [Mem.view, hb, store_mem]
  cases p <;> simp only [pcOk, hb, hv, store_mem] at h ⊢ <;> exact h

/-- thread `u` issues `hp[u] = v` and moves to `p'` -/
theorem inv_store {s : St} (hI : Inv s) (u : Nat) (v : Int) (p' : Pc)
    (hok : pcOk s.N (s.m.store u (cSlot u) v) s.ns u p')
    (h1 : ∀ p, p' ≠ .using p) (h2 : ∀ p i f, p' ≠ .wScan p i f) :
    Inv { s with m := s.m.store u (cSlot u) v, pc := upd s.pc u p' } := by
  refine ⟨hI.fen, fun w e he => ?_, ?_, fun t => ?_, scan_plain hI u p' h1 h2⟩
  · change e ∈ (s.m.store u (cSlot u) v).buf w at he
    by_cases hw : w = u
    · subst hw; rw [store_buf_self] at he
      rcases List.mem_append.mp he with h | h
      · exact hI.cells w e h
      · simp at h; rw [h]
    · rw [store_buf_other _ _ _ _ _ hw] at he; exact hI.cells w e he
  · show ∀ n, s.ns n = .inG ↔ n ≠ 0 ∧ (s.m.store u (cSlot u) v).mem cG = n
    rw [store_mem]; exact hI.g_ok
  · show pcOk s.N (s.m.store u (cSlot u) v) s.ns t (upd s.pc u p' t)
    by_cases ht : t = u
    · subst ht; rw [upd_same]; exact hok
    · rw [upd_other _ _ _ _ ht]; exact pcOk_store_other (hI.pcs t) ht

/-! ### flush -/

theorem pcOk_flush {N m m' ns t u p} (h : pcOk N m ns t p) (hf : m.flush u = some m')
    (hcells : ∀ e, e ∈ m.buf u → e.1 = cSlot u) : pcOk N m' ns t p := by
  obtain ⟨e, rest, hb, hm, hbuf⟩ := flush_some hf
  have hec : e.1 = cSlot u := hcells e (by rw [hb]; exact List.mem_cons_self)
  by_cases htu : t = u
  · subst htu
    have hv := view_flush_self hf
    cases p <;> simp only [pcOk, hv] at h ⊢ <;> first | exact h | (simp [hb] at h)
  · have hbt : m'.buf t = m.buf t := by rw [hbuf]; simp [upd, htu]
    have hne : cSlot t ≠ e.1 := by rw [hec]; intro h; exact htu (cSlot_inj h)
    have hmt : m'.mem (cSlot t) = m.mem (cSlot t) := by rw [hm]; simp [upd, hne]
    have hvt : m'.view t (cSlot t) = m.view t (cSlot t) := by
      simp only [Mem.view, hbt, hm]; exact applyAll_upd_other _ _ _ _ _ hne
    cases p <;> simp only [pcOk, hbt, hmt, hvt] at h ⊢ <;> exact h

theorem inv_flush {s : St} {t : Nat} {m' : Mem} (hI : Inv s) (hf : s.m.flush t = some m') :
    Inv { s with m := m' } := by
  obtain ⟨e, rest, hb, hm, hbuf⟩ := flush_some hf
  have hec : e.1 = cSlot t := hI.cells t e (by rw [hb]; exact List.mem_cons_self)
  refine ⟨hI.fen, fun u e' he' => ?_, ?_, fun u => pcOk_flush (hI.pcs u) hf (hI.cells t), hI.scan_ok⟩
  · change e' ∈ m'.buf u at he'
    simp only [hbuf] at he'
    by_cases hu : u = t
    · subst hu; rw [upd_same] at he'
      exact hI.cells u e' (by rw [hb]; exact List.mem_cons_of_mem _ he')
    · rw [upd_other _ _ _ _ hu] at he'; exact hI.cells u e' he'
  · have : m'.mem cG = s.m.mem cG := by
      rw [hm]; simp [upd]; intro h; rw [hec] at h; exact absurd h.symm (cSlot_ne_cG t)
    show ∀ n, s.ns n = .inG ↔ n ≠ 0 ∧ m'.mem cG = n
    simp only [this]; exact hI.g_ok

/-! ### unlink (`xchg`) and reclaim -/

theorem setNs_apply (f : Int → NSt) (n k : Int) (v : NSt) :
    setNs f n v k = if k = n then v else f k := rfl

theorem inv_xchgG {s : St} {t : Nat} {old new : Int} (hI : Inv s) (hold : old = s.m.mem cG)
    (hnew : new = 0 ∨ s.ns new = .free) :
    Inv (if old = 0 then { s with m := s.m.poke cG new, ns := if new = 0 then s.ns else setNs s.ns new .inG }
         else { s with m := s.m.poke cG new,
                       ns := setNs (if new = 0 then s.ns else setNs s.ns new .inG) old (.retired t),
                       pc := upd s.pc t (.wScan old 0 false) }) := by
  have hnewfree : new ≠ 0 → s.ns new = .free := by
    intro h0; rcases hnew with h | h
    · exact absurd h h0
    · exact h
  have hold_in : old ≠ 0 → s.ns old = .inG := fun h0 => (hI.g_ok old).mpr ⟨h0, hold.symm⟩
  -- what the other threads' promises need of the new life-cycle map
  have pcOk_other : ∀ (ns' : Int → NSt) (u : Nat) (p : Pc),
      (∀ n, s.ns n ≠ .free → ns' n ≠ .free) →
      (∀ n w, s.ns n = .retired w → ns' n = .retired w) →
      pcOk s.N s.m s.ns u p → pcOk s.N (s.m.poke cG new) ns' u p := by
    intro ns' u p hfree hret hp
    have hv : (s.m.poke cG new).view u (cSlot u) = s.m.view u (cSlot u) :=
      view_poke_other _ _ _ _ _ (cSlot_ne_cG u)
    have hmm : (s.m.poke cG new).mem (cSlot u) = s.m.mem (cSlot u) := by
      simp [Mem.poke, upd, cSlot_ne_cG]
    cases p <;> simp only [pcOk, hv, hmm, poke_buf] at hp ⊢ <;> try exact hp
    · exact ⟨hp.1, hp.2.1, hp.2.2.1, hp.2.2.2.1, hfree _ hp.2.2.2.2⟩
    · exact ⟨hp.1, hret _ _ hp.2.1, hp.2.2⟩
  -- `ns1`: the life-cycle map after the new node (if any) went into `G`
  generalize hn1 : (if new = 0 then s.ns else setNs s.ns new .inG) = ns1
  have h1 : ∀ n, ns1 n = if new ≠ 0 ∧ n = new then .inG else s.ns n := fun n => by
    rw [← hn1]; by_cases h : new = 0 <;> simp [h, setNs]
  have hg1 : ∀ n, ns1 n = .inG ↔ n ≠ 0 ∧ (new = n ∨ old = n) := by
    intro n
    have hg := hI.g_ok n
    rw [h1]
    by_cases hnn : new ≠ 0 ∧ n = new
    · obtain ⟨h0, rfl⟩ := hnn; simp [h0]
    · simp only [hnn, if_false]
      constructor
      · intro hin; have := hg.mp hin; omega
      · intro ⟨a, b⟩; apply hg.mpr; refine ⟨a, ?_⟩
        rcases b with b | b
        · exact absurd ⟨by omega, b.symm⟩ hnn
        · omega
  have hfree1 : ∀ n, s.ns n ≠ .free → ns1 n ≠ .free := by
    intro n hn; rw [h1]; split <;> simp [hn]
  have hret1 : ∀ n w, s.ns n = .retired w → ns1 n = .retired w := by
    intro n w hn; rw [h1]; split
    · next h' => obtain ⟨h0, rfl⟩ := h'; rw [hnewfree h0] at hn; cases hn
    · exact hn
  split
  next hold0 =>
    refine ⟨hI.fen, hI.cells, fun n => ?_, fun u => pcOk_other _ u _ hfree1 hret1 (hI.pcs u), hI.scan_ok⟩
    simp only [poke_mem, upd_same]
    rw [hg1]; omega
  next hold0 =>
    have hoi := hold_in hold0
    have hne : new ≠ old := by
      intro h'; subst h'
      rw [hnewfree hold0] at hoi; cases hoi
    refine ⟨hI.fen, hI.cells, fun n => ?_, fun u => ?_, ?_⟩
    · simp only [poke_mem, upd_same, setNs_apply]
      split
      · next hno => subst hno; simp; intro _; exact hne
      · rw [hg1]; omega
    · by_cases hu : u = t
      · subst hu
        simp only [upd_same, pcOk, setNs_apply, if_true]
        exact ⟨hold0, trivial, Nat.zero_le _⟩
      · simp only [upd, hu, if_false]
        refine pcOk_other _ u _ ?_ ?_ (hI.pcs u)
        · intro n hn; rw [setNs_apply]; split
          · simp
          · exact hfree1 n hn
        · intro n w hn
          have h1 : n ≠ old := by intro h'; subst h'; rw [hoi] at hn; cases hn
          rw [setNs_apply, if_neg h1]; exact hret1 n w hn
    · refine scan_move hI t _ (by simp) fun t' p' i f _ _ hw hlt => ?_
      simp only [Pc.wScan.injEq] at hw
      omega

theorem inv_reclaim {s : St} {t : Nat} {old : Int} (hI : Inv s) (hpc : s.pc t = .wScan old s.N false) :
    Inv { s with ns := setNs s.ns old .free, pc := upd s.pc t .idle } := by
  have ho := hI.pcs t; rw [hpc] at ho; simp only [pcOk] at ho
  constructor
  · exact hI.fen
  · exact hI.cells
  · intro k
    simp only [setNs]
    by_cases hk : k = old
    · subst hk; simp
      intro _ hg
      have := (hI.g_ok k).mpr ⟨ho.1, hg⟩
      rw [ho.2.1] at this; cases this
    · simp only [hk, if_false]; exact hI.g_ok k
  · intro u
    by_cases hu : u = t
    · subst hu; simp [pcOk]
    · simp only [upd, hu, if_false]
      have hp := hI.pcs u
      cases hpu : s.pc u <;> rw [hpu] at hp <;> simp only [pcOk] at hp ⊢ <;> try exact hp
      · next p =>
        -- a validated reader of `old` would have been found by the completed scan
        have hne : p ≠ old := by
          intro h'; subst h'
          have := hI.scan_ok u p t s.N false hpu hpc hp.2.1
          cases this
        simp only [setNs, hne, if_false]; exact hp
      · next k i g =>
        have hne : k ≠ old := by
          intro h'; subst h'
          rw [ho.2.1] at hp; simp at hp; exact hu hp.2.1.symm
        simp only [setNs, hne, if_false]; exact hp
  · exact scan_plain hI t _ (by simp) (by simp)

theorem inv_step {s s' : St} {e : Ev} (hI : Inv s) (h : step s e = some s') : Inv s' := by
  cases step_sound h with
  | move t p p' e hpc hm => exact inv_move hI hpc hm
  | use => exact hI
  | stSlot t p hpc =>
    have ho := hI.pcs t; rw [hpc] at ho
    exact inv_store hI t p _ ⟨ho.1, ho.2, by rw [view_store_self, upd_same]⟩ (by simp) (by simp)
  | release t p hpc => exact inv_store hI t 0 _ trivial (by simp) (by simp)
  | xchgG_null t new hpc hd hG hnew =>
    have := inv_xchgG (t := t) (old := s.m.mem cG) hI rfl hnew
    rwa [if_pos hG] at this
  | xchgG t new hpc hd hG hnew =>
    have := inv_xchgG (t := t) (old := s.m.mem cG) hI rfl hnew
    rwa [if_neg hG] at this
  | reclaim t old hpc => exact inv_reclaim hI hpc
  | flush t m' hf => exact inv_flush hI hf

theorem inv_of_run {N : Nat} {es : List Ev} {s : St} (h : (sys true N).run es = some s) : Inv s :=
  Sys.inv_of_run (sys true N) Inv (inv_init N) (fun _ _ _ hI hs => inv_step hI hs) h

end LibfiberVerif.HpTso
