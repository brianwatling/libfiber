/-
  Proof/ChanWake.lean — "a receiver blocked on an empty channel is always resumed by a later
  send" for the unbounded and sp channels: the sender publishes (links its node) FIRST and
  raises SECOND, the receiver clears the signal first and re-checks the queue second, so a
  message that is available while nobody is about to raise implies that the receiver's next
  CAS fails (word RAISED) and that the receiver is not asleep in the word.  Property C11.

  The coverage property `GCov` of ChanCtl, with "available" = a node is linked at the head and
  "in flight" = a sender has linked its node and not yet exchanged.
-/
import LibfiberVerif.Proof.ChanQueue

namespace LibfiberVerif.Chan

/-- g has published (linked) a message and not yet exchanged RAISED into the signal word -/
def Pc.isPublished : Pc → Bool
  | .sPublished _ => true
  | .idle => false | .sTop _ => false | .sLdLow _ _ => false | .sLdHigh _ _ _ => false | .sRdBuf _ _ _ _ => false
  | .sClaimed _ _ => false | .qCalled _ => false | .qData _ => false | .qCleared _ => false | .qLdTail _ _ => false
  | .qSwapped _ _ _ => false | .sRaising _ => false | .sRaised _ _ => false | .sDone => false
  | .rTop => false | .rLdHigh _ => false | .rLdLow _ _ => false | .rRdBuf _ _ _ => false | .rCleared _ _ => false
  | .rGotHead _ => false | .rGotNext _ _ => false | .rMoved _ _ => false | .rGotData _ _ => false
  | .rWrote _ _ => false | .rEmpty => false | .rWaiting => false | .rDone _ => false | .tEmpty => false

def inFlight (s : St) (g : Nat) : Prop := (s.pc g).isPublished = true

/-- a message linked at the head while no sender is between publishing and its exchange: a
    receiver that has decided to sleep will find the word RAISED, and nobody is in the word -/
abbrev Cov : St → Prop := GCov avail Pc.isPublished (fun _ _ => False)

theorem cov_init (spin : Bool) (k : Kind) (cap : Nat) : Cov (initM spin k cap) :=
  fun _ => ⟨fun _ h => h.elim, fun h => absurd rfl h⟩

theorem avail_push {s : St} (hq : QI s) (n : Nat) (l : List (Nat × Nat)) (pc : Nat → Pc)
    (ha : avail { s with order := s.order ++ [n], sent := l, pc := pc }) : avail s := by
  unfold avail headNext at ha ⊢
  simp only at ha
  by_cases hlt : s.hd < s.order.length
  · rwa [List.getElem?_append_left hlt] at ha
  · exfalso; apply ha
    split
    · split
      · rename_i hk; exact absurd (hq.lk _ hk) hlt
      · rfl
    · rfl

theorem cov_step {s s' : St} {e : Ev} (hk : s.kind ≠ .bounded) (hi : Ctl s) (hq : QI s) (hc : Cov s)
    (hsp : s.spin = false) (hs : step s e = some s') : Cov s' := by
  rcases step_cases hs with ⟨pe, rfl⟩ | h | ⟨hb, _⟩ | ⟨_, h⟩
  · exact GCov.proto hi hc (fun _ _ _ h => h) rfl rfl (fun _ => rfl) (fun _ _ h => h.elim) (fun _ _ h => h.elim)
      (fun _ h => h) hs
  · cases h with
    | callSend hpc hg => exact hc.move hpc rfl rfl rfl id rfl (by rw [if_neg hk]; rfl) id
    | _ => have hpc := ‹s.pc _ = _›; exact hc.move hpc rfl rfl rfl id rfl rfl id
  · exact absurd hb hk
  · cases h with
    | @wNextLink f v prev i hpc =>
      -- the sender has published and not yet exchanged
      exact GCov.inflight (g := f) (by
        show (upd s.pc f (pubPc s v) f).isPublished = true
        rw [upd_same, pubPc, hsp]; rfl)
    | xchgTail hk' hpc | stTail hk' hpc => exact hc.move hpc rfl rfl rfl (avail_push hq _ _ _) rfl rfl id
    | rNextEmpty hpc h0 => exact fun _ => ⟨fun _ h => h.elim, fun ha => absurd h0 ha⟩
    | @wHead f h x hpc =>
      exact GCov.busy (hi.step hs) (fun _ _ h => h.elim) (f := f)
        (by show (upd s.pc f (.rMoved h x) f).isRecv = true; rw [upd_same]; rfl)
        (by show (upd s.pc f (.rMoved h x) f).usesSignal = false; rw [upd_same]; rfl) id
    | _ => have hpc := ‹s.pc _ = _›; exact hc.move hpc rfl rfl rfl id rfl rfl id

theorem cov_of_run {spin : Bool} {k : Kind} {cap : Nat} (hk : k ≠ .bounded) {es : List Ev} {s : St}
    (h : (sysM spin k cap).run es = some s) : s.spin = false → Cov s :=
  Sys.inv_of_run_on _ (fun s => s.spin = false → Cov s) (fun _ => cov_init spin k cap)
    (fun _ s e s' hr hc hs hsp' =>
      have hsp := (params_step s s' e hs).2.2.symm.trans hsp'
      cov_step ((params_of_run hr).1 ▸ hk) (ctl_of_run hr) (qi_of_run hk hr) (hc hsp) hsp hs) h

theorem not_stranded_of_cov {s : St} (hi : Ctl s) (hc : s.spin = false → Cov s) (ha : avail s) (w : Nat)
    (hidle : ∀ g, g ≠ w → s.pc g = .idle) :
    ¬ asleep s w ∧ (committed s w → s.p.word = .raised) :=
  hi.not_stranded hc ha w hidle rfl fun c _ hc hl => by
    cases c <;> first | exact ⟨hl, Pc.noConfusion, Pc.noConfusion⟩ | cases hc

end LibfiberVerif.Chan
