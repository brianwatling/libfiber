/-
  Invariants of Model/Barrier.lean (property C12), proved on a coarse view of the state: every pc
  is classified by its signature `sig` (`Kind` + counter round + queue + outstanding pops),
  `abs : St → Abs`, and every accepted access-level step is one of the eight coarse transitions
  `ATrans` (`step_refines`; most accesses are stutter steps).
  `InvA` (all variants of the code): participants, `serials = counter / count`, the accounting
    equation  #pending waiters = counter % count + outstanding pops of the serial fibers,
    at most one fiber inside the wake loop.
  `InvK` (only under `2 ≤ queues ∨ count ≤ 2`): every fiber's own round is the counter round of
    its arrival; pops never cross rounds; `entered` / `told` per round.
-/
import LibfiberVerif.Model.Barrier

namespace LibfiberVerif.Barrier

def tot (g : Nat → Nat) (l : List Nat) : Nat := (l.map g).sum

@[simp] theorem tot_nil (g : Nat → Nat) : tot g [] = 0 := rfl
@[simp] theorem tot_cons (g : Nat → Nat) (a : Nat) (l : List Nat) : tot g (a :: l) = g a + tot g l := by
  simp [tot]

theorem tot_mono {g g' : Nat → Nat} {l : List Nat} (h : ∀ x ∈ l, g x ≤ g' x) : tot g l ≤ tot g' l := by
  induction l with
  | nil => simp
  | cons a l ih =>
    simp only [tot_cons]
    have := h a (by simp)
    have := ih (fun x hx => h x (by simp [hx]))
    omega

theorem tot_congr {g g' : Nat → Nat} {l : List Nat} (h : ∀ x ∈ l, g x = g' x) : tot g l = tot g' l :=
  Nat.le_antisymm (tot_mono fun x hx => Nat.le_of_eq (h x hx))
    (tot_mono fun x hx => Nat.le_of_eq (h x hx).symm)

theorem tot_change {g g' : Nat → Nat} {l : List Nat} {f : Nat}
    (hne : ∀ x, x ≠ f → g' x = g x) (hn : l.Nodup) (hf : f ∈ l) :
    tot g' l + g f = tot g l + g' f := by
  induction l with
  | nil => simp at hf
  | cons a l ih =>
    simp only [tot_cons]
    rw [List.nodup_cons] at hn
    by_cases ha : a = f
    · subst ha
      have : tot g' l = tot g l := tot_congr (fun x hx => hne x (by intro h; subst h; exact hn.1 hx))
      omega
    · have := ih hn.2 ((List.mem_cons.mp hf).resolve_left (Ne.symm ha))
      have := hne a ha
      omega

theorem tot_change_not_mem {g g' : Nat → Nat} {l : List Nat} {f : Nat}
    (hne : ∀ x, x ≠ f → g' x = g x) (hf : f ∉ l) : tot g' l = tot g l :=
  tot_congr (fun x hx => hne x (by intro h; subst h; exact hf hx))

theorem le_tot {g : Nat → Nat} {l : List Nat} {x : Nat} (hx : x ∈ l) : g x ≤ tot g l := by
  induction l with
  | nil => simp at hx
  | cons a l ih =>
    simp only [tot_cons]
    rcases List.mem_cons.mp hx with h | h
    · subst h; omega
    · have := ih h; omega

theorem tot_le_mul {g : Nat → Nat} {l : List Nat} {k : Nat} (h : ∀ x ∈ l, g x ≤ k) :
    tot g l ≤ k * l.length := by
  induction l with
  | nil => simp
  | cons a l ih =>
    simp only [tot_cons, List.length_cons, Nat.mul_succ]
    have := h a (by simp)
    have := ih (fun x hx => h x (by simp [hx]))
    omega

theorem tot_eq_zero {g : Nat → Nat} {l : List Nat} (h : ∀ x ∈ l, g x = 0) : tot g l = 0 := by
  have := tot_le_mul (k := 0) (fun x hx => Nat.le_of_eq (h x hx))
  omega

theorem exists_of_tot_pos {g : Nat → Nat} {l : List Nat} (h : 1 ≤ tot g l) : ∃ x ∈ l, 1 ≤ g x := by
  apply Classical.byContradiction
  intro hne
  have : tot g l = 0 := tot_eq_zero (fun x hx => by
    apply Classical.byContradiction; intro h0; exact hne ⟨x, hx, by omega⟩)
  omega

theorem tot_add_one_le {g : Nat → Nat} {l : List Nat} {f : Nat}
    (h : ∀ x ∈ l, g x ≤ 1) (hn : l.Nodup) (hf : f ∈ l) (hg : g f = 0) : tot g l + 1 ≤ l.length := by
  -- count `f` as well: the sum is still at most the length
  have h1 := tot_change (g := g) (g' := upd g f 1) (fun x hx => upd_other _ _ _ _ hx) hn hf
  have h2 := tot_le_mul (g := upd g f 1) (l := l) (k := 1) (fun x hx => by
    rw [upd_apply]; split
    · exact Nat.le_refl 1
    · exact h x hx)
  rw [upd_same] at h1
  omega

theorem tot_add_two_le {g : Nat → Nat} {l : List Nat} {f f' : Nat}
    (h : ∀ x ∈ l, g x ≤ 1) (hn : l.Nodup) (hf : f ∈ l) (hf' : f' ∈ l) (hne : f ≠ f')
    (hg : g f = 0) (hg' : g f' = 0) : tot g l + 2 ≤ l.length := by
  have h1 := tot_change (g := g) (g' := upd g f 1) (fun x hx => upd_other _ _ _ _ hx) hn hf
  have h2 := tot_add_one_le (g := upd g f 1) (l := l) (f := f') (fun x hx => by
    rw [upd_apply]; split
    · exact Nat.le_refl 1
    · exact h x hx) hn hf' (by rw [upd_other _ _ _ _ (Ne.symm hne)]; exact hg')
  rw [upd_same] at h1
  omega

theorem eq_of_tot_eq {g g' : Nat → Nat} {l : List Nat}
    (h : ∀ x ∈ l, g x ≤ g' x) (ht : tot g l = tot g' l) : ∀ x ∈ l, g x = g' x := by
  induction l with
  | nil => intro x hx; simp at hx
  | cons a l ih =>
    simp only [tot_cons] at ht
    have ha := h a (by simp)
    have hl : ∀ x ∈ l, g x ≤ g' x := fun x hx => h x (List.mem_cons_of_mem a hx)
    have hle := tot_mono hl
    intro x hx
    rcases List.mem_cons.mp hx with e | e
    · subst e; omega
    · exact ih hl (by omega) x e

/-- the counter passes a multiple of `count` exactly at the arrivals with `(n + 1) % count = 0` -/
theorem succ_div_mod {count : Nat} (hc : 0 < count) (n : Nat) :
    ((n + 1) / count = n / count ∧ (n + 1) % count = n % count + 1) ∨
    ((n + 1) / count = n / count + 1 ∧ (n + 1) % count = 0 ∧ n % count = count - 1) := by
  have h1 := Nat.div_add_mod n count
  have h2 := Nat.mod_lt n hc
  by_cases r : n % count + 1 < count
  · exact .inl ((Nat.div_mod_unique hc).2 ⟨by omega, r⟩)
  · have := (Nat.div_mod_unique hc (a := n + 1) (d := n / count + 1) (c := 0)).2
      ⟨by rw [Nat.mul_add]; omega, hc⟩
    exact .inr ⟨this.1, this.2, by omega⟩

/-- consecutive rounds use different queues as soon as there are two -/
theorem succ_mod_ne {q : Nat} (hq : 2 ≤ q) (c : Nat) : (c + 1) % q ≠ c % q := by
  rcases succ_div_mod (by omega : 0 < q) c with h | h <;> omega

inductive Kind
  | idle | called | pend | woken | pre | post | done
  deriving DecidableEq, Repr

/-- what the invariants need to know about a pc: `c` = counter round of the arrival,
    `q` = its waiter queue, `need` = pops the serial fiber still has to make -/
structure Sig where
  kind : Kind
  c : Nat
  q : Nat
  need : Nat
  deriving DecidableEq, Repr

def sig : Pc → Sig
  | .idle => ⟨.idle, 0, 0, 0⟩
  | .called => ⟨.called, 0, 0, 0⟩
  | .arrived q c => ⟨.pend, c, q, 0⟩
  | .waitSaving q c => ⟨.pend, c, q, 0⟩
  | .waitGotNode q c _ => ⟨.pend, c, q, 0⟩
  | .waitWroteData q c _ => ⟨.pend, c, q, 0⟩
  | .waitClearedNode q c _ => ⟨.pend, c, q, 0⟩
  | .pushCleared q c _ => ⟨.pend, c, q, 0⟩
  | .pushXchgd q c _ _ _ => ⟨.pend, c, q, 0⟩
  | .parked q c => ⟨.pend, c, q, 0⟩
  | .popped c => ⟨.woken, c, 0, 0⟩
  | .runnable c => ⟨.woken, c, 0, 0⟩
  | .wakeLoop q c need => ⟨.pre, c, q, need⟩
  | .popGotHead q c need _ => ⟨.pre, c, q, need⟩
  | .popGotNext q c need _ _ => ⟨.pre, c, q, need⟩
  | .popMoved q c need _ _ _ => ⟨.post, c, q, need⟩
  | .popGotData q c need _ _ _ => ⟨.post, c, q, need⟩
  | .popWrote q c need _ _ => ⟨.post, c, q, need⟩
  | .wakeGotFiber q c need _ _ => ⟨.post, c, q, need⟩
  | .wakeGaveNode q c need _ _ => ⟨.post, c, q, need⟩
  | .wakeReadState q c need _ => ⟨.post, c, q, need⟩
  | .serialDone c => ⟨.done, c, 0, 0⟩

@[simp] theorem sig_idle : sig .idle = ⟨.idle, 0, 0, 0⟩ := rfl
@[simp] theorem sig_called : sig .called = ⟨.called, 0, 0, 0⟩ := rfl
@[simp] theorem sig_arrived (q c : Nat) : sig (.arrived q c) = ⟨.pend, c, q, 0⟩ := rfl
@[simp] theorem sig_waitSaving (q c : Nat) : sig (.waitSaving q c) = ⟨.pend, c, q, 0⟩ := rfl
@[simp] theorem sig_waitGotNode (q c n : Nat) : sig (.waitGotNode q c n) = ⟨.pend, c, q, 0⟩ := rfl
@[simp] theorem sig_waitWroteData (q c n : Nat) : sig (.waitWroteData q c n) = ⟨.pend, c, q, 0⟩ := rfl
@[simp] theorem sig_waitClearedNode (q c n : Nat) : sig (.waitClearedNode q c n) = ⟨.pend, c, q, 0⟩ := rfl
@[simp] theorem sig_pushCleared (q c n : Nat) : sig (.pushCleared q c n) = ⟨.pend, c, q, 0⟩ := rfl
@[simp] theorem sig_pushXchgd (q c n p i : Nat) : sig (.pushXchgd q c n p i) = ⟨.pend, c, q, 0⟩ := rfl
@[simp] theorem sig_parked (q c : Nat) : sig (.parked q c) = ⟨.pend, c, q, 0⟩ := rfl
@[simp] theorem sig_popped (c : Nat) : sig (.popped c) = ⟨.woken, c, 0, 0⟩ := rfl
@[simp] theorem sig_runnable (c : Nat) : sig (.runnable c) = ⟨.woken, c, 0, 0⟩ := rfl
@[simp] theorem sig_wakeLoop (q c need : Nat) : sig (.wakeLoop q c need) = ⟨.pre, c, q, need⟩ := rfl
@[simp] theorem sig_popGotHead (q c need h : Nat) : sig (.popGotHead q c need h) = ⟨.pre, c, q, need⟩ := rfl
@[simp] theorem sig_popGotNext (q c need h x : Nat) : sig (.popGotNext q c need h x) = ⟨.pre, c, q, need⟩ := rfl
@[simp] theorem sig_popMoved (q c need h x g : Nat) : sig (.popMoved q c need h x g) = ⟨.post, c, q, need⟩ := rfl
@[simp] theorem sig_popGotData (q c need h x g : Nat) : sig (.popGotData q c need h x g) = ⟨.post, c, q, need⟩ := rfl
@[simp] theorem sig_popWrote (q c need h g : Nat) : sig (.popWrote q c need h g) = ⟨.post, c, q, need⟩ := rfl
@[simp] theorem sig_wakeGotFiber (q c need h g : Nat) : sig (.wakeGotFiber q c need h g) = ⟨.post, c, q, need⟩ := rfl
@[simp] theorem sig_wakeGaveNode (q c need h g : Nat) : sig (.wakeGaveNode q c need h g) = ⟨.post, c, q, need⟩ := rfl
@[simp] theorem sig_wakeReadState (q c need g : Nat) : sig (.wakeReadState q c need g) = ⟨.post, c, q, need⟩ := rfl
@[simp] theorem sig_serialDone (c : Nat) : sig (.serialDone c) = ⟨.done, c, 0, 0⟩ := rfl

structure Abs where
  counter : Nat
  members : List Nat
  rnd : Nat → Nat
  entered : Nat → Nat
  told : Nat → Nat
  serials : Nat
  sg : Nat → Sig

def abs (s : St) : Abs :=
  { counter := s.counter, members := s.members, rnd := s.rnd, entered := s.entered,
    told := s.told, serials := s.serials, sg := fun x => sig (s.pc x) }

/-- signature after a wake-up / a failed pop: loop again or done -/
def afterWakeSig (q c need : Nat) : Sig := if need = 0 then ⟨.done, c, 0, 0⟩ else ⟨.pre, c, q, need⟩

theorem sig_afterWake (q c need : Nat) : sig (afterWake q c need) = afterWakeSig q c need := by
  unfold afterWake afterWakeSig; split <;> rfl

theorem afterWakeSig_cases (q c need : Nat) :
    (need = 0 ∧ afterWakeSig q c need = ⟨.done, c, 0, 0⟩) ∨
    (need ≠ 0 ∧ afterWakeSig q c need = ⟨.pre, c, q, need⟩) := by
  unfold afterWakeSig; split
  · exact .inl ⟨‹_›, rfl⟩
  · exact .inr ⟨‹_›, rfl⟩

theorem sig_upd (pc : Nat → Pc) (f : Nat) (v : Pc) :
    (fun x => sig (upd pc f v x)) = upd (fun x => sig (pc x)) f (sig v) := by
  funext x; simp only [upd]; split <;> rfl

inductive ATrans (count queues : Nat) : Abs → Abs → Prop
  | stutter (a : Abs) : ATrans count queues a a
  | call (a : Abs) (f : Nat) (h : (a.sg f).kind = .idle) (hm : f ∈ a.members) :
      ATrans count queues a { a with sg := upd a.sg f ⟨.called, 0, 0, 0⟩ }
  | join (a : Abs) (f : Nat) (h : (a.sg f).kind = .idle) (hm : f ∉ a.members)
      (hl : a.members.length < count) :
      ATrans count queues a { a with sg := upd a.sg f ⟨.called, 0, 0, 0⟩, members := f :: a.members }
  | arrive (a : Abs) (f : Nat) (h : (a.sg f).kind = .called) (hmod : (a.counter + 1) % count ≠ 0) :
      ATrans count queues a
        { a with counter := a.counter + 1, rnd := upd a.rnd f (a.rnd f + 1),
                 entered := upd a.entered (a.rnd f + 1) (a.entered (a.rnd f + 1) + 1),
                 sg := upd a.sg f ⟨.pend, a.counter / count, (a.counter / count) % queues, 0⟩ }
  | serial (a : Abs) (f : Nat) (h : (a.sg f).kind = .called) (hmod : (a.counter + 1) % count = 0) :
      ATrans count queues a
        { a with counter := a.counter + 1, rnd := upd a.rnd f (a.rnd f + 1),
                 entered := upd a.entered (a.rnd f + 1) (a.entered (a.rnd f + 1) + 1),
                 told := upd a.told (a.rnd f + 1) (a.told (a.rnd f + 1) + 1),
                 serials := a.serials + 1,
                 sg := upd a.sg f ⟨.pre, a.counter / count, (a.counter / count) % queues, count - 1⟩ }
  /-- a failed pop (`pre`) or a completed wake-up (`post`): loop again or done -/
  | next (a : Abs) (f q c need : Nat) (k : Kind) (hk : k = .pre ∨ k = .post)
      (h : a.sg f = ⟨k, c, q, need⟩) :
      ATrans count queues a { a with sg := upd a.sg f (afterWakeSig q c need) }
  | pop (a : Abs) (f g q c need c' : Nat) (hf : a.sg f = ⟨.pre, c, q, need⟩)
      (hg : a.sg g = ⟨.pend, c', q, 0⟩) :
      ATrans count queues a
        { a with sg := upd (upd a.sg g ⟨.woken, c', 0, 0⟩) f ⟨.post, c, q, need - 1⟩ }
  | ret (a : Abs) (f : Nat) (h : (a.sg f).kind = .woken ∨ (a.sg f).kind = .done) :
      ATrans count queues a { a with sg := upd a.sg f ⟨.idle, 0, 0, 0⟩ }

theorem stutter_pc {count queues : Nat} (s : St) (f : Nat) (v : Pc) (h : sig v = sig (s.pc f))
    (s' : St) (hc : s'.counter = s.counter) (hm : s'.members = s.members) (hr : s'.rnd = s.rnd)
    (he : s'.entered = s.entered) (ht : s'.told = s.told) (hs : s'.serials = s.serials)
    (hp : s'.pc = upd s.pc f v) : ATrans count queues (abs s) (abs s') := by
  have : abs s' = abs s := by
    simp only [abs, hc, hm, hr, he, ht, hs, hp, sig_upd, h]
    congr 1
    exact upd_self (fun x => sig (s.pc x)) f
  rw [this]; exact .stutter _

macro "stut" hpc:term : tactic =>
  `(tactic| (refine stutter_pc _ _ _ ?_ _ rfl rfl rfl rfl rfl rfl rfl; simp [$hpc:term]))

/-- the wake-up of `g` is complete (its state was written, or it was found still `SAVING`) -/
theorem wake_refines {count queues : Nat} (s : St) {f g q c need c' : Nat}
    (hf : sig (s.pc f) = ⟨.post, c, q, need⟩) (hg : s.pc g = .popped c') :
    ATrans count queues (abs s)
      (abs { s with pc := upd (upd s.pc g (.runnable c')) f (afterWake q c need) }) := by
  have hgg : upd (fun x => sig (s.pc x)) g ⟨.woken, c', 0, 0⟩ = fun x => sig (s.pc x) := by
    simpa [hg] using upd_self (fun x => sig (s.pc x)) g
  simp only [abs, sig_upd, sig_afterWake, sig_runnable, hgg]
  exact .next (abs s) f q c need .post (.inr rfl) hf

/-- what an accepted `ret wait` event needs, and does -/
theorem retWait_pc {count queues : Nat} {s s' : St} {f k : Nat} {b : Bool}
    (h : step count queues s (.retWait f k b) = some s') :
    k = s.rnd f ∧ ((∃ c, s.pc f = .serialDone c ∧ b = true) ∨ (∃ c, s.pc f = .runnable c ∧ b = false)) ∧
      s' = { s with pc := upd s.pc f .idle } := by
  simp only [step] at h
  split at h
  · next hk =>
    refine ⟨hk, ?_⟩
    split at h
    · next c hpc =>
      split at h <;> cases h
      next hb => exact ⟨Or.inl ⟨c, hpc, hb⟩, rfl⟩
    · next c hpc =>
      split at h <;> cases h
      next hb => exact ⟨Or.inr ⟨c, hpc, by simpa using hb⟩, rfl⟩
    · cases h
  · cases h

/-- In every event the `none` branches are closed, and the state of the accepted branch is
    substituted, by `cases h`. -/
theorem step_refines {count queues : Nat} {s s' : St} {e : Ev}
    (h : step count queues s e = some s') : ATrans count queues (abs s) (abs s') := by
  cases e with
  | callWait f k =>
    simp only [step] at h
    split at h
    · next hg =>
      split at h
      · next hm =>
        cases h; simp only [abs, sig_upd, sig_called]
        exact .call (abs s) f (by simp [abs, hg.1]) hm
      · next hm =>
        split at h <;> cases h
        next hl =>
        simp only [abs, sig_upd, sig_called]
        exact .join (abs s) f (by simp [abs, hg.1]) hm hl
    · cases h
  | fadd f old =>
    simp only [step] at h
    split at h
    · next hpc =>
      split at h
      · next ho =>
        subst ho
        split at h
        · next hmod =>
          cases h; simp only [abs, sig_upd, sig_wakeLoop]
          exact .serial (abs s) f (by simp [abs, hpc]) hmod
        · next hmod =>
          cases h; simp only [abs, sig_upd, sig_arrived]
          exact .arrive (abs s) f (by simp [abs, hpc]) hmod
      · cases h
    · cases h
  | wState f g v =>
    simp only [step] at h
    split at h
    · next q c hpc => split at h <;> cases h; stut hpc
    · next q c need g' hpc =>
      split at h
      · split at h <;> cases h
        next c' hg => exact wake_refines s (by simp [hpc]) hg
      · cases h
    · cases h
  | rState f g v =>
    simp only [step] at h
    split at h
    · next q c need h0 g' hpc =>
      split at h
      · split at h
        · cases h; stut hpc
        · split at h <;> cases h
          next c' hg => exact wake_refines s (by simp [hpc]) hg
      · cases h
    · cases h
  | rNode f g n =>
    simp only [step] at h
    split at h
    · next q c hpc => split at h <;> cases h; stut hpc
    · cases h
  | wNode f g n =>
    simp only [step] at h
    split at h
    · next q c m hpc => split at h <;> cases h; stut hpc
    · next q c need h0 g' hpc => split at h <;> cases h; stut hpc
    · cases h
  | wData f n g =>
    simp only [step] at h
    split at h
    · next q c m hpc => split at h <;> cases h; stut hpc
    · next q c need h0 x0 g' hpc => split at h <;> cases h; stut hpc
    · cases h
  | rData f n g =>
    simp only [step] at h
    split at h
    · next q c need h0 x0 g' hpc => split at h <;> cases h; stut hpc
    · next q c need h0 g' hpc => split at h <;> cases h; stut hpc
    · cases h
  | wNext f n x =>
    simp only [step] at h
    split at h
    · next q c m hpc => split at h <;> cases h; stut hpc
    · next q c m p i hpc => split at h <;> cases h; stut hpc
    · cases h
  | rNext f n x =>
    simp only [step] at h
    split at h
    · next q c need h0 hpc =>
      split at h
      · split at h
        · cases h; simp only [abs, sig_upd, sig_afterWake]
          exact .next (abs s) f q c need .pre (.inl rfl) (by simp [abs, hpc])
        · cases h; stut hpc
      · cases h
    · cases h
  | xchgTail f qi old new =>
    simp only [step] at h
    split at h
    · next q c m hpc => split at h <;> cases h; stut hpc
    · cases h
  | rHead f qi n =>
    simp only [step] at h
    split at h
    · next q c need hpc => split at h <;> cases h; stut hpc
    · cases h
  | wHead f qi n =>
    simp only [step] at h
    split at h
    · next q c need h0 x0 hpc =>
      split at h
      · split at h
        · next e he =>
          split at h <;> cases h
          next hg =>
          simp only [abs, sig_upd, sig_popped, sig_popMoved]
          exact .pop (abs s) f e.fiber q c need e.c (by simp [abs, hpc]) (by simp [abs, hg])
        · cases h
      · cases h
    · cases h
  | retWait f k serial =>
    obtain ⟨-, hpc, rfl⟩ := retWait_pc h
    simp only [abs, sig_upd, sig_idle]
    exact .ret (abs s) f (by rcases hpc with ⟨c, hp, -⟩ | ⟨c, hp, -⟩ <;> simp [abs, hp])

def pendW (s : Sig) : Nat := if s.kind = .pend then 1 else 0
def needW (s : Sig) : Nat := if s.kind = .pre ∨ s.kind = .post then s.need else 0
def waking (s : Sig) : Prop := s.kind = .pre ∨ s.kind = .post

theorem pendW_le (s : Sig) : pendW s ≤ 1 := by unfold pendW; split <;> omega

theorem tot_upd_same (w : Sig → Nat) (sg : Nat → Sig) (f : Nat) (v : Sig) (l : List Nat)
    (h : w v = w (sg f)) : tot (fun x => w (upd sg f v x)) l = tot (fun x => w (sg x)) l := by
  apply tot_congr
  intro x _
  by_cases hx : x = f
  · subst hx; simp [h]
  · simp [upd_other _ _ _ _ hx]

theorem tot_upd_mem (w : Sig → Nat) (sg : Nat → Sig) (f : Nat) (v : Sig) (l : List Nat)
    (hn : l.Nodup) (hf : f ∈ l) :
    tot (fun x => w (upd sg f v x)) l + w (sg f) = tot (fun x => w (sg x)) l + w v := by
  have := tot_change (g := fun x => w (sg x)) (g' := fun x => w (upd sg f v x)) (l := l) (f := f)
    (by intro x hx; simp [upd_other _ _ _ _ hx]) hn hf
  simpa using this

theorem tot_upd_mem2 (w : Sig → Nat) (sg : Nat → Sig) {f g : Nat} (u v : Sig) (l : List Nat)
    (hn : l.Nodup) (hf : f ∈ l) (hg : g ∈ l) (hfg : f ≠ g) :
    tot (fun x => w (upd (upd sg g u) f v x)) l + w (sg f) + w (sg g)
      = tot (fun x => w (sg x)) l + w v + w u := by
  have h1 := tot_upd_mem w sg g u l hn hg
  have h2 := tot_upd_mem w (upd sg g u) f v l hn hf
  rw [upd_other _ _ _ _ hfg] at h2
  omega

structure InvA (count : Nat) (a : Abs) : Prop where
  nodup : a.members.Nodup
  len : a.members.length ≤ count
  mem : ∀ x, (a.sg x).kind ≠ .idle → x ∈ a.members
  ser : a.serials = a.counter / count
  acct : tot (fun x => pendW (a.sg x)) a.members
          = a.counter % count + tot (fun x => needW (a.sg x)) a.members
  preNeed : ∀ x, (a.sg x).kind = .pre → 1 ≤ (a.sg x).need ∨ count = 1
  needLe : ∀ x, needW (a.sg x) ≤ count - 1
  single : ∀ x y, waking (a.sg x) → waking (a.sg y) → x = y

theorem pw_upd {P : Sig → Prop} {sg : Nat → Sig} {f : Nat} {v : Sig}
    (h : ∀ x, P (sg x)) (hv : P v) : ∀ x, P (upd sg f v x) := by
  intro x; by_cases hx : x = f
  · subst hx; simpa using hv
  · simpa [upd_other _ _ _ _ hx] using h x

theorem mem_upd {sg : Nat → Sig} {f : Nat} {v : Sig} {l : List Nat}
    (h : ∀ x, (sg x).kind ≠ .idle → x ∈ l) (hf : f ∈ l) :
    ∀ x, (upd sg f v x).kind ≠ .idle → x ∈ l := by
  intro x hx; by_cases hxf : x = f
  · subst hxf; exact hf
  · exact h x (by simpa [upd_other _ _ _ _ hxf] using hx)

/-- `f` moves to `v`; if `v` is inside the wake loop, nobody but `f` was -/
theorem single_upd {sg : Nat → Sig} {f : Nat} {v : Sig}
    (hs : ∀ x y, waking (sg x) → waking (sg y) → x = y)
    (hv : waking v → ∀ y, waking (sg y) → y = f) :
    ∀ x y, waking (upd sg f v x) → waking (upd sg f v y) → x = y := by
  have old : ∀ x, x ≠ f → waking (upd sg f v x) → waking (sg x) :=
    fun x hxf hx => by rwa [upd_other _ _ _ _ hxf] at hx
  intro x y hx hy
  by_cases hxf : x = f <;> by_cases hyf : y = f
  · rw [hxf, hyf]
  · subst hxf; exact (hv (by simpa using hx) y (old y hyf hy)).symm
  · subst hyf; exact hv (by simpa using hy) x (old x hxf hx)
  · exact hs x y (old x hxf hx) (old y hyf hy)

/-- One participant `f` moves to the signature `v`; the counter and the number of serial
    decisions may move with it.  `hbal` is the accounting equation restricted to what changes. -/
theorem InvA.move {count : Nat} {a a' : Abs} (hI : InvA count a) {f : Nat} {v : Sig}
    (hmem : a'.members = a.members) (hsg : a'.sg = upd a.sg f v) (hf : f ∈ a.members)
    (hser : a'.serials = a'.counter / count)
    (hbal : pendW v + a.counter % count + needW (a.sg f)
              = pendW (a.sg f) + a'.counter % count + needW v)
    (hpre : v.kind = .pre → 1 ≤ v.need ∨ count = 1) (hle : needW v ≤ count - 1)
    (hw : waking v → ∀ y, waking (a.sg y) → y = f) : InvA count a' := by
  have hp := tot_upd_mem pendW a.sg f v a.members hI.nodup hf
  have hn := tot_upd_mem needW a.sg f v a.members hI.nodup hf
  have hacct := hI.acct
  refine ⟨hmem ▸ hI.nodup, hmem ▸ hI.len, ?_, hser, ?_, ?_, ?_, ?_⟩ <;> rw [hsg] <;> try rw [hmem]
  · exact mem_upd hI.mem hf
  · omega
  · exact pw_upd (P := fun s => s.kind = .pre → 1 ≤ s.need ∨ count = 1) hI.preNeed hpre
  · exact pw_upd (P := fun s => needW s ≤ count - 1) hI.needLe hle
  · exact single_upd hI.single hw

/-- a fiber that has not called `wait` yet becomes a participant -/
theorem InvA.join {count : Nat} {a : Abs} (hI : InvA count a) {f : Nat}
    (h : (a.sg f).kind = .idle) (hm : f ∉ a.members) (hl : a.members.length < count) :
    InvA count { a with members := f :: a.members } := by
  refine ⟨List.nodup_cons.mpr ⟨hm, hI.nodup⟩, hl, fun x hx => List.mem_cons_of_mem _ (hI.mem x hx),
    hI.ser, ?_, hI.preNeed, hI.needLe, hI.single⟩
  show tot _ (f :: a.members) = _ + tot _ (f :: a.members)
  have := hI.acct
  have e1 : pendW (a.sg f) = 0 := by simp [pendW, h]
  have e2 : needW (a.sg f) = 0 := by simp [needW, h]
  simp only [tot_cons, e1, e2]; omega

theorem InvA.step {count queues : Nat} (hc : 0 < count) {a a' : Abs} (hI : InvA count a)
    (ht : ATrans count queues a a') : InvA count a' := by
  cases ht with
  | stutter => exact hI
  | call f h hm =>
    exact hI.move rfl rfl hm hI.ser (by simp [pendW, needW, h]) (by simp) (by simp [needW])
      (by simp [waking])
  | join f h hm hl =>
    exact (hI.join h hm hl).move rfl rfl (List.mem_cons_self ..) hI.ser (by simp [pendW, needW, h])
      (by simp) (by simp [needW]) (by simp [waking])
  | arrive f h hmod =>
    have har := (succ_div_mod hc a.counter).resolve_right (fun e => hmod e.2.1)
    exact hI.move rfl rfl (hI.mem f (by simp [h])) (by show a.serials = _; rw [har.1]; exact hI.ser)
      (by show _ = _ + (a.counter + 1) % count + _; simp [pendW, needW, h]; omega)
      (by simp) (by simp [needW]) (by simp [waking])
  | serial f h hmod =>
    have har := (succ_div_mod hc a.counter).resolve_left (fun e => by omega)
    have hfm : f ∈ a.members := hI.mem f (by simp [h])
    refine hI.move rfl rfl hfm (by show a.serials + 1 = _; rw [har.1, hI.ser])
      (by show _ = _ + (a.counter + 1) % count + _; simp [pendW, needW, h]; omega)
      (by simp; omega) (by simp [needW]) ?_
    -- a second fiber inside the wake loop: impossible by counting the participants
    intro _ y hw
    apply Classical.byContradiction; intro hy
    have hym : y ∈ a.members := hI.mem y (by rcases hw with e | e <;> simp [e])
    have hpy : pendW (a.sg y) = 0 := by rcases hw with e | e <;> simp [pendW, e]
    have := tot_add_two_le (g := fun x => pendW (a.sg x)) (fun x _ => pendW_le _) hI.nodup hym hfm hy hpy
      (by simp [pendW, h])
    have := hI.len
    have := hI.acct
    omega
  | next f q c need k hk h =>
    have hwf : waking (a.sg f) := by rw [h]; exact hk
    have hnf : needW (a.sg f) = need := by rcases hk with e | e <;> simp [needW, h, e]
    have hlef := hI.needLe f
    rcases afterWakeSig_cases q c need with ⟨e0, e⟩ | ⟨e0, e⟩ <;> rw [e] <;>
      refine hI.move rfl rfl (hI.mem f (by rcases hk with e | e <;> simp [h, e])) hI.ser ?_ ?_ ?_
        (fun _ y hy => hI.single y f hy hwf)
    · rcases hk with e | e <;> simp [pendW, needW, h, e, e0]
    · simp
    · simp [needW]
    · rcases hk with e | e <;> simp [pendW, needW, h, e]
    · intro _; exact .inl (by show 1 ≤ need; omega)
    · simpa [needW] using hnf ▸ hlef
  | ret f h =>
    exact hI.move rfl rfl (hI.mem f (by rcases h with e | e <;> simp [e])) hI.ser
      (by rcases h with e | e <;> simp [pendW, needW, e]) (by simp) (by simp [needW]) (by simp [waking])
  | pop f g q c need c' hf hg =>
    have hfm : f ∈ a.members := hI.mem f (by simp [hf])
    have hgm : g ∈ a.members := hI.mem g (by simp [hg])
    have hfg : f ≠ g := by intro e; rw [e, hg] at hf; simp at hf
    have hwf : waking (a.sg f) := by simp [waking, hf]
    have hacct := hI.acct
    -- the serial fiber still has a pop to make: otherwise count = 1 and nobody can be pending
    have hneed : 1 ≤ need := by
      rcases hI.preNeed f (by simp [hf]) with h1 | h1
      · simpa [hf] using h1
      · exfalso
        have hz : tot (fun x => needW (a.sg x)) a.members = 0 :=
          tot_eq_zero (fun x _ => by have := hI.needLe x; omega)
        have h1g := le_tot (g := fun x => pendW (a.sg x)) hgm
        have hm1 : a.counter % count = 0 := by rw [h1]; exact Nat.mod_one _
        have e1 : pendW (a.sg g) = 1 := by simp [pendW, hg]
        omega
    have hp := tot_upd_mem2 pendW a.sg ⟨.woken, c', 0, 0⟩ ⟨.post, c, q, need - 1⟩ a.members
      hI.nodup hfm hgm hfg
    have hn := tot_upd_mem2 needW a.sg ⟨.woken, c', 0, 0⟩ ⟨.post, c, q, need - 1⟩ a.members
      hI.nodup hfm hgm hfg
    rw [hf, hg] at hp hn
    change _ + 0 + 1 = _ + 0 + 0 at hp
    change _ + need + 0 = _ + (need - 1) + 0 at hn
    refine ⟨hI.nodup, hI.len, mem_upd (mem_upd hI.mem hgm) hfm, hI.ser, ?_,
      pw_upd (P := fun s => s.kind = .pre → 1 ≤ s.need ∨ count = 1)
        (pw_upd (P := fun s => s.kind = .pre → 1 ≤ s.need ∨ count = 1) hI.preNeed (by simp)) (by simp),
      pw_upd (P := fun s => needW s ≤ count - 1)
        (pw_upd (P := fun s => needW s ≤ count - 1) hI.needLe (by simp [needW])) ?_,
      single_upd (single_upd hI.single (by simp [waking]))
        (fun _ y hy => hI.single y f (by
          by_cases hyg : y = g
          · subst hyg; simp [waking] at hy
          · rwa [upd_other _ _ _ _ hyg] at hy) hwf)⟩
    · show tot (fun x => pendW (upd (upd a.sg g _) f _ x)) a.members
        = a.counter % count + tot (fun x => needW (upd (upd a.sg g _) f _ x)) a.members
      omega
    · have := hI.needLe f
      simp [needW, hf] at this ⊢; omega

theorem InvA.init (count : Nat) (nodeOf : Nat → Nat) : InvA count (abs (init nodeOf)) := by
  constructor <;> simp [abs, Barrier.init, needW, waking]

def pendAtW (m : Nat) (s : Sig) : Nat := if s.kind = .pend ∧ s.c = m then 1 else 0

theorem pendAtW_le_pendW (m : Nat) (s : Sig) : pendAtW m s ≤ pendW s := by
  unfold pendAtW pendW; split
  · next h => simp [h.1]
  · omega

/-- relation between a fiber's signature, its own round `r` and the counter round `M`
    (= number of completed rounds) -/
def fiberOk (queues M : Nat) (isMember : Prop) (r : Nat) (s : Sig) : Prop :=
  match s.kind with
  | .idle => (isMember → r = M) ∧ (¬ isMember → r = 0)
  | .called => (isMember → r = M) ∧ (¬ isMember → r = 0)
  | .pend => (s.c = M ∨ s.c + 1 = M) ∧ r = s.c + 1 ∧ s.q = s.c % queues
  | .woken => s.c + 1 = M ∧ r = M
  | .done => s.c + 1 = M ∧ r = M
  | .pre => s.c + 1 = M ∧ r = M ∧ s.q = s.c % queues
  | .post => s.c + 1 = M ∧ r = M ∧ s.q = s.c % queues

structure InvK (count queues : Nat) (a : Abs) : Prop where
  full : 1 ≤ a.counter / count → a.members.length = count
  fib : ∀ x, fiberOk queues (a.counter / count) (x ∈ a.members) (a.rnd x) (a.sg x)
  cur : tot (fun x => pendAtW (a.counter / count) (a.sg x)) a.members = a.counter % count
  past : ∀ k, 1 ≤ k → k ≤ a.counter / count → a.entered k = count ∧ a.told k = 1
  now : a.entered (a.counter / count + 1) = a.counter % count ∧ a.told (a.counter / count + 1) = 0
  future : ∀ k, a.counter / count + 1 < k → a.entered k = 0 ∧ a.told k = 0

/-- the per-round clauses of `InvK` for the counter value `n` -/
def Rounds (count n : Nat) (ent told : Nat → Nat) : Prop :=
  (∀ k, 1 ≤ k → k ≤ n / count → ent k = count ∧ told k = 1) ∧
  (ent (n / count + 1) = n % count ∧ told (n / count + 1) = 0) ∧
  (∀ k, n / count + 1 < k → ent k = 0 ∧ told k = 0)

/-- one more arrival, by a fiber in its round `r + 1`, `r` the number of completed rounds; it is
    told to be the serial fiber exactly if it completes the round -/
theorem Rounds.succ {count n r : Nat} {ent told told' : Nat → Nat} (hc : 0 < count) (hr : r = n / count)
    (ht : told' = if (n + 1) % count = 0 then upd told (r + 1) (told (r + 1) + 1) else told)
    (h : Rounds count n ent told) :
    Rounds count (n + 1) (upd ent (r + 1) (ent (r + 1) + 1)) told' := by
  obtain ⟨past, now, future⟩ := h
  subst hr ht
  rcases succ_div_mod hc n with ⟨h1, h2⟩ | ⟨h1, h2, h3⟩ <;> unfold Rounds
  · rw [h1, h2, if_neg (by omega)]
    refine ⟨fun k hk1 hk2 => ?_, ?_, fun k hk => ?_⟩
    · rw [upd_other _ _ _ _ (by omega)]; exact past k hk1 hk2
    · rw [upd_same]; omega
    · rw [upd_other _ _ _ _ (by omega)]; exact future k hk
  · rw [if_pos h2, h1, h2]
    refine ⟨fun k hk1 hk2 => ?_, ?_, fun k hk => ?_⟩
    · by_cases hk : k = n / count + 1
      · subst hk; simp only [upd_same]; omega
      · rw [upd_other _ _ _ _ hk, upd_other _ _ _ _ hk]; exact past k hk1 (by omega)
    · rw [upd_other _ _ _ _ (by omega), upd_other _ _ _ _ (by omega)]; exact future _ (by omega)
    · rw [upd_other _ _ _ _ (by omega), upd_other _ _ _ _ (by omega)]; exact future _ (by omega)

/-- `f` moves to a signature that fits its round and is no new pending waiter of the current round -/
theorem InvK.move {count queues : Nat} {a : Abs} (hK : InvK count queues a) {f : Nat} {v : Sig}
    (hv : fiberOk queues (a.counter / count) (f ∈ a.members) (a.rnd f) v)
    (hp : pendAtW (a.counter / count) v = pendAtW (a.counter / count) (a.sg f)) :
    InvK count queues { a with sg := upd a.sg f v } := by
  refine ⟨hK.full, fun x => ?_, ?_, hK.past, hK.now, hK.future⟩
  · show fiberOk _ _ _ _ (upd a.sg f v x)
    by_cases hx : x = f
    · subst hx; simpa using hv
    · simpa [upd_other _ _ _ _ hx] using hK.fib x
  · show tot (fun x => pendAtW _ (upd a.sg f v x)) a.members = _
    rw [tot_upd_same (pendAtW _) _ _ _ _ hp]; exact hK.cur

theorem InvK.step {count queues : Nat} (hc : 0 < count) (H : 2 ≤ queues ∨ count ≤ 2)
    {a a' : Abs} (hA : InvA count a) (hK : InvK count queues a)
    (ht : ATrans count queues a a') : InvK count queues a' := by
  cases ht with
  | stutter => exact hK
  | call f h hm =>
    have hf := hK.fib f
    refine hK.move ?_ (by simp [pendAtW, h])
    simp [fiberOk, h] at hf ⊢; exact hf
  | join f h hm hl =>
    have hf := hK.fib f
    have hM : a.counter / count = 0 := by
      by_cases h1 : 1 ≤ a.counter / count
      · have := hK.full h1; omega
      · exact Nat.lt_one_iff.mp (Nat.lt_of_not_ge h1)
    simp [fiberOk, h, hm] at hf
    have hK' : InvK count queues { a with members := f :: a.members } := by
      refine ⟨fun h1 => by have h1' : 1 ≤ a.counter / count := h1; omega, fun x => ?_, ?_, hK.past, hK.now, hK.future⟩
      · show fiberOk queues (a.counter / count) (x ∈ f :: a.members) (a.rnd x) (a.sg x)
        by_cases hx : x = f
        · subst hx; simp [fiberOk, h, hf, hM]
        · simpa [hx] using hK.fib x
      · show tot _ (f :: a.members) = _
        have := hK.cur
        have e1 : pendAtW (a.counter / count) (a.sg f) = 0 := by simp [pendAtW, h]
        simp only [tot_cons, e1]; omega
    exact hK'.move (by simp [fiberOk, hf, hM]) (by simp [pendAtW, h])
  | next f q c need k hk h =>
    have hf := hK.fib f
    have hf' : c + 1 = a.counter / count ∧ a.rnd f = a.counter / count ∧ q = c % queues := by
      rcases hk with e | e <;> simpa [fiberOk, h, e] using hf
    refine hK.move ?_ ?_ <;> rcases afterWakeSig_cases q c need with ⟨_, e⟩ | ⟨_, e⟩ <;> rw [e]
    · simp [fiberOk]; exact ⟨hf'.1, hf'.2.1⟩
    · simpa [fiberOk] using hf'
    · rcases hk with e | e <;> simp [pendAtW, h, e]
    · rcases hk with e | e <;> simp [pendAtW, h, e]
  | ret f h =>
    have hf := hK.fib f
    have hfm : f ∈ a.members := hA.mem f (by rcases h with e | e <;> simp [e])
    refine hK.move ?_ (by rcases h with e | e <;> simp [pendAtW, e])
    rcases h with e | e <;> simp [fiberOk, e, hfm] at hf ⊢ <;> exact hf.2
  | pop f g q c need c' hf hg =>
    have hfm : f ∈ a.members := hA.mem f (by simp [hf])
    have hgm : g ∈ a.members := hA.mem g (by simp [hg])
    have hfg : f ≠ g := by intro e; rw [e, hg] at hf; simp at hf
    have hkf := hK.fib f
    have hkg := hK.fib g
    simp [fiberOk, hf] at hkf
    simp [fiberOk, hg] at hkg
    -- the popped entry belongs to the round of the serial fiber that pops it
    have hround : c' + 1 = a.counter / count := by
      rcases hkg.1 with hcm | hcm
      · exfalso
        rcases H with H | H
        · -- two queues or more: a current-round entry sits in another queue
          have := succ_mod_ne H c
          rw [hkf.1, ← hcm, ← hkg.2.2, ← hkf.2.2] at this
          exact this rfl
        · -- at most two participants: nobody of the current round can be pending
          have hg1 := le_tot (g := fun x => pendAtW (a.counter / count) (a.sg x)) hgm
          have e1 : pendAtW (a.counter / count) (a.sg g) = 1 := by simp [pendAtW, hg, hcm]
          have hcur := hK.cur
          have hn1 := le_tot (g := fun x => needW (a.sg x)) hfm
          have e2 : needW (a.sg f) = need := by simp [needW, hf]
          have hle := tot_add_one_le (g := fun x => pendW (a.sg x)) (fun x _ => pendW_le _) hA.nodup hfm
            (by simp [pendW, hf])
          have hacct := hA.acct
          have hlen := hA.len
          rcases hA.preNeed f (by simp [hf]) with h1 | h1
          · simp [hf] at h1; omega
          · have : a.counter % count = 0 := by rw [h1]; exact Nat.mod_one _
            omega
      · exact hcm
    refine (hK.move (f := g) (v := ⟨.woken, c', 0, 0⟩) ?_ ?_).move ?_ ?_
    · simp [fiberOk]; exact ⟨hround, by omega⟩
    · simp [pendAtW, hg]; omega
    · simpa [fiberOk] using hkf
    · simp [pendAtW, upd_other _ _ _ _ hfg, hf]
  | arrive f h hmod =>
    have hfm : f ∈ a.members := hA.mem f (by simp [h])
    have hf := hK.fib f
    simp [fiberOk, h, hfm] at hf
    have har := (succ_div_mod hc a.counter).resolve_right (fun e => hmod e.2.1)
    have hp := tot_upd_mem (pendAtW (a.counter / count)) a.sg f
      ⟨.pend, a.counter / count, a.counter / count % queues, 0⟩ a.members hA.nodup hfm
    have e1 : pendAtW (a.counter / count) (a.sg f) = 0 := by simp [pendAtW, h]
    have e2 : pendAtW (a.counter / count) ⟨.pend, a.counter / count, a.counter / count % queues, 0⟩ = 1 := by
      simp [pendAtW]
    rw [e1, e2] at hp
    obtain ⟨hpast, hnow, hfut⟩ := Rounds.succ hc hf (if_neg hmod).symm ⟨hK.past, hK.now, hK.future⟩
    refine ⟨?_, ?_, ?_, hpast, hnow, hfut⟩
    · show 1 ≤ (a.counter + 1) / count → _
      rw [har.1]; exact hK.full
    · intro x
      show fiberOk queues ((a.counter + 1) / count) (x ∈ a.members) (upd a.rnd f (a.rnd f + 1) x) (upd a.sg f _ x)
      rw [har.1]
      by_cases hx : x = f
      · subst hx; simp [fiberOk, hf]
      · simpa [upd_other _ _ _ _ hx] using hK.fib x
    · show tot (fun x => pendAtW ((a.counter + 1) / count) (upd a.sg f _ x)) a.members = (a.counter + 1) % count
      rw [har.1, har.2]; have := hK.cur; omega
  | serial f h hmod =>
    have hfm : f ∈ a.members := hA.mem f (by simp [h])
    have hf := hK.fib f
    simp [fiberOk, h, hfm] at hf
    have har := (succ_div_mod hc a.counter).resolve_left (fun e => by omega)
    have hacct := hA.acct
    have hpf : pendW (a.sg f) = 0 := by simp [pendW, h]
    have hle := tot_add_one_le (g := fun x => pendW (a.sg x)) (fun x _ => pendW_le _) hA.nodup hfm hpf
    have hlen := hA.len
    have hcur := hK.cur
    -- everybody has joined, and all the others are pending waiters of the round being completed:
    -- the `count - 1` pending waiters of this round leave no room for anything else
    have hlen' : a.members.length = count := by omega
    have hothers : ∀ x ∈ a.members, x ≠ f → (a.sg x).kind = .pend ∧ (a.sg x).c = a.counter / count := by
      intro x hx hxf
      apply Classical.byContradiction; intro hne
      have h0 : pendAtW (a.counter / count) (a.sg x) = 0 := by simp only [pendAtW, if_neg hne]
      have := tot_add_two_le (g := fun x => pendAtW (a.counter / count) (a.sg x))
        (fun x _ => Nat.le_trans (pendAtW_le_pendW _ _) (pendW_le _)) hA.nodup hx hfm hxf h0
        (by simp [pendAtW, h])
      omega
    obtain ⟨hpast, hnow, hfut⟩ := Rounds.succ hc hf (if_pos hmod).symm ⟨hK.past, hK.now, hK.future⟩
    refine ⟨fun _ => hlen', ?_, ?_, hpast, hnow, hfut⟩
    · intro x
      show fiberOk queues ((a.counter + 1) / count) (x ∈ a.members) (upd a.rnd f (a.rnd f + 1) x) (upd a.sg f _ x)
      rw [har.1]
      by_cases hx : x = f
      · subst hx; simp [fiberOk, hf]
      · rw [upd_other _ _ _ _ hx, upd_other _ _ _ _ hx]
        have hfx := hK.fib x
        by_cases hxm : x ∈ a.members
        · obtain ⟨hk, hcx⟩ := hothers x hxm hx
          simp [fiberOk, hk] at hfx ⊢
          exact ⟨Or.inr hcx, hfx.2.1, hfx.2.2⟩
        · have hk : (a.sg x).kind = .idle := by
            apply Classical.byContradiction; intro hne; exact hxm (hA.mem x hne)
          simp [fiberOk, hk, hxm] at hfx ⊢
          exact hfx
    · show tot (fun x => pendAtW ((a.counter + 1) / count) (upd a.sg f _ x)) a.members = (a.counter + 1) % count
      rw [har.1, har.2.1]
      apply tot_eq_zero
      intro x hx
      by_cases hxf : x = f
      · subst hxf; simp [pendAtW]
      · rw [upd_other _ _ _ _ hxf]; simp [pendAtW, (hothers x hx hxf).2]

theorem InvK.init (count queues : Nat) (nodeOf : Nat → Nat) : InvK count queues (abs (init nodeOf)) := by
  constructor <;> simp [abs, Barrier.init, fiberOk]
  intro k h1 h2; omega

theorem invA_of_run {count queues : Nat} {nodeOf : Nat → Nat} (hc : 0 < count)
    {es : List Ev} {s : St} (h : (sys count queues nodeOf).run es = some s) : InvA count (abs s) :=
  Sys.inv_of_run (sys count queues nodeOf) (fun s => InvA count (abs s))
    (InvA.init count nodeOf)
    (fun _ _ _ hI hst => InvA.step hc hI (step_refines hst)) h

theorem invK_of_run {count queues : Nat} {nodeOf : Nat → Nat} (hc : 0 < count)
    (H : 2 ≤ queues ∨ count ≤ 2)
    {es : List Ev} {s : St} (h : (sys count queues nodeOf).run es = some s) :
    InvA count (abs s) ∧ InvK count queues (abs s) :=
  Sys.inv_of_run (sys count queues nodeOf) (fun s => InvA count (abs s) ∧ InvK count queues (abs s))
    ⟨InvA.init count nodeOf, InvK.init count queues nodeOf⟩
    (fun _ _ _ hI hst => ⟨InvA.step hc hI.1 (step_refines hst),
      InvK.step hc H hI.1 hI.2 (step_refines hst)⟩) h

end LibfiberVerif.Barrier
