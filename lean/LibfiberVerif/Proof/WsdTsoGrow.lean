/-
  Proof/WsdTsoGrow.lean — the inductive invariant of the GROWING deque on TSO
  (`Model/WsdTsoGrow.lean`, `fenced = true`, `ordered = true`).

  As in `Proof/WsdTso.lean` only the owner stores, so the thieves read some PARTIAL DRAIN of the
  owner's buffer.  With growth a thief performs THREE loads from three different drains
  (`bottom`, later `underlying_array`, later the slot), so the slot fact has to be stated for
  PAIRS of drains (`AllViews2`): once some drain `μ` shows `bottom > i`, every LATER drain `μ'`
  holds the value of index `i` in the slot of the generation `μ'` itself publishes —
      * the element store of index `i` precedes its `bottom` store (as before), and
      * the copy stores into generation `g + 1` precede the pointer store that makes `g + 1`
        visible  (FIFO; this is where `ordered = true` is used: `stArrEarly` is refused) —
  and no store still buffered behind `μ'` hits that slot (`Stable`).  Superseded generations
  are never written again: every buffered slot store is for a generation at least as new as
  the pointer visible in the drain in front of it (`ViewOk`, last clause).
  The invariant and the ledger `Acc` (values won, not yet handed back: `Wsd.Ledger`) are carried
  through `step` together (`ok_step`).
-/
import LibfiberVerif.Model.WsdTsoGrow
import LibfiberVerif.Proof.Tso
import LibfiberVerif.Proof.Wsd

namespace LibfiberVerif.WsdTsoGrow
open LibfiberVerif.Tso
open LibfiberVerif.Wsd (Res seg seg_congr seg_head perm_push perm_take Ledger of_ite_some
  of_ite_some_some of_ite_ite_some eq_of_emod_eq upd_cases)

theorem size_pos (k0 g : Nat) : 0 < size k0 g := Nat.two_pow_pos _

theorem size_succ (k0 g : Nat) : size k0 (g + 1) = 2 * size k0 g := by
  simp only [size, ← Nat.add_assoc, Nat.pow_succ]; omega

theorem size_mono (k0 : Nat) {g g' : Nat} (h : g ≤ g') : size k0 g ≤ size k0 g' :=
  Nat.pow_le_pow_right (by omega) (by omega)

theorem pslot_lt (k0 g : Nat) (i : Int) : pslot k0 g i < size k0 g := by
  have hp := size_pos k0 g
  have h1 := Int.emod_nonneg i (b := (size k0 g : Int)) (by omega)
  have h2 := Int.emod_lt_of_pos i (b := (size k0 g : Int)) (by omega)
  simp only [pslot]; omega

theorem cSlot_ne_top (k0 g : Nat) (i : Int) : cSlot k0 g i ≠ cTop := by simp [cSlot, cTop]
theorem cSlot_ne_bot (k0 g : Nat) (i : Int) : cSlot k0 g i ≠ cBot := by simp [cSlot, cBot]; omega
theorem cSlot_ne_arr (k0 g : Nat) (i : Int) : cSlot k0 g i ≠ cArr := by simp [cSlot, cArr]; omega
theorem cBot_ne_top : cBot ≠ cTop := by simp [cBot, cTop]
theorem cArr_ne_top : cArr ≠ cTop := by simp [cArr, cTop]
theorem cArr_ne_bot : cArr ≠ cBot := by simp [cArr, cBot]

theorem cSlot_gen_ne (k0 : Nat) {g g' : Nat} (h : g ≠ g') (i j : Int) :
    cSlot k0 g i ≠ cSlot k0 g' j := by
  have key : ∀ a b : Nat, a < b → ∀ i j, cSlot k0 a i ≠ cSlot k0 b j := by
    intro a b hab i j
    have h1 := pslot_lt k0 a i
    have h2 : size k0 (a + 1) ≤ size k0 b := size_mono k0 hab
    rw [size_succ] at h2
    simp only [cSlot]; omega
  rcases Nat.lt_or_gt_of_ne h with h | h
  · exact key g g' h i j
  · exact (key g' g h j i).symm

theorem cSlot_ne {k0 g : Nat} {i j : Int} (h1 : i < j) (h2 : j - i < size k0 g) :
    cSlot k0 g i ≠ cSlot k0 g j := by
  intro h
  have hn0 : (size k0 g : Int) ≠ 0 := by have := size_pos k0 g; omega
  have hi := Int.emod_nonneg i hn0
  have hj := Int.emod_nonneg j hn0
  have := eq_of_emod_eq (n := size k0 g) (i := i) (j := j)
    (by simp only [cSlot, pslot] at h; omega) (by omega) h2
  omega

/-- `P μ μ' suf`: `μ` is memory after a prefix `pre` of `t`'s buffer has drained, `μ'` after
    `pre ++ mid`, and `suf` is what is still buffered behind `μ'` -/
def AllViews2 (m : Mem) (t : Nat) (P : (Nat → Int) → (Nat → Int) → Buf → Prop) : Prop :=
  ∀ pre mid suf, m.buf t = pre ++ (mid ++ suf) →
    P (applyAll m.mem pre) (applyAll (applyAll m.mem pre) mid) suf

theorem AllViews2.flush {m m' : Mem} {t : Nat} {P} (h : AllViews2 m t P)
    (hf : m.flush t = some m') : AllViews2 m' t P := by
  obtain ⟨e, rest, hb, hm, hbuf⟩ := flush_some hf
  intro pre mid suf hps
  rw [hbuf, upd_same] at hps
  have := h (e :: pre) mid suf (by rw [hb, hps]; rfl)
  rw [applyAll_cons] at this
  rw [hm]; exact this

theorem AllViews2.store {m : Mem} {t c : Nat} {v : Int}
    {P Q : (Nat → Int) → (Nat → Int) → Buf → Prop} (h : AllViews2 m t P)
    (hold : ∀ pre mid suf, m.buf t = pre ++ (mid ++ suf) →
      P (applyAll m.mem pre) (applyAll (applyAll m.mem pre) mid) suf →
      Q (applyAll m.mem pre) (applyAll (applyAll m.mem pre) mid) (suf ++ [(c, v)]))
    (hmid : ∀ pre suf, m.buf t = pre ++ suf → P (applyAll m.mem pre) (m.view t) [] →
      Q (applyAll m.mem pre) (upd (m.view t) c v) [])
    (hnew : Q (upd (m.view t) c v) (upd (m.view t) c v) []) :
    AllViews2 (m.store t c v) t Q := by
  intro pre mid suf hps
  rw [store_buf_self] at hps
  rw [store_mem]
  rcases append_snoc_split hps with ⟨x, hx, hb⟩ | ⟨h1, rfl⟩
  · rcases append_snoc_split hx.symm with ⟨suf', rfl, hx'⟩ | ⟨rfl, rfl⟩
    · subst hx'
      exact hold pre mid suf' hb (h pre mid suf' hb)
    · have hv : applyAll (applyAll m.mem pre) x = m.view t := by
        rw [← applyAll_append, ← hb]; rfl
      rw [applyAll_snoc, hv]
      have := h pre x [] (by simpa using hb)
      rw [hv] at this
      exact hmid pre x hb this
  · obtain ⟨rfl, rfl⟩ := List.append_eq_nil_iff.mp h1
    rw [applyAll_snoc]; exact hnew

theorem AllViews2.poke {m : Mem} {t c0 : Nat} {v : Int}
    {P Q : (Nat → Int) → (Nat → Int) → Buf → Prop} (h : AllViews2 m t P)
    (hPQ : ∀ μ ν μ' ν' suf, (∀ c, c ≠ c0 → ν c = μ c) → (∀ c, c ≠ c0 → ν' c = μ' c) →
      P μ μ' suf → Q ν ν' suf) :
    AllViews2 (m.poke c0 v) t Q := by
  intro pre mid suf hb
  rw [poke_buf] at hb
  rw [poke_mem]
  refine hPQ _ _ _ _ _ (fun c hc => applyAll_upd_other _ _ _ _ _ hc) ?_ (h pre mid suf hb)
  intro c hc
  rw [← applyAll_append, ← applyAll_append]
  exact applyAll_upd_other _ _ _ _ _ hc

theorem AllViews2.of_drained {m : Mem} {t : Nat} {P} (hb : m.buf t = []) (h : P m.mem m.mem []) :
    AllViews2 m t P := by
  intro pre mid suf hps
  rw [hb] at hps
  obtain ⟨h1, h2⟩ := List.append_eq_nil_iff.mp hps.symm
  obtain ⟨h3, h4⟩ := List.append_eq_nil_iff.mp h2
  subst h1; subst h3; subst h4; exact h

theorem AllViews2.diag {m : Mem} {t : Nat} {P} (h : AllViews2 m t P) :
    AllViews m t (fun μ suf => P μ μ suf) := by
  intro pre suf hb
  exact h pre [] suf (by simpa using hb)

theorem AllViews2.from_now {m : Mem} {t : Nat} {P} (h : AllViews2 m t P) :
    AllViews m t (fun μ suf => P m.mem μ suf) := by
  intro pre suf hb
  exact h [] pre suf (by simpa using hb)

/-- index `i` is settled in the drain `μ` (with `suf` still buffered behind it): the slot of `i`
    in the generation `μ` publishes holds the value of `i`, and nothing buffered will hit it -/
def Stable (k0 : Nat) (vals : Int → Int) (i : Int) (μ : Nat → Int) (suf : Buf) : Prop :=
  μ (cSlot k0 (μ cArr).toNat i) = vals i ∧ ∀ e ∈ suf, e.1 ≠ cSlot k0 (μ cArr).toNat i

/-- every index an earlier drain `μ` shows below its `bottom` is settled in every later drain -/
def SlotsOk (k0 : Nat) (T : Int) (vals : Int → Int) (μ μ' : Nat → Int) (suf : Buf) : Prop :=
  ∀ i, T ≤ i → i < μ cBot → Stable k0 vals i μ' suf

/-- what every partial drain `μ` of the owner's buffer satisfies, `suf` being still buffered -/
def ViewOk (k0 G : Nat) (H : Int) (μ : Nat → Int) (suf : Buf) : Prop :=
  0 ≤ μ cArr ∧ μ cArr ≤ G ∧ μ cBot ≤ H ∧
  ∀ c v, (c, v) ∈ suf → c = cBot ∨ (c = cArr ∧ μ cArr < v ∧ v ≤ G) ∨
    ∃ g i, c = cSlot k0 g i ∧ μ cArr ≤ g

def ownerOk (k0 : Nat) (m : Mem) (G : Nat) (H W : Int) (vals : Int → Int) : Pc → Prop
  | .idle | .pushCalled _ | .pushDone | .popCalled => m.view 0 cBot = H ∧ W = H
  | .pushGotB _ b => b = H ∧ m.view 0 cBot = H ∧ W = H
  | .pushGotT _ b t => b = H ∧ m.view 0 cBot = H ∧ W = H ∧ t ≤ m.mem cTop
  | .pushCopy _ b t g i => b = H ∧ m.view 0 cBot = H ∧ W = H ∧ t ≤ m.mem cTop ∧ g = G ∧
      t ≤ i ∧ i < b ∧ (∀ j, m.mem cTop ≤ j → j < i → m.view 0 (cSlot k0 (g + 1) j) = vals j)
  | .pushCopyW _ b t g i x => b = H ∧ m.view 0 cBot = H ∧ W = H ∧ t ≤ m.mem cTop ∧ g = G ∧
      t ≤ i ∧ i < b ∧ (∀ j, m.mem cTop ≤ j → j < i → m.view 0 (cSlot k0 (g + 1) j) = vals j) ∧
      (m.mem cTop ≤ i → x = vals i)
  | .pushPublish _ b _ g => b = H ∧ m.view 0 cBot = H ∧ W = H ∧ g = G ∧
      (∀ j, m.mem cTop ≤ j → j < b → m.view 0 (cSlot k0 (g + 1) j) = vals j)
  | .pushPut _ b g => b = H ∧ m.view 0 cBot = H ∧ W = H ∧ g = G ∧ b + 1 ≤ m.mem cTop + size k0 g
  | .pushWritten v b => b = H ∧ m.view 0 cBot = H ∧ W = H + 1 ∧ vals b = v
  | .popGotB b => b + 1 = H ∧ m.view 0 cBot = H ∧ W = H
  | .popGotArr b g => b + 1 = H ∧ m.view 0 cBot = H ∧ W = H ∧ g = G
  | .popStored b g => m.view 0 cBot = b ∧ H = b + 1 ∧ W = H ∧ g = G
  | .popEmpty t => m.buf 0 = [] ∧ H = t ∧ m.mem cTop = t ∧ m.mem cBot + 1 = H ∧ W = H
  | .popTake b g t => m.buf 0 = [] ∧ m.mem cBot = b ∧ t ≤ m.mem cTop ∧ W = H ∧ g = G ∧
      ((t < b ∧ H = b ∧ m.mem (cSlot k0 g b) = vals b) ∨ (t = b ∧ H = b + 1))
  | .popRead b t x => m.buf 0 = [] ∧ t = b ∧ m.mem cBot = b ∧ H = b + 1 ∧ W = H ∧ t ≤ m.mem cTop ∧
      (m.mem cTop = t → x = vals b)
  | .popCased t _ => m.buf 0 = [] ∧ m.mem cBot = t ∧ H = t + 1 ∧ m.mem cTop = H ∧ W = H
  | .popDone _ => m.view 0 cBot = H ∧ W = H
  | _ => False

/-- what a thief's program counter promises: if `top` still is what I loaded, then … -/
def thiefOk (k0 : Nat) (m : Mem) (G : Nat) (H : Int) (vals : Int → Int) : Pc → Prop
  | .idle | .stealCalled | .stealDone _ => True
  | .stealGotT t => t ≤ m.mem cTop
  | .stealGotB t b => t ≤ m.mem cTop ∧
      (m.mem cTop = t → t < b → t < H ∧ AllViews m 0 (Stable k0 vals t))
  | .stealGotArr t g => t ≤ m.mem cTop ∧ g ≤ G ∧
      (m.mem cTop = t → t < H ∧ AllViews m 0 (fun μ _ => μ (cSlot k0 g t) = vals t))
  | .stealRead t _ x => t ≤ m.mem cTop ∧ (m.mem cTop = t → t < H ∧ x = vals t)
  | _ => False

/-- the logical contents: the values of indices `[top, hb)` -/
def logical (s : St) : List Int := seg s.vals (s.m.mem cTop) (s.hb - s.m.mem cTop).toNat

structure Inv (s : St) : Prop where
  fen : s.fenced = true
  ord : s.ordered = true
  bufs : ∀ u, u ≠ 0 → s.m.buf u = []
  views : AllViews s.m 0 (ViewOk s.k0 s.gen s.hb)
  slots : AllViews2 s.m 0 (SlotsOk s.k0 (s.m.mem cTop) s.vals)
  arrOwn : s.m.view 0 cArr = s.gen
  own : ∀ i, s.m.mem cTop ≤ i → i < s.wf → s.m.view 0 (cSlot s.k0 s.gen i) = s.vals i
  tle : s.m.mem cTop ≤ s.hb
  cap : s.wf ≤ s.m.mem cTop + size s.k0 s.gen
  owner : ownerOk s.k0 s.m s.gen s.hb s.wf s.vals (s.pc 0)
  thief : ∀ u, u ≠ 0 → thiefOk s.k0 s.m s.gen s.hb s.vals (s.pc u)
  perm : s.pushed.Perm (s.taken ++ logical s)

/-- the value a thread has won but not yet handed back to its caller -/
def holdsPc (vals : Int → Int) : Pc → Option Int
  | .popTake b _ t => if t < b then some (vals b) else none
  | .popCased _ (.val x) => some x
  | .popDone (.val x) => some x
  | .stealDone (.val x) => some x
  | _ => none

theorem holdsPc_popDone (vals : Int → Int) (t : Int) (r : Res) :
    holdsPc vals (.popDone r) = holdsPc vals (.popCased t r) := by cases r <;> rfl

def holds (s : St) (u : Nat) : Option Int := holdsPc s.vals (s.pc u)

abbrev Acc (s : St) : Prop :=
  Ledger (fun u => holdsPc s.vals (s.pc u)) s.owed s.taken s.returned

abbrev Ok (s : St) : Prop := Inv s ∧ Acc s

theorem inv_init (k0 : Nat) : Inv (init true true k0) := by
  refine ⟨rfl, rfl, fun _ _ => rfl, ?_, ?_, rfl, fun i h1 h2 => ?_, Int.le_refl _, ?_, ⟨rfl, rfl⟩,
    fun _ _ => trivial, List.Perm.refl _⟩
  · exact AllViews.of_drained rfl
      ⟨Int.le_refl _, Int.le_refl _, Int.le_refl _, fun c v hcv => nomatch hcv⟩
  · exact AllViews2.of_drained rfl fun i h1 h2 => absurd h2 (Int.not_lt.mpr h1)
  · exact absurd h2 (Int.not_lt.mpr h1)
  · show (0 : Int) ≤ 0 + size k0 0; omega

theorem acc_init (f o : Bool) (n : Nat) : Acc (init f o n) := by
  refine ⟨?_, ?_, ?_⟩ <;> simp [init, holdsPc]

theorem Inv.ownerAt {s : St} (hI : Inv s) {p : Pc} (hpc : s.pc 0 = p) :
    ownerOk s.k0 s.m s.gen s.hb s.wf s.vals p := hpc ▸ hI.owner

theorem Inv.thiefAt {s : St} (hI : Inv s) {t : Nat} (ht : t ≠ 0) {p : Pc} (hpc : s.pc t = p) :
    thiefOk s.k0 s.m s.gen s.hb s.vals p := hpc ▸ hI.thief t ht

theorem tid_zero {s : St} (hI : Inv s) {t : Nat} {p : Pc} (hpc : s.pc t = p)
    (hp : ∀ k0 m G H vals, ¬ thiefOk k0 m G H vals p) : t = 0 :=
  Classical.byContradiction fun hne => hp _ _ _ _ _ (hI.thiefAt hne hpc)

theorem tid_ne_zero {s : St} (hI : Inv s) {t : Nat} {p : Pc} (hpc : s.pc t = p)
    (hp : ∀ k0 m G H W vals, ¬ ownerOk k0 m G H W vals p) : t ≠ 0 := by
  rintro rfl; exact hp _ _ _ _ _ _ (hI.ownerAt hpc)

theorem buf_cell_ne_top {s : St} (hI : Inv s) : ∀ e ∈ s.m.buf 0, e.1 ≠ cTop := by
  intro e he
  rcases hI.views.now.2.2.2 e.1 e.2 he with h | ⟨h, -⟩ | ⟨g, i, h, -⟩
  · rw [h]; exact cBot_ne_top
  · rw [h]; exact cArr_ne_top
  · rw [h]; exact cSlot_ne_top _ _ _

theorem load_top {s : St} (hI : Inv s) (t : Nat) : s.m.load t cTop = s.m.mem cTop := by
  by_cases ht : t = 0
  · subst ht
    rw [load_eq_view, Mem.view, applyAll_of_not_mem _ _ _ (buf_cell_ne_top hI)]
  · exact load_of_drained (hI.bufs t ht) _

theorem owner_W {k0 m G H W vals p} (h : ownerOk k0 m G H W vals p) : H ≤ W ∧ W ≤ H + 1 := by
  cases p <;> simp only [ownerOk] at h <;> omega

theorem Inv.move {s : St} (hI : Inv s) (t : Nat) (p' : Pc)
    (hown : t = 0 → ownerOk s.k0 s.m s.gen s.hb s.wf s.vals p')
    (hth : t ≠ 0 → thiefOk s.k0 s.m s.gen s.hb s.vals p') :
    Inv { s with pc := upd s.pc t p' } := by
  refine ⟨hI.fen, hI.ord, hI.bufs, hI.views, hI.slots, hI.arrOwn, hI.own, hI.tle, hI.cap, ?_,
    fun w hw => ?_, hI.perm⟩
  · exact upd_cases (P := ownerOk s.k0 s.m s.gen s.hb s.wf s.vals) 0 (fun _ => hI.owner)
      fun h0 => hown h0.symm
  · exact upd_cases (P := thiefOk s.k0 s.m s.gen s.hb s.vals) w (fun _ => hI.thief w hw)
      fun h => hth (h ▸ hw)

theorem ownerMove {s : St} (h : Ok s) {p : Pc} (hpc : s.pc 0 = p) (p' : Pc)
    (hown : ownerOk s.k0 s.m s.gen s.hb s.wf s.vals p')
    (hh : holdsPc s.vals p' = holdsPc s.vals p) :
    Ok { s with pc := upd s.pc 0 p' } :=
  ⟨h.1.move 0 p' (fun _ => hown) (fun h0 => absurd rfl h0),
    h.2.move 0 (hpc ▸ hh)⟩

theorem thiefMove {s : St} (h : Ok s) {t : Nat} (ht : t ≠ 0) {p : Pc} (hpc : s.pc t = p)
    (p' : Pc) (hth : thiefOk s.k0 s.m s.gen s.hb s.vals p')
    (hh : holdsPc s.vals p' = holdsPc s.vals p) :
    Ok { s with pc := upd s.pc t p' } :=
  ⟨h.1.move t p' (fun h0 => absurd h0 ht) (fun _ => hth),
    h.2.move t (hpc ▸ hh)⟩

theorem ok_ret {s : St} (h : Ok s) {t : Nat} {r : Res} {p : Pc} (hpc : s.pc t = p)
    (hown : t = 0 → ownerOk s.k0 s.m s.gen s.hb s.wf s.vals .idle)
    (hh : holdsPc s.vals p = (match r with | .val x => some x | _ => none)) :
    Ok { s with pc := upd s.pc t .idle, returned := s.returned ++ r.vals,
                 owed := r.settle t s.owed } := by
  -- taken apart and put together again, as in `Wsd.ok_ret`
  obtain ⟨a, b, c, d, e, f, g, i, j, k, l, m⟩ := h.1.move t .idle hown (fun _ => trivial)
  exact ⟨⟨a, b, c, d, e, f, g, i, j, k, l, m⟩,
    h.2.ret t r (hpc ▸ hh) rfl⟩

theorem ok_ldBottom {s s' : St} {t : Nat} {x : Int} (h : Ok s)
    (hs : step s (.ldBottom t x) = some s') : Ok s' := by
  simp only [step] at hs
  split at hs
  -- push_bottom's and pop_bottom's load: the owner reads its own `bottom`
  iterate 2
    rename_i hpc
    obtain rfl := tid_zero h.1 hpc (by simp [thiefOk])
    obtain ⟨hx, rfl⟩ := of_ite_some hs
    rw [load_eq_view] at hx
    have ho := h.1.ownerAt hpc; simp only [ownerOk] at ho
    exact ownerMove h hpc _ (by simp only [ownerOk]; omega) rfl
  · next tt hpc =>
    have ht := tid_ne_zero h.1 hpc (by simp [ownerOk])
    have hth : tt ≤ s.m.mem cTop := h.1.thiefAt ht hpc
    obtain ⟨hx, rfl⟩ := of_ite_some hs
    rw [load_of_drained (h.1.bufs t ht)] at hx
    refine thiefMove h ht hpc _ ⟨hth, fun hT hlt => ⟨?_, ?_⟩⟩ rfl
    · have := h.1.views.now.2.2.1; omega
    · exact h.1.slots.from_now.mono fun μ suf _ hS => hS tt (by omega) (by omega)
  · cases hs

theorem ok_ldArr {s s' : St} {t : Nat} {g : Nat} (h : Ok s)
    (hs : step s (.ldArr t g) = some s') : Ok s' := by
  simp only [step] at hs
  split at hs
  · next v b tt hpc =>
    obtain rfl := tid_zero h.1 hpc (by simp [thiefOk])
    obtain ⟨hb, hB, hW, htT⟩ := h.1.ownerAt hpc
    split at hs
    · next hx =>
      rw [load_eq_view, h.1.arrOwn] at hx
      have hg : g = s.gen := by omega
      split at hs
      · obtain ⟨hlt, rfl⟩ | ⟨hnlt, rfl⟩ := of_ite_some_some hs
        · refine ownerMove h hpc _ ?_ rfl
          exact ⟨hb, hB, hW, htT, hg, Int.le_refl _, hlt, fun j h1 h2 => by omega⟩
        · refine ownerMove h hpc _ ?_ rfl
          exact ⟨hb, hB, hW, hg, fun j h1 h2 => by omega⟩
      · next hnogrow =>
        cases hs
        exact ownerMove h hpc _ ⟨hb, hB, hW, hg, by omega⟩ rfl
    · cases hs
  · next b hpc =>
    obtain rfl := tid_zero h.1 hpc (by simp [thiefOk])
    obtain ⟨hx, rfl⟩ := of_ite_some hs
    rw [load_eq_view, h.1.arrOwn] at hx
    obtain ⟨a, b', c⟩ := h.1.ownerAt hpc
    exact ownerMove h hpc _ ⟨a, b', c, by omega⟩ rfl
  · next tt b hpc =>
    have ht := tid_ne_zero h.1 hpc (by simp [ownerOk])
    obtain ⟨hth1, hth2⟩ := h.1.thiefAt ht hpc
    obtain ⟨hx, ⟨-, rfl⟩ | ⟨hgt, rfl⟩⟩ := of_ite_ite_some hs
    · exact thiefMove h ht hpc _ trivial rfl
    · rw [load_of_drained (h.1.bufs t ht)] at hx
      have hv := h.1.views.now
      have hgn : (s.m.mem cArr).toNat = g := by omega
      refine thiefMove h ht hpc _ ⟨hth1, by have := hv.2.1; omega, fun hT => ?_⟩ rfl
      obtain ⟨hH, hS⟩ := hth2 hT (by omega)
      refine ⟨hH, fun pre suf hps => ?_⟩
      obtain ⟨hS1, hS2⟩ := hS.now
      rw [hgn] at hS1 hS2
      rw [applyAll_of_not_mem _ _ _ fun e he => hS2 e (by rw [hps]; exact List.mem_append_left _ he)]
      exact hS1
  · cases hs

theorem ok_rdSlot {s s' : St} {t : Nat} {g i : Nat} {x : Int} (h : Ok s)
    (hs : step s (.rdSlot t g i x) = some s') : Ok s' := by
  simp only [step] at hs
  split at hs
  · next v b tt g' j hpc =>
    obtain rfl := tid_zero h.1 hpc (by simp [thiefOk])
    obtain ⟨hb, hB, hW, htT, rfl, h1, h2, hcopy⟩ := h.1.ownerAt hpc
    obtain ⟨⟨rfl, -, hx⟩, rfl⟩ := of_ite_some hs
    rw [load_eq_view] at hx
    exact ownerMove h hpc _
      ⟨hb, hB, hW, htT, rfl, h1, h2, hcopy, fun hT => hx.trans (h.1.own j hT (by omega))⟩ rfl
  · next b g' tt hpc =>
    obtain rfl := tid_zero h.1 hpc (by simp [thiefOk])
    obtain ⟨hE, hBM, htT, hWH, rfl, hcase⟩ := h.1.ownerAt hpc
    have hown := h.1.own b
    rw [view_of_drained hE] at hown
    obtain ⟨⟨rfl, -, hx⟩, ⟨hlt, rfl⟩ | ⟨hnlt, rfl⟩⟩ := of_ite_ite_some hs <;>
      rw [load_of_drained hE] at hx
    · have hv : x = s.vals b := hx.trans (hcase.elim (fun h1 => h1.2.2) (fun h1 => by omega))
      refine ownerMove h hpc _ ?_ (by simp only [holdsPc, hlt, if_true, hv])
      simp only [ownerOk]; rw [view_of_drained hE]; omega
    · refine ownerMove h hpc _ ?_ (by simp only [holdsPc, hnlt, if_false])
      exact ⟨hE, by omega, hBM, by omega, hWH, htT, fun _ => hx.trans (hown (by omega) (by omega))⟩
  · next tt g' hpc =>
    have ht := tid_ne_zero h.1 hpc (by simp [ownerOk])
    obtain ⟨hth1, -, hth2⟩ := h.1.thiefAt ht hpc
    obtain ⟨⟨rfl, -, hx⟩, rfl⟩ := of_ite_some hs
    rw [load_of_drained (h.1.bufs t ht)] at hx
    refine thiefMove h ht hpc _ ⟨hth1, fun hT => ?_⟩ rfl
    obtain ⟨a, b⟩ := hth2 hT
    exact ⟨a, hx.trans b.now⟩
  · cases hs

/-- a thief's promise speaks of `top` and, if `top` is the index it is after, of that index
    only: that it is below `hb`, its value, and its slots in the partial drains -/
theorem thiefOk_frame {k0 m m' G G' H H' vals vals' p} (h : thiefOk k0 m G H vals p)
    (hT : m'.mem cTop = m.mem cTop) (hG : G ≤ G')
    (hhead : m.mem cTop < H → m.mem cTop < H' ∧ vals' (m.mem cTop) = vals (m.mem cTop) ∧
      (AllViews m 0 (Stable k0 vals (m.mem cTop)) →
        AllViews m' 0 (Stable k0 vals' (m.mem cTop))) ∧
      ∀ g, g ≤ G → AllViews m 0 (fun μ _ => μ (cSlot k0 g (m.mem cTop)) = vals (m.mem cTop)) →
        AllViews m' 0 (fun μ _ => μ (cSlot k0 g (m.mem cTop)) = vals' (m.mem cTop))) :
    thiefOk k0 m' G' H' vals' p := by
  cases p <;> simp only [thiefOk, hT] at h ⊢ <;> try exact h
  · refine ⟨h.1, fun hTt hlt => ?_⟩
    obtain ⟨a, b⟩ := h.2 hTt hlt
    subst hTt
    obtain ⟨a', -, S, -⟩ := hhead a
    exact ⟨a', S b⟩
  · refine ⟨h.1, Nat.le_trans h.2.1 hG, fun hTt => ?_⟩
    obtain ⟨a, b⟩ := h.2.2 hTt
    subst hTt
    obtain ⟨a', -, -, S⟩ := hhead a
    exact ⟨a', S _ h.2.1 b⟩
  · refine ⟨h.1, fun hTt => ?_⟩
    obtain ⟨a, b⟩ := h.2 hTt
    subst hTt
    obtain ⟨a', v, -, -⟩ := hhead a
    exact ⟨a', b.trans v.symm⟩

theorem ownerOk_flush {k0 m m' G H W vals p} (h : ownerOk k0 m G H W vals p)
    (hf : m.flush 0 = some m') (hT : m'.mem cTop = m.mem cTop) : ownerOk k0 m' G H W vals p := by
  have hv := view_flush_self hf
  obtain ⟨e, rest, hb, hm, hbuf⟩ := flush_some hf
  cases p <;> simp only [ownerOk] at h ⊢ <;> (try rw [hv]) <;> (try rw [hT]) <;>
    first | exact h | (simp [hb] at h)

theorem ok_flush {s s' : St} {t : Nat} (h : Ok s)
    (hs : step s (.flush t) = some s') : Ok s' := by
  obtain ⟨hI, hA⟩ := h
  simp only [step] at hs
  split at hs
  · next m' hf =>
    cases hs
    have ht : t = 0 := Classical.byContradiction fun hne => by
      rw [flush_none_of_drained (hI.bufs t hne)] at hf; cases hf
    subst ht
    have hT : m'.mem cTop = s.m.mem cTop := flush_mem_of_not_mem hf (buf_cell_ne_top hI)
    refine ⟨⟨hI.fen, hI.ord, fun u hu => ?_, hI.views.flush hf, ?_, ?_, ?_, ?_, ?_,
      ownerOk_flush hI.owner hf hT, fun u hu => ?_, ?_⟩, hA⟩
    · rw [flush_buf_other hf hu]; exact hI.bufs u hu
    · simp only [hT]; exact hI.slots.flush hf
    · simp only [view_flush_self hf]; exact hI.arrOwn
    · simp only [hT, view_flush_self hf]; exact hI.own
    · simp only [hT]; exact hI.tle
    · simp only [hT]; exact hI.cap
    · exact thiefOk_frame (hI.thief u hu) hT (Nat.le_refl _) fun a =>
        ⟨a, rfl, fun S => S.flush hf, fun _ _ S => S.flush hf⟩
    · simp only [logical, hT]; exact hI.perm
  · cases hs

theorem ownerOk_top_succ {k0 m G H W vals p} (h : ownerOk k0 m G H W vals p)
    (hlt : m.mem cTop < H) : ownerOk k0 (m.poke cTop (m.mem cTop + 1)) G H W vals p := by
  cases p <;> simp only [ownerOk, poke_mem_same, poke_mem_other _ _ cBot_ne_top, poke_mem_other _ _ (cSlot_ne_top _ _ _), poke_buf,
    view_poke_other _ _ _ _ _ cBot_ne_top, view_poke_other _ _ _ _ _ (cSlot_ne_top _ _ _)] at h ⊢ <;> first | exact h | omega | skip
  · obtain ⟨a, b, c, d, e, f, g, hh⟩ := h
    exact ⟨a, b, c, by omega, e, f, g, fun j h1 h2 => hh j (by omega) h2⟩
  · obtain ⟨a, b, c, d, e, f, g, hh, hx⟩ := h
    exact ⟨a, b, c, by omega, e, f, g, fun j h1 h2 => hh j (by omega) h2, fun h1 => hx (by omega)⟩
  · obtain ⟨a, b, c, d, hh⟩ := h
    exact ⟨a, b, c, d, fun j h1 h2 => hh j (by omega) h2⟩
  · obtain ⟨a, b, c, d, e, f⟩ := h
    exact ⟨a, b, by omega, d, e, f⟩
  · obtain ⟨a, b, c, d, e, f, g⟩ := h
    exact ⟨a, b, c, d, e, by omega, fun h' => by omega⟩

theorem thiefOk_top_succ {k0 m G H vals p} (h : thiefOk k0 m G H vals p) :
    thiefOk k0 (m.poke cTop (m.mem cTop + 1)) G H vals p := by
  cases p <;> simp only [thiefOk, poke_mem_same] at h ⊢ <;>
    first | exact h | omega | (exact ⟨by omega, fun h' => by omega⟩) |
      (exact ⟨by omega, h.2.1, fun h' => by omega⟩)

theorem ok_cas {s : St} (h : Ok s) (u : Nat) (p' : Pc)
    (hlt : s.m.mem cTop < s.hb)
    (hown : u = 0 → ownerOk s.k0 (s.m.poke cTop (s.m.mem cTop + 1)) s.gen s.hb s.wf s.vals p')
    (hth : u ≠ 0 → thiefOk s.k0 (s.m.poke cTop (s.m.mem cTop + 1)) s.gen s.hb s.vals p')
    (hold : holdsPc s.vals (s.pc u) = none)
    (hnew : holdsPc s.vals p' = some (s.vals (s.m.mem cTop))) :
    Ok { s with m := s.m.poke cTop (s.m.mem cTop + 1),
                 taken := s.taken ++ [s.vals (s.m.mem cTop)],
                 owed := s.owed ++ [(u, s.vals (s.m.mem cTop))], pc := upd s.pc u p' } := by
  obtain ⟨hI, hA⟩ := h
  refine ⟨⟨hI.fen, hI.ord, hI.bufs, ?_, ?_, ?_, ?_, ?_, ?_, ?_, fun w hw => ?_, ?_⟩,
    hA.commit u hold hnew⟩
  · refine hI.views.poke ?_
    intro μ μ' suf hsuf hμ ⟨v0, v1, v2, v3⟩
    have hb : μ' cBot = μ cBot := hμ _ cBot_ne_top
    have ha : μ' cArr = μ cArr := hμ _ cArr_ne_top
    exact ⟨by rw [ha]; exact v0, by rw [ha]; exact v1, by rw [hb]; exact v2, by rw [ha]; exact v3⟩
  · show AllViews2 _ 0 (SlotsOk s.k0 ((s.m.poke cTop _).mem cTop) s.vals)
    rw [poke_mem_same]
    refine hI.slots.poke ?_
    intro μ ν μ' ν' suf h1 h2 hS i hi1 hi2
    rw [h1 _ cBot_ne_top] at hi2
    obtain ⟨a, b⟩ := hS i (by omega) hi2
    have ha : ν' cArr = μ' cArr := h2 _ cArr_ne_top
    exact ⟨by rw [ha, h2 _ (cSlot_ne_top _ _ _)]; exact a, by rw [ha]; exact b⟩
  · simp only [view_poke_other _ _ _ _ _ cArr_ne_top]; exact hI.arrOwn
  · intro i h1 h2
    simp only [poke_mem_same] at h1
    simp only [view_poke_other _ _ _ _ _ (cSlot_ne_top _ _ _)]; exact hI.own i (by omega) h2
  · simp only [poke_mem_same]; omega
  · simp only [poke_mem_same]; have := hI.cap; omega
  · exact upd_cases (P := ownerOk s.k0 (s.m.poke cTop (s.m.mem cTop + 1)) s.gen s.hb s.wf s.vals) 0
      (fun _ => ownerOk_top_succ hI.owner hlt) fun h0 => hown h0.symm
  · exact upd_cases (P := thiefOk s.k0 (s.m.poke cTop (s.m.mem cTop + 1)) s.gen s.hb s.vals) w
      (fun _ => thiefOk_top_succ (hI.thief w hw)) fun h => hth (h ▸ hw)
  · have hp := hI.perm
    simp only [logical, poke_mem_same] at hp ⊢
    rw [seg_head _ _ _ hlt] at hp
    rw [List.append_assoc]; exact hp

theorem ok_casTop {s s' : St} {t : Nat} {found exp des : Int} {ok : Bool} (h : Ok s)
    (hs : step s (.casTop t found exp des ok) = some s') : Ok s' := by
  simp only [step] at hs
  split at hs
  · next b tt x hpc =>
    obtain rfl := tid_zero h.1 hpc (by simp [thiefOk])
    obtain ⟨hE, rfl, hBM, hH, hW, htT, hx⟩ := h.1.ownerAt hpc
    obtain ⟨⟨-, rfl, rfl, rfl, rfl⟩, ⟨hwon, rfl⟩ | ⟨hlost, rfl⟩⟩ := of_ite_ite_some hs
    · obtain rfl : s.m.mem cTop = exp := by simpa using hwon
      obtain rfl := hx rfl
      refine ok_cas h 0 _ (by omega) (fun _ => ?_) (fun h0 => absurd rfl h0) (by rw [hpc]; rfl) rfl
      simp only [ownerOk, poke_mem_same, poke_mem_other _ _ cBot_ne_top, poke_buf]
      exact ⟨hE, hBM, hH, hH.symm, hW⟩
    · have hT : s.m.mem cTop ≠ exp := by simpa using hlost
      have htle := h.1.tle
      exact ownerMove h hpc _ ⟨hE, hBM, hH, by omega, hW⟩ rfl
  · next tt g x hpc =>
    have ht := tid_ne_zero h.1 hpc (by simp [ownerOk])
    obtain ⟨hth1, hth2⟩ := h.1.thiefAt ht hpc
    obtain ⟨⟨-, rfl, rfl, rfl, rfl⟩, ⟨hwon, rfl⟩ | ⟨-, rfl⟩⟩ := of_ite_ite_some hs
    · obtain rfl : s.m.mem cTop = exp := by simpa using hwon
      obtain ⟨a, rfl⟩ := hth2 rfl
      exact ok_cas h t _ a (fun h0 => absurd h0 ht) (fun _ => trivial) (by rw [hpc]; rfl) rfl
    · exact thiefMove h ht hpc _ trivial rfl
  · cases hs

theorem ok_ldTop {s s' : St} {t : Nat} {x : Int} (h : Ok s)
    (hs : step s (.ldTop t x) = some s') : Ok s' := by
  obtain ⟨hI, hA⟩ := h
  simp only [step, load_top hI] at hs
  split at hs
  · next v b hpc =>
    obtain rfl := tid_zero hI hpc (by simp [thiefOk])
    obtain ⟨rfl, rfl⟩ := of_ite_some hs
    obtain ⟨a, b', c⟩ := hI.ownerAt hpc
    exact ownerMove ⟨hI, hA⟩ hpc _ ⟨a, b', c, Int.le_refl _⟩ rfl
  · next b g hpc =>
    obtain rfl := tid_zero hI hpc (by simp [thiefOk])
    obtain ⟨hB, hH, hW, hg⟩ := hI.ownerAt hpc
    have htle := hI.tle
    split at hs
    · next hc =>
      obtain ⟨rfl, hfence⟩ := hc
      -- the one place where the fence is used
      have hE : s.m.buf 0 = [] := hfence hI.fen
      rw [view_of_drained hE] at hB
      split at hs
      · next hlt =>
        cases hs
        exact ownerMove ⟨hI, hA⟩ hpc _ ⟨hE, by omega, rfl, by omega, hW⟩ rfl
      · split at hs
        · next hlt =>
          -- commit: the owner takes element b without a CAS; memory `bottom` is already `b`
          cases hs
          have hown := hI.own
          rw [view_of_drained hE] at hown
          refine ⟨⟨hI.fen, hI.ord, hI.bufs, ?_, ?_, hI.arrOwn, ?_, ?_, ?_, ?_, fun u hu => ?_, ?_⟩, ?_⟩
          · refine AllViews.of_drained (P := ViewOk s.k0 s.gen b) hE ?_
            obtain ⟨v0, v1, v2, v3⟩ := hI.views.now
            exact ⟨v0, v1, Int.le_of_eq hB, fun c v hcv => nomatch hcv⟩
          · refine AllViews2.of_drained (P := SlotsOk s.k0 (s.m.mem cTop) s.vals) hE ?_
            have := hI.slots [] [] [] (by simp [hE])
            simpa [applyAll] using this
          · intro i h1 h2; exact hI.own i h1 (by simp only at h2; omega)
          · simp only; omega
          · have := hI.cap; simp only; omega
          · simp only [upd_same, ownerOk]
            exact ⟨hE, hB, Int.le_refl _, trivial, hg,
              Or.inl ⟨hlt, trivial, hg ▸ hown b (by omega) (by omega)⟩⟩
          · simp only [upd_other _ _ _ _ hu]
            exact thiefOk_frame (hI.thief u hu) rfl (Nat.le_refl _) fun _ =>
              ⟨hlt, rfl, id, fun _ _ => id⟩
          · have hp := hI.perm
            simp only [logical, hH] at hp
            exact perm_take hp (Int.le_of_lt hlt)
          · exact hA.commit 0 (by rw [hpc]; rfl)
              (by simp only [holdsPc, hlt, if_true])
        · next hnlt2 =>
          cases hs
          refine ownerMove ⟨hI, hA⟩ hpc _ ?_ (by simp only [holdsPc, hnlt2, if_false])
          exact ⟨hE, hB, Int.le_refl _, hW, hg, Or.inr ⟨by omega, hH⟩⟩
    · cases hs
  · next hpc =>
    have ht := tid_ne_zero hI hpc (by simp [ownerOk])
    obtain ⟨rfl, rfl⟩ := of_ite_some hs
    exact thiefMove ⟨hI, hA⟩ ht hpc _ (Int.le_refl _) rfl
  · cases hs

theorem Stable.snoc {k0 vals i μ suf} {c : Nat} {v : Int} (h : Stable k0 vals i μ suf)
    (hc : c ≠ cSlot k0 (μ cArr).toNat i) : Stable k0 vals i μ (suf ++ [(c, v)]) := by
  refine ⟨h.1, fun e he => ?_⟩
  rcases List.mem_append.mp he with h1 | h1
  · exact h.2 e h1
  · simp at h1; rw [h1]; exact hc

theorem Stable.updOther {k0 vals i μ} {c : Nat} {v : Int} (h : Stable k0 vals i μ [])
    (hc : c ≠ cArr) (hs : c ≠ cSlot k0 (μ cArr).toNat i) : Stable k0 vals i (upd μ c v) [] := by
  have ha : (upd μ c v) cArr = μ cArr := upd_other _ _ _ _ (Ne.symm hc)
  refine ⟨?_, fun e he => nomatch he⟩
  rw [ha, upd_other _ _ _ _ (Ne.symm hs)]; exact h.1

theorem Stable.congr {k0 vals vals' i μ suf} (h : Stable k0 vals i μ suf) (hv : vals' i = vals i) :
    Stable k0 vals' i μ suf := ⟨by rw [hv]; exact h.1, h.2⟩

theorem views_store {k0 G G' : Nat} {H H' : Int} {m : Mem} {c : Nat} {v : Int}
    (hv : AllViews m 0 (ViewOk k0 G H)) (hG : G ≤ G') (hH : H ≤ H')
    (hentry : ∀ a : Int, a ≤ G → c = cBot ∨ (c = cArr ∧ a < v ∧ v ≤ G') ∨
      ∃ g i, c = cSlot k0 g i ∧ a ≤ g)
    (hnew : ViewOk k0 G' H' (upd (m.view 0) c v) []) :
    AllViews (m.store 0 c v) 0 (ViewOk k0 G' H') := by
  refine hv.store (fun μ suf _ ⟨v0, v1, v2, v3⟩ => ⟨v0, by omega, by omega, fun c' w hcw => ?_⟩) hnew
  rcases List.mem_append.mp hcw with h1 | h1
  · exact (v3 c' w h1).imp id (Or.imp (fun ⟨a, b, d⟩ => ⟨a, b, by omega⟩) id)
  · simp at h1; obtain ⟨rfl, rfl⟩ := h1; exact hentry _ v1

/-- the owner's next store `(c, ·)`, with the new `vals'`, leaves the live indices `[T, W)` alone:
    it is not the pointer cell, not a slot of a live index in a generation up to `G`, and the
    values of the live indices stay -/
structure Harmless (k0 G : Nat) (T W : Int) (vals vals' : Int → Int) (c : Nat) : Prop where
  arr : c ≠ cArr
  slot : ∀ g i, g ≤ G → T ≤ i → i < W → c ≠ cSlot k0 g i
  vals : ∀ i, T ≤ i → i < W → vals' i = vals i

/-- slot writes happen only while the owner is inside push_bottom: nobody holds a value whose
    identity depends on `vals` -/
theorem holdsPc_thief {k0 m G H vals vals' p} (h : thiefOk k0 m G H vals p) :
    holdsPc vals' p = holdsPc vals p := by
  cases p with
  | stealDone r => cases r <;> rfl
  | _ => first | rfl | exact h.elim

/-- One lemma for the `bottom` stores, the copy stores and the element store.  The pointer store
    is not an instance: it changes `gen`. -/
theorem ok_store {s : St} (h : Ok s) {p : Pc} (hpc : s.pc 0 = p) (c : Nat) (v H' W' : Int)
    (V' : Int → Int) (P' : List Int) (p' : Pc)
    (hc : Harmless s.k0 s.gen (s.m.mem cTop) s.wf s.vals V' c)
    (hentry : c = cBot ∨ ∃ g i, c = cSlot s.k0 g i ∧ s.gen ≤ g)
    (hH : s.hb ≤ H') (hbot : upd (s.m.view 0) c v cBot ≤ H') (hbotW : upd (s.m.view 0) c v cBot ≤ s.wf)
    (hcap : W' ≤ s.m.mem cTop + size s.k0 s.gen)
    (hnew : ∀ i, s.wf ≤ i → i < W' → upd (s.m.view 0) c v (cSlot s.k0 s.gen i) = V' i)
    (hown : ownerOk s.k0 (s.m.store 0 c v) s.gen H' W' V' p')
    (hperm : P'.Perm (s.taken ++ seg V' (s.m.mem cTop) (H' - s.m.mem cTop).toNat))
    (hh : holdsPc V' p' = holdsPc s.vals p) :
    Ok { s with m := s.m.store 0 c v, hb := H', wf := W', vals := V', pushed := P',
                 pc := upd s.pc 0 p' } := by
  obtain ⟨hI, hA⟩ := h
  have harr : s.m.view 0 cArr = s.gen := hI.arrOwn
  have harr' : upd (s.m.view 0) c v cArr = s.gen := by rw [upd_other _ _ _ _ hc.arr.symm, harr]
  have hHW := (owner_W hI.owner).1
  have hold : ∀ i, s.m.mem cTop ≤ i → i < s.wf →
      upd (s.m.view 0) c v (cSlot s.k0 s.gen i) = V' i := fun i h1 h2 => by
    rw [upd_other _ _ _ _ (hc.slot _ i (Nat.le_refl _) h1 h2).symm, hc.vals i h1 h2]
    exact hI.own i h1 h2
  refine ⟨⟨hI.fen, hI.ord, fun u hu => ?_, ?_, ?_, ?_, ?_, ?_, hcap, ?_, fun u hu => ?_, hperm⟩, ?_⟩
  · simp only [store_buf_other _ _ _ _ _ hu]; exact hI.bufs u hu
  · show AllViews _ 0 (ViewOk s.k0 s.gen H')
    refine views_store hI.views (Nat.le_refl _) hH (fun a ha => ?_)
      ⟨by rw [harr']; omega, by rw [harr']; omega, hbot, fun c v hcv => nomatch hcv⟩
    exact hentry.imp id fun ⟨g, i, h1, h2⟩ => Or.inr ⟨g, i, h1, by omega⟩
  · show AllViews2 _ 0 (SlotsOk s.k0 (s.m.mem cTop) V')
    refine hI.slots.store ?_ ?_ ?_
    · intro pre mid suf hps hS i h1 h2
      have hv1 := hI.views pre (mid ++ suf) hps
      have hv2 := hI.views (pre ++ mid) suf (by rw [hps, List.append_assoc])
      rw [applyAll_append] at hv2
      have hlt : i < s.wf := by have := hv1.2.2.1; omega
      exact ((hS i h1 h2).congr (hc.vals i h1 hlt)).snoc
        (hc.slot _ i (by have := hv2.2.1; have := hv2.1; omega) h1 hlt)
    · intro pre suf hps hS i h1 h2
      have hlt : i < s.wf := by have := (hI.views pre suf hps).2.2.1; omega
      refine ((hS i h1 h2).congr (hc.vals i h1 hlt)).updOther hc.arr ?_
      rw [harr, Int.toNat_natCast]; exact hc.slot _ i (Nat.le_refl _) h1 hlt
    · intro i h1 h2
      refine ⟨?_, fun e he => nomatch he⟩
      rw [harr', Int.toNat_natCast]; exact hold i h1 (by omega)
  · simp only [view_store_self]; exact harr'
  · simp only [store_mem, view_store_self]
    intro i h1 h2
    by_cases hlt : i < s.wf
    · exact hold i h1 hlt
    · exact hnew i (by omega) h2
  · simp only [store_mem]; have := hI.tle; omega
  · simp only [upd_same]; exact hown
  · simp only [upd_other _ _ _ _ hu]
    refine thiefOk_frame (hI.thief u hu) rfl (Nat.le_refl _) fun a =>
      have hv := hc.vals _ (Int.le_refl _) (by omega)
      ⟨by omega, hv, fun S => (AllViews.and S hI.views).store
        (fun μ suf _ ⟨hS, v0, v1, _, _⟩ => (hS.congr hv).snoc
          (hc.slot _ _ (by omega) (Int.le_refl _) (by omega))) ?_,
      fun g hg S => S.store (fun _ _ _ hS => by rw [hv]; exact hS) ?_⟩
    · refine (S.own.congr hv).updOther hc.arr ?_
      rw [harr, Int.toNat_natCast]; exact hc.slot _ _ (Nat.le_refl _) (Int.le_refl _) (by omega)
    · rw [upd_other _ _ _ _ (hc.slot g _ hg (Int.le_refl _) (by omega)).symm, hv]; exact S.own
  · refine hA.congr fun u => ?_
    by_cases hu : u = 0
    · subst hu; simp only [upd_same, hpc]; exact hh
    · simp only [upd_other _ _ _ _ hu]; exact holdsPc_thief (hI.thief u hu)

theorem ok_stBot {s : St} (h : Ok s) {p : Pc} (hpc : s.pc 0 = p) (x H' : Int) (p' : Pc)
    (P' : List Int) (hHle : s.hb ≤ H') (hx1 : x ≤ H') (hx2 : x ≤ s.wf)
    (hown : ownerOk s.k0 (s.m.store 0 cBot x) s.gen H' s.wf s.vals p')
    (hperm : P'.Perm (s.taken ++ seg s.vals (s.m.mem cTop) (H' - s.m.mem cTop).toNat))
    (hh : holdsPc s.vals p' = holdsPc s.vals p) :
    Ok { s with m := s.m.store 0 cBot x, hb := H', pushed := P', pc := upd s.pc 0 p' } :=
  ok_store h hpc cBot x H' s.wf s.vals P' p'
    ⟨cArr_ne_bot.symm, fun _ _ _ _ _ => (cSlot_ne_bot _ _ _).symm, fun _ _ _ => rfl⟩ (Or.inl rfl)
    hHle (by rw [upd_same]; exact hx1) (by rw [upd_same]; exact hx2) h.1.cap
    (fun i h1 h2 => by omega) hown hperm hh

theorem ok_stBottom {s s' : St} {t : Nat} {x : Int} (h : Ok s)
    (hs : step s (.stBottom t x) = some s') : Ok s' := by
  simp only [step] at hs
  split at hs
  · next v b hpc =>
    obtain rfl := tid_zero h.1 hpc (by simp [thiefOk])
    obtain ⟨rfl, hB, hW, hv⟩ := h.1.ownerAt hpc
    obtain ⟨rfl, rfl⟩ := of_ite_some hs
    refine ok_stBot h hpc (s.hb + 1) (s.hb + 1) .pushDone (s.pushed ++ [v]) (by omega) (Int.le_refl _)
      (by omega) ?_ ?_ rfl
    · simp only [ownerOk, view_store_self, upd_same]; exact ⟨trivial, by omega⟩
    · rw [← hv]; exact perm_push h.1.perm h.1.tle
  · next b g hpc =>
    obtain rfl := tid_zero h.1 hpc (by simp [thiefOk])
    have ho := h.1.ownerAt hpc; simp only [ownerOk] at ho
    obtain ⟨rfl, rfl⟩ := of_ite_some hs
    exact ok_stBot h hpc x s.hb _ s.pushed (Int.le_refl _) (by omega) (by omega)
      (by simp only [ownerOk, view_store_self, upd_same]; exact ⟨trivial, by omega, by omega, ho.2.2.2⟩)
      h.1.perm rfl
  · next tt hpc =>
    obtain rfl := tid_zero h.1 hpc (by simp [thiefOk])
    have ho := h.1.ownerAt hpc; simp only [ownerOk] at ho
    obtain ⟨rfl, rfl⟩ := of_ite_some hs
    exact ok_stBot h hpc x s.hb _ s.pushed (Int.le_refl _) (by omega) (by omega)
      (by simp only [ownerOk, view_store_self, upd_same]; exact ⟨by omega, by omega⟩) h.1.perm rfl
  · next tt r hpc =>
    obtain rfl := tid_zero h.1 hpc (by simp [thiefOk])
    have ho := h.1.ownerAt hpc; simp only [ownerOk] at ho
    obtain ⟨rfl, rfl⟩ := of_ite_some hs
    exact ok_stBot h hpc _ s.hb _ s.pushed (Int.le_refl _) (by omega) (by omega)
      (by simp only [ownerOk, view_store_self, upd_same]; exact ⟨by omega, by omega⟩) h.1.perm
      (holdsPc_popDone s.vals tt r)
  · cases hs

/-! ### the copy stores `na[i & nmask] = a[i & mask]` -/

theorem ok_wrCopy {s : St} (h : Ok s) {p : Pc} (hpc : s.pc 0 = p) {j x : Int} (p' : Pc)
    (hBH : s.m.view 0 cBot = s.hb) (hWH : s.wf = s.hb)
    (hown : ownerOk s.k0 (s.m.store 0 (cSlot s.k0 (s.gen + 1) j) x) s.gen s.hb s.wf s.vals p')
    (hh : holdsPc s.vals p' = holdsPc s.vals p) :
    Ok { s with m := s.m.store 0 (cSlot s.k0 (s.gen + 1) j) x, pc := upd s.pc 0 p' } :=
  have hbot : upd (s.m.view 0) (cSlot s.k0 (s.gen + 1) j) x cBot = s.hb := by
    rw [upd_other _ _ _ _ (cSlot_ne_bot _ _ _).symm, hBH]
  ok_store h hpc _ x s.hb s.wf s.vals s.pushed p'
    ⟨cSlot_ne_arr _ _ _, fun g _ hg _ _ => cSlot_gen_ne s.k0 (by omega) _ _, fun _ _ _ => rfl⟩
    (Or.inr ⟨_, j, rfl, Nat.le_succ _⟩) (Int.le_refl _) (Int.le_of_eq hbot)
    (Int.le_of_eq (hbot.trans hWH.symm)) h.1.cap (fun i h1 h2 => by omega) hown
    h.1.perm hh

/-! ### the element store `a[b & mask] = p` -/

theorem ok_wrSlot {s s' : St} {t : Nat} {g i : Nat} {x : Int} (h : Ok s)
    (hs : step s (.wrSlot t g i x) = some s') : Ok s' := by
  simp only [step] at hs
  split at hs
  · next v b tt g' j y hpc =>
    obtain rfl := tid_zero h.1 hpc (by simp [thiefOk])
    obtain ⟨hb, hB, hW, htT, rfl, h1, h2, hcopy, hy⟩ := h.1.ownerAt hpc
    have hcap := h.1.cap
    have hsz : size s.k0 s.gen ≤ size s.k0 (s.gen + 1) := size_mono s.k0 (Nat.le_succ s.gen)
    obtain ⟨⟨rfl, -, rfl⟩, hnext⟩ := of_ite_ite_some hs
    have hpromise : ∀ j', s.m.mem cTop ≤ j' → j' < j + 1 →
        (s.m.store 0 (cSlot s.k0 (s.gen + 1) j) x).view 0 (cSlot s.k0 (s.gen + 1) j') = s.vals j' := by
      intro j' h3 h4
      rw [view_store_self]
      by_cases hjj : j' = j
      · subst hjj; rw [upd_same]; exact hy h3
      · rw [upd_other _ _ _ _ (cSlot_ne (by omega) (by omega))]
        exact hcopy j' h3 (by omega)
    have hbot : (s.m.store 0 (cSlot s.k0 (s.gen + 1) j) x).view 0 cBot = s.hb := by
      rw [view_store_self, upd_other _ _ _ _ (cSlot_ne_bot _ _ _).symm]; exact hB
    obtain ⟨hmore, rfl⟩ | ⟨hlast, rfl⟩ := hnext
    · exact ok_wrCopy h hpc _ hB hW ⟨hb, hbot, hW, htT, rfl, by omega, hmore, hpromise⟩ rfl
    · exact ok_wrCopy h hpc _ hB hW
        ⟨hb, hbot, hW, rfl, fun j' h3 h4 => hpromise j' h3 (by omega)⟩ rfl
  · next v b g' hpc =>
    obtain rfl := tid_zero h.1 hpc (by simp [thiefOk])
    obtain ⟨rfl, hB, hW, rfl, hcap⟩ := h.1.ownerAt hpc
    obtain ⟨⟨rfl, -, rfl⟩, rfl⟩ := of_ite_some hs
    have htle := h.1.tle
    have hvals : ∀ i, i ≠ s.hb → setVal s.vals s.hb x i = s.vals i := fun i hi => by
      simp [setVal, hi]
    have hbot : upd (s.m.view 0) (cSlot s.k0 s.gen s.hb) x cBot = s.hb := by
      rw [upd_other _ _ _ _ (cSlot_ne_bot _ _ _).symm, hB]
    refine ok_store h hpc _ x s.hb (s.hb + 1) (setVal s.vals s.hb x) s.pushed _
      ⟨cSlot_ne_arr _ _ _, fun g i hg h1 h2 => ?_, fun i _ h2 => hvals i (by omega)⟩
      (Or.inr ⟨_, _, rfl, Nat.le_refl _⟩) (Int.le_refl _) (Int.le_of_eq hbot)
      (Int.le_of_eq (hbot.trans hW.symm)) hcap (fun i h1 h2 => ?_) ?_ ?_ rfl
    · -- the slot of the index being pushed is no slot of a live index, in any generation so far
      by_cases hgG : g = s.gen
      · subst hgG; exact (cSlot_ne (by omega) (by omega)).symm
      · exact cSlot_gen_ne s.k0 (Ne.symm hgG) _ _
    · obtain rfl : i = s.hb := by omega
      simp [setVal]
    · simp only [ownerOk, view_store_self, hbot]
      exact ⟨trivial, trivial, trivial, by simp [setVal]⟩
    · have hp := h.1.perm
      simp only [logical] at hp
      rw [seg_congr (g := s.vals) fun i h1 h2 => hvals i (by omega)]
      exact hp
  · cases hs

/-! ### the pointer store `d->underlying_array = na` -/

theorem ok_stArr {s s' : St} {t : Nat} {g : Nat} (h : Ok s)
    (hs : step s (.stArr t g) = some s') : Ok s' := by
  obtain ⟨hI, hA⟩ := h
  simp only [step] at hs
  split at hs
  · next v b tt g' hpc =>
    obtain rfl := tid_zero hI hpc (by simp [thiefOk])
    obtain ⟨rfl, hB, hW, rfl, hcopy⟩ := hI.ownerAt hpc
    obtain ⟨rfl, rfl⟩ := of_ite_some hs
    have harr := hI.arrOwn
    have htle := hI.tle
    have hcap := hI.cap
    have hsz := size_succ s.k0 s.gen
    have hsp := size_pos s.k0 s.gen
    have hslot : ∀ i, s.m.mem cTop ≤ i → i < s.hb → Stable s.k0 s.vals i
        (upd (s.m.view 0) cArr ((s.gen + 1 : Nat) : Int)) [] := fun i h1 h2 => by
      refine ⟨?_, fun e he => nomatch he⟩
      rw [upd_same, Int.toNat_natCast, upd_other _ _ _ _ (cSlot_ne_arr _ _ _)]
      exact hcopy i h1 h2
    refine ⟨⟨hI.fen, hI.ord, fun u hu => ?_, ?_, ?_, ?_, ?_, hI.tle, ?_, ?_, fun u hu => ?_, hI.perm⟩,
      hA.move 0 (by rw [hpc]; rfl)⟩
    · simp only [store_buf_other _ _ _ _ _ hu]; exact hI.bufs u hu
    · show AllViews _ 0 (ViewOk s.k0 (s.gen + 1) s.hb)
      refine views_store hI.views (Nat.le_succ _) (Int.le_refl _)
        (fun a ha => Or.inr (Or.inl ⟨rfl, by omega, Int.le_refl _⟩))
        ⟨?_, ?_, ?_, fun c v hcv => nomatch hcv⟩
      · rw [upd_same]; omega
      · rw [upd_same]; exact Int.le_refl _
      · rw [upd_other _ _ _ _ cArr_ne_bot.symm]; omega
    · show AllViews2 _ 0 (SlotsOk s.k0 (s.m.mem cTop) s.vals)
      refine hI.slots.store ?_ ?_ ?_
      · intro pre mid suf hps hS i h1 h2
        exact (hS i h1 h2).snoc (cSlot_ne_arr _ _ _).symm
      · intro pre suf hps hS i h1 h2
        exact hslot i h1 (by have := (hI.views pre suf hps).2.2.1; omega)
      · intro i h1 h2
        rw [upd_other _ _ _ _ cArr_ne_bot.symm] at h2
        exact hslot i h1 (by omega)
    · simp only [view_store_self, upd_same]
    · simp only [store_mem, view_store_self]
      intro i h1 h2
      rw [upd_other _ _ _ _ (cSlot_ne_arr _ _ _)]
      exact hcopy i h1 (by omega)
    · simp only [store_mem]; omega
    · simp only [upd_same, ownerOk, view_store_self, upd_other _ _ _ _ cArr_ne_bot.symm, store_mem]
      exact ⟨trivial, hB, hW, trivial, by omega⟩
    · simp only [upd_other _ _ _ _ hu]
      refine thiefOk_frame (hI.thief u hu) rfl (Nat.le_succ _) fun a => ⟨a, rfl,
        fun S => S.store (fun μ suf _ hS => hS.snoc (cSlot_ne_arr _ _ _).symm)
          (hslot _ (Int.le_refl _) a),
        fun g _ S => S.store (fun _ _ _ hS => hS) ?_⟩
      rw [upd_other _ _ _ _ (cSlot_ne_arr _ _ _)]; exact S.own
  · cases hs

theorem ok_step {s s' : St} {e : Ev} (h : Ok s) (hs : step s e = some s') :
    Ok s' := by
  cases e with
  | callPush t v | callPop t =>
    obtain ⟨⟨rfl, hpc⟩, rfl⟩ := of_ite_some hs
    exact ownerMove h hpc _ (h.1.ownerAt hpc :) rfl
  | callSteal t =>
    obtain ⟨⟨ht, hpc⟩, rfl⟩ := of_ite_some hs
    exact thiefMove h ht hpc _ trivial rfl
  | retPush t =>
    simp only [step] at hs
    split at hs
    · next hpc =>
      cases hs
      obtain rfl := tid_zero h.1 hpc (by simp [thiefOk])
      exact ownerMove h hpc _ (h.1.ownerAt hpc :) rfl
    · cases hs
  | retPop t r =>
    simp only [step] at hs
    split at hs
    · next r' hpc =>
      obtain ⟨-, rfl⟩ := of_ite_some hs
      obtain rfl := tid_zero h.1 hpc (by simp [thiefOk])
      exact ok_ret h hpc (fun _ => (h.1.ownerAt hpc :)) (by cases r' <;> rfl)
    · cases hs
  | retSteal t r =>
    simp only [step] at hs
    split at hs
    · next r' hpc =>
      obtain ⟨-, rfl⟩ := of_ite_some hs
      have ht := tid_ne_zero h.1 hpc (by simp [ownerOk])
      exact ok_ret h hpc (fun h0 => absurd h0 ht) (by cases r' <;> rfl)
    · cases hs
  | stArrEarly t g =>
    -- on TSO the reordered pointer store does not exist
    simp only [step] at hs
    split at hs
    · have := (of_ite_some hs).1.1.symm.trans h.1.ord; cases this
    · cases hs
  | ldBottom t x => exact ok_ldBottom h hs
  | stBottom t x => exact ok_stBottom h hs
  | ldTop t x => exact ok_ldTop h hs
  | casTop t f e d ok => exact ok_casTop h hs
  | ldArr t g => exact ok_ldArr h hs
  | stArr t g => exact ok_stArr h hs
  | rdSlot t g i x => exact ok_rdSlot h hs
  | wrSlot t g i x => exact ok_wrSlot h hs
  | flush t => exact ok_flush h hs

theorem inv_acc_of_run {k0 : Nat} {es : List Ev} {s : St} (h : (tso k0).run es = some s) :
    Inv s ∧ Acc s :=
  Sys.inv_of_run (sys true true k0) Ok ⟨inv_init k0, acc_init true true k0⟩
    (fun _ _ _ hIA hs => ok_step hIA hs) h

theorem inv_of_run {k0 : Nat} {es : List Ev} {s : St} (h : (tso k0).run es = some s) : Inv s :=
  (inv_acc_of_run h).1

end LibfiberVerif.WsdTsoGrow
