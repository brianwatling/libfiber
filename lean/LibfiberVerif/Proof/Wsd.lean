/-
  Proof/Wsd.lean — the inductive invariant of the Chase–Lev deque model (Model/Wsd.lean).

  `Inv` relates, for the owner's program counter, the published `bottom` to the ghost upper
  end `hb` of the logical contents `[top, hb)`, and for every thief what it has read so far
  to the current state: "if `top` still equals the value `t` I loaded, then `t < hb` and the
  value I read (from whatever generation I hold) is the value of logical index `t` in the
  published generation".  Growth is handled access by access (the copy loop's progress is
  part of the owner's promise), so nothing is assumed about it.
  `Acc` is the ledger of values won but not yet handed back (`Ledger`, stated once here for
  the three deque models).  `Inv` and `Acc` are carried through `step` together (`ok_step`):
  one reading of the accepted step per event serves both.
  Everything holds for any number of thieves, any initial size, unbounded growth.
-/
import LibfiberVerif.Model.Wsd
namespace LibfiberVerif.Wsd

theorem of_ite_some {α : Type} {c : Prop} [Decidable c] {a b : α}
    (h : (if c then some a else none) = some b) : c ∧ a = b := by
  split at h
  · next hc => exact ⟨hc, Option.some.inj h⟩
  · cases h

theorem of_ite_some_some {α : Type} {d : Prop} [Decidable d] {a a' b : α}
    (h : (if d then some a else some a') = some b) : (d ∧ a = b) ∨ (¬ d ∧ a' = b) := by
  split at h
  · next hd => exact Or.inl ⟨hd, Option.some.inj h⟩
  · next hd => exact Or.inr ⟨hd, Option.some.inj h⟩

theorem of_ite_ite_some {α : Type} {c d : Prop} [Decidable c] [Decidable d] {a a' b : α}
    (h : (if c then (if d then some a else some a') else none) = some b) :
    c ∧ ((d ∧ a = b) ∨ (¬ d ∧ a' = b)) := by
  split at h
  · next hc => exact ⟨hc, of_ite_some_some h⟩
  · cases h

theorem upd_cases {α : Type} {P : α → Prop} {f : Nat → α} {t : Nat} {x : α} (u : Nat)
    (hold : u ≠ t → P (f u)) (hnew : u = t → P x) : P (upd f t x u) := by
  by_cases h : u = t
  · rw [h, upd_same]; exact hnew h
  · rw [upd_other _ _ _ _ h]; exact hold h

theorem eq_of_emod_eq {n i j : Int} (h : i % n = j % n) (h1 : i - j < n) (h2 : j - i < n) : i = j := by
  have hd : n ∣ i - j := Int.dvd_of_emod_eq_zero (Int.emod_eq_emod_iff_emod_sub_eq_zero.mp h)
  rcases Int.lt_trichotomy (i - j) 0 with hlt | heq | hgt
  · have := Int.le_of_dvd (by omega) (Int.dvd_neg.mpr hd); omega
  · omega
  · have := Int.le_of_dvd hgt hd; omega

theorem sz_pos (k : Nat) : 0 < sz k := by
  unfold sz; exact Int.pow_pos (by decide)

theorem sz_succ (k : Nat) : sz (k + 1) = 2 * sz k := by
  unfold sz; rw [Int.pow_succ]; omega

theorem idx_inj {k : Nat} {i j : Int} (h : idx k i = idx k j) (h1 : i - j < sz k) (h2 : j - i < sz k) :
    i = j := eq_of_emod_eq h h1 h2

/-- `[f lo, f (lo+1), …, f (lo+n-1)]` -/
def seg (f : Int → Int) : Int → Nat → List Int
  | _, 0 => []
  | lo, n + 1 => f lo :: seg f (lo + 1) n

theorem seg_snoc (f : Int → Int) (lo : Int) (n : Nat) :
    seg f lo (n + 1) = seg f lo n ++ [f (lo + n)] := by
  induction n generalizing lo with
  | zero => simp [seg]
  | succ n ih =>
    rw [seg, ih (lo + 1)]
    have : lo + 1 + (n : Int) = lo + ((n + 1 : Nat) : Int) := by omega
    rw [this]
    simp only [seg, List.cons_append]

theorem seg_congr {f g : Int → Int} {lo : Int} {n : Nat}
    (h : ∀ i, lo ≤ i → i < lo + n → f i = g i) : seg f lo n = seg g lo n := by
  induction n generalizing lo with
  | zero => rfl
  | succ n ih =>
    simp only [seg]
    rw [h lo (by omega) (by omega), ih (fun i h1 h2 => h i (by omega) (by omega))]

theorem seg_head (f : Int → Int) (lo hi : Int) (h : lo < hi) :
    seg f lo (hi - lo).toNat = f lo :: seg f (lo + 1) (hi - (lo + 1)).toNat := by
  have : (hi - lo).toNat = (hi - (lo + 1)).toNat + 1 := by omega
  rw [this, seg]

theorem perm_push {P K : List Int} {f : Int → Int} {T H : Int}
    (hp : P.Perm (K ++ seg f T (H - T).toNat)) (hT : T ≤ H) :
    (P ++ [f H]).Perm (K ++ seg f T (H + 1 - T).toNat) := by
  have hn : (H + 1 - T).toNat = (H - T).toNat + 1 := by omega
  have hb : T + ((H - T).toNat : Int) = H := by omega
  rw [hn, seg_snoc, hb, ← List.append_assoc]
  exact List.Perm.append_right _ hp

theorem perm_take {P K : List Int} {f : Int → Int} {T b : Int}
    (hp : P.Perm (K ++ seg f T (b + 1 - T).toNat)) (hT : T ≤ b) :
    P.Perm ((K ++ [f b]) ++ seg f T (b - T).toNat) := by
  have hn : (b + 1 - T).toNat = (b - T).toNat + 1 := by omega
  have hb : T + ((b - T).toNat : Int) = b := by omega
  rw [hn, seg_snoc, hb] at hp
  rw [List.append_assoc]
  exact hp.trans (List.Perm.append_left K List.perm_append_comm)

/-- `taken` grows at commit points, `returned` at API-level returns; `hd u` is the value thread `u`
    has won and not yet handed back (read off its program counter), and `owed` lists exactly those.
    Shared by the three deque models. -/
structure Ledger (hd : Nat → Option Int) (owed : List (Nat × Int)) (taken returned : List Int) :
    Prop where
  mem : ∀ u x, (u, x) ∈ owed ↔ hd u = some x
  nodup : owed.Nodup
  perm : taken.Perm (returned ++ owed.map Prod.snd)

section
variable {α : Type} {f : α → Option Int} {pc : Nat → α} {owed : List (Nat × Int)}
  {taken returned : List Int}

theorem Ledger.congr {hd hd' : Nat → Option Int} (h : Ledger hd owed taken returned)
    (he : ∀ u, hd' u = hd u) : Ledger hd' owed taken returned :=
  ⟨fun u x => by rw [he]; exact h.mem u x, h.nodup, h.perm⟩

theorem Ledger.move (h : Ledger (fun u => f (pc u)) owed taken returned) (t : Nat) {p' : α}
    (hf : f p' = f (pc t)) : Ledger (fun u => f (upd pc t p' u)) owed taken returned :=
  h.congr fun u => by
    by_cases hu : u = t
    · subst hu; simp only [upd_same]; exact hf
    · simp only [upd_other _ _ _ _ hu]

theorem Ledger.commit (h : Ledger (fun u => f (pc u)) owed taken returned) (t : Nat) {p' : α}
    {x : Int} (hold : f (pc t) = none) (hnew : f p' = some x) :
    Ledger (fun u => f (upd pc t p' u)) (owed ++ [(t, x)]) (taken ++ [x]) returned := by
  have hnot : ∀ y, (t, y) ∉ owed := fun y hy => by
    have := (h.mem t y).mp hy; simp only [hold] at this; cases this
  refine ⟨fun u y => ?_, ?_, ?_⟩
  · rw [List.mem_append, List.mem_singleton, Prod.mk.injEq]
    by_cases hu : u = t
    · subst hu
      simp only [upd_same, hnew, Option.some.injEq, true_and]
      exact ⟨fun h' => h'.elim (fun h' => absurd h' (hnot y)) Eq.symm, fun h' => Or.inr h'.symm⟩
    · simp only [upd_other _ _ _ _ hu, ← h.mem u y, hu, false_and, or_false]
  · refine List.nodup_append.mpr ⟨h.nodup, by simp, ?_⟩
    intro a ha b hb hab
    rw [List.mem_singleton] at hb; subst hb; subst hab; exact hnot x ha
  · rw [List.map_append, ← List.append_assoc]
    exact List.Perm.append_right _ h.perm

theorem Ledger.ret (h : Ledger (fun u => f (pc u)) owed taken returned) (t : Nat) {p' : α}
    (r : Res) (hold : f (pc t) = (match r with | .val x => some x | _ => none))
    (hnew : f p' = none) :
    Ledger (fun u => f (upd pc t p' u)) (r.settle t owed) taken (returned ++ r.vals) := by
  cases r with
  | val x =>
    have hin : (t, x) ∈ owed := (h.mem t x).mpr hold
    refine ⟨fun u y => ?_, h.nodup.erase _, ?_⟩
    · simp only [Res.settle]
      rw [h.nodup.mem_erase_iff, Ne, Prod.mk.injEq]
      by_cases hu : u = t
      · subst hu
        simp only [upd_same, hnew, true_and]
        refine ⟨fun ⟨hne, hm⟩ => ?_, fun h' => by cases h'⟩
        have := (h.mem u y).mp hm; simp only [hold, Option.some.injEq] at this
        exact absurd this.symm hne
      · simp only [upd_other _ _ _ _ hu, hu, false_and, not_false_eq_true, true_and]
        exact h.mem u y
    · have h2 := (List.perm_cons_erase hin).map Prod.snd
      refine h.perm.trans ((List.Perm.append_left returned h2).trans ?_)
      simp [Res.vals, Res.settle]
  | _ =>
    simp only [Res.settle, Res.vals, List.append_nil]
    exact h.move t (hnew.trans hold.symm)
end

/-- value stored for logical index `i` in generation `g` -/
def atg (k0 : Nat) (sl : Nat → Int → Int) (g : Nat) (i : Int) : Int := sl g (idx (k0 + g) i)

theorem at_eq (s : St) (g : Nat) (i : Int) : s.at g i = atg s.k0 s.slot g i := rfl

/-- what the owner's program counter promises (`rc`/`wt` = the owner's `raced`/`wit` flags) -/
def ownerOk (k0 : Nat) (T B H : Int) (A : Nat) (sl : Nat → Int → Int) (rc wt : Bool) : Pc → Prop
  | .idle | .pushCalled _ | .pushDone | .popCalled => B = H
  | .pushGotB _ b => b = B ∧ B = H
  | .pushGotT _ b t => b = B ∧ B = H ∧ t ≤ T ∧ b - t ≤ sz (k0 + A) - 1
  | .pushCopy _ b t g i => b = B ∧ B = H ∧ t ≤ T ∧ g = A ∧ b - t ≤ sz (k0 + g) - 1 ∧ t ≤ i ∧ i < b ∧
      ∀ j, t ≤ j → j < i → atg k0 sl (g + 1) j = atg k0 sl g j
  | .pushCopyW _ b t g i x => b = B ∧ B = H ∧ t ≤ T ∧ g = A ∧ b - t ≤ sz (k0 + g) - 1 ∧ t ≤ i ∧ i < b ∧
      (∀ j, t ≤ j → j < i → atg k0 sl (g + 1) j = atg k0 sl g j) ∧ x = atg k0 sl g i
  | .pushPublish _ b t g => b = B ∧ B = H ∧ t ≤ T ∧ g = A ∧ b - t ≤ sz (k0 + g) - 1 ∧
      ∀ j, t ≤ j → j < b → atg k0 sl (g + 1) j = atg k0 sl g j
  | .pushPut _ b g => b = B ∧ B = H ∧ g = A ∧ b + 1 - T ≤ sz (k0 + g) - 1
  | .pushWritten v b => b = B ∧ B = H ∧ b + 1 - T ≤ sz (k0 + A) - 1 ∧ atg k0 sl A b = v
  | .popGotB b => b + 1 = B ∧ B = H
  | .popGotArr b g => b + 1 = B ∧ B = H ∧ g = A
  | .popStored b g => B = b ∧ H = b + 1 ∧ g = A
  | .popEmpty t => H = t ∧ T = t ∧ B + 1 = H ∧ wt = true
  | .popTake b g t => g = A ∧ B = b ∧ t ≤ T ∧ (rc = false → T = t) ∧
      ((t < b ∧ H = b) ∨ (t = b ∧ H = b + 1))
  | .popRead b t x => t = b ∧ B = b ∧ H = b + 1 ∧ t ≤ T ∧ (rc = false → T = t) ∧ x = atg k0 sl A b
  | .popCased t r => B = t ∧ H = t + 1 ∧ T = H ∧ (r = .abort → rc = true) ∧ r ≠ .empty
  | .popDone r => B = H ∧ (r = .abort → rc = true) ∧ (r = .empty → wt = true)
  | _ => False

def thiefOk (k0 : Nat) (T H : Int) (A : Nat) (sl : Nat → Int → Int) (rc wt : Bool) : Pc → Prop
  | .idle | .stealCalled => True
  | .stealGotT t => t ≤ T ∧ (rc = false → T = t)
  | .stealGotB t b => t ≤ T ∧ (rc = false → T = t) ∧ (t < b → T = t → t < H) ∧ (b ≤ t → wt = true)
  | .stealGotArr t g => t ≤ T ∧ (rc = false → T = t) ∧ g ≤ A ∧
      (T = t → t < H ∧ atg k0 sl g t = atg k0 sl A t)
  | .stealRead t g x => t ≤ T ∧ (rc = false → T = t) ∧ g ≤ A ∧ (T = t → t < H ∧ x = atg k0 sl A t)
  | .stealDone r => (r = .abort → rc = true) ∧ (r = .empty → wt = true)
  | _ => False

/-- the logical contents: values of indices `[top, hb)` in the published generation -/
def logical (s : St) : List Int := seg (atg s.k0 s.slot s.arr) s.top (s.hb - s.top).toNat

structure Inv (s : St) : Prop where
  owner : ownerOk s.k0 s.top s.bottom s.hb s.arr s.slot (s.raced 0) (s.wit 0) (s.pc 0)
  thief : ∀ u, u ≠ 0 → thiefOk s.k0 s.top s.hb s.arr s.slot (s.raced u) (s.wit u) (s.pc u)
  tle : s.top ≤ s.hb
  ble : s.bottom ≤ s.hb
  cap : s.hb - s.top ≤ sz (s.k0 + s.arr) - 1
  perm : s.pushed.Perm (s.taken ++ logical s)

/-- the value a thread has won but not yet handed back to its caller -/
def holdsPc (k0 : Nat) (sl : Nat → Int → Int) : Pc → Option Int
  | .popTake b g t => if t < b then some (atg k0 sl g b) else none
  | .popCased _ (.val x) => some x
  | .popDone (.val x) => some x
  | .stealDone (.val x) => some x
  | _ => none

theorem holdsPc_popDone (k0 : Nat) (sl : Nat → Int → Int) (t : Int) (r : Res) :
    holdsPc k0 sl (.popDone r) = holdsPc k0 sl (.popCased t r) := by cases r <;> rfl

def holds (s : St) (u : Nat) : Option Int := holdsPc s.k0 s.slot (s.pc u)

abbrev Acc (s : St) : Prop :=
  Ledger (fun u => holdsPc s.k0 s.slot (s.pc u)) s.owed s.taken s.returned

abbrev Ok (s : St) : Prop := Inv s ∧ Acc s

theorem inv_init (k0 : Nat) : Inv (init k0) := by
  refine ⟨rfl, fun _ _ => trivial, Int.le_refl _, Int.le_refl _, ?_, List.Perm.refl _⟩
  show (0 : Int) - 0 ≤ sz (k0 + 0) - 1
  have := sz_pos (k0 + 0); omega

theorem acc_init (k0 : Nat) : Acc (init k0) := by
  refine ⟨?_, ?_, ?_⟩ <;> simp [init, holdsPc]

theorem Inv.ownerAt {s : St} (hI : Inv s) {p : Pc} (hpc : s.pc 0 = p) :
    ownerOk s.k0 s.top s.bottom s.hb s.arr s.slot (s.raced 0) (s.wit 0) p := hpc ▸ hI.owner

theorem Inv.thiefAt {s : St} (hI : Inv s) {t : Nat} (ht : t ≠ 0) {p : Pc} (hpc : s.pc t = p) :
    thiefOk s.k0 s.top s.hb s.arr s.slot (s.raced t) (s.wit t) p := hpc ▸ hI.thief t ht

theorem tid_zero {s : St} (hI : Inv s) {t : Nat} {p : Pc} (hpc : s.pc t = p)
    (hp : ∀ k0 T H A sl rc wt, ¬ thiefOk k0 T H A sl rc wt p) : t = 0 :=
  Classical.byContradiction fun hne => hp _ _ _ _ _ _ _ (hI.thiefAt hne hpc)

theorem tid_ne_zero {s : St} (hI : Inv s) {t : Nat} {p : Pc} (hpc : s.pc t = p)
    (hp : ∀ k0 T B H A sl rc wt, ¬ ownerOk k0 T B H A sl rc wt p) : t ≠ 0 := by
  rintro rfl; exact hp _ _ _ _ _ _ _ _ (hI.ownerAt hpc)

theorem ownerOk_top_succ {k0 T B H A sl rc wt p} (h : ownerOk k0 T B H A sl rc wt p) (hlt : T < H) :
    ownerOk k0 (T + 1) B H A sl true wt p := by
  cases p <;> simp [ownerOk] at h ⊢ <;> grind

theorem thiefOk_top_succ {k0 T H A sl rc wt p} (h : thiefOk k0 T H A sl rc wt p) :
    thiefOk k0 (T + 1) H A sl true wt p := by
  cases p <;> simp [thiefOk] at h ⊢ <;> grind

theorem owner_window {k0 T B H A sl rc wt p} (h : ownerOk k0 T B H A sl rc wt p)
    (hw : p.popWindow = false) : B = H := by
  cases p <;> simp [ownerOk, Pc.popWindow] at h hw ⊢ <;> omega

/-- a thief's promise speaks of `top`, its flags and, if `top` is the index it is after, of that
    index only: that it is below `hb`, and its value in the generations up to the published one -/
theorem thiefOk_frame {k0 T H H' A A' sl sl' rc wt p} (h : thiefOk k0 T H A sl rc wt p)
    (hA : A ≤ A')
    (hhead : T < H → T < H' ∧ atg k0 sl' A' T = atg k0 sl A T ∧
      ∀ g, g ≤ A → atg k0 sl' g T = atg k0 sl g T) :
    thiefOk k0 T H' A' sl' rc wt p := by
  cases p <;> simp only [thiefOk] at h ⊢ <;> try exact h
  · exact ⟨h.1, h.2.1, fun h1 h2 => h2 ▸ (hhead (h2 ▸ h.2.2.1 h1 h2)).1, h.2.2.2⟩
  · obtain ⟨h1, h2, h3, h4⟩ := h
    refine ⟨h1, h2, by omega, fun ht => ?_⟩
    subst ht
    obtain ⟨h5, h6⟩ := h4 rfl
    obtain ⟨a, b, c⟩ := hhead h5
    exact ⟨a, by rw [c _ h3, b, h6]⟩
  · obtain ⟨h1, h2, h3, h4⟩ := h
    refine ⟨h1, h2, by omega, fun ht => ?_⟩
    subst ht
    obtain ⟨h5, h6⟩ := h4 rfl
    obtain ⟨a, b, -⟩ := hhead h5
    exact ⟨a, by rw [b, h6]⟩

theorem atg_setSlot_gen {k0 sl g g' i x j} (hg : g ≠ g') :
    atg k0 (setSlot sl g' i x) g j = atg k0 sl g j := by
  simp [atg, setSlot, hg]

theorem atg_setSlot_idx {k0 sl g i x j} (h1 : i - j < sz (k0 + g)) (h2 : j - i < sz (k0 + g))
    (hne : i ≠ j) : atg k0 (setSlot sl g (idx (k0 + g) i) x) g j = atg k0 sl g j := by
  have : idx (k0 + g) j ≠ idx (k0 + g) i := fun h => hne (idx_inj h h2 h1).symm
  simp [atg, setSlot, this]

theorem atg_setSlot_same {k0 sl g i x} :
    atg k0 (setSlot sl g (idx (k0 + g) i) x) g i = x := by
  simp [atg, setSlot]

theorem Inv.move {s : St} (hI : Inv s) (t : Nat) (p' : Pc) (R' W' : Nat → Bool)
    (hR : ∀ w, w ≠ t → R' w = s.raced w) (hW : ∀ w, w ≠ t → W' w = s.wit w)
    (hown : t = 0 → ownerOk s.k0 s.top s.bottom s.hb s.arr s.slot (R' 0) (W' 0) p')
    (hth : t ≠ 0 → thiefOk s.k0 s.top s.hb s.arr s.slot (R' t) (W' t) p') :
    Inv { s with pc := upd s.pc t p', raced := R', wit := W' } := by
  refine ⟨?_, fun w hw => ?_, hI.tle, hI.ble, hI.cap, hI.perm⟩
  · exact upd_cases (P := ownerOk s.k0 s.top s.bottom s.hb s.arr s.slot (R' 0) (W' 0)) 0
      (fun h0 => by rw [hR 0 h0, hW 0 h0]; exact hI.owner) fun h0 => hown h0.symm
  · exact upd_cases (P := thiefOk s.k0 s.top s.hb s.arr s.slot (R' w) (W' w)) w
      (fun h => by rw [hR w h, hW w h]; exact hI.thief w hw) fun h => by subst h; exact hth hw

theorem move {s : St} (h : Ok s) (t : Nat) {p : Pc} (hpc : s.pc t = p) (p' : Pc)
    (R' W' : Nat → Bool)
    (hR : ∀ w, w ≠ t → R' w = s.raced w) (hW : ∀ w, w ≠ t → W' w = s.wit w)
    (hown : t = 0 → ownerOk s.k0 s.top s.bottom s.hb s.arr s.slot (R' 0) (W' 0) p')
    (hth : t ≠ 0 → thiefOk s.k0 s.top s.hb s.arr s.slot (R' t) (W' t) p')
    (hh : holdsPc s.k0 s.slot p' = holdsPc s.k0 s.slot p) :
    Ok { s with pc := upd s.pc t p', raced := R', wit := W' } :=
  ⟨h.1.move t p' R' W' hR hW hown hth,
    h.2.move t (hpc ▸ hh)⟩

theorem ownerMove {s : St} (h : Ok s) {p : Pc} (hpc : s.pc 0 = p) (p' : Pc)
    (hown : ownerOk s.k0 s.top s.bottom s.hb s.arr s.slot (s.raced 0) (s.wit 0) p')
    (hh : holdsPc s.k0 s.slot p' = holdsPc s.k0 s.slot p) :
    Ok { s with pc := upd s.pc 0 p' } :=
  move h 0 hpc p' s.raced s.wit (fun _ _ => rfl) (fun _ _ => rfl) (fun _ => hown)
    (fun h0 => absurd rfl h0) hh

theorem thiefMove {s : St} (h : Ok s) {t : Nat} (ht : t ≠ 0) {p : Pc} (hpc : s.pc t = p)
    (p' : Pc) (hth : thiefOk s.k0 s.top s.hb s.arr s.slot (s.raced t) (s.wit t) p')
    (hh : holdsPc s.k0 s.slot p' = holdsPc s.k0 s.slot p) :
    Ok { s with pc := upd s.pc t p' } :=
  move h t hpc p' s.raced s.wit (fun _ _ => rfl) (fun _ _ => rfl) (fun h0 => absurd h0 ht)
    (fun _ => hth) hh

theorem ok_ret {s : St} (h : Ok s) {t : Nat} {r : Res} {p : Pc} (hpc : s.pc t = p)
    (hown : t = 0 → ownerOk s.k0 s.top s.bottom s.hb s.arr s.slot (s.raced 0) (s.wit 0) .idle)
    (hh : holdsPc s.k0 s.slot p = (match r with | .val x => some x | _ => none)) :
    Ok { s with pc := upd s.pc t .idle, returned := s.returned ++ r.vals,
                 owed := r.settle t s.owed } := by
  -- taken apart and put together again: the state differs from `Inv.move`'s in `returned` and
  -- `owed`, which `Inv` does not mention
  obtain ⟨a, b, c, d, e, f⟩ := h.1.move t .idle s.raced s.wit (fun _ _ => rfl) (fun _ _ => rfl)
    hown (fun _ => trivial)
  exact ⟨⟨a, b, c, d, e, f⟩,
    h.2.ret t r (hpc ▸ hh) rfl⟩

theorem ok_ldBottom {s s' : St} {t : Nat} {x : Int} {mo : Nat} (h : Ok s)
    (hs : step s (.ldBottom t x mo) = some s') : Ok s' := by
  simp only [step] at hs
  split at hs
  -- push_bottom's and pop_bottom's load: the owner reads its own `bottom`
  iterate 2
    rename_i hpc
    obtain rfl := tid_zero h.1 hpc (by simp [thiefOk])
    obtain ⟨⟨rfl, -⟩, rfl⟩ := of_ite_some hs
    exact ownerMove h hpc _ ⟨by omega, h.1.ownerAt hpc⟩ rfl
  · next tt hpc =>
    have ht := tid_ne_zero h.1 hpc (by simp [ownerOk])
    obtain ⟨hth1, hth2⟩ := h.1.thiefAt ht hpc
    obtain ⟨⟨rfl, -⟩, rfl⟩ := of_ite_some hs
    have hble := h.1.ble
    refine move h t hpc _ s.raced _ (fun _ _ => rfl) (fun w hw => upd_other _ _ _ _ hw)
      (fun h0 => absurd h0 ht) (fun _ => ?_) rfl
    simp only [upd_same, thiefOk, Bool.or_eq_true, decide_eq_true_eq]
    refine ⟨hth1, hth2, fun h1 h2 => by omega, fun hle => ?_⟩
    cases hw : (s.pc 0).popWindow
    · left; have := owner_window h.1.owner hw; omega
    · right; rfl
  · cases hs

theorem ok_ldTop {s s' : St} {t : Nat} {x : Int} {mo : Nat} (h : Ok s)
    (hs : step s (.ldTop t x mo) = some s') : Ok s' := by
  obtain ⟨hI, hA⟩ := h
  simp only [step] at hs
  split at hs
  · next v b hpc =>
    obtain rfl := tid_zero hI hpc (by simp [thiefOk])
    obtain ⟨⟨rfl, -⟩, rfl⟩ := of_ite_some hs
    obtain ⟨h1, h2⟩ := hI.ownerAt hpc
    have hcap := hI.cap
    refine move ⟨hI, hA⟩ 0 hpc _ _ s.wit (fun w hw => upd_other _ _ _ _ hw) (fun _ _ => rfl)
      (fun _ => ?_) (fun h0 => absurd rfl h0) rfl
    exact ⟨h1, h2, Int.le_refl _, by rw [h1, h2]; exact hcap⟩
  · next b g hpc =>
    obtain rfl := tid_zero hI hpc (by simp [thiefOk])
    obtain ⟨h1, h2, h3⟩ := hI.ownerAt hpc
    have htle := hI.tle
    split at hs
    · next hc =>
      obtain ⟨rfl, -⟩ := hc
      split at hs
      · next hlt =>
        cases hs
        refine move ⟨hI, hA⟩ 0 hpc _ _ _ (fun w hw => upd_other _ _ _ _ hw)
          (fun w hw => upd_other _ _ _ _ hw) (fun _ => ?_) (fun h0 => absurd rfl h0) rfl
        simp only [upd_same, ownerOk, decide_eq_true_eq]
        exact ⟨by omega, trivial, by omega, by omega⟩
      · split at hs
        · next hlt =>
          -- commit: the owner takes element b without a CAS
          cases hs
          have hcap := hI.cap
          refine ⟨⟨?_, fun u hu => ?_, ?_, ?_, ?_, ?_⟩, ?_⟩
          · simp only [upd_same, ownerOk]
            exact ⟨h3, h1, Int.le_refl _, fun _ => trivial, Or.inl ⟨hlt, trivial⟩⟩
          · simp only [upd_other _ _ _ _ hu]
            exact thiefOk_frame (hI.thief u hu) (Nat.le_refl _) fun _ => ⟨hlt, rfl, fun _ _ => rfl⟩
          · simp only; omega
          · simp only; omega
          · simp only; omega
          · have hp := hI.perm
            simp only [logical, h2] at hp
            simp only [logical, at_eq, h3]
            exact perm_take hp (by omega)
          · exact hA.commit 0 (by rw [hpc]; rfl)
              (by simp only [holdsPc, hlt, if_true, at_eq])
        · next hnlt2 =>
          cases hs
          refine move ⟨hI, hA⟩ 0 hpc _ _ s.wit (fun w hw => upd_other _ _ _ _ hw) (fun _ _ => rfl)
            (fun _ => ?_) (fun h0 => absurd rfl h0) (by simp only [holdsPc, hnlt2, if_false])
          exact ⟨h3, h1, Int.le_refl _, fun _ => rfl, Or.inr ⟨by omega, h2⟩⟩
    · cases hs
  · next hpc =>
    have ht := tid_ne_zero hI hpc (by simp [ownerOk])
    obtain ⟨⟨rfl, -⟩, rfl⟩ := of_ite_some hs
    exact move ⟨hI, hA⟩ t hpc _ _ s.wit (fun w hw => upd_other _ _ _ _ hw) (fun _ _ => rfl)
      (fun h0 => absurd h0 ht) (fun _ => ⟨Int.le_refl _, fun _ => rfl⟩) rfl
  · cases hs

theorem ok_ldArr {s s' : St} {t : Nat} {g : Nat} {mo : Nat} (h : Ok s)
    (hs : step s (.ldArr t g mo) = some s') : Ok s' := by
  simp only [step] at hs
  split at hs
  · next v b tt hpc =>
    obtain rfl := tid_zero h.1 hpc (by simp [thiefOk])
    obtain ⟨h1, h2, h3, h4⟩ := h.1.ownerAt hpc
    split at hs
    · next hc =>
      obtain ⟨rfl, -⟩ := hc
      split at hs
      · obtain ⟨hlt, rfl⟩ | ⟨hnlt, rfl⟩ := of_ite_some_some hs
        · exact ownerMove h hpc _
            ⟨h1, h2, h3, rfl, h4, Int.le_refl _, hlt, fun j h5 h6 => by omega⟩ rfl
        · exact ownerMove h hpc _ ⟨h1, h2, h3, rfl, h4, fun j h5 h6 => by omega⟩ rfl
      · next hngrow =>
        cases hs
        exact ownerMove h hpc _ ⟨h1, h2, rfl, by omega⟩ rfl
    · cases hs
  · next b hpc =>
    obtain rfl := tid_zero h.1 hpc (by simp [thiefOk])
    obtain ⟨⟨rfl, -⟩, rfl⟩ := of_ite_some hs
    obtain ⟨h1, h2⟩ := h.1.ownerAt hpc
    exact ownerMove h hpc _ ⟨h1, h2, rfl⟩ rfl
  · next tt b hpc =>
    have ht := tid_ne_zero h.1 hpc (by simp [ownerOk])
    obtain ⟨h1, h2, h3, h4⟩ := h.1.thiefAt ht hpc
    obtain ⟨⟨rfl, -⟩, ⟨hle, rfl⟩ | ⟨hnle, rfl⟩⟩ := of_ite_ite_some hs
    · exact thiefMove h ht hpc _ ⟨nofun, fun _ => h4 hle⟩ rfl
    · exact thiefMove h ht hpc _
        ⟨h1, h2, Nat.le_refl _, fun hT => ⟨h3 (by omega) hT, rfl⟩⟩ rfl
  · cases hs

theorem ok_rdSlot {s s' : St} {t : Nat} {g : Nat} {i x : Int} (h : Ok s)
    (hs : step s (.rdSlot t g i x) = some s') : Ok s' := by
  simp only [step] at hs
  split at hs
  · next v b tt g' j hpc =>
    obtain rfl := tid_zero h.1 hpc (by simp [thiefOk])
    obtain ⟨⟨rfl, rfl, rfl⟩, rfl⟩ := of_ite_some hs
    obtain ⟨h1, h2, h3, h4, h5, h6, h7, h8⟩ := h.1.ownerAt hpc
    exact ownerMove h hpc _ ⟨h1, h2, h3, h4, h5, h6, h7, h8, rfl⟩ rfl
  · next b g' tt hpc =>
    obtain rfl := tid_zero h.1 hpc (by simp [thiefOk])
    obtain ⟨h1, h2, h3, h4, h5⟩ := h.1.ownerAt hpc
    obtain ⟨⟨rfl, rfl, rfl⟩, ⟨hlt, rfl⟩ | ⟨hnlt, rfl⟩⟩ := of_ite_ite_some hs
    · refine ownerMove h hpc _ ?_ (by simp only [holdsPc, hlt, if_true]; rfl)
      simp only [ownerOk]
      exact ⟨by omega, nofun, nofun⟩
    · refine ownerMove h hpc _ ?_ (by simp only [holdsPc, hnlt, if_false])
      exact ⟨by omega, h2, by omega, h3, h4, h1 ▸ rfl⟩
  · next tt g' hpc =>
    have ht := tid_ne_zero h.1 hpc (by simp [ownerOk])
    obtain ⟨h1, h2, h3, h4⟩ := h.1.thiefAt ht hpc
    obtain ⟨⟨rfl, rfl, rfl⟩, rfl⟩ := of_ite_some hs
    exact thiefMove h ht hpc _ ⟨h1, h2, h3, fun hT => ⟨(h4 hT).1, (h4 hT).2⟩⟩ rfl
  · cases hs

/-- slot writes happen only while the owner is inside push_bottom: nobody holds a value whose
    identity depends on a slot -/
theorem holdsPc_thief {k0 T H A sl sl' rc wt p} (h : thiefOk k0 T H A sl rc wt p) :
    holdsPc k0 sl' p = holdsPc k0 sl p := by
  cases p with
  | stealDone r => cases r <;> rfl
  | _ => first | rfl | exact h.elim

theorem ok_setSlot {s : St} (h : Ok s) {p : Pc} (hpc : s.pc 0 = p)
    (sl' : Nat → Int → Int) (p' : Pc)
    (hkeep : ∀ g k, g ≤ s.arr → s.top ≤ k → k < s.hb → atg s.k0 sl' g k = atg s.k0 s.slot g k)
    (hown : ownerOk s.k0 s.top s.bottom s.hb s.arr sl' (s.raced 0) (s.wit 0) p')
    (hold : holdsPc s.k0 s.slot p = none) (hnew : holdsPc s.k0 sl' p' = none) :
    Ok { s with slot := sl', pc := upd s.pc 0 p' } := by
  obtain ⟨hI, hA⟩ := h
  have htle := hI.tle
  refine ⟨⟨by simp only [upd_same]; exact hown, fun u hu => ?_, hI.tle, hI.ble, hI.cap, ?_⟩,
    hA.congr fun u => ?_⟩
  · simp only [upd_other _ _ _ _ hu]
    exact thiefOk_frame (hI.thief u hu) (Nat.le_refl _) fun a =>
      ⟨a, hkeep _ _ (Nat.le_refl _) (Int.le_refl _) a, fun g hg => hkeep g _ hg (Int.le_refl _) a⟩
  · have hp := hI.perm
    simp only [logical] at hp ⊢
    rw [seg_congr fun k h1 h2 => hkeep _ k (Nat.le_refl _) h1 (by omega)]; exact hp
  · by_cases hu : u = 0
    · subst hu; simp only [upd_same, hpc, hold, hnew]
    · simp only [upd_other _ _ _ _ hu]; exact holdsPc_thief (hI.thief u hu)

theorem ok_wrSlot {s s' : St} {t : Nat} {g : Nat} {i x : Int} (h : Ok s)
    (hs : step s (.wrSlot t g i x) = some s') : Ok s' := by
  simp only [step] at hs
  split at hs
  · next v b tt g' j y hpc =>
    -- grow: copy one element into the unpublished generation `arr + 1`
    obtain rfl := tid_zero h.1 hpc (by simp [thiefOk])
    obtain ⟨h1, h2, h3, rfl, h5, h6, h7, h8, h9⟩ := h.1.ownerAt hpc
    have hszs := sz_succ (s.k0 + s.arr)
    have hszp := sz_pos (s.k0 + s.arr)
    obtain ⟨⟨rfl, rfl, rfl⟩, hnext⟩ := of_ite_ite_some hs
    have hold : ∀ g k, g ≤ s.arr →
        atg s.k0 (setSlot s.slot (s.arr + 1) (idx (s.k0 + (s.arr + 1)) j) x) g k = atg s.k0 s.slot g k :=
      fun g k hg => atg_setSlot_gen (by omega)
    have hcopy : ∀ k, tt ≤ k → k < j + 1 →
        atg s.k0 (setSlot s.slot (s.arr + 1) (idx (s.k0 + (s.arr + 1)) j) x) (s.arr + 1) k
        = atg s.k0 (setSlot s.slot (s.arr + 1) (idx (s.k0 + (s.arr + 1)) j) x) s.arr k := by
      intro k hk1 hk2
      rw [hold _ _ (Nat.le_refl _)]
      by_cases hkj : k = j
      · subst hkj; rw [atg_setSlot_same]; exact h9
      · have e : s.k0 + (s.arr + 1) = s.k0 + s.arr + 1 := by omega
        rw [atg_setSlot_idx (by rw [e]; omega) (by rw [e]; omega) (Ne.symm hkj)]
        exact h8 k hk1 (by omega)
    obtain ⟨hlt, rfl⟩ | ⟨hnlt, rfl⟩ := hnext
    · exact ok_setSlot h hpc _ _ (fun g k hg _ _ => hold g k hg)
        ⟨h1, h2, h3, rfl, h5, by omega, hlt, hcopy⟩ rfl rfl
    · exact ok_setSlot h hpc _ _ (fun g k hg _ _ => hold g k hg)
        ⟨h1, h2, h3, rfl, h5, fun k hk1 hk2 => hcopy k hk1 (by omega)⟩ rfl rfl
  · next v b g' hpc =>
    -- put: write the new element below the published range
    obtain rfl := tid_zero h.1 hpc (by simp [thiefOk])
    obtain ⟨rfl, h2, rfl, h4⟩ := h.1.ownerAt hpc
    obtain ⟨⟨rfl, rfl, rfl⟩, rfl⟩ := of_ite_some hs
    have hcap := h.1.cap
    refine ok_setSlot h hpc _ _ (fun g k hg h5 h6 => ?_) ⟨rfl, h2, h4, atg_setSlot_same⟩ rfl rfl
    by_cases hgA : g = s.arr
    · subst hgA; exact atg_setSlot_idx (by omega) (by omega) (by omega)
    · exact atg_setSlot_gen hgA
  · cases hs

theorem ok_stArr {s s' : St} {t : Nat} {g : Nat} {mo : Nat} (h : Ok s)
    (hs : step s (.stArr t g mo) = some s') : Ok s' := by
  obtain ⟨hI, hA⟩ := h
  simp only [step] at hs
  split at hs
  · next v b tt g' hpc =>
    obtain rfl := tid_zero hI hpc (by simp [thiefOk])
    obtain ⟨rfl, h2, h3, rfl, h5, h6⟩ := hI.ownerAt hpc
    obtain ⟨⟨rfl, -⟩, rfl⟩ := of_ite_some hs
    have hszs := sz_succ (s.k0 + s.arr)
    have hszp := sz_pos (s.k0 + s.arr)
    have e : s.k0 + (s.arr + 1) = s.k0 + s.arr + 1 := by omega
    have htle := hI.tle
    have hcap := hI.cap
    refine ⟨⟨?_, fun u hu => ?_, hI.tle, hI.ble, ?_, ?_⟩,
      hA.move 0 (by rw [hpc]; rfl)⟩
    · simp only [upd_same, ownerOk]; rw [e]; exact ⟨trivial, h2, trivial, by omega⟩
    · simp only [upd_other _ _ _ _ hu]
      exact thiefOk_frame (hI.thief u hu) (Nat.le_succ _) fun a =>
        ⟨a, h6 _ h3 (by omega), fun _ _ => rfl⟩
    · show s.hb - s.top ≤ sz (s.k0 + (s.arr + 1)) - 1
      rw [e]; omega
    · have hp := hI.perm
      simp only [logical] at hp ⊢
      rw [seg_congr fun k hk1 hk2 => h6 k (by omega) (by omega)]; exact hp
  · cases hs

theorem ok_stBot {s : St} (h : Ok s) {p : Pc} (hpc : s.pc 0 = p) (x H' : Int) (p' : Pc)
    (P' : List Int) (hHle : s.hb ≤ H') (hx : x ≤ H') (hcap : H' - s.top ≤ sz (s.k0 + s.arr) - 1)
    (hown : ownerOk s.k0 s.top x H' s.arr s.slot (s.raced 0) (s.wit 0) p')
    (hperm : P'.Perm (s.taken ++ seg (atg s.k0 s.slot s.arr) s.top (H' - s.top).toNat))
    (hh : holdsPc s.k0 s.slot p' = holdsPc s.k0 s.slot p) :
    Ok { s with bottom := x, hb := H', pushed := P', pc := upd s.pc 0 p' } := by
  obtain ⟨hI, hA⟩ := h
  have htle := hI.tle
  refine ⟨⟨by simp only [upd_same]; exact hown, fun u hu => ?_, by simp only; omega, hx, hcap, hperm⟩,
    hA.move 0 (hpc ▸ hh)⟩
  simp only [upd_other _ _ _ _ hu]
  exact thiefOk_frame (hI.thief u hu) (Nat.le_refl _) fun _ => ⟨by omega, rfl, fun _ _ => rfl⟩

theorem ok_stBottom {s s' : St} {t : Nat} {x : Int} {mo : Nat} (h : Ok s)
    (hs : step s (.stBottom t x mo) = some s') : Ok s' := by
  have hcap := h.1.cap
  simp only [step] at hs
  split at hs
  · next v b hpc =>
    -- push_bottom publishes the new element
    obtain rfl := tid_zero h.1 hpc (by simp [thiefOk])
    obtain ⟨rfl, h2, h3, h4⟩ := h.1.ownerAt hpc
    obtain ⟨⟨rfl, -⟩, rfl⟩ := of_ite_some hs
    refine ok_stBot h hpc (s.bottom + 1) (s.bottom + 1) .pushDone (s.pushed ++ [v]) (by omega)
      (Int.le_refl _) (by omega) rfl ?_ rfl
    rw [← h4, h2]; exact perm_push h.1.perm h.1.tle
  · next b g hpc =>
    -- pop_bottom lowers bottom (the seq_cst store)
    obtain rfl := tid_zero h.1 hpc (by simp [thiefOk])
    obtain ⟨h1, h2, h3⟩ := h.1.ownerAt hpc
    obtain ⟨⟨rfl, -⟩, rfl⟩ := of_ite_some hs
    exact ok_stBot h hpc x s.hb _ s.pushed (Int.le_refl _) (by omega) hcap ⟨rfl, by omega, h3⟩
      h.1.perm rfl
  · next tt hpc =>
    -- pop_bottom found the deque empty: restore bottom
    obtain rfl := tid_zero h.1 hpc (by simp [thiefOk])
    obtain ⟨h1, h2, h3, h4⟩ := h.1.ownerAt hpc
    obtain ⟨⟨rfl, -⟩, rfl⟩ := of_ite_some hs
    exact ok_stBot h hpc x s.hb _ s.pushed (Int.le_refl _) (by omega) hcap
      ⟨h1.symm, nofun, fun _ => h4⟩ h.1.perm rfl
  · next tt r hpc =>
    -- pop_bottom after its CAS: bottom := t + 1
    obtain rfl := tid_zero h.1 hpc (by simp [thiefOk])
    obtain ⟨h1, h2, h3, h4, h5⟩ := h.1.ownerAt hpc
    obtain ⟨⟨rfl, -⟩, rfl⟩ := of_ite_some hs
    exact ok_stBot h hpc _ s.hb _ s.pushed (Int.le_refl _) (by omega) hcap
      ⟨h2.symm, h4, fun h => absurd h h5⟩ h.1.perm (holdsPc_popDone _ _ tt r)
  · cases hs

theorem ok_cas {s : St} (h : Ok s) (u : Nat) (p' : Pc) (hlt : s.top < s.hb)
    (hown : u = 0 → ownerOk s.k0 (s.top + 1) s.bottom s.hb s.arr s.slot (s.raced 0) (s.wit 0) p')
    (hth : u ≠ 0 → thiefOk s.k0 (s.top + 1) s.hb s.arr s.slot (s.raced u) (s.wit u) p')
    (hold : holdsPc s.k0 s.slot (s.pc u) = none)
    (hnew : holdsPc s.k0 s.slot p' = some (atg s.k0 s.slot s.arr s.top)) :
    Ok { s with top := s.top + 1, taken := s.taken ++ [atg s.k0 s.slot s.arr s.top],
                 owed := s.owed ++ [(u, atg s.k0 s.slot s.arr s.top)],
                 raced := fun w => if w = u then s.raced w else true, pc := upd s.pc u p' } := by
  obtain ⟨hI, hA⟩ := h
  have hcap := hI.cap
  refine ⟨⟨?_, fun w hw => ?_, by simp only; omega, hI.ble, by simp only; omega, ?_⟩,
    hA.commit u hold hnew⟩
  · exact upd_cases (P := ownerOk s.k0 (s.top + 1) s.bottom s.hb s.arr s.slot
        (if 0 = u then s.raced 0 else true) (s.wit 0)) 0
      (fun h0 => by rw [if_neg h0]; exact ownerOk_top_succ hI.owner hlt)
      fun h0 => by rw [if_pos h0]; exact hown h0.symm
  · exact upd_cases (P := thiefOk s.k0 (s.top + 1) s.hb s.arr s.slot
        (if w = u then s.raced w else true) (s.wit w)) w
      (fun h => by rw [if_neg h]; exact thiefOk_top_succ (hI.thief w hw))
      fun h => by subst h; rw [if_pos rfl]; exact hth hw
  · have hp := hI.perm
    simp only [logical] at hp ⊢
    rw [seg_head _ _ _ hlt] at hp
    rw [List.append_assoc]; exact hp

theorem ok_casTop {s s' : St} {t : Nat} {found exp des : Int} {ok : Bool} {mo : Nat}
    (h : Ok s) (hs : step s (.casTop t found exp des ok mo) = some s') :
    Ok s' := by
  simp only [step] at hs
  split at hs
  · next b tt x hpc =>
    -- pop_bottom races for the last element
    obtain rfl := tid_zero h.1 hpc (by simp [thiefOk])
    obtain ⟨rfl, h2, h3, h4, h5, rfl⟩ := h.1.ownerAt hpc
    have htle := h.1.tle
    obtain ⟨⟨rfl, rfl, rfl, rfl, -⟩, ⟨hwon, rfl⟩ | ⟨hlost, rfl⟩⟩ := of_ite_ite_some hs
    · obtain rfl : s.top = exp := by simpa using hwon
      exact ok_cas h 0 _ (by omega)
        (fun _ => ⟨h2, h3, h3.symm, nofun, nofun⟩)
        (fun h0 => absurd rfl h0) (by rw [hpc]; rfl) rfl
    · have hT : s.top ≠ exp := by simpa using hlost
      refine ownerMove h hpc _ ⟨h2, h3, by omega, fun _ => ?_, nofun⟩ rfl
      cases hr : s.raced 0
      · exact absurd (h5 hr) hT
      · rfl
  · next tt g x hpc =>
    -- a thief's CAS
    have ht := tid_ne_zero h.1 hpc (by simp [ownerOk])
    obtain ⟨h1, h2, h3, h4⟩ := h.1.thiefAt ht hpc
    obtain ⟨⟨rfl, rfl, rfl, rfl, -⟩, ⟨hwon, rfl⟩ | ⟨hlost, rfl⟩⟩ := of_ite_ite_some hs
    · obtain rfl : s.top = exp := by simpa using hwon
      obtain ⟨h5, rfl⟩ := h4 rfl
      exact ok_cas h t _ h5 (fun h0 => absurd h0 ht)
        (fun _ => ⟨nofun, nofun⟩) (by rw [hpc]; rfl) rfl
    · have hT : s.top ≠ exp := by simpa using hlost
      refine thiefMove h ht hpc _ ⟨fun _ => ?_, nofun⟩ rfl
      cases hr : s.raced t
      · exact absurd (h2 hr) hT
      · rfl
  · cases hs

theorem ok_step {s s' : St} {e : Ev} (h : Ok s) (hs : step s e = some s') :
    Ok s' := by
  cases e with
  | callPush t v =>
    obtain ⟨⟨rfl, hpc, -⟩, rfl⟩ := of_ite_some hs
    exact ownerMove h hpc _ (h.1.ownerAt hpc :) rfl
  | callPop t =>
    obtain ⟨⟨rfl, hpc⟩, rfl⟩ := of_ite_some hs
    exact ownerMove h hpc _ (h.1.ownerAt hpc :) rfl
  | callSteal t =>
    obtain ⟨⟨ht, hpc⟩, rfl⟩ := of_ite_some hs
    exact thiefMove h ht hpc _ trivial rfl
  | retPush t =>
    simp only [step] at hs
    split at hs
    · next hpc =>
      cases hs
      obtain rfl := tid_zero h.1 hpc (by simp [thiefOk])
      exact ownerMove h hpc _ (h.1.ownerAt hpc :) rfl
    · cases hs
  | retPop t r =>
    simp only [step] at hs
    split at hs
    · next r' hpc =>
      obtain ⟨-, rfl⟩ := of_ite_some hs
      obtain rfl := tid_zero h.1 hpc (by simp [thiefOk])
      exact ok_ret h hpc (fun _ => (h.1.ownerAt hpc).1) (by cases r' <;> rfl)
    · cases hs
  | retSteal t r =>
    simp only [step] at hs
    split at hs
    · next r' hpc =>
      obtain ⟨-, rfl⟩ := of_ite_some hs
      have ht := tid_ne_zero h.1 hpc (by simp [ownerOk])
      exact ok_ret h hpc (fun h0 => absurd h0 ht) (by cases r' <;> rfl)
    · cases hs
  | ldBottom t x mo => exact ok_ldBottom h hs
  | stBottom t x mo => exact ok_stBottom h hs
  | ldTop t x mo => exact ok_ldTop h hs
  | casTop t f e d ok mo => exact ok_casTop h hs
  | ldArr t g mo => exact ok_ldArr h hs
  | stArr t g mo => exact ok_stArr h hs
  | rdSlot t g i x => exact ok_rdSlot h hs
  | wrSlot t g i x => exact ok_wrSlot h hs

theorem inv_acc_of_run {k0 : Nat} {es : List Ev} {s : St} (h : (sys k0).run es = some s) :
    Inv s ∧ Acc s :=
  Sys.inv_of_run (sys k0) Ok ⟨inv_init k0, acc_init k0⟩
    (fun _ _ _ hIA hs => ok_step hIA hs) h

theorem inv_of_run {k0 : Nat} {es : List Ev} {s : St} (h : (sys k0).run es = some s) : Inv s :=
  (inv_acc_of_run h).1

end LibfiberVerif.Wsd
