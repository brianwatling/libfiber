/-
  Proof/Sem.lean — the inductive invariant of the semaphore model (`Model/Sem.lean`), for
  every initial value, any number of fibers and kernel threads, all accepted event lists.

  The ghost lists `pend`, `queue`, `pre`, `mid`, `adm` are tied to the program counters by
  multiplicity: a fiber occurs in a list exactly once if its pc is in the list's class and not
  at all otherwise.  Everything else is linear arithmetic over the monotone event counters and
  the lengths of those lists.
-/
import LibfiberVerif.Model.Sem

namespace LibfiberVerif.Sem

/-- decremented the counter without getting a unit, not enqueued yet -/
def isPend : Pc → Bool
  | .waitAnnounced | .waitParked => true
  | _ => false

/-- enqueued on the waiter queue, not dequeued yet -/
def isQueued : Pc → Bool
  | .waitQueued => true
  | _ => false

/-- inside post, no effect on the semaphore yet -/
def isPre : Pc → Bool
  | .postCalled | .popStart | .popH1 _ | .popH2 _ | .popH3 _ | .postCas _ => true
  | _ => false

/-- inside post, dequeued a waiter, has not incremented the counter yet -/
def isMid : Pc → Bool
  | .popped _ | .postWoke => true
  | _ => false

/-- admitted (got a unit or was handed a post), has not returned yet -/
def isAdm : Pc → Bool
  | .waitFast | .waitHanded | .waitReady | .tryDone true => true
  | _ => false

/-- blocked in wait: announced or enqueued, no post has dequeued it -/
def isBlocked (p : Pc) : Bool := isPend p || isQueued p

/-- inside trywait -/
def isTry : Pc → Bool
  | .tryCalled | .tryCas _ | .tryDone _ => true
  | _ => false

/-- `L` lists exactly the fibers whose pc is in class `cls`, each once -/
def Tracks (L : List Nat) (pc : Nat → Pc) (cls : Pc → Bool) : Prop :=
  ∀ g, L.count g = if cls (pc g) = true then 1 else 0

theorem Tracks.mem {L : List Nat} {pc : Nat → Pc} {cls : Pc → Bool} (h : Tracks L pc cls)
    {f : Nat} (hf : cls (pc f) = true) : f ∈ L := by
  have := h f
  rw [if_pos hf] at this
  exact List.count_pos_iff.mp (by omega)

theorem Tracks.cls_of_mem {L : List Nat} {pc : Nat → Pc} {cls : Pc → Bool} (h : Tracks L pc cls)
    {f : Nat} (hf : f ∈ L) : cls (pc f) = true := by
  have hp := List.count_pos_iff.mpr hf
  have := h f
  split at this
  · assumption
  · omega

theorem Tracks.nil_of_none {L : List Nat} {pc : Nat → Pc} {cls : Pc → Bool} (h : Tracks L pc cls)
    (hn : ∀ f, cls (pc f) = false) : L = [] :=
  List.eq_nil_iff_forall_not_mem.mpr fun f hf => by simpa [hn f] using h.cls_of_mem hf

theorem Tracks.len_erase {L : List Nat} {pc : Nat → Pc} {cls : Pc → Bool} (h : Tracks L pc cls)
    {f : Nat} (hf : cls (pc f) = true) : (L.erase f).length + 1 = L.length := by
  have hm := h.mem hf
  have := List.length_erase_of_mem hm
  have := List.length_pos_of_mem hm
  omega

structure Inv (v : Nat) (s : St) : Prop where
  /-- every change of the counter is mirrored by exactly one event counter -/
  cnt : s.counter = (v : Int) + s.nCasPost + s.nFadd - s.nFast - s.nTryOk - s.nBlocked
  blocked : s.nBlocked = s.nEnq + s.pend.length
  enq : s.nEnq = s.nPopped + s.queue.length
  popd : s.nPopped = s.nFadd + s.mid.length
  posts : s.postsBegun = s.nCasPost + s.nPopped + s.pre.length
  admd : s.nFast + s.nTryOk + s.nPopped = s.retOk + s.adm.length
  /-- a negative counter counts the blocked waiters plus the posts that dequeued one and have
      not incremented yet; a non-negative counter means there are none of either -/
  neg : s.counter < 0 → -s.counter = ((s.pend.length + s.queue.length + s.mid.length : Nat) : Int)
  nonneg : 0 ≤ s.counter → s.pend.length + s.queue.length + s.mid.length = 0
  tPend : Tracks s.pend s.pc isPend
  tQueue : Tracks s.queue s.pc isQueued
  tPre : Tracks s.pre s.pc isPre
  tMid : Tracks s.mid s.pc isMid
  tAdm : Tracks s.adm s.pc isAdm
  tryC : ∀ f c, s.pc f = .tryCas c → 0 < c
  postC : ∀ f c, s.pc f = .postCas c → 0 ≤ c
  slotP : ∀ k w, s.slot k = some w → s.pc w = .waitParked
  slotI : ∀ k k' w, s.slot k = some w → s.slot k' = some w → k = k'
  /-- a dequeued waiter that has not been made READY yet has a post about to do so -/
  handed : ∀ g, s.pc g = .waitHanded → ∃ f, s.pc f = .popped g

theorem inv_init (v node0 : Nat) : Inv v (init v node0) := by
  constructor <;> simp [init, Tracks, isPend, isQueued, isPre, isMid, isAdm] <;> omega

theorem Tracks.perm {L L' : List Nat} {pc : Nat → Pc} {cls : Pc → Bool} (h : Tracks L pc cls)
    (p : L'.Perm L) : Tracks L' pc cls := fun g => p.count_eq g ▸ h g

/-- the list `L` of a class after fiber `f` went from pc `a` to pc `b`: it enters, leaves or stays -/
def mv (cls : Pc → Bool) (a b : Pc) (f : Nat) (L : List Nat) : List Nat :=
  match cls a, cls b with
  | false, true => f :: L
  | true, false => L.erase f
  | _, _ => L

/-- ONE bookkeeping lemma for every ghost list and every step: move the fiber, `mv` the list -/
theorem Tracks.mv {L : List Nat} {pc : Nat → Pc} {cls : Pc → Bool} (h : Tracks L pc cls)
    (f : Nat) (b : Pc) : Tracks (mv cls (pc f) b f L) (upd pc f b) cls := by
  intro g
  have hg := h g
  unfold Sem.mv
  by_cases e : g = f
  · subst e
    rw [upd_same]
    cases h1 : cls (pc g) <;> cases h2 : cls b <;> simp_all
  · have e' : (f == g) = false := by simpa using fun h : f = g => e h.symm
    rw [upd_other _ _ _ _ e, ← hg]
    split <;> simp [List.count_cons, List.count_erase, e']

/-- the five ghost lists at once -/
structure Tr (s : St) : Prop where
  pend : Tracks s.pend s.pc isPend
  queue : Tracks s.queue s.pc isQueued
  pre : Tracks s.pre s.pc isPre
  mid : Tracks s.mid s.pc isMid
  adm : Tracks s.adm s.pc isAdm

/-- the eight counter identities of `Inv`, over the LENGTHS of the ghost lists -/
def Arith (v : Nat) (s : St) (pend queue pre mid adm : Nat) : Prop :=
  s.counter = (v : Int) + s.nCasPost + s.nFadd - s.nFast - s.nTryOk - s.nBlocked ∧
  s.nBlocked = s.nEnq + pend ∧ s.nEnq = s.nPopped + queue ∧ s.nPopped = s.nFadd + mid ∧
  s.postsBegun = s.nCasPost + s.nPopped + pre ∧ s.nFast + s.nTryOk + s.nPopped = s.retOk + adm ∧
  (s.counter < 0 → -s.counter = ((pend + queue + mid : Nat) : Int)) ∧
  (0 ≤ s.counter → pend + queue + mid = 0)

structure PcFacts (pc : Nat → Pc) (slot : Nat → Option Nat) : Prop where
  tryC : ∀ f c, pc f = .tryCas c → 0 < c
  postC : ∀ f c, pc f = .postCas c → 0 ≤ c
  slotP : ∀ k w, slot k = some w → pc w = .waitParked
  slotI : ∀ k k' w, slot k = some w → slot k' = some w → k = k'
  handed : ∀ g, pc g = .waitHanded → ∃ f, pc f = .popped g

/-- `Inv` is its three parts: arithmetic over lengths, list bookkeeping, facts about pcs -/
theorem inv_iff {v : Nat} {s : St} : Inv v s ↔
    Arith v s s.pend.length s.queue.length s.pre.length s.mid.length s.adm.length ∧ Tr s ∧
      PcFacts s.pc s.slot :=
  ⟨fun h => ⟨⟨h.cnt, h.blocked, h.enq, h.popd, h.posts, h.admd, h.neg, h.nonneg⟩,
      ⟨h.tPend, h.tQueue, h.tPre, h.tMid, h.tAdm⟩, ⟨h.tryC, h.postC, h.slotP, h.slotI, h.handed⟩⟩,
   fun ⟨⟨a1, a2, a3, a4, a5, a6, a7, a8⟩, t, q⟩ =>
    ⟨a1, a2, a3, a4, a5, a6, a7, a8, t.pend, t.queue, t.pre, t.mid, t.adm,
      q.tryC, q.postC, q.slotP, q.slotI, q.handed⟩⟩


/-- fiber `f` goes from `A` to `B`, the five lists follow by `mv`: on constructors `A`, `B` the
    `mv … ` below compute to the lists the model writes, so `rfl` instantiates `s'` -/
theorem Tr.mv {s s' : St} (t : Tr s) {f : Nat} {A : Pc} (hpc : s.pc f = A) (B : Pc)
    (hpc' : s'.pc = upd s.pc f B)
    (h1 : s'.pend = Sem.mv isPend A B f s.pend) (h2 : s'.queue = Sem.mv isQueued A B f s.queue)
    (h3 : s'.pre = Sem.mv isPre A B f s.pre) (h4 : s'.mid = Sem.mv isMid A B f s.mid)
    (h5 : s'.adm = Sem.mv isAdm A B f s.adm) : Tr s' := by
  subst hpc
  exact ⟨hpc' ▸ h1 ▸ t.pend.mv f B, hpc' ▸ h2 ▸ t.queue.mv f B, hpc' ▸ h3 ▸ t.pre.mv f B,
    hpc' ▸ h4 ▸ t.mid.mv f B, hpc' ▸ h5 ▸ t.adm.mv f B⟩

/-- pcs another conjunct points at: a deferred-push slot at `waitParked`, a handed waiter at
    the `popped` of its post -/
def anchored : Pc → Bool
  | .waitParked | .popped _ => true
  | _ => false

/-- what the invariant asks of a pc a fiber moves to -/
def landing : Pc → Prop
  | .tryCas c => 0 < c
  | .postCas c => 0 ≤ c
  | .waitHanded => False
  | _ => True

/-- they survive the move of one fiber from a pc nothing points at to one that asks nothing -/
theorem PcFacts.move {pc : Nat → Pc} {slot : Nat → Option Nat} (h : PcFacts pc slot) {f : Nat}
    {c : Pc} (ha : anchored (pc f) = false) (hl : landing c) : PcFacts (upd pc f c) slot where
  tryC g x e := by
    by_cases e' : g = f
    · rw [e', upd_same] at e; rw [e] at hl; exact hl
    · rw [upd_other _ _ _ _ e'] at e; exact h.tryC g x e
  postC g x e := by
    by_cases e' : g = f
    · rw [e', upd_same] at e; rw [e] at hl; exact hl
    · rw [upd_other _ _ _ _ e'] at e; exact h.postC g x e
  slotP k w e := by
    have hw := h.slotP k w e
    have e' : w ≠ f := fun e => by rw [e] at hw; rw [hw] at ha; cases ha
    rw [upd_other _ _ _ _ e']; exact hw
  slotI := h.slotI
  handed g e := by
    have e' : g ≠ f := fun e' => by rw [e', upd_same] at e; rw [e] at hl; exact hl
    rw [upd_other _ _ _ _ e'] at e
    obtain ⟨p, hp⟩ := h.handed g e
    have e'' : p ≠ f := fun e => by rw [e] at hp; rw [hp] at ha; cases ha
    exact ⟨p, by rw [upd_other _ _ _ _ e'']; exact hp⟩

/-- list fields: multiplicity bookkeeping after one step that changes the pcs of `f` and `g` -/
local macro "track" hi:term "," f:term "," g:term : tactic =>
  `(tactic| (intro x
             have t1 := ($hi).tPend x; have t2 := ($hi).tQueue x; have t3 := ($hi).tPre x
             have t4 := ($hi).tMid x; have t5 := ($hi).tAdm x
             by_cases hx : x = $f
             · subst hx
               simp_all [Tracks, upd, List.count_cons, List.count_erase, List.count_append,
                 isPend, isQueued, isPre, isMid, isAdm]
             · have hx' : ¬ ($f = x) := fun h => hx h.symm
               by_cases hy : x = $g
               · subst hy
                 simp_all [Tracks, upd, List.count_cons, List.count_erase, List.count_append,
                   isPend, isQueued, isPre, isMid, isAdm]
               · have hy' : ¬ ($g = x) := fun h => hy h.symm
                 simp_all [Tracks, upd, List.count_cons, List.count_erase, List.count_append]))

/-- `PcFacts` after a step that moves two fibers or changes a slot -/
local macro "pcfacts" hi:term : tactic =>
  `(tactic| (have q1 := ($hi).tryC; have q2 := ($hi).postC; have q3 := ($hi).slotP
             have q4 := ($hi).slotI; have q5 := ($hi).handed
             constructor <;> (intros; simp [upd] at *; grind)))

/-! ### the accepted steps, as rules

  `Move s f e A B`: event `e` takes fiber `f` from pc `A` to pc `B` and changes nothing the
  invariant reads.  `Step` adds the steps with an effect on the semaphore or a ghost field.
  `Step.of_step` is the only unfolding of `step` over all events. -/

inductive Move (s : St) (f : Nat) : Ev → Pc → Pc → Prop
  | callWait : Move s f (.callWait f) .idle .waitCalled
  | callTry : Move s f (.callTry f) .idle .tryCalled
  | retPost : Move s f (.retPost f) .postDone .idle
  | retTryFail : Move s f (.retTry f false) (.tryDone false) .idle
  | ldTryPos : 0 < s.counter → Move s f (.ldCounter f s.counter) .tryCalled (.tryCas s.counter)
  | ldTryNone : s.counter ≤ 0 → Move s f (.ldCounter f s.counter) .tryCalled (.tryDone false)
  | ldPostNeg : Move s f (.ldCounter f s.counter) .postCalled .popStart
  | ldPostCas : 0 ≤ s.counter → Move s f (.ldCounter f s.counter) .postCalled (.postCas s.counter)
  | ldGiveUpNeg : Move s f (.ldCounter f s.counter) (.popH2 h) .popStart
  | ldGiveUpCas : 0 ≤ s.counter → Move s f (.ldCounter f s.counter) (.popH2 h) (.postCas s.counter)
  | casTryFail : Move s f (.casCounter f a b c false) (.tryCas x) .tryCalled
  | casPostFail : Move s f (.casCounter f a b c false) (.postCas x) .postCalled
  | ldHead0 : Move s f (.ldHead f v) .popStart (.popH1 v)
  | ldHead1 : Move s f (.ldHead f v) (.popH1 h) (.popH2 h)
  | ldHead2 : Move s f (.ldHead f v) (.popH2 h) (.popH3 h)
  | ldHead1Retry : Move s f (.ldHead f v) (.popH1 h) .popStart
  | ldHead2Retry : Move s f (.ldHead f v) (.popH2 h) .popStart
  | casHeadFail : Move s f (.casHead f a b c false) (.popH3 h) .popStart

inductive Step (s : St) : Ev → St → Prop
  | move {f e A B pd tf} : s.pc f = A → Move s f e A B →
    Step s e
      { s with
        pc := upd s.pc f B, postsDone := pd, tryFail := tf }
  | getValue {x} : Step s (.getValue x) s
  | final {x} : Step s (.final x) s
  | ldTail {k x p} : Step s (.ldTail k x)
      { s with
        pp := p }
  | casTailFail {k a b c p} : Step s (.casTail k a b c false)
      { s with
        pp := p }
  | fsubFast {f} : s.pc f = .waitCalled → 1 ≤ s.counter →
    Step s (.fsub f s.counter)
      { s with
        counter := s.counter - 1, nFast := s.nFast + 1, adm := f :: s.adm,
        pc := upd s.pc f .waitFast }
  | fsubSlow {f} : s.pc f = .waitCalled → ¬ 1 ≤ s.counter →
    Step s (.fsub f s.counter)
      { s with
        counter := s.counter - 1, nBlocked := s.nBlocked + 1, pend := f :: s.pend,
        pc := upd s.pc f .waitAnnounced }
  | wWaiting {k f} : s.pc f = .waitAnnounced → s.slot k = none →
    Step s (.wWaiting k f f)
      { s with
        slot := upd s.slot k (some f), pc := upd s.pc f .waitParked }
  | retWait {f A} : s.pc f = A → A = .waitFast ∨ A = .waitReady →
    Step s (.retWait f)
      { s with
        retOk := s.retOk + 1, adm := s.adm.erase f, pc := upd s.pc f .idle }
  | retTryOk {f} : s.pc f = .tryDone true →
    Step s (.retTry f true)
      { s with
        retOk := s.retOk + 1, adm := s.adm.erase f, pc := upd s.pc f .idle }
  | casTail {k w a b c} : s.slot k = some w → s.pc w = .waitParked →
    Step s (.casTail k a b c true)
      { s with
        tail := c, queue := s.queue ++ [w], nodes := s.nodes ++ [c], pend := s.pend.erase w,
        nEnq := s.nEnq + 1, slot := upd s.slot k none, pp := upd s.pp k .idle,
        pc := upd s.pc w .waitQueued }
  | callPost {f} : s.pc f = .idle →
    Step s (.callPost f)
      { s with
        postsBegun := s.postsBegun + 1, pre := f :: s.pre, pc := upd s.pc f .postCalled }
  | casTryOk {f a b} : s.pc f = .tryCas s.counter →
    Step s (.casCounter f s.counter a b true)
      { s with
        counter := s.counter - 1, nTryOk := s.nTryOk + 1, adm := f :: s.adm,
        pc := upd s.pc f (.tryDone true) }
  | casPostOk {f a b} : s.pc f = .postCas s.counter →
    Step s (.casCounter f s.counter a b true)
      { s with
        counter := s.counter + 1, nCasPost := s.nCasPost + 1, pre := s.pre.erase f,
        pc := upd s.pc f .postDone }
  | casHead {f h g q n ns a b} : s.pc f = .popH3 h → s.queue = g :: q → s.nodes = n :: ns → g ≠ f →
    Step s (.casHead f a b n true)
      { s with
        head := n, queue := q, nodes := ns, nPopped := s.nPopped + 1, pre := s.pre.erase f,
        mid := f :: s.mid, adm := g :: s.adm, pc := upd (upd s.pc g .waitHanded) f (.popped g) }
  | wReady {f g} : s.pc f = .popped g → g ≠ f → s.pc g = .waitHanded →
    Step s (.wReady f g)
      { s with
        pc := upd (upd s.pc g .waitReady) f .postWoke }
  | fadd {f} : s.pc f = .postWoke →
    Step s (.fadd f s.counter)
      { s with
        counter := s.counter + 1, nFadd := s.nFadd + 1, mid := s.mid.erase f,
        pc := upd s.pc f .postDone }


/-- After the case analysis on the pc and the substitution of what the guard fixes, event and
    pcs are constructors, so exactly one rule applies: `constructor`. -/
theorem Step.of_step {s s' : St} {e : Ev} (h : step s e = some s') : Step s e s' := by
  cases e with
  | getValue x | final x => simp [step] at h; exact h.2 ▸ by constructor
  | callWait f | callTry f => simp [step] at h; exact h.2 ▸ .move h.1 (by constructor)
  | callPost f => simp [step] at h; exact h.2 ▸ .callPost h.1
  | retPost f =>
    cases hpc : s.pc f <;> simp [step, hpc] at h
    exact h ▸ .move hpc .retPost
  | retWait f =>
    cases hpc : s.pc f <;> simp [step, hpc] at h <;> exact h ▸ .retWait hpc (by simp)
  | retTry f r =>
    cases hpc : s.pc f <;> simp [step, hpc] at h
    obtain ⟨rfl, h⟩ := h
    cases r <;> simp at h <;> subst h
    · exact .move hpc .retTryFail
    · exact .retTryOk hpc
  | fsub f old =>
    cases hpc : s.pc f <;> simp [step, hpc] at h
    obtain ⟨rfl, h⟩ := h
    split at h <;> cases h
    · exact .fsubFast hpc ‹_›
    · exact .fsubSlow hpc ‹_›
  | fadd f old =>
    cases hpc : s.pc f <;> simp [step, hpc] at h
    obtain ⟨rfl, rfl⟩ := h
    exact .fadd hpc
  | wWaiting k f g =>
    cases hpc : s.pc f <;> simp [step, hpc] at h
    obtain ⟨⟨rfl, hk⟩, rfl⟩ := h
    exact .wWaiting hpc hk
  | wReady f g =>
    cases hpc : s.pc f <;> simp [step, hpc] at h
    obtain ⟨⟨rfl, h1, h2⟩, rfl⟩ := h
    exact .wReady hpc h1 h2
  | ldTail k x =>
    simp only [step] at h
    repeat' split at h
    all_goals cases h
    all_goals constructor
  | casTail k a b c ok =>
    simp only [step] at h
    repeat' split at h
    all_goals cases h
    · subst ‹ok = true›; exact .casTail ‹_› ‹_›
    · obtain rfl : ok = false := by simpa using ‹¬ ok = true›
      constructor
  | ldCounter f c =>
    cases hpc : s.pc f <;> simp [step, hpc] at h <;> obtain ⟨rfl, h⟩ := h <;>
      split at h <;> cases h <;> exact .move hpc (by constructor <;> omega)
  | ldHead f v =>
    cases hpc : s.pc f <;> simp [step, hpc] at h <;> obtain ⟨rfl, h⟩ := h
    · exact h ▸ .move hpc .ldHead0
    all_goals
      split at h <;> cases h
      · exact .move hpc (by constructor)
      · exact .move hpc (by constructor)
  | casCounter f a b c ok =>
    cases hpc : s.pc f <;> cases ok <;> simp [step, hpc] at h
    · exact h.2 ▸ .move hpc .casTryFail
    · obtain ⟨⟨rfl, rfl, rfl, rfl⟩, rfl⟩ := h; exact .casTryOk hpc
    · exact h.2 ▸ .move hpc .casPostFail
    · obtain ⟨⟨rfl, rfl, rfl, rfl⟩, rfl⟩ := h; exact .casPostOk hpc
  | casHead f a b c ok =>
    cases hpc : s.pc f <;> cases ok <;> simp [step, hpc] at h
    · exact h.2 ▸ .move hpc .casHeadFail
    · obtain ⟨-, h⟩ := h
      split at h <;> simp at h
      obtain ⟨⟨rfl, hg⟩, rfl⟩ := h
      exact .casHead hpc ‹_› ‹_› hg

theorem Move.ok {s : St} {f : Nat} {e : Ev} {A B : Pc} (m : Move s f e A B) :
    isPend B = isPend A ∧ isQueued B = isQueued A ∧ isPre B = isPre A ∧ isMid B = isMid A ∧
      isAdm B = isAdm A ∧ anchored A = false ∧ landing B := by
  cases m <;> simp_all [isPend, isQueued, isPre, isMid, isAdm, anchored, landing]

theorem mv_same {cls : Pc → Bool} {a b : Pc} (h : cls b = cls a) (f : Nat) (L : List Nat) :
    mv cls a b f L = L := by
  unfold mv; rw [h]; cases cls a <;> rfl

theorem isQueued_eq {p : Pc} (h : isQueued p = true) : p = .waitQueued := by
  cases p <;> simp [isQueued] at h ⊢

/-- closes `Arith v s' …` from `Arith v s …` (`a`) and the lengths of the lists that shrank -/
local macro "arith" a:ident : tactic =>
  `(tactic| (obtain ⟨a1, a2, a3, a4, a5, a6, a7, a8⟩ := $a:ident
             refine ⟨?_, ?_, ?_, ?_, ?_, ?_, ?_, ?_⟩ <;>
               (simp only [List.length_cons, List.length_append, List.length_nil]; omega)))

/-- a step of ONE fiber `f` from `A` (which nothing points at) to `B`, slots untouched: the
    lists follow by `mv`, so what is left to show is the arithmetic.  On constructors `A`, `B` the
    right side of `hs'` computes to what the model writes: `rfl`. -/
theorem Inv.eff {v : Nat} {s s' : St} (hi : Inv v s) {f : Nat} {A : Pc} (hpc : s.pc f = A) (B : Pc)
    (hs' : (s'.pc, s'.slot, s'.pend, s'.queue, s'.pre, s'.mid, s'.adm) =
      (upd s.pc f B, s.slot, mv isPend A B f s.pend, mv isQueued A B f s.queue,
        mv isPre A B f s.pre, mv isMid A B f s.mid, mv isAdm A B f s.adm))
    (ha : anchored A = false) (hl : landing B)
    (ar : Arith v s' s'.pend.length s'.queue.length s'.pre.length s'.mid.length s'.adm.length) :
    Inv v s' := by
  obtain ⟨-, t, q⟩ := inv_iff.1 hi
  simp only [Prod.mk.injEq] at hs'
  obtain ⟨h0, hsl, h1, h2, h3, h4, h5⟩ := hs'
  exact inv_iff.2 ⟨ar, t.mv hpc B h0 h1 h2 h3 h4 h5, h0 ▸ hsl ▸ q.move (hpc ▸ ha) hl⟩

theorem Step.inv {v : Nat} {s s' : St} {e : Ev} (h : Step s e s') (hi : Inv v s) : Inv v s' := by
  obtain ⟨a, t, q⟩ := inv_iff.1 hi
  cases h with
  | getValue | final => exact hi
  | ldTail | casTailFail => exact inv_iff.2 ⟨a, ⟨t.1, t.2, t.3, t.4, t.5⟩, q⟩
  | @move f _ A B _ _ hpc m =>
    obtain ⟨c1, c2, c3, c4, c5, ha, hl⟩ := m.ok
    exact hi.eff hpc B (by rw [mv_same c1, mv_same c2, mv_same c3, mv_same c4, mv_same c5]) ha hl a
  | fsubFast hpc h1 => exact hi.eff hpc .waitFast rfl rfl trivial (by arith a)
  | fsubSlow hpc h1 => exact hi.eff hpc .waitAnnounced rfl rfl trivial (by arith a)
  | callPost hpc => exact hi.eff hpc .postCalled rfl rfl trivial (by arith a)
  | casTryOk hpc =>
    have p := q.tryC _ _ hpc
    exact hi.eff hpc (.tryDone true) rfl rfl trivial (by arith a)
  | @retWait f A hpc hA =>
    have l := t.adm.len_erase (f := f) (by rcases hA with rfl | rfl <;> rw [hpc] <;> rfl)
    rcases hA with rfl | rfl <;> exact hi.eff hpc .idle rfl rfl trivial (by arith a)
  | @retTryOk f hpc =>
    have l := t.adm.len_erase (f := f) (by rw [hpc]; rfl)
    exact hi.eff hpc .idle rfl rfl trivial (by arith a)
  | @casPostOk f _ _ hpc =>
    have p := q.postC f _ hpc
    have l := t.pre.len_erase (f := f) (by rw [hpc]; rfl)
    exact hi.eff hpc .postDone rfl rfl trivial (by arith a)
  | @fadd f hpc =>
    have l := t.mid.len_erase (f := f) (by rw [hpc]; rfl)
    exact hi.eff hpc .postDone rfl rfl trivial (by arith a)
  | @wWaiting k f hpc hk =>
    exact inv_iff.2 ⟨a, t.mv hpc .waitParked rfl rfl rfl rfl rfl rfl, by pcfacts q⟩
  | @casTail k w _ _ _ hk hpc =>
    have l := t.pend.len_erase (f := w) (by rw [hpc]; rfl)
    have t' : Tr { s with queue := w :: s.queue, pend := s.pend.erase w, pc := upd s.pc w .waitQueued } :=
      t.mv hpc .waitQueued rfl rfl rfl rfl rfl rfl
    exact inv_iff.2 ⟨by arith a, ⟨t'.1, t'.2.perm (List.perm_append_singleton ..), t'.3, t'.4, t'.5⟩,
      by pcfacts q⟩
  | @casHead f h g q' n ns _ _ hpc hq hn hgf =>
    -- the oldest waiter `g` first, then the post `f`
    have hg : s.pc g = .waitQueued := isQueued_eq (t.queue.cls_of_mem (by rw [hq]; simp))
    have l := t.pre.len_erase (f := f) (by rw [hpc]; rfl)
    have l2 : s.queue.length = q'.length + 1 := by rw [hq]; rfl
    have t1 : Tr { s with queue := q', adm := g :: s.adm, pc := upd s.pc g .waitHanded } :=
      t.mv hg .waitHanded rfl rfl (by rw [hq]; simp [mv, isQueued]) rfl rfl rfl
    exact inv_iff.2 ⟨by arith a, t1.mv (A := .popH3 h) (by show upd _ _ _ f = _; rw [upd_other _ _ _ _ hgf.symm, hpc])
      (.popped g) rfl rfl rfl rfl rfl rfl, by pcfacts q⟩
  | @wReady f g hpc hgf hg =>
    have t1 : Tr { s with pc := upd s.pc g .waitReady } := t.mv hg .waitReady rfl rfl rfl rfl rfl rfl
    exact inv_iff.2 ⟨a, t1.mv (A := .popped g) (by show upd _ _ _ f = _; rw [upd_other _ _ _ _ hgf.symm, hpc])
      .postWoke rfl rfl rfl rfl rfl rfl, by pcfacts q⟩

theorem inv_step (v : Nat) (s : St) (e : Ev) (s' : St) (hi : Inv v s)
    (hs : step s e = some s') : Inv v s' :=
  (Step.of_step hs).inv hi

theorem inv_of_run {v node0 : Nat} {es : List Ev} {s : St}
    (h : (sys v node0).run es = some s) : Inv v s :=
  Sys.inv_of_run (sys v node0) (Inv v) (inv_init v node0)
    (fun s e s' hi hs => inv_step v s e s' hi hs) h

/-! ### the ghost counters are functions of the trace (what the monitor counts) -/

/-- a wait that returned, or a trywait that returned success -/
def isSuccRet : Ev → Bool
  | .retWait _ => true
  | .retTry _ true => true
  | _ => false

def isCallPost : Ev → Bool
  | .callPost _ => true
  | _ => false

theorem Step.counts {s s' : St} {e : Ev} (h : Step s e s') :
    s'.retOk = s.retOk + (if isSuccRet e = true then 1 else 0) ∧
    s'.postsBegun = s.postsBegun + (if isCallPost e = true then 1 else 0) := by
  cases h with
  | move _ m => cases m <;> exact ⟨rfl, rfl⟩
  | _ => exact ⟨rfl, rfl⟩

theorem trace_counts {v node0 : Nat} {es : List Ev} {s : St}
    (h : (sys v node0).run es = some s) :
    s.retOk = es.countP isSuccRet ∧ s.postsBegun = es.countP isCallPost := by
  refine Sys.hist_inv_of_run (sys v node0)
    (fun s es => s.retOk = es.countP isSuccRet ∧ s.postsBegun = es.countP isCallPost)
    (by simp [sys, init]) ?_ h
  intro s es e s' hI hs
  have hc := (Step.of_step hs).counts
  obtain ⟨h1, h2⟩ := hI
  simp only [List.countP_append, List.countP_cons, List.countP_nil]
  omega

/-- the fiber that performs an event (kernel-thread events of the deferred push: `none`) -/
def Ev.fiber : Ev → Option Nat
  | .callWait f | .retWait f | .callTry f | .retTry f _ | .callPost f | .retPost f => some f
  | .fsub f _ | .fadd f _ | .ldCounter f _ | .casCounter f _ _ _ _ => some f
  | .wWaiting _ f _ | .wReady f _ | .ldHead f _ | .casHead f _ _ _ _ => some f
  | .ldTail _ _ | .casTail _ _ _ _ _ | .getValue _ | .final _ => none


/-- one fiber moves from a pc outside trywait, or inside trywait to `B`: whoever is inside trywait
    stays there or returns -/
theorem try_upd {pc : Nat → Pc} {f : Nat} {A B : Pc} (hpc : pc f = A)
    (hAB : isTry A = true → isTry B = true ∨ B = .idle) {g : Nat} (ht : isTry (pc g) = true) :
    isTry (upd pc f B g) = true ∨ upd pc f B g = .idle := by
  by_cases e : g = f
  · subst e; rw [upd_same]; exact hAB (hpc ▸ ht)
  · rw [upd_other _ _ _ _ e]; exact .inl ht

theorem try_other {pc : Nat → Pc} {f g : Nat} {B : Pc} (hf : isTry (pc f) = false)
    (ht : isTry (pc g) = true) : isTry (upd pc f B g) = true := by
  rw [upd_other _ _ _ _ (by rintro rfl; rw [ht] at hf; cases hf)]; exact ht

theorem Move.try {s : St} {f : Nat} {e : Ev} {A B : Pc} (m : Move s f e A B)
    (h : isTry A = true) : isTry B = true ∨ B = .idle := by
  cases m <;> first | exact .inl rfl | exact .inr rfl | cases h

/-- no step takes a fiber out of trywait except its own return: the steps that move ANOTHER
    fiber (`casTail`, `casHead`, `wReady`) find it parked, queued or handed -/
theorem Step.try_stays {s s' : St} {e : Ev} (h : Step s e s') {v : Nat} (hi : Inv v s) {g : Nat}
    (ht : isTry (s.pc g) = true) : isTry (s'.pc g) = true ∨ s'.pc g = .idle := by
  cases h with
  | getValue | final | ldTail | casTailFail => exact .inl ht
  | move hpc m => exact try_upd hpc m.try ht
  | retTryOk hpc => exact try_upd hpc (fun _ => .inr rfl) ht
  | casTryOk hpc => exact try_upd hpc (fun _ => .inl rfl) ht
  | retWait hpc hA => exact try_upd hpc (by rcases hA with rfl | rfl <;> nofun) ht
  | fsubFast hpc | fsubSlow hpc | wWaiting hpc | casTail _ hpc | callPost hpc | casPostOk hpc
  | fadd hpc => exact try_upd hpc nofun ht
  | wReady hpc hgf hg =>
    exact try_upd (A := .popped _) (by rw [upd_other _ _ _ _ hgf.symm, hpc]) nofun
      (try_other (by rw [hg]; rfl) ht)
  | casHead hpc hq _ hgf =>
    have hg := isQueued_eq (hi.tQueue.cls_of_mem (by rw [hq]; exact List.mem_cons_self ..))
    exact try_upd (A := .popH3 _) (by rw [upd_other _ _ _ _ hgf.symm, hpc]) nofun
      (try_other (by rw [hg]; rfl) ht)

end LibfiberVerif.Sem
