/-
  Core/Sys.lean — labelled transition systems with a partial, executable step function.

  Every model in this library is a `Sys σ ε`: an initial state and
  `step : σ → ε → Option σ`.  `none` means "the model cannot do this event here".
  Trace validation folds `step` over the event log of the instrumented implementation;
  the theorems quantify over every event list the model accepts (`run … = some _`),
  for an unbounded number of threads, operations and steps.
-/
namespace LibfiberVerif

structure Sys (σ ε : Type) where
  init : σ
  step : σ → ε → Option σ

namespace Sys
variable {σ ε : Type}

def runFrom (M : Sys σ ε) : σ → List ε → Option σ
  | s, [] => some s
  | s, e :: es => match M.step s e with
    | none => none
    | some s' => runFrom M s' es

def run (M : Sys σ ε) (es : List ε) : Option σ := M.runFrom M.init es

inductive Reachable (M : Sys σ ε) : σ → Prop
  | init : Reachable M M.init
  | step {s s' e} : Reachable M s → M.step s e = some s' → Reachable M s'

theorem runFrom_append (M : Sys σ ε) (s : σ) (es fs : List ε) :
    M.runFrom s (es ++ fs) = (M.runFrom s es).bind (fun s' => M.runFrom s' fs) := by
  induction es generalizing s with
  | nil => simp [runFrom]
  | cons e es ih =>
    simp only [List.cons_append, runFrom]
    cases h : M.step s e with
    | none => simp
    | some s' => simp [ih]

theorem runFrom_nil_some {M : Sys σ ε} {s s' : σ} : M.runFrom s [] = some s' ↔ s = s' := by
  simp [runFrom]

theorem runFrom_cons_some {M : Sys σ ε} {s s' : σ} {e : ε} {es : List ε} :
    M.runFrom s (e :: es) = some s' ↔ ∃ s1, M.step s e = some s1 ∧ M.runFrom s1 es = some s' := by
  simp only [runFrom]
  cases M.step s e <;> simp

theorem runFrom_singleton_some {M : Sys σ ε} {s s' : σ} {e : ε} :
    M.runFrom s [e] = some s' ↔ M.step s e = some s' := by
  simp [runFrom_cons_some, runFrom_nil_some]

theorem runFrom_append_some {M : Sys σ ε} {s s' : σ} {a b : List ε}
    (h : M.runFrom s (a ++ b) = some s') :
    ∃ m, M.runFrom s a = some m ∧ M.runFrom m b = some s' :=
  Option.bind_eq_some_iff.mp (runFrom_append M s a b ▸ h)

/-- An invariant of the steps whose event satisfies `P` holds along every run of such events,
    from any state. -/
theorem runFrom_inv {M : Sys σ ε} (I : σ → Prop) (P : ε → Prop)
    (hstep : ∀ s e s', I s → P e → M.step s e = some s' → I s') :
    ∀ (es : List ε) (s s' : σ), I s → M.runFrom s es = some s' → (∀ e ∈ es, P e) → I s'
  | [], _, _, hI, h, _ => runFrom_nil_some.mp h ▸ hI
  | e :: es, s, s', hI, h, hP => by
    obtain ⟨s1, hst, h⟩ := runFrom_cons_some.mp h
    exact runFrom_inv I P hstep es s1 s' (hstep s e s1 hI (hP e (by simp)) hst) h
      (fun e' he' => hP e' (by simp [he']))

/-- Induction over a run in the direction in which `runFrom` recurses, from any state that
    satisfies a step invariant `I`: `R s es s'` relates the state before, the events and the state
    after.  Trace theorems proved this way hold from every such state, not only from `init`. -/
theorem runFrom_rel {M : Sys σ ε} (I : σ → Prop) (R : σ → List ε → σ → Prop)
    (hI : ∀ s e s', I s → M.step s e = some s' → I s') (h0 : ∀ s, R s [] s)
    (hs : ∀ s e s1 es s', I s → M.step s e = some s1 → R s1 es s' → R s (e :: es) s') :
    ∀ (es : List ε) (s s' : σ), I s → M.runFrom s es = some s' → R s es s'
  | [], s, _, _, h => runFrom_nil_some.mp h ▸ h0 s
  | e :: es, s, s', hi, h => by
    obtain ⟨s1, hst, h⟩ := runFrom_cons_some.mp h
    exact hs s e s1 es s' hi hst (runFrom_rel I R hI h0 hs es s1 s' (hI s e s1 hi hst) h)

theorem reachable_of_runFrom (M : Sys σ ε) {s s' : σ} {es : List ε}
    (hs : Reachable M s) (h : M.runFrom s es = some s') : Reachable M s' :=
  runFrom_inv (Reachable M) (fun _ => True) (fun _ _ _ hr _ hst => Reachable.step hr hst) es s s'
    hs h (fun _ _ => trivial)

theorem reachable_of_run (M : Sys σ ε) {s : σ} {es : List ε}
    (h : M.run es = some s) : Reachable M s :=
  reachable_of_runFrom M Reachable.init h

theorem run_of_reachable (M : Sys σ ε) {s : σ} (h : Reachable M s) :
    ∃ es, M.run es = some s := by
  induction h with
  | init => exact ⟨[], rfl⟩
  | @step s1 s2 e _ hst ih =>
    obtain ⟨es, hes⟩ := ih
    refine ⟨es ++ [e], ?_⟩
    simp only [run] at hes
    simp [run, runFrom_append, hes, runFrom, hst]

theorem run_snoc (M : Sys σ ε) {es : List ε} {s s' : σ} {e : ε}
    (h : M.run es = some s) (hs : M.step s e = some s') : M.run (es ++ [e]) = some s' := by
  simp only [run] at h ⊢
  simp [runFrom_append, h, runFrom, hs]

/-- The induction principle every invariant proof uses. -/
theorem inv_of_step (M : Sys σ ε) (I : σ → Prop)
    (h0 : I M.init)
    (hstep : ∀ s e s', I s → M.step s e = some s' → I s')
    {s : σ} (hr : Reachable M s) : I s := by
  induction hr with
  | init => exact h0
  | step _ hst ih => exact hstep _ _ _ ih hst

theorem inv_of_run (M : Sys σ ε) (I : σ → Prop)
    (h0 : I M.init)
    (hstep : ∀ s e s', I s → M.step s e = some s' → I s')
    {es : List ε} {s : σ} (h : M.run es = some s) : I s :=
  inv_of_step M I h0 hstep (reachable_of_run M h)

/-- Invariant induction in which a step may use that its source state ends a run: an invariant that
    rests on others takes them from their own `_of_run` theorems instead of carrying them along. -/
theorem inv_of_run_on (M : Sys σ ε) (I : σ → Prop)
    (h0 : I M.init)
    (hstep : ∀ es s e s', M.run es = some s → I s → M.step s e = some s' → I s')
    {es : List ε} {s : σ} (h : M.run es = some s) : I s := by
  have key : ∀ {s}, Reachable M s → I s := fun hr => by
    induction hr with
    | init => exact h0
    | step hr hst ih =>
      obtain ⟨es, hes⟩ := run_of_reachable M hr
      exact hstep es _ _ _ hes ih hst
  exact key (reachable_of_run M h)

/-- Invariant of (state, trace-so-far) pairs: for history predicates. -/
theorem hist_inv_of_run (M : Sys σ ε) (I : σ → List ε → Prop)
    (h0 : I M.init [])
    (hstep : ∀ s es e s', I s es → M.step s e = some s' → I s' (es ++ [e]))
    {es : List ε} {s : σ} (h : M.run es = some s) : I s es := by
  suffices ∀ (pre : List ε) (s0 : σ) (es : List ε) (s : σ), I s0 pre →
      M.runFrom s0 es = some s → I s (pre ++ es) by
    simpa using this [] M.init es s h0 h
  intro pre s0 es
  induction es generalizing pre s0 with
  | nil => intro s hI h; simp [runFrom] at h; subst h; simpa using hI
  | cons e es ih =>
    intro s hI h
    obtain ⟨s1, hst, h⟩ := runFrom_cons_some.mp h
    simpa using ih (pre ++ [e]) s1 s (hstep _ _ _ _ hI hst) h

/-! ### an instant since the last event of a kind

`Since M B es Q`: `Q` held of the state after a prefix `es1` of the trace `es`, and no event after
it satisfies `B` (for `B` = "is a call / return of thread `t`": at an instant of `t`'s current
call). -/

def Since (M : Sys σ ε) (B : ε → Bool) (es : List ε) (Q : σ → Prop) : Prop :=
  ∃ es1 es2 s1, es = es1 ++ es2 ∧ M.run es1 = some s1 ∧ (∀ e ∈ es2, B e = false) ∧ Q s1

section since
variable {M : Sys σ ε} {B : ε → Bool} {es : List ε} {Q Q' : σ → Prop}

theorem Since.now {s : σ} (h : M.run es = some s) (hq : Q s) : Since M B es Q :=
  ⟨es, [], s, by simp, h, by simp, hq⟩

theorem Since.snoc (hz : Since M B es Q) (e : ε) (hb : B e = false) : Since M B (es ++ [e]) Q := by
  obtain ⟨es1, es2, s1, q1, q2, q3, q4⟩ := hz
  refine ⟨es1, es2 ++ [e], s1, by rw [q1, List.append_assoc], q2, fun e' he' => ?_, q4⟩
  rcases List.mem_append.mp he' with h' | h'
  · exact q3 e' h'
  · simp at h'; subst h'; exact hb

theorem Since.mono (hz : Since M B es Q)
    (hq : ∀ es1 s, M.run es1 = some s → Q s → Q' s) : Since M B es Q' := by
  obtain ⟨es1, es2, s1, q1, q2, q3, q4⟩ := hz
  exact ⟨es1, es2, s1, q1, q2, q3, hq es1 s1 q2 q4⟩

/-- A latch: `L` does not hold initially, and a step from a reachable state makes or keeps it
    true only by establishing `Q` of the new state or, across an event that is not in `B`, by
    carrying `L` over or from a state of which `Q` holds.  Then `L` now means `Q` at an instant since
    the last `B` event. -/
theorem Since.of_latch_pre {L : σ → Prop} (h0 : ¬ L M.init)
    (hstep : ∀ es s e s', M.run es = some s → M.step s e = some s' → L s' →
      Q s' ∨ ((L s ∨ Q s) ∧ B e = false))
    {s : σ} (h : M.run es = some s) (hl : L s) : Since M B es Q := by
  refine (hist_inv_of_run M (fun s es => M.run es = some s ∧ (L s → Since M B es Q))
    ⟨rfl, fun h => absurd h h0⟩ ?_ h).2 hl
  intro s es e s' ⟨hrun, hI⟩ hs
  have hrun' := run_snoc _ hrun hs
  refine ⟨hrun', fun hl' => ?_⟩
  rcases hstep es s e s' hrun hs hl' with hq | ⟨hl | hq, hb⟩
  · exact .now hrun' hq
  · exact (hI hl).snoc e hb
  · exact (Since.now hrun hq).snoc e hb

/-- the latch whose steps never look at `Q` of the old state -/
theorem Since.of_latch {L : σ → Prop} (h0 : ¬ L M.init)
    (hstep : ∀ es s e s', M.run es = some s → M.step s e = some s' → L s' →
      Q s' ∨ (L s ∧ B e = false))
    {s : σ} (h : M.run es = some s) (hl : L s) : Since M B es Q :=
  of_latch_pre h0 (fun es s e s' hr hs hl' => (hstep es s e s' hr hs hl').imp_right (And.imp_left .inl)) h hl

end since

end Sys

/-- Pointwise update of a `Nat`-indexed family (thread-local state, slots, flags). -/
def upd {α : Type} (f : Nat → α) (i : Nat) (v : α) : Nat → α :=
  fun j => if j = i then v else f j

@[simp] theorem upd_same {α : Type} (f : Nat → α) (i : Nat) (v : α) : upd f i v i = v := by
  simp [upd]

@[simp] theorem upd_other {α : Type} (f : Nat → α) (i j : Nat) (v : α) (h : j ≠ i) :
    upd f i v j = f j := by
  simp [upd, h]

theorem upd_apply {α : Type} (f : Nat → α) (i j : Nat) (v : α) :
    upd f i v j = if j = i then v else f j := rfl

theorem upd_self {α : Type} (f : Nat → α) (i : Nat) : upd f i (f i) = f := by
  funext j; simp only [upd]; split
  · next h => rw [h]
  · rfl

theorem upd_upd {α : Type} (f : Nat → α) (i : Nat) (a b : α) : upd (upd f i a) i b = upd f i b := by
  funext j; simp only [upd]; split <;> rfl

/-- A property of every index after an update: the updated index by `hi`, the others as before. -/
theorem forall_upd {α : Type} {P : Nat → α → Prop} {f : Nat → α} {i : Nat} {v : α}
    (hi : P i v) (h : ∀ j, j ≠ i → P j (f j)) : ∀ j, P j (upd f i v j) := by
  intro j; simp only [upd]; split
  · next e => exact e ▸ hi
  · next e => exact h j e

theorem take_succ_of_getElem? {α : Type} {l : List α} {i : Nat} {x : α} (h : l[i]? = some x) :
    l.take (i + 1) = l.take i ++ [x] := by
  rw [List.take_add_one, h]; rfl

/-! ### repeated cycles (witnesses of unbounded behaviour) -/

def rep {α : Type} (c : List α) : Nat → List α
  | 0 => []
  | n + 1 => c ++ rep c n

theorem mem_rep {α : Type} {c : List α} {a : α} : ∀ {n : Nat}, a ∈ rep c n → a ∈ c
  | 0, h => by simp [rep] at h
  | _ + 1, h => (List.mem_append.mp h).elim id mem_rep

theorem countP_rep {α : Type} (p : α → Bool) (c : List α) :
    ∀ n, (rep c n).countP p = n * c.countP p
  | 0 => by simp [rep]
  | n + 1 => by rw [rep, List.countP_append, countP_rep p c n, Nat.succ_mul, Nat.add_comm]

theorem count_rep {α : Type} [BEq α] (a : α) (c : List α) (n : Nat) :
    (rep c n).count a = n * c.count a := countP_rep _ c n

namespace Sys
variable {σ ε : Type}
/-- A cycle `c` that leads from `P` back to `P` can be repeated; `G` is any property of runs
    that is closed under concatenation (a guard checked at every step, a count). -/
theorem runFrom_rep {M : Sys σ ε} {c : List ε} (P : σ → Prop) (G : σ → List ε → Prop)
    (hnil : ∀ s, G s [])
    (happ : ∀ s a b s1, M.runFrom s a = some s1 → G s a → G s1 b → G s (a ++ b))
    (hc : ∀ s, P s → ∃ s', M.runFrom s c = some s' ∧ P s' ∧ G s c) :
    ∀ (n : Nat) (s : σ), P s → ∃ s', M.runFrom s (rep c n) = some s' ∧ P s' ∧ G s (rep c n)
  | 0, s, h => ⟨s, rfl, h, hnil s⟩
  | n + 1, s, h => by
    obtain ⟨s1, h1, hp1, hg1⟩ := hc s h
    obtain ⟨s2, h2, hp2, hg2⟩ := runFrom_rep P G hnil happ hc n s1 hp1
    exact ⟨s2, by simp [rep, runFrom_append, h1, h2], hp2, happ s _ _ s1 h1 hg1 hg2⟩
end Sys

end LibfiberVerif
