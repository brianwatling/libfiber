/-
  Props/C05.lean — property C05 (src/fiber_cond.c on top of src/fiber_mutex.c and the wait / wake /
  deferred-unlock machinery of src/fiber_manager.c), theorems only.

  "fiber_cond_wait releases the caller's mutex and begins waiting as one atomic step with
   respect to signallers: a signal or broadcast issued after a waiter began waiting is never
   lost - signal releases one waiter if any is waiting, broadcast releases all of them - and
   no waiter is released without a signal or broadcast.  wait returns only with the mutex
   re-acquired."

  Every theorem is for every event list `es` the model accepts (`sys.run es = some s`): any
  number of fibers on any number of kernel threads, any number of operations, every
  interleaving of the individual shared accesses of waiters, signallers and broadcasters —
  including a signal that arrives while the waiter has registered (`fetch_add` done) but is
  not yet enqueued / not yet switched away (the signaller's wake loop finds the queue empty
  and retries), a waiter that is resumed and re-locks M before the deferred unlock of M on its
  behalf has run, and waiters that re-wait immediately.  The model is `Model/Cond.lean`
  (its two mutexes are the C03 model `Mutex.step` itself); proofs are in `Proof/Cond*.lean`.

  Ghost fields used in statements (updated in exactly one place each, never read by a guard):
    `nreg`     #registrations = waiters' `fetch_add(&waiter_count, 1)`
    `nclaim`   Σ claims: +1 per signal whose `fetch_sub` saw ≥ 1, +n per broadcast whose
               exchange returned n
    `miss`     1 between a signal's `fetch_sub` that saw 0 and its `fetch_add` back, else 0
    `hd`       #pops of `cond->waiters` (= #waiters released); `order` = (node, fiber) in
               `xchg(&tail)` order, so the released fibers are `(order.take hd).map (·.2)`
    per fiber `gh f`: `claimed`/`popped` (amount claimed / pops done in f's current signal or
               broadcast call), `nC`/`nE`/`nL` (#registrations / #enqueues / #links of f as a
               waiter), `nU` (#releases of M on f's behalf), `nP`/`nR` (#times f was popped /
               #returns of f from wait).
  `A f = 2f` names fiber f inside the mutex sub-models, `D w = 2w+1` the deferred-unlock agent
  of waiter w.
-/
import LibfiberVerif.Proof.CondTrace

namespace LibfiberVerif.Cond

/-- the fibers released so far, in release order -/
def released (s : St) : List Nat := (s.order.take s.hd).map (·.2)

/-! ### the waiter count -/

/-- `count_eq`: whenever the internal mutex I is free, `waiter_count` is exactly
    #registered − #claimed (the number of registered, unclaimed waiters). -/
theorem count_eq (es : List Ev) (s : St) (h : sys.run es = some s) (hfree : s.i.owner = none) :
    s.count = (s.nreg : Int) - s.nclaim := by
  have hi := inv_of_run h
  have hm : s.miss = 0 := by
    apply Classical.byContradiction; intro hne
    obtain ⟨f, hf⟩ := hi.missEx hne
    have h1 := hi.mi.holder (A f) (by rw [hi.holdI f (by rw [hf]; rfl)]; rfl)
    rw [hfree] at h1; cases h1
  have := hi.cnt; omega

/-- in every state: the count is off by at most the one signal that found nobody and has not
    yet put its decrement back (it holds I meanwhile). -/
theorem count_balance (es : List Ev) (s : St) (h : sys.run es = some s) :
    s.count + s.miss = (s.nreg : Int) - s.nclaim ∧ (s.miss = 0 ∨ s.miss = 1) ∧
      (s.miss = 1 → ∃ f, s.pc f = .sigMiss ∧ s.i.owner = some (A f)) := by
  have hi := inv_of_run h
  refine ⟨hi.cnt, ?_, ?_⟩
  · by_cases hm : s.miss = 0
    · exact Or.inl hm
    · obtain ⟨f, hf⟩ := hi.missEx hm; exact Or.inr (hi.missPc f hf)
  · intro hm
    obtain ⟨f, hf⟩ := hi.missEx (by omega)
    exact ⟨f, hf, hi.mi.holder (A f) (by rw [hi.holdI f (by rw [hf]; rfl)]; rfl)⟩

/-- claims never exceed registrations: no signal or broadcast ever claims a waiter that did not
    register -/
theorem claims_le_registrations (es : List Ev) (s : St) (h : sys.run es = some s) :
    s.nclaim ≤ s.nreg := by
  obtain ⟨hi, h2⟩ := inv2_of_run h
  have := hi.cnt; have := h2.cnt0; omega

/-! ### no spurious release -/

/-- `no_spurious`: never more waiters released than claimed by signals / broadcasts; every
    released fiber had registered (and every enqueued one); no fiber returns from wait more
    often than it was released. -/
theorem no_spurious (es : List Ev) (s : St) (h : sys.run es = some s) :
    (released s).length + s.owed = s.nclaim ∧ (∀ g ∈ released s, 1 ≤ (s.gh g).nC) ∧
      (∀ n g, (n, g) ∈ s.order → 1 ≤ (s.gh g).nC) ∧ ∀ w, (s.gh w).nR ≤ (s.gh w).nP := by
  have hi := inv_of_run h
  refine ⟨?_, ?_, hi.ordReg, ?_⟩
  · simp only [released, List.length_map, List.length_take]
    have := hi.pops; have := hi.hdLe; omega
  · intro g hg
    simp only [released, List.mem_map] at hg
    obtain ⟨⟨n, g'⟩, hm, rfl⟩ := hg
    exact hi.ordReg n g' (List.mem_of_mem_take hm)
  · intro w
    have := hi.loc w; simp only [Loc] at this
    have h3 := this.2.2.1
    split at h3 <;> omega

/-- a fiber returns from wait only after a signaller popped it (and then once per pop) -/
theorem wait_returns_after_release (es : List Ev) (s s' : St) (f : Nat)
    (h : sys.run es = some s) (hs : step s (.retWait f) = some s') :
    (s.gh f).nP = (s.gh f).nR + 1 ∧ (s'.gh f).nR = (s.gh f).nP := by
  have hi := inv_of_run h
  obtain ⟨hpc, -, -, -, hr⟩ := retWait_effect hs
  have := (hi.loc_at hpc).2.2.1
  exact ⟨this, by rw [hr, this]⟩

/-- every pop of `cond->waiters` is covered by a claim: the popper is inside its wake loop with
    at least one pop still owed, and the fiber popped is a linked, parked waiter that registered -/
theorem pop_is_claimed (es : List Ev) (s s' : St) (f x : Nat)
    (h : sys.run es = some s) (hs : step s (.wHead .C f x) = some s') :
    ∃ bc k hh n g, s.pc f = .wake bc k (.gotNext hh x) ∧ 1 ≤ k ∧ s.owed = k ∧
      (s.gh f).popped + k = (s.gh f).claimed ∧
      s.order[s.hd]? = some (n, g) ∧ s.pc g = .parked ∧ 1 ≤ (s.gh g).nC ∧ s'.pc g = .woken := by
  have hi := inv_of_run h
  obtain ⟨bc, k, hh, n, g, hpc, hord, hg, -, hw, -, -, -⟩ := popC_effect hs
  obtain ⟨ho, hk⟩ := hi.owedPc f bc k _ hpc
  exact ⟨bc, k, hh, n, g, hpc, hk rfl, ho, (hi.loc_at hpc).1.1, hord, hg,
    hi.ordReg n g (List.mem_of_getElem? hord), hw⟩

/-! ### signal releases one, broadcast releases all -/

/-- what a signal claims: 1 if its `fetch_sub` saw at least one registered, unclaimed waiter,
    else nothing (and then it will add the 1 back) -/
theorem signal_claims (es : List Ev) (s s' : St) (f : Nat) (old : Int)
    (h : sys.run es = some s) (hs : step s (.fsubCount f old) = some s') :
    old = s.count ∧ (s'.gh f).claimed = (if old ≥ 1 then 1 else 0) ∧ (s'.gh f).popped = 0 ∧
      s'.pc f = (if old ≥ 1 then .wake false 1 .top else .sigMiss) := by
  have hi := inv_of_run h
  obtain ⟨hpc, ho, hc, hp, hpc'⟩ := fsubCount_effect hs
  have hl := (hi.loc_at hpc).1
  refine ⟨ho, ?_, by rw [hp]; exact hl.2, hpc'⟩
  rw [hc]; split
  · rfl
  · exact hl.1

/-- `signal_releases_one`: a signal does not return before it has popped exactly what it
    claimed — one waiter if its `fetch_sub` saw ≥ 1, none otherwise; while it is in its wake
    loop the pops done plus the pops still to do equal the claim. -/
theorem signal_releases_one (es : List Ev) (s : St) (f : Nat) (h : sys.run es = some s) :
    (∀ s', step s (.retSignal f) = some s' →
        (s.gh f).popped = (s.gh f).claimed ∧ (s.gh f).claimed ≤ 1) ∧
    (∀ k w, s.pc f = .wake false k w → (s.gh f).popped + k = (s.gh f).claimed ∧ (s.gh f).claimed = 1) ∧
    (s.pc f = .sigMiss → (s.gh f).claimed = 0 ∧ (s.gh f).popped = 0) := by
  have hi := inv_of_run h
  refine ⟨?_, ?_, ?_⟩
  · intro s' hs
    have hl := (hi.loc_at (retSig_pre (by simpa only [step] using hs))).1
    exact ⟨hl.1, hl.2 rfl⟩
  · intro k w hpc
    exact ⟨(hi.loc_at hpc).1.1, (hi.loc_at hpc).1.2 rfl⟩
  · intro hpc
    exact (hi.loc_at hpc).1

/-- what a broadcast claims: exactly the `n` its exchange returned (= all registered, unclaimed
    waiters, by `count_eq`: I is held, nobody else is between `fetch_sub` and add-back) -/
theorem broadcast_claims (es : List Ev) (s s' : St) (f : Nat) (old : Int)
    (h : sys.run es = some s) (hs : step s (.xchgCount f old) = some s') :
    old = s.count ∧ old = (s.nreg : Int) - s.nclaim ∧ (s'.gh f).claimed = old.toNat ∧
      (s'.gh f).popped = 0 ∧ s'.count = 0 := by
  have hi := inv_of_run h
  obtain ⟨hpc, ho, hnn, hc, hp, -, hcount, x, hx⟩ := xchgCount_effect hs
  have hl := hi.loc_at hpc
  -- at the instant of the exchange the caller holds I, so no signal is between fetch_sub and add-back
  have hmiss : s.miss = 0 := (hi.granted hpc hx).2.2.2.1
  have hcnt := hi.cnt
  exact ⟨ho, by omega, hc, by rw [hp]; exact hl.1.2, hcount⟩

/-- `broadcast_releases_all`: a broadcast does not return before it has popped exactly the `n`
    waiters counted at its exchange. -/
theorem broadcast_releases_all (es : List Ev) (s : St) (f : Nat) (h : sys.run es = some s) :
    (∀ s', step s (.retBroadcast f) = some s' → (s.gh f).popped = (s.gh f).claimed) ∧
    (∀ k w, s.pc f = .wake true k w → (s.gh f).popped + k = (s.gh f).claimed) := by
  have hi := inv_of_run h
  refine ⟨?_, ?_⟩
  · intro s' hs
    exact (hi.loc_at (retSig_pre (by simpa only [step] using hs))).1.1
  · intro k w hpc
    exact (hi.loc_at hpc).1.1

/-- `signal_releases_one`, over event lists: in any accepted trace, between a signal's
    `fetch_sub` on the waiter count (which read `old`) and that call's return, the signaller pops
    `cond->waiters` exactly once if `old ≥ 1` and not at all otherwise.  (`mid` is the rest of
    that call: it contains no further call / claim event of `f`.) -/
theorem signal_pops_exactly_claim (es mid : List Ev) (f : Nat) (old : Int) (s' : St)
    (h : sys.run (es ++ [.fsubCount f old] ++ mid ++ [.retSignal f]) = some s')
    (hmid : ∀ e ∈ mid, isSigStart f e = false) :
    popsBy f mid = if old ≥ 1 then 1 else 0 := by
  obtain ⟨s0, s1, s2, h0, hclaim, hmidrun, h2, hret⟩ := run_call h
  have hc := signal_claims es s0 s1 f old h0 hclaim
  rw [pops_eq_claim hmidrun hmid hc.2.2.1 ((signal_releases_one _ s2 f h2).1 s' hret).1, hc.2.1]

/-- `broadcast_releases_all`, over event lists: between a broadcast's exchange on the waiter
    count (which returned `n = old`) and that call's return, the broadcaster pops
    `cond->waiters` exactly `n` times. -/
theorem broadcast_pops_exactly_count (es mid : List Ev) (f : Nat) (old : Int) (s' : St)
    (h : sys.run (es ++ [.xchgCount f old] ++ mid ++ [.retBroadcast f]) = some s')
    (hmid : ∀ e ∈ mid, isSigStart f e = false) :
    (popsBy f mid : Int) = old := by
  obtain ⟨s0, s1, s2, h0, hclaim, hmidrun, h2, hret⟩ := run_call h
  have hc := broadcast_claims es s0 s1 f old h0 hclaim
  rw [pops_eq_claim hmidrun hmid hc.2.2.2.1 ((broadcast_releases_all _ s2 f h2).1 s' hret), hc.2.2.1]
  exact Int.toNat_of_nonneg (xchgCount_effect hclaim).2.2.1

/-! ### atomic unlock-and-wait -/

/-- `unlock_after_register`: for every waiter w, the k-th release of M on w's behalf comes after
    w's k-th link (its last step before switching away), which comes after its k-th enqueue
    (`xchg(&tail)`), which comes after its k-th registration (`fetch_add`).  Hence a signaller
    that synchronises with w through M finds w counted and enqueued. -/
theorem unlock_after_register (es : List Ev) (s : St) (w : Nat) (h : sys.run es = some s) :
    (s.gh w).nU ≤ (s.gh w).nL ∧ (s.gh w).nL ≤ (s.gh w).nE ∧ (s.gh w).nE ≤ (s.gh w).nC ∧
      (s.gh w).nC ≤ (s.gh w).nL + 1 := by
  have hi := inv_of_run h
  have hl := hi.loc w; simp only [Loc] at hl
  obtain ⟨-, h2, -, h4⟩ := hl
  split at h2 <;> omega

/-- the atomic step: from `call wait` until its link (its last access before switching away) the
    waiter w itself owns M; from the link until the deferred unlock its agent `D w` owns M
    (`nU w < nL w` = a link of w whose release is outstanding; at most one is).  So M is owned
    on w's behalf without interruption from before w is counted until after w is enqueued, and
    no fiber that synchronises through M — in particular no signaller holding M — can run in
    between: whoever else is between acquire and release of M would be a second owner. -/
theorem atomic_unlock_and_wait (es : List Ev) (s : St) (w : Nat) (h : sys.run es = some s) :
    (inWait (s.pc w) = true → s.m.owner = some (A w) ∧ s.m.pc (A w) = .held) ∧
    ((s.gh w).nU < (s.gh w).nL → s.m.owner = some (D w) ∧ s.m.pc (D w) = .held) ∧
    (s.gh w).nL ≤ (s.gh w).nU + 1 ∧
    (∀ f, f ≠ w → isHolder (s.m.pc (A f)) = true →
        inWait (s.pc w) = false ∧ (s.gh w).nU = (s.gh w).nL) := by
  obtain ⟨hi, h2⟩ := inv2_of_run h
  have hU : (s.gh w).nU ≤ (s.gh w).nL := by
    have := hi.loc w; simp only [Loc] at this; exact this.2.2.2
  refine ⟨?_, ?_, h2.oneLink w, ?_⟩
  · intro hw
    have := h2.waitHolds w hw
    exact ⟨hi.mim.holder (A w) (by rw [this]; rfl), this⟩
  · intro hlt
    have := h2.agentHolds w hlt
    exact ⟨hi.mim.holder (D w) (by rw [this]; rfl), this⟩
  · intro f hne hf
    have hof := hi.mim.holder (A f) hf
    refine ⟨?_, ?_⟩
    · cases hw : inWait (s.pc w) with
      | false => rfl
      | true =>
        have := hi.mim.holder (A w) (by rw [h2.waitHolds w hw]; rfl)
        rw [hof] at this; exact absurd (A_inj (Option.some.inj this)) hne
    · by_cases hlt : (s.gh w).nU < (s.gh w).nL
      · have := hi.mim.holder (D w) (by rw [h2.agentHolds w hlt]; rfl)
        rw [hof] at this; exact absurd (Option.some.inj this) (A_ne_D f w)
      · omega

/-- the release itself: a `fetch_add(M.counter)` is either the unlock of a fiber that owns M
    (harness-level), or the deferred unlock for the waiter w that registered on that kernel
    thread; the latter is accepted only when w's deferred agent holds M, i.e. strictly after
    w's link: at that instant w has been linked — hence enqueued and counted — more often than
    M was released for it.  (A mutated wait that unlocked M itself, before enqueueing, is not accepted.) -/
theorem deferred_release_after_link (es : List Ev) (s s' : St) (t g : Nat) (old : Int)
    (h : sys.run es = some s) (hs : step s (.fadd .M t g old) = some s') :
    (s.pc g = .idle ∧ s.m.pc (A g) = .unlockCalled ∧ s.m.owner = some (A g)) ∨
    (∃ w, s.deferred t = some w ∧ s.m.owner = some (D w) ∧
      (s.gh w).nU + 1 = (s.gh w).nL ∧ (s.gh w).nL ≤ (s.gh w).nE ∧ (s.gh w).nE ≤ (s.gh w).nC) := by
  obtain ⟨hi, hj⟩ := inv2_of_run h
  rcases faddM_pre hs with ⟨h1, h2⟩ | ⟨w, h1, h2, h3, -⟩
  · exact Or.inl ⟨h1, h2, hi.mim.holder (A g) (by rw [h2]; rfl)⟩
  · right
    have hlt := hi.dh w h2
    have hl := hi.loc w; simp only [Loc] at hl
    obtain ⟨-, hl2, -, hl4⟩ := hl
    have := hj.oneLink w
    refine ⟨w, h1, h3, by omega, ?_⟩
    split at hl2 <;> omega

/-! ### wait returns with the mutex -/

/-- `returns_with_mutex`: `ret wait` is accepted only from a fiber that owns M (it acquired M
    uncontended, or was handed M by an unlocker's pop), and it then holds M. -/
theorem returns_with_mutex (es : List Ev) (s s' : St) (f : Nat)
    (h : sys.run es = some s) (hs : step s (.retWait f) = some s') :
    s.m.owner = some (A f) ∧ s'.m.owner = some (A f) ∧ s'.m.pc (A f) = .held := by
  have hi := inv_of_run h
  obtain ⟨-, hheld, hown, hpre, -⟩ := retWait_effect hs
  have : s.m.owner = some (A f) := by
    rcases hpre with h1 | ⟨-, h2⟩
    · exact hi.mim.holder (A f) (by rw [h1]; rfl)
    · exact h2
  exact ⟨this, by rw [hown]; exact this, hheld⟩

/-- M is owned by at most one party at a time: whoever is between acquire and release of M —
    a fiber `A f` or a deferred agent `D w` — is the ghost owner (C03's exclusion, restated for
    the composed model including the hand-over to the deferred agent). -/
theorem mutex_exclusive (es : List Ev) (s : St) (h : sys.run es = some s) (a b : Nat)
    (ha : isHolder (s.m.pc a) = true) (hb : isHolder (s.m.pc b) = true) : a = b := by
  have hi := inv_of_run h
  have h1 := hi.mim.holder a ha
  have h2 := hi.mim.holder b hb
  rw [h1] at h2; exact Option.some.inj h2

/-! ### single consumer -/

/-- `single_consumer`: only the holder of the internal mutex I pops `cond->waiters`; more
    generally whoever has examined the waiter count and not finished its wake loop holds I, and
    there is at most one such fiber. -/
theorem single_consumer (es : List Ev) (s : St) (h : sys.run es = some s) :
    (∀ s' f x, step s (.wHead .C f x) = some s' →
        s.i.owner = some (A f) ∧ s.i.pc (A f) = .held) ∧
    (∀ f g, needsI (s.pc f) = true → needsI (s.pc g) = true → f = g) := by
  have hi := inv_of_run h
  refine ⟨?_, fun f g hf hg => hi.unique hf hg⟩
  intro s' f x hs
  obtain ⟨bc, k, hh, n, g, hpc, -⟩ := popC_effect hs
  have hheld := hi.holdI f (by rw [hpc]; rfl)
  exact ⟨hi.mi.holder (A f) (by rw [hheld]; rfl), hheld⟩

/-! ### non-vacuity: implementation traces (converted from logs of the instrumented build) -/

/-- what we look at in the final state -/
def obs (s : St) : Int × Nat × Nat × Nat × Nat × Int × Option Nat × Option Nat :=
  (s.count, s.nreg, s.nclaim, s.hd, s.owed, s.miss, s.m.owner, s.i.owner)

/-- `w | S` on 3 kernel threads (VR_SCHED=freeze, seed 309): the signal (fiber 17, not holding M)
    arrives while the waiter (fiber 16) has registered (`fetch_add` done) but is not yet
    enqueued: its `fetch_sub` sees 1, its first trypop finds the queue empty (`rNext 17 1 0`),
    it retries after the waiter's `xchg` + link, pops it; the deferred unlock of M is run by
    kernel thread 1's own fiber (fiber 1). -- 36 events -/
def traceRegisteredNotEnqueued : List Ev :=
  [.callLock 16, .fsub .M 16 1, .retLock 16, .callWait 16, .faddCount 1 16 0, .wState 16 16 5,
   .rNode 16 16 20, .callSignal 17 false, .fsub .I 17 1, .wData 16 20 16, .wNode 16 16 0,
   .fsubCount 17 1, .rHead .C 17 1, .rNext 17 1 0, .wNext 16 20 0, .xchgTail .C 16 1 20,
   .wNext 16 1 20, .rHead .C 17 1, .fadd .M 1 1 0, .rNext 17 1 20, .wHead .C 17 20, .rData 17 20 16,
   .wData 17 1 16, .rData 17 1 16, .wNode 17 16 1, .rState 17 16 3, .wState 17 16 2, .fadd .I 2 17 0,
   .retSignal 17, .fsub .M 16 1, .retWait 16, .csEnter 16, .csExit 16 1, .callUnlock 16,
   .fadd .M 2 16 0, .retUnlock 16]

example : (sys.run traceRegisteredNotEnqueued).map obs = some (0, 1, 1, 1, 0, 0, none, none) := by rfl
-- the window itself: after the signaller's failed trypop the waiter is registered, claimed, not enqueued
example : (sys.run (traceRegisteredNotEnqueued.take 14)).map
    (fun s => (s.count, s.nreg, s.nclaim, s.order, s.pc 16, s.pc 17)) =
    some (0, 1, 1, [], .waitClearedNode 20, .wake false 1 .top) := by rfl
example : (sys.run traceRegisteredNotEnqueued).map (fun s => ((s.gh 16).nR, (s.gh 16).nU, (s.gh 17).popped)) =
    some (1, 1, 1) := by rfl

-- hypotheses of `signal_pops_exactly_claim` are satisfiable by this implementation trace:
-- es = first 11 events, the claim (`fsubCount 17 1`), mid = the next 16 events, then `retSignal 17`
example : traceRegisteredNotEnqueued =
    traceRegisteredNotEnqueued.take 11 ++ [.fsubCount 17 1] ++
      (traceRegisteredNotEnqueued.drop 12).take 16 ++ [.retSignal 17] ++
      traceRegisteredNotEnqueued.drop 29 := by rfl
example : ∀ e ∈ (traceRegisteredNotEnqueued.drop 12).take 16, isSigStart 17 e = false := by decide
example : popsBy 17 ((traceRegisteredNotEnqueued.drop 12).take 16) = 1 := by rfl

/-- `w | w | b` on 2 kernel threads (seed 140): a broadcast that releases two waiters; the
    deferred unlock of M finds M contended and runs its own wake loop on M.waiters. -- 85 events -/
def traceBroadcastTwo : List Ev :=
  [.callLock 17, .fsub .M 17 1, .retLock 17, .callWait 17, .faddCount 1 17 0, .wState 17 17 5,
   .rNode 17 17 21, .wData 17 21 17, .wNode 17 17 0, .wNext 17 21 0, .xchgTail .C 17 1 21,
   .wNext 17 1 21, .fadd .M 1 16 0, .callLock 16, .fsub .M 16 1, .retLock 16, .callWait 16,
   .faddCount 1 16 1, .callLock 18, .fsub .M 18 0, .wState 16 16 5, .rNode 16 16 20, .wData 16 20 16,
   .wNode 16 16 0, .wNext 16 20 0, .xchgTail .C 16 21 20, .wState 18 18 5, .rNode 18 18 22,
   .wData 18 22 18, .wNode 18 18 0, .wNext 18 22 0, .wNext 16 21 20, .xchgTail .M 18 3 22,
   .wNext 18 3 22, .fadd .M 1 1 (-1), .rHead .M 1 3, .rNext 1 3 22, .wHead .M 1 22, .rData 1 22 18,
   .wData 1 3 18, .rData 1 3 18, .wNode 1 18 3, .rState 1 18 3, .wState 1 18 2, .retLock 18,
   .callBroadcast 18 true, .fsub .I 18 1, .xchgCount 18 2, .rHead .C 18 1, .rNext 18 1 21,
   .wHead .C 18 21, .rData 18 21 17, .wData 18 1 17, .rData 18 1 17, .wNode 18 17 1, .rState 18 17 3,
   .wState 18 17 2, .rHead .C 18 21, .rNext 18 21 20, .wHead .C 18 20, .rData 18 20 16,
   .wData 18 21 16, .rData 18 21 16, .wNode 18 16 21, .rState 18 16 3, .wState 18 16 2,
   .fadd .I 1 18 0, .retBroadcast 18, .callUnlock 18, .fadd .M 1 18 0, .retUnlock 18, .fsub .M 17 1,
   .retWait 17, .csEnter 17, .csExit 17 1, .callUnlock 17, .fadd .M 1 17 0, .retUnlock 17,
   .fsub .M 16 1, .retWait 16, .csEnter 16, .csExit 16 2, .callUnlock 16, .fadd .M 1 16 0,
   .retUnlock 16]

set_option maxRecDepth 20000 in
example : (sys.run traceBroadcastTwo).map obs = some (0, 2, 2, 2, 0, 0, none, none) := by rfl
set_option maxRecDepth 20000 in
example : (sys.run traceBroadcastTwo).map (fun s => (released s, (s.gh 16).nR, (s.gh 17).nR)) =
    some ([17, 16], 1, 1) := by rfl

/-- `w | w | b` on 2 kernel threads (seed 32): a waiter is released and re-locks M (its
    `fetch_sub` on M.counter) BEFORE the successor has performed the deferred unlock of M on its
    behalf — M is then handed back to it by that very unlock's wake loop. -- 112 events -/
def traceRelockBeforeDeferredUnlock : List Ev :=
  [.callLock 17, .fsub .M 17 1, .retLock 17, .callWait 17, .faddCount 1 17 0, .wState 17 17 5,
   .rNode 17 17 21, .wData 17 21 17, .wNode 17 17 0, .wNext 17 21 0, .xchgTail .C 17 1 21,
   .wNext 17 1 21, .callLock 18, .fadd .M 1 16 0, .fsub .M 18 1, .callLock 16, .fsub .M 16 0,
   .wState 16 16 5, .retLock 18, .callBroadcast 18 true, .rNode 16 16 20, .wData 16 20 16,
   .wNode 16 16 0, .wNext 16 20 0, .fsub .I 18 1, .xchgCount 18 1, .rHead .C 18 1,
   .xchgTail .M 16 3 20, .wNext 16 3 20, .rNext 18 1 21, .wHead .C 18 21, .rData 18 21 17,
   .wData 18 1 17, .rData 18 1 17, .wNode 18 17 1, .rState 18 17 3, .wState 18 17 2, .fadd .I 0 18 0,
   .retBroadcast 18, .callUnlock 18, .fadd .M 0 18 (-1), .rHead .M 18 3, .rNext 18 3 20,
   .wHead .M 18 20, .rData 18 20 16, .wData 18 3 16, .rData 18 3 16, .wNode 18 16 3, .rState 18 16 3,
   .wState 18 16 2, .fsub .M 17 0, .wState 17 17 5, .rNode 17 17 1, .wData 17 1 17, .wNode 17 17 0,
   .wNext 17 1 0, .xchgTail .M 17 20 1, .wNext 17 20 1, .retLock 16, .callWait 16, .faddCount 0 16 0,
   .wState 16 16 5, .rNode 16 16 3, .wData 16 3 16, .wNode 16 16 0, .wNext 16 3 0,
   .xchgTail .C 16 21 3, .wNext 16 21 3, .fadd .M 0 18 (-1), .rHead .M 18 20, .rNext 18 20 1,
   .wHead .M 18 1, .rData 18 1 17, .wData 18 20 17, .rData 18 20 17, .wNode 18 17 20,
   .rState 18 17 3, .wState 18 17 2, .retUnlock 18, .retWait 17, .csEnter 17, .csExit 17 1,
   .callUnlock 17, .fadd .M 0 17 0, .retUnlock 17, .callLock 19, .fsub .M 19 1, .retLock 19,
   .callBroadcast 19 true, .fsub .I 19 1, .xchgCount 19 1, .rHead .C 19 21, .rNext 19 21 3,
   .wHead .C 19 3, .rData 19 3 16, .wData 19 21 16, .rData 19 21 16, .wNode 19 16 21,
   .rState 19 16 3, .wState 19 16 2, .fadd .I 0 19 0, .retBroadcast 19, .callUnlock 19,
   .fadd .M 0 19 0, .retUnlock 19, .fsub .M 16 1, .retWait 16, .csEnter 16, .csExit 16 2,
   .callUnlock 16, .fadd .M 0 16 0, .retUnlock 16]

set_option maxRecDepth 20000 in
example : (sys.run traceRelockBeforeDeferredUnlock).map obs = some (0, 2, 2, 2, 0, 0, none, none) := by rfl

/-- a signal with nobody waiting: decrement, add back, no pop (hypotheses of `signal_claims`
    with `old = 0` are satisfiable) -/
example : (sys.run [.callSignal 16 false, .fsub .I 16 1, .fsubCount 16 0, .faddCount 0 16 (-1),
      .fadd .I 0 16 0, .retSignal 16]).map obs = some (0, 0, 0, 0, 0, 0, none, none) := by rfl
example : (sys.run [.callSignal 16 false, .fsub .I 16 1, .fsubCount 16 0]).map
    (fun s => (s.count, s.miss, s.pc 16, s.i.owner)) = some (-1, 1, .sigMiss, some 32) := by rfl

/-! ### negative checks: what the model refuses (each is what a mutated implementation would log) -/

/-- wait that unlocks M itself before enqueueing (`fetch_add(M.counter)` by the waiter) -/
example : sys.run [.callLock 16, .fsub .M 16 1, .retLock 16, .callWait 16, .faddCount 0 16 0,
    .fadd .M 0 16 0] = none := by rfl
/-- wait that enqueues before registering -/
example : sys.run [.callLock 16, .fsub .M 16 1, .retLock 16, .callWait 16, .wState 16 16 5] = none := by rfl
/-- a pop of the cond's queue by a fiber that made no claim -/
example : sys.run (traceRegisteredNotEnqueued.take 17 ++ [.rHead .C 18 1]) = none := by rfl
/-- wait that returns without re-acquiring M -/
example : sys.run (traceRegisteredNotEnqueued.take 29 ++ [.retWait 16]) = none := by rfl

end LibfiberVerif.Cond
