/-
  Props/C02.lean — property C02: "every runnable fiber is run exactly once per wake-up".

  Section `Wsd` (this part): the run queue itself, the Chase–Lev work-stealing deque of
  src/work_stealing_deque.c, model `Model/Wsd.lean`, invariant `Proof/Wsd.lean`.
  All theorems quantify over every event list the model accepts: one owner (push_bottom /
  pop_bottom) interleaved arbitrarily with any number of thieves (steal), any initial array
  size `2^k0`, any number of growths, unbounded operation counts.

  (The whole-runtime half of C02 — quiescence: when every kernel thread has gone idle no
  runnable fiber remains queued — is a separate section of this file, over the runtime
  model; it uses the run queues only through `Wsd.exactly_once`.)
-/
import LibfiberVerif.Proof.Wsd
import LibfiberVerif.Proof.Rt

namespace LibfiberVerif.Wsd

/-! ### Wsd: exactly once -/

/-- **Nothing is dropped, nothing is handed out twice, nothing is invented** — in every
    reachable state, across growth and the single-element race, for any number of thieves.
    As multisets:  pushed = returned ⊎ owed ⊎ logical  where
    * `pushed`   values whose `push_bottom` has published them (`bottom := b + 1`),
    * `returned` values `pop_bottom` / `steal` calls have handed back to their callers,
    * `owed`     one entry `(thread, value)` for exactly those threads that have won a value
                 (CAS on `top` succeeded, or pop_bottom saw more than one element) and are still
                 on their way to the `return` (`holds` reads it off the thread's pc),
    * `logical`  the values of indices `[top, hb)` of the published array; `hb = bottom` except
                 inside pop_bottom's window (`bottom` lowered, fate of that element open). -/
theorem exactly_once {k0 : Nat} {es : List Ev} {s : St} (h : (sys k0).run es = some s) :
    s.pushed.Perm (s.returned ++ s.owed.map Prod.snd ++ logical s)
    ∧ s.owed.Nodup
    ∧ (∀ u x, (u, x) ∈ s.owed ↔ holds s u = some x) := by
  obtain ⟨hI, hA⟩ := inv_acc_of_run h
  refine ⟨?_, hA.nodup, hA.mem⟩
  exact hI.perm.trans (List.Perm.append_right _ hA.perm)

/-- At quiescence (every thread between operations) the accounting is purely API-level:
    the pushed values are exactly the returned ones plus the contents of slots
    `[top, bottom)` of the current array. -/
theorem exactly_once_quiescent {k0 : Nat} {es : List Ev} {s : St} (h : (sys k0).run es = some s)
    (hq : ∀ u, s.pc u = .idle) :
    s.top ≤ s.bottom ∧
    s.pushed.Perm (s.returned ++ seg (s.at s.arr) s.top (s.bottom - s.top).toNat) := by
  obtain ⟨hp, -, hm⟩ := exactly_once h
  have hI := inv_of_run h
  have hb : s.bottom = s.hb := hI.ownerAt (hq 0)
  have ho : s.owed = [] := List.eq_nil_iff_forall_not_mem.mpr fun a ha => by
    have := (hm a.1 a.2).mp ha
    simp [holds, hq a.1, holdsPc] at this
  refine ⟨by rw [hb]; exact hI.tle, ?_⟩
  rw [ho] at hp
  show s.pushed.Perm (s.returned ++ seg (atg s.k0 s.slot s.arr) s.top (s.bottom - s.top).toNat)
  simpa [logical, hb] using hp

/-- nothing invented, nothing duplicated, stated per value: a value is handed back at most as
    often as it was pushed -/
theorem returned_le_pushed {k0 : Nat} {es : List Ev} {s : St} (h : (sys k0).run es = some s)
    (x : Int) : s.returned.count x ≤ s.pushed.count x := by
  obtain ⟨hp, -, -⟩ := exactly_once h
  rw [hp.count_eq x, List.count_append, List.count_append]
  omega

/-! ### Wsd: ABORT and EMPTY are justified -/

/-- meaning of the ghost flag `raced`: it is cleared by the thread's own load of `top` and can
    only be set by ANOTHER thread's successful CAS on `top` -/
theorem raced_spec {s s' : St} {e : Ev} (h : step s e = some s') (t : Nat) :
    (∀ x mo, e = .ldTop t x mo → s'.raced t = false) ∧
    (s'.raced t = true → s.raced t = true ∨
      ∃ u f x d mo, u ≠ t ∧ e = .casTop u f x d true mo) := by
  cases e with
  | casTop u f x d ok mo =>
    refine ⟨by simp, ?_⟩
    simp only [step] at h
    (repeat' split at h) <;> simp at h <;> subst h <;> simp <;>
    · intro hr
      by_cases hut : u = t <;> simp_all
  | _ =>
    simp only [step] at h <;> (repeat' split at h) <;> simp at h <;> subst h <;>
      simp [upd] <;> grind

/-- **ABORT only on a race**: whenever `pop_bottom` or `steal` is about to return ABORT, a CAS
    on `top` by some other thread succeeded after this operation loaded `top`
    (`raced_spec`: the flag was cleared by that load and only such a CAS sets it). -/
theorem abort_only_on_race {k0 : Nat} {es : List Ev} {s : St} (h : (sys k0).run es = some s)
    (t : Nat) (ht : s.pc t = .popDone .abort ∨ s.pc t = .stealDone .abort) :
    s.raced t = true := by
  have hI := inv_of_run h
  by_cases h0 : t = 0
  · subst h0
    rcases ht with ht | ht
    · exact (hI.ownerAt ht).2.1 rfl
    · exact (hI.ownerAt ht).elim
  · rcases ht with ht | ht
    · exact (hI.thiefAt h0 ht).elim
    · exact (hI.thiefAt h0 ht).1 rfl

/-- the same at the CAS itself: a CAS on `top` fails only if another thread's CAS succeeded
    since this operation loaded `top` -/
theorem cas_fails_only_on_race {k0 : Nat} {es : List Ev} {s s' : St}
    (h : (sys k0).run es = some s) {t : Nat} {f x d : Int} {mo : Nat}
    (hs : step s (.casTop t f x d false mo) = some s') : s.raced t = true := by
  have hI := inv_of_run h
  -- the promise `raced = false → top = t` of the pc the CAS is issued from, and `top ≠ t`
  have key : ∀ {tt : Int}, (s.raced t = false → s.top = tt) → f = s.top ∧ x = tt ∧
      false = decide (f = x) → s.raced t = true := by
    rintro tt hrc ⟨rfl, rfl, hok⟩
    cases hr : s.raced t
    · exact absurd (hrc hr) (by simpa using hok)
    · rfl
  simp only [step] at hs
  split at hs
  next b tt y hpc =>
    obtain rfl := tid_zero hI hpc (by simp [thiefOk])
    obtain ⟨hf, hx, -, hok, -⟩ := (of_ite_ite_some hs).1
    exact key (hI.ownerAt hpc).2.2.2.2.1 ⟨hf, hx, hok⟩
  next tt g y hpc =>
    obtain ⟨hf, hx, -, hok, -⟩ := (of_ite_ite_some hs).1
    exact key (hI.thiefAt (tid_ne_zero hI hpc (by simp [ownerOk])) hpc).2.1 ⟨hf, hx, hok⟩
  next => cases hs

/-- meaning of the ghost flag `wit`: it is assigned only by the load that decides EMPTY —
    steal's load of `bottom` (deque logically empty at that instant, or the owner inside
    pop_bottom's window) and pop_bottom's load of `top` on the EMPTY path (logically empty) -/
theorem wit_spec {s s' : St} {e : Ev} (h : step s e = some s') (t : Nat) :
    s'.wit t = s.wit t ∨
    (∃ x mo, e = .ldBottom t x mo ∧
      s'.wit t = (decide (s.hb ≤ s.top) || (s.pc 0).popWindow)) ∨
    (∃ x mo, e = .ldTop t x mo ∧ s'.wit t = decide (s.hb ≤ s.top)) := by
  cases e <;> simp only [step] at h <;> (repeat' split at h) <;> simp at h <;> subst h <;>
    simp [upd] <;> grind

/-- **EMPTY only if empty or racing**: whenever `pop_bottom` or `steal` is about to return
    EMPTY, then at the instant of its deciding load (`wit_spec`) the deque was logically empty
    (`hb ≤ top`, i.e. `logical = []`) or — for a thief only — the owner was inside the window of
    pop_bottom in which `bottom` is lowered (the thief raced with the owner for the last
    element).  Every path to `popDone .empty` / `stealDone .empty` passes through that load. -/
theorem empty_only_if_empty_or_race {k0 : Nat} {es : List Ev} {s : St}
    (h : (sys k0).run es = some s)
    (t : Nat) (ht : s.pc t = .popDone .empty ∨ s.pc t = .stealDone .empty) :
    s.wit t = true := by
  have hI := inv_of_run h
  by_cases h0 : t = 0
  · subst h0
    rcases ht with ht | ht
    · exact (hI.ownerAt ht).2.2 rfl
    · exact (hI.ownerAt ht).elim
  · rcases ht with ht | ht
    · exact (hI.thiefAt h0 ht).elim
    · exact (hI.thiefAt h0 ht).2 rfl

/-- `hb ≤ top` really means "no element": the logical contents are the empty list -/
theorem logical_nil_of_le {s : St} (h : s.hb ≤ s.top) : logical s = [] := by
  have : (s.hb - s.top).toNat = 0 := by omega
  simp [logical, this, seg]

/-! ### Wsd: a thief holding an old array generation -/

/-- **Stale array valid**: a thief that has read value `x` for index `t` from generation `g`
    (possibly retired: `g ≤ arr`, old generations are never freed or overwritten) and whose CAS
    can still succeed (`top = t`) has read exactly the head of the logical contents, i.e. the
    value that belongs to its index in the published generation. -/
theorem stale_array_valid {k0 : Nat} {es : List Ev} {s : St} (h : (sys k0).run es = some s)
    {u : Nat} {t : Int} {g : Nat} {x : Int} (hpc : s.pc u = .stealRead t g x) (htop : s.top = t) :
    g ≤ s.arr ∧ t < s.hb ∧ x = s.at s.arr t ∧ ∃ rest, logical s = x :: rest := by
  have hI := inv_of_run h
  obtain ⟨-, -, hg, hx⟩ := hI.thiefAt (tid_ne_zero hI hpc (by simp [ownerOk])) hpc
  obtain ⟨hlt, hxe⟩ := hx htop
  refine ⟨hg, hlt, hxe, ?_⟩
  obtain ⟨n, hn⟩ : ∃ n, (s.hb - s.top).toNat = n + 1 := ⟨(s.hb - s.top).toNat - 1, by omega⟩
  refine ⟨seg (atg s.k0 s.slot s.arr) (s.top + 1) n, ?_⟩
  rw [logical, hn, seg, htop, ← hxe]

/-- and when that CAS succeeds the thief's value is what leaves the deque -/
theorem steal_takes_head {k0 : Nat} {es : List Ev} {s s' : St} (h : (sys k0).run es = some s)
    {u : Nat} {t : Int} {g : Nat} {x f e d : Int} {mo : Nat} (hpc : s.pc u = .stealRead t g x)
    (hs : step s (.casTop u f e d true mo) = some s') :
    logical s = x :: logical s' ∧ s'.taken = s.taken ++ [x] ∧ holds s' u = some x := by
  simp only [step] at hs
  rw [hpc] at hs
  simp only at hs
  split at hs
  next hc =>
    obtain ⟨hf, he, hd, hok, -⟩ := hc
    simp at hs
    subst hs
    have htop : s.top = t := by simpa [hf, he] using hok.symm
    obtain ⟨-, hlt, hx, -⟩ := stale_array_valid h hpc htop
    refine ⟨?_, rfl, by simp [holds, holdsPc, upd]⟩
    have hn : (s.hb - s.top).toNat = (s.hb - d).toNat + 1 := by omega
    simp only [logical]
    rw [hn, seg, hd, htop, ← at_eq, ← hx]
  next => simp at hs

/-! ### non-vacuity: the windows the property names are reachable -/

/-- one element, owner's pop_bottom and a thief's steal race for it; the thief's CAS wins,
    the owner gets ABORT; then both return -/
def raceTrace : List Ev := [
  .callPush 0 7, .ldBottom 0 0 2, .ldTop 0 0 2, .ldArr 0 0 5, .wrSlot 0 0 0 7, .stBottom 0 1 3, .retPush 0,
  .callSteal 1, .ldTop 1 0 2, .ldBottom 1 1 2, .ldArr 1 0 5, .rdSlot 1 0 0 7,
  .callPop 0, .ldBottom 0 1 2, .ldArr 0 0 5, .stBottom 0 0 5, .ldTop 0 0 5, .rdSlot 0 0 0 7,
  -- a second thief looks while the owner is inside its window: EMPTY although 7 is still there
  .callSteal 2, .ldTop 2 0 2, .ldBottom 2 0 2, .ldArr 2 0 5,
  .casTop 1 0 0 1 true 5,
  .casTop 0 1 0 1 false 5,
  .stBottom 0 1 3]

example : ∃ s, (sys 1).run raceTrace = some s ∧
    s.pc 0 = .popDone .abort ∧ s.raced 0 = true ∧
    s.pc 1 = .stealDone (.val 7) ∧ s.owed = [(1, 7)] ∧
    s.pc 2 = .stealDone .empty ∧ s.wit 2 = true ∧
    s.pushed = [7] ∧ s.returned = [] ∧ logical s = [] :=
  ⟨_, rfl, by decide, by decide, by decide, by decide, by decide, by decide, by decide, by decide,
    by decide⟩

example : ∃ s, (sys 1).run (raceTrace ++ [.retPop 0 (-2), .retSteal 1 7, .retSteal 2 (-1)]) = some s ∧
    (∀ u, s.pc u = .idle) ∧ s.pushed = [7] ∧ s.returned = [7] ∧ s.top = 1 ∧ s.bottom = 1 :=
  ⟨_, rfl, by intro u; simp [upd]; intro h2 h1 h0; simp [h0, h1, h2, sys, init], by decide, by decide, by decide, by decide⟩

/-- the same race won by the owner: the thief gets ABORT -/
example : ∃ s, (sys 1).run [
    .callPush 0 7, .ldBottom 0 0 2, .ldTop 0 0 2, .ldArr 0 0 5, .wrSlot 0 0 0 7, .stBottom 0 1 3, .retPush 0,
    .callSteal 1, .ldTop 1 0 2, .ldBottom 1 1 2, .ldArr 1 0 5, .rdSlot 1 0 0 7,
    .callPop 0, .ldBottom 0 1 2, .ldArr 0 0 5, .stBottom 0 0 5, .ldTop 0 0 5, .rdSlot 0 0 0 7,
    .casTop 0 0 0 1 true 5, .casTop 1 1 0 1 false 5, .stBottom 0 1 3] = some s ∧
    s.pc 0 = .popDone (.val 7) ∧ s.pc 1 = .stealDone .abort ∧ s.raced 1 = true ∧ s.owed = [(0, 7)] :=
  ⟨_, rfl, by decide, by decide, by decide, by decide⟩

/-- growth with a thief holding the old array: the thief loads generation 0, the owner's next
    push grows (copies index 0 into generation 1, publishes it, writes index 1 there), then the
    thief reads its slot from the RETIRED generation 0 and its CAS succeeds -/
def growTrace : List Ev := [
  .callPush 0 7, .ldBottom 0 0 2, .ldTop 0 0 2, .ldArr 0 0 5, .wrSlot 0 0 0 7, .stBottom 0 1 3, .retPush 0,
  .callSteal 1, .ldTop 1 0 2, .ldBottom 1 1 2, .ldArr 1 0 5,
  .callPush 0 8, .ldBottom 0 1 2, .ldTop 0 0 2, .ldArr 0 0 5,
  .rdSlot 0 0 0 7, .wrSlot 0 1 0 7, .stArr 0 1 5, .wrSlot 0 1 1 8, .stBottom 0 2 3, .retPush 0,
  .rdSlot 1 0 0 7]

example : ∃ s, (sys 1).run growTrace = some s ∧
    s.pc 1 = .stealRead 0 0 7 ∧ s.arr = 1 ∧ s.top = 0 ∧ logical s = [7, 8] :=
  ⟨_, rfl, by decide, by decide, by decide, by decide⟩

example : ∃ s, (sys 1).run (growTrace ++ [.casTop 1 0 0 1 true 5, .retSteal 1 7]) = some s ∧
    s.returned = [7] ∧ s.pushed = [7, 8] ∧ logical s = [8] ∧ s.owed = [] :=
  ⟨_, rfl, by decide, by decide, by decide, by decide⟩

end LibfiberVerif.Wsd

/-! ## Section `Rt`: the whole runtime (model `Model/Rt.lean`, invariant `Proof/Rt.lean`)

  "Whenever a fiber is made runnable (created, yielded, woken) it is run exactly once for that
   wake-up: the run queues never drop an entry and never hand one entry to two takers, whether
   it is taken by the owning thread or stolen …"

  Here a run queue is a bag at the deque API (`rqpush` / `rqpop` / `rqsteal` call-site events of
  fiber_scheduler_wsd.c; the deque behind the API is the `Wsd` section above).  Every theorem
  quantifies over every event list `Rt.sys` accepts: any number (≤ 16) of kernel threads, any
  number of fibers, any interleaving.

  Vocabulary (Proof/Rt.lean):
    bagCnt s.bag g   number of run-queue entries holding g, over all queues, with multiplicity
    handCnt s.tpc g  number of kernel threads holding g in their hand (popped / stolen, not yet
                     re-queued or switched to)
    places s g       bagCnt + handCnt
    cnt p es         number of events of es satisfying p
    isWake g         `rqpush _ _ g` by fiber_scheduler_schedule: a wake-up (creation, yield's
                     to_schedule, a waker)
    isPush g         any `rqpush _ _ g` (wake-up, SAVING re-queue by fiber_scheduler_next,
                     re-push by load_balance after a steal)
    isTake g         `rqpop _ _ g` or `rqsteal _ _ g`
    isSwitch g       `switch _ g`
    isPopBy k g / isSwitchBy k g / isRequeueBy k g   the same restricted to kernel thread k
    popHand g p      1 if hand p holds g as the result of a pop (held/requeue/checked/armed)

  The idle clause ("when every kernel thread has gone idle no runnable fiber remains queued
  anywhere") is NOT a safety invariant of the model — a thread may stop polling while another
  still holds work — it is a liveness-flavoured statement about the runtime's idle detection.
  It is checked at run time on every log by `Rt.idleMonitor` (at each `tick` note, emitted when
  every kernel thread has polled and found nothing for several rounds, all run queues of the
  model state must be empty); no theorem is claimed for it.
-/

namespace LibfiberVerif.Rt

/-- **one_place**: every fiber is in at most one place — (number of run-queue entries holding
    it, over all queues, with multiplicity) + (number of kernel threads holding it in their
    hand) ≤ 1.  So one entry is never handed to two takers, by pop or by steal. -/
theorem one_place {es : List Ev} {s : St} (h : sys.run es = some s) (g : Nat) :
    places s g ≤ 1 :=
  (inv_hist_of_run h).2.one g

/-- what `places` counts: it is positive iff g is in some run queue or some hand (no queue
    beyond the 32 and no thread beyond the 16 counted ones ever holds anything) -/
theorem places_meaning {es : List Ev} {s : St} (h : sys.run es = some s) (g : Nat) :
    0 < places s g ↔ (∃ q, g ∈ s.bag q) ∨ (∃ k, (s.tpc k).fib = some g) :=
  places_pos_iff (inv_of_run h) g

/-- the same, pairwise: no duplicate inside a queue, not in two queues, not in a queue and a
    hand, not in two hands -/
theorem one_place_pairwise {es : List Ev} {s : St} (h : sys.run es = some s) (g : Nat) :
    (∀ q, (s.bag q).count g ≤ 1) ∧
    (∀ q q', g ∈ s.bag q → g ∈ s.bag q' → q = q') ∧
    (∀ q k, g ∈ s.bag q → (s.tpc k).fib ≠ some g) ∧
    (∀ k k', (s.tpc k).fib = some g → (s.tpc k').fib = some g → k = k') := by
  have hI := inv_of_run h
  exact ⟨fun q => List.nodup_iff_count.mp (hI.nodup q) g, fun q q' => hI.bagbag q q' g,
    fun q k => hI.baghand q k g, fun k k' => hI.handhand k k' g⟩

/-- a fiber that is executing AND in a place is inside the P-saving window (state SAVING:
    every popper re-queues it); otherwise a running fiber is in no queue and no hand — it
    cannot be run a second time for the same wake-up -/
theorem running_in_place_is_saving {es : List Ev} {s : St} (h : sys.run es = some s)
    {g k : Nat} (hr : s.ctx g = .running k) (hp : 0 < places s g) : s.fst g = SAVING :=
  (places_pos (inv_of_run h) hp).saving_of_running hr

/-- only tracked fibers (script fibers, the main fiber) are ever queued or held; maintenance
    fibers never are -/
theorem untracked_nowhere {es : List Ev} {s : St} (h : sys.run es = some s) {g : Nat}
    (htr : s.tracked g = false) : places s g = 0 := by
  by_cases hp : 0 < places s g
  · have := (places_pos (inv_of_run h) hp).1; simp [htr] at this
  · omega

/-- **token conservation at the queues**: nothing is dropped and nothing is invented —
    #pushes of g = #pops/steals that returned g + #entries holding g now -/
theorem token_conservation {es : List Ev} {s : St} (h : sys.run es = some s) (g : Nat) :
    cnt (isPush g) es = cnt (isTake g) es + bagCnt s.bag g :=
  (inv_hist_of_run h).2.token g

/-- **run_once_per_wake**: for every tracked fiber, #wake-ups = #context switches to it +
    (1 if it is queued or held now, else 0).  Steals with their re-push and SAVING re-queues
    move the one token around without creating or consuming one.  Hence each wake-up is
    consumed by exactly one context switch, or is the single pending entry. -/
theorem run_once_per_wake {es : List Ev} {s : St} (h : sys.run es = some s) {g : Nat}
    (htr : s.tracked g = true) :
    cnt (isWake g) es = cnt (isSwitch g) es + places s g ∧ places s g ≤ 1 :=
  ⟨(inv_hist_of_run h).2.wake g (Or.inl htr), one_place h g⟩

/-- so a fiber is never switched to more often than it was woken, and never woken twice
    without having been run in between -/
theorem switches_le_wakes {es : List Ev} {s : St} (h : sys.run es = some s) {g : Nat}
    (htr : s.tracked g = true) :
    cnt (isSwitch g) es ≤ cnt (isWake g) es ∧ cnt (isWake g) es ≤ cnt (isSwitch g) es + 1 := by
  obtain ⟨h1, h2⟩ := run_once_per_wake h htr
  omega

/-- **a switch consumes a pop by the same thread**: per kernel thread k, #pops returning g =
    #switches to g + #SAVING re-queues of g + (1 if k holds g from a pop now) -/
theorem pop_accounting {es : List Ev} {s : St} (h : sys.run es = some s) {g : Nat}
    (htr : s.tracked g = true) (k : Nat) :
    cnt (isPopBy k g) es =
      cnt (isSwitchBy k g) es + cnt (isRequeueBy k g) es + popHand g (s.tpc k) :=
  (inv_hist_of_run h).2.pops g k (Or.inl htr)

theorem switches_le_pops {es : List Ev} {s : St} (h : sys.run es = some s) {g : Nat}
    (htr : s.tracked g = true) (k : Nat) :
    cnt (isSwitchBy k g) es ≤ cnt (isPopBy k g) es := by
  have := pop_accounting h htr k; omega

/-- before a fiber exists nothing is pushed, popped, stolen or switched to under its name -/
theorem nothing_before_create {es : List Ev} {s : St} (h : sys.run es = some s) {g : Nat}
    (hn : s.ctx g = .none) : cnt (isAbout g) es = 0 :=
  (inv_hist_of_run h).2.fresh g hn

/-! ### non-vacuity -/

/-- a steal: thread 1 steals fiber 16 from thread 0's queue, re-pushes it on its own queue,
    pops it and runs it — one wake-up, two pushes, two takes, one switch -/
def stealTrace : List Ev := [
  .create 0 16, .spawn, .rqpush 0 1 16 .wake,
  .rqsteal 1 1 (some 16), .rqpush 1 2 16 .other,
  .rqpop 1 2 (some 16), .rState 1 16 2 .next, .wState 1 16 1 .switchTo, .switch 1 16]

example : ∃ s, sys.run stealTrace = some s ∧ s.ctx 16 = .running 1 ∧ s.tracked 16 = true ∧
    cnt (isWake 16) stealTrace = 1 ∧ cnt (isPush 16) stealTrace = 2 ∧
    cnt (isTake 16) stealTrace = 2 ∧ cnt (isSwitch 16) stealTrace = 1 ∧ places s 16 = 0 :=
  ⟨_, rfl, by decide, by decide, by decide, by decide, by decide, by decide, by decide⟩

/-- in the middle of the steal the token is in the thief's hand -/
example : ∃ s, sys.run (stealTrace.take 4) = some s ∧ s.tpc 1 = .stolen 16 ∧
    bagCnt s.bag 16 = 0 ∧ handCnt s.tpc 16 = 1 ∧ places s 16 = 1 :=
  ⟨_, rfl, by decide, by decide, by decide, by decide⟩

/-- a second taker is rejected: once thread 1 has stolen the entry, thread 0's pop cannot
    return it, and a second wake-up push while it is held is rejected -/
example : sys.run (stealTrace.take 4 ++ [.rqpop 0 1 (some 16)]) = none ∧
    sys.run (stealTrace.take 4 ++ [.rqpush 0 1 16 .wake]) = none := by
  refine ⟨by decide, by decide⟩

/-- the P-saving window: the waker schedules a fiber that is still SAVING, another thread pops
    it, sees SAVING and re-queues it; after the original thread's switch and the maintenance
    flip it is popped again and run on the other kernel thread.  Fiber 16 over the whole trace:
    two wake-ups (creation; the waker), two switches to it (thread 0; thread 1), three pushes
    (the two wake-ups and the SAVING re-queue), three pops; thread 1 pops it twice, re-queues it
    once and switches to it once. -/
def savingTrace : List Ev := [
  .create 0 16, .create 0 17, .spawn,
  .rqpush 0 1 16 .wake, .rqpush 0 1 17 .wake,
  .rqsteal 1 1 (some 17), .rqpush 1 2 17 .other,
  .rqpop 1 2 (some 17), .rState 1 17 2 .next, .wState 1 17 1 .switchTo, .switch 1 17,
  .rState 0 0 1 .yield, .rqpop 0 1 (some 16), .rState 0 16 2 .next,
  .rState 0 0 1 .switchTo, .wState 0 0 2 .switchTo, .wState 0 16 1 .switchTo, .switch 0 16,
  .rState 0 0 2 .maint, .rqpush 0 1 0 .wake,
  .wState 0 16 5 .waitSaving, .rState 0 16 5 .yield,
  .rState 1 16 5 .wake, .rqpush 1 2 16 .wake,
  .rState 1 17 1 .yield, .rqpop 1 2 (some 16), .rState 1 16 5 .next, .rqpush 1 3 16 .next,
  .rqpop 0 1 (some 0), .rState 0 0 2 .next, .rState 0 16 5 .switchTo, .wState 0 0 1 .switchTo,
  .switch 0 0, .rState 0 16 5 .maint, .wState 0 16 3 .maint,
  .rqpop 1 3 (some 16), .rState 1 16 3 .next, .rState 1 17 1 .switchTo, .wState 1 17 2 .switchTo,
  .wState 1 16 1 .switchTo, .switch 1 16]

example : ∃ s, sys.run savingTrace = some s ∧ s.ctx 16 = .running 1 ∧
    cnt (isWake 16) savingTrace = 2 ∧ cnt (isSwitch 16) savingTrace = 2 ∧ places s 16 = 0 ∧
    cnt (isPush 16) savingTrace = 3 ∧ cnt (isTake 16) savingTrace = 3 ∧
    cnt (isPopBy 1 16) savingTrace = 2 ∧ cnt (isRequeueBy 1 16) savingTrace = 1 ∧
    cnt (isSwitchBy 1 16) savingTrace = 1 :=
  ⟨_, rfl, by decide, by decide, by decide, by decide, by decide, by decide, by decide, by decide,
    by decide⟩

/-- inside the window (after the re-queue): running on thread 0 AND queued, state SAVING -/
example : ∃ s, sys.run (savingTrace.take 28) = some s ∧ s.ctx 16 = .running 0 ∧
    places s 16 = 1 ∧ s.fst 16 = SAVING ∧ s.bag 3 = [16] :=
  ⟨_, rfl, by decide, by decide, by decide, by decide⟩

end LibfiberVerif.Rt
