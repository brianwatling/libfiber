/-
  Props/C17.lean — property C17 (work queue: src/work_queue.c, include/work_queue.h over
  include/mpsc_fifo.h).

  "At most one caller at a time is told to start working; every pushed item is handed to a
   worker exactly once; and a worker is told the queue is empty only when every item pushed so
   far has been handed out — an item is never left queued with no active worker."

  All theorems are about EVERY event list the model `WorkQueue.sys` accepts: any number of
  pushing threads, any number of items, every interleaving of the individual shared accesses
  (announce `fadd` → terminate → exchange → link of a push; head/next/data accesses of the pop;
  compare → re-read → zero → `fsub` of the worker's "drained" decision), nodes being recycled.
  The model is tied to the C code by trace validation (`verifdrv WorkQueue`).

  Vocabulary (ghost fields are updated by `WorkQueue.step` next to the access they count):
  * "told to start working" = the thread's `fadd in_count` returned 1 (`Pc.isWorker` from then
    on, it is in `workers`) … "told EMPTY" = its `fsub in_count` returned 0;
  * `announced` = number of `fadd`s, `subtracted` = sum of the `fsub` operands,
    `xchgd` = item values in `xchg tail` order, `handed` = item values in the order
    `get_work` returned them, `pending` = threads between `fadd` and `xchg`,
    `hd`/`tl` = number of pops / exchanges (queue positions of the stub / the tail).
-/
import LibfiberVerif.Proof.WorkQueue

namespace LibfiberVerif.WorkQueue

/-! ### the ghost counters are what the trace says they are -/

/-- number of announcements (`__sync_add_and_fetch(&in_count, 1)`) in a trace -/
def announcedOf (es : List Ev) : Nat :=
  (es.filter fun | .faddIn _ _ => true | _ => false).length

/-- sum of the operands of all `__sync_sub_and_fetch(&in_count, op)` in a trace -/
def subtractedOf (es : List Ev) : Nat :=
  (es.map fun | .fsubIn _ _ op => op | _ => 0).sum

/-- item values returned by `get_work` (MORE_WORK), in order -/
def returnedOf (es : List Ev) : List Nat :=
  es.filterMap fun | .retGw _ v _ => if v = 0 then none else some v | _ => none

theorem ghost_eq_trace (es : List Ev) (s : St) (h : sys.run es = some s) :
    s.announced = announcedOf es ∧ s.subtracted = subtractedOf es ∧ s.handed = returnedOf es := by
  refine Sys.hist_inv_of_run sys
    (fun s es => s.announced = announcedOf es ∧ s.subtracted = subtractedOf es ∧
      s.handed = returnedOf es) ?_ ?_ h
  · simp [sys, init, announcedOf, subtractedOf, returnedOf]
  · intro s es e s' ⟨h1, h2, h3⟩ hs
    simp only [sys] at hs
    cases e <;> split_step hs
    all_goals
      simp_all [announcedOf, subtractedOf, returnedOf, List.filter_append, List.filterMap_append]
    -- `ret getwork v`, `v ≠ 0`
    all_goals (rename_i hc; obtain ⟨rfl, rfl, hv⟩ := hc; simp [hv])

/-! ### clause 1: at most one caller at a time is told to start working -/

/-- the set of threads between "told START_WORKING" and "told EMPTY" never has two elements -/
theorem one_worker (es : List Ev) (s : St) (h : sys.run es = some s) :
    s.workers.length ≤ 1 :=
  (inv_of_run h).c.one

/-- the same, read off the program counters: two threads are never both between the `fadd`
    that returned 1 and the `fsub` that returned 0 -/
theorem one_worker_pc (es : List Ev) (s : St) (h : sys.run es = some s) (t t' : Nat)
    (ht : (s.pc t).isWorker = true) (ht' : (s.pc t').isWorker = true) : t = t' := by
  have I := (inv_of_run h).c
  have a := I.wk t ht
  have b := I.wk t' ht'
  rw [a] at b
  simpa using b

/-- single-consumer obligation of the MPSC fifo: only the active worker is inside `get_work` -/
theorem only_worker_pops (es : List Ev) (s : St) (h : sys.run es = some s) (t : Nat)
    (ht : (s.pc t).inGetWork = true) : s.workers = [t] :=
  (inv_of_run h).c.wk t (Pc.inGetWork_isWorker ht)

/-- `in_count = announced − subtracted` -/
theorem in_count_eq (es : List Ev) (s : St) (h : sys.run es = some s) :
    s.inCount + s.subtracted = s.announced :=
  (inv_of_run h).c.cnt

/-- … stated on the trace alone -/
theorem in_count_eq_trace (es : List Ev) (s : St) (h : sys.run es = some s) :
    s.inCount + subtractedOf es = announcedOf es := by
  have g := ghost_eq_trace es s h
  have c := in_count_eq es s h
  rw [g.1, g.2.1] at c; exact c

/-- `in_count` is zero exactly when nobody is working -/
theorem in_count_zero_iff (es : List Ev) (s : St) (h : sys.run es = some s) :
    s.inCount = 0 ↔ s.workers = [] :=
  (inv_of_run h).c.inCount_zero_iff

/-! ### clause 2: every pushed item is handed to a worker exactly once -/

/-- the items handed out are a prefix of the items in exchange order: the k-th item handed out
    is the k-th item exchanged into the fifo — none twice, none skipped, none invented -/
theorem each_item_once (es : List Ev) (s : St) (h : sys.run es = some s) :
    s.handed <+: s.xchgd := by
  have I := (inv_of_run h).m.chain
  rw [I.hand]; exact List.take_prefix _ _

/-- … with the handed-out list read off the trace -/
theorem each_item_once_trace (es : List Ev) (s : St) (h : sys.run es = some s) :
    returnedOf es <+: s.xchgd := by
  rw [← (ghost_eq_trace es s h).2.2]; exact each_item_once es s h

/-- if the pushed values are distinct no value is handed out twice -/
theorem handed_nodup (es : List Ev) (s : St) (h : sys.run es = some s) (hd : s.xchgd.Nodup) :
    s.handed.Nodup :=
  List.Sublist.nodup (each_item_once es s h).sublist hd

/-- nothing is invented: every value handed out is the argument of an earlier `call push` -/
theorem never_invented (es : List Ev) (s : St) (h : sys.run es = some s) (v : Nat)
    (hv : v ∈ s.handed) : ∃ t n, Ev.callPush t v n ∈ es :=
  (pushedInv_of_run h).1 v ((each_item_once es s h).subset hv)

/-- nothing is handed out before it was exchanged in, and at most one pop is in flight -/
theorem handed_le (es : List Ev) (s : St) (h : sys.run es = some s) :
    s.handed.length ≤ s.hd ∧ s.hd ≤ s.handed.length + 1 ∧ s.hd ≤ s.tl ∧ s.xchgd.length = s.tl ∧
      s.tl + s.pending.length = s.announced := by
  have I := inv_of_run h
  exact ⟨I.c.hle, I.c.hub, I.m.chain.hdtl, I.m.chain.xlen, I.c.ann.symm⟩

/-! ### clause 3: EMPTY only when everything announced has been handed out; nothing is left
    queued with no active worker -/

/-- an item announced and not yet handed out ⇒ an active worker exists -/
theorem none_stranded (es : List Ev) (s : St) (h : sys.run es = some s)
    (hlt : s.handed.length < s.announced) : s.workers ≠ [] := by
  have I := (inv_of_run h).c
  intro hw
  have := I.idle0 hw
  have := I.cnt
  omega

/-- with no active worker the fifo is empty (`head = tail`), every announced item has been
    exchanged in, popped and returned, and no push is between announce and exchange -/
theorem idle_all_handed (es : List Ev) (s : St) (h : sys.run es = some s) (hw : s.workers = []) :
    s.handed = s.xchgd ∧ s.handed.length = s.announced ∧ s.hd = s.tl ∧ s.head = s.tail ∧
      s.pending = [] := by
  have I := inv_of_run h
  have i0 := I.c.idle0 hw
  have cnt := I.c.cnt
  have ann := I.c.ann
  have hdtl := I.m.chain.hdtl
  have xlen := I.m.chain.xlen
  have hand := I.m.chain.hand
  have e1 : s.hd = s.tl := by omega
  have e2 : s.pending.length = 0 := by omega
  refine ⟨?_, by omega, e1, ?_, List.eq_nil_of_length_eq_zero e2⟩
  · rw [hand]; apply List.take_of_length_le; omega
  · rw [I.m.chain.head_eq, I.m.chain.tail_eq, e1]

/-- the step at which a worker is told EMPTY (its `sub_and_fetch` returns 0): at that very
    moment every item announced so far has been handed out, the fifo is empty and no push is
    in flight between announce and exchange -/
theorem empty_only_when_drained (es : List Ev) (s s' : St) (t old op : Nat)
    (h : sys.run es = some s) (hs : step s (.fsubIn t old op) = some s')
    (he : s'.pc t = .gwEmptyDone) :
    s'.workers = [] ∧ s'.handed.length = s'.announced ∧ s'.handed = s'.xchgd ∧ s'.hd = s'.tl ∧
      s'.pending = [] := by
  have h' : sys.run (es ++ [.fsubIn t old op]) = some s' := by
    simp only [Sys.run] at h ⊢
    rw [Sys.runFrom_append, h]; simp [Sys.runFrom, sys, hs]
  have I := (inv_of_run h).c
  have hw : s'.workers = [] := by
    have wk := I.wk t
    cases hpc : s.pc t <;> simp [step, hpc] at hs
    obtain ⟨hc, rfl⟩ := hs
    rw [hpc] at wk
    simp only [Pc.isWorker] at wk
    by_cases h0 : old - op = 0
    · simp [h0, wk]
    · simp [h0, upd] at he
  have a := idle_all_handed _ s' h' hw
  exact ⟨hw, a.2.1, a.1, a.2.2.1, a.2.2.2.2⟩

/-- conversely a thread is told to start working only when nobody is working:
    the `fadd` returned 1, i.e. `in_count` was 0 -/
theorem start_only_when_idle (es : List Ev) (s s' : St) (t old : Nat)
    (h : sys.run es = some s) (hs : step s (.faddIn t old) = some s')
    (hw : (s'.pc t).isWorker = true) : s.workers = [] ∧ s'.workers = [t] := by
  have I := (inv_of_run h).c
  cases hpc : s.pc t <;> simp [step, hpc] at hs
  obtain ⟨hc, rfl⟩ := hs
  by_cases h0 : old = 0
  · simp [h0, I.inCount_zero_iff.mp (hc.symm.trans h0)]
  · simp [h0, upd, Pc.isWorker] at hw

/-! ### non-vacuity: a concrete accepted trace (taken from a run of the real code, harness
    script `p1,y2,p2|y4,p3`, VR_SEED=177) in which thread 1 announces item 3 between the
    worker's comparison `out_count == in_count` and its `sub_and_fetch` (which therefore
    returns 1, not 0), the worker then finds the fifo empty while item 3 is announced but not
    yet exchanged in, spins, receives it, is told EMPTY; then a recycled node is pushed. -/

def witness : List Ev :=
  [.callPush 0 1 2, .faddIn 0 0, .wrNext 0 2 0, .xchgTail 0 1 2,
   .wrNext 0 1 2, .retPush 0 1, .callGw 0, .rdHead 0 1,
   .rdNext 0 1 2, .wrHead 0 2, .rdData 0 2 1, .wrData 0 1 1,
   .rdOut 0 0, .callPush 1 3 3, .wrOut 0 1, .retGw 0 1 1,
   .callGw 0, .rdHead 0 2, .rdNext 0 2 0, .rdOut 0 1,
   .rdIn 0 1, .rdOut 0 1, .wrOut 0 0, .faddIn 1 1,
   .fsubIn 0 2 1, .wrNext 1 3 0, .xchgTail 1 2 3, .rdHead 0 2,
   .rdNext 0 2 0, .rdOut 0 0, .rdIn 0 1, .wrNext 1 2 3,
   .retPush 1 0, .rdHead 0 2, .rdNext 0 2 3, .wrHead 0 3,
   .rdData 0 3 3, .wrData 0 2 3, .rdOut 0 0, .wrOut 0 1,
   .retGw 0 3 2, .callGw 0, .rdHead 0 3, .rdNext 0 3 0,
   .rdOut 0 1, .rdIn 0 1, .rdOut 0 1, .wrOut 0 0,
   .fsubIn 0 1 1, .retGw 0 0 0, .callPush 0 2 2, .faddIn 0 0,
   .wrNext 0 2 0, .xchgTail 0 3 2, .wrNext 0 3 2, .retPush 0 1,
   .callGw 0, .rdHead 0 3, .rdNext 0 3 2, .wrHead 0 2,
   .rdData 0 2 2, .wrData 0 3 2, .rdOut 0 0, .wrOut 0 1,
   .retGw 0 2 3, .callGw 0, .rdHead 0 2, .rdNext 0 2 0,
   .rdOut 0 1, .rdIn 0 1, .rdOut 0 1, .wrOut 0 0,
   .fsubIn 0 1 1, .retGw 0 0 0]

/-- the model accepts it and ends idle with everything handed out in exchange order -/
example : (sys.run witness).map (fun s => (s.handed, s.xchgd, s.workers, s.announced, s.subtracted,
    s.inCount, s.hd, s.tl)) = some ([1, 3, 2], [1, 3, 2], [], 3, 3, 0, 3, 3) := by rfl

/-- in the middle of it (after the `fsub` that returned 1) a worker is active, one item is
    announced but neither exchanged nor handed out, and `in_count = 1` -/
example : (sys.run (witness.take 25)).map (fun s => (s.workers, s.pending, s.handed, s.xchgd,
    s.announced, s.subtracted, s.inCount)) = some ([0], [1], [1], [1], 2, 1, 1) := by rfl

/-- two threads told to start working at the same time is NOT accepted by the model:
    a second `fadd` that claims to have seen 0 while a worker is active is rejected -/
example : sys.run [.callPush 0 1 2, .faddIn 0 0, .callPush 1 3 3, .faddIn 1 0] = none := by decide

end LibfiberVerif.WorkQueue
