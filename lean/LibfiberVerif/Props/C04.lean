/-
  Props/C04.lean — join / tryjoin / detach against a fiber's completion.

  "For every ordering of a fiber's completion against fiber_join, fiber_tryjoin and
   fiber_detach issued by other fibers: a successful join or tryjoin happens only after the
   fiber's function returned and yields exactly its return value; at most one joiner succeeds;
   joining a detached fiber fails.  The fiber's memory and stack are reclaimed exactly once,
   after it has finished and been joined or detached, and are not touched afterwards."

  Model: `Join.sys isTarget` (Model/Join.lean): src/fiber.c (fiber_mark_completed, fiber_join,
  fiber_tryjoin, fiber_detach) on top of set_and_wait / clear_or_wait, the deferred
  `set_wait_location` store done by the successor fiber and the `done_fiber` destruction
  (src/fiber_manager.c); validated event by event against the real code on 1-3 kernel threads.
  Any number of fibers, targets, calls and steps; `isTarget f = false` means f starts detached.

  Vocabulary
    s.retval g = some v   g's function returned v
    s.succ g              values delivered by the successful join/tryjoin calls on g so far; for a
                          call with a NULL result pointer (`callN` / `retN`) the value that was
                          handed to it and that it discarded (ghost, see Model/Join.lean)
    s.res a               the `result` cell of fiber a: a target's return value, and for a
                          fiber that makes calls its private hand-over slot
    s.nul a               a's call in flight has a NULL result pointer
    s.detX g              a detach has exchanged g's detach_state (g is detached)
    s.claimed g           a join/tryjoin claimed the finished g / g took its parked joiner
    s.destroyed g         fiber_destroy(g) ran;  s.late g = number of post-exchange accesses to
                          g's cells after that
    untainted s g         none of the three windows was opened on g (Model/Join.lean):
        tDetach  a detach's exchange found WAIT_TO_JOIN
        tThird   a join/tryjoin/detach found WAIT_FOR_JOINER although the finishing fiber had
                 itself found WAIT_TO_JOIN (it is a taker of the mailbox, not parked in it)
        tOver    an exchange of the finishing fiber / join / tryjoin found DETACHED and
                 overwrote it (detach slipped in between the load and the exchange)

  THE CODE AS IT IS DOES NOT HAVE THE PROPERTY AT FULL STRENGTH: every clause is proved for
  all histories in which no window was opened (`…_partial`, `untainted s g`), and for each
  clause that breaks a concrete accepted history of the model that opens a window and violates
  it is given (`…_fails`); the same histories are reproduced on the real code by
  tools/check.py C04 (known findings F-C04, F-C04b, F-C04c, F-C04d).
-/
import LibfiberVerif.Proof.Join

namespace LibfiberVerif.C04
open LibfiberVerif.Join

/-- one target fiber (id 16), every other fiber starts detached -/
def isT : Nat → Bool := fun f => f == 16

/-! ## witnesses (fiber 16 is the target, 17 / 18 are clients) -/

/-- F-C04: 17 joins and parks; 18 detaches while 16 is still running and wakes 17; 17's join
    returns SUCCESS with value 0 although 16's function has not returned -/
def wDetach : List Ev :=
  [.call 17 .join 16, .ldDet 17 16 0, .xchgDet 17 16 0 2, .wState 17 17 3, .wJi 16 16 17,
   .call 18 .detach 16, .xchgDet 18 16 2 3, .xchgJi 18 16 17, .wState 18 17 2, .ret 18 .detach 16 true 0,
   .ldRes 17 17 0, .stRes 17 17 0, .ret 17 .join 16 true 0]

/-- F-C04c: 17 joins and parks; 16 returns 1000 and exchanges 2 → 1; 18's join now sees
    WAIT_FOR_JOINER, reads the result, steals 17 out of the mailbox and wakes it: both joins
    return SUCCESS (18 with 1000, 17 with 0) and 16 spins in clear_or_wait for ever -/
def wThird : List Ev :=
  [.call 17 .join 16, .ldDet 17 16 0, .xchgDet 17 16 0 2, .wState 17 17 3, .wJi 16 16 17,
   .fnRet 16 1000, .stRes 16 16 1000, .ldDet 16 16 2, .xchgDet 16 16 2 1,
   .call 18 .join 16, .ldDet 18 16 1, .xchgDet 18 16 1 2, .ldRes 18 16 1000, .xchgJi 18 16 17,
   .wState 18 17 2, .ret 18 .join 16 true 1000,
   .ldRes 17 17 0, .stRes 17 17 0, .ret 17 .join 16 true 0, .xchgJi 16 16 0]

/-- F-C04b: 16 finishes and parks; 17's join claims it (1 → 2) and wakes it; 18's detach, issued
    meanwhile, finds the stale WAIT_TO_JOIN and waits for a mailbox entry that never comes —
    after 16 has been destroyed it still exchanges 16's join_info -/
def wStale : List Ev :=
  [.fnRet 16 1000, .stRes 16 16 1000, .ldDet 16 16 0, .xchgDet 16 16 0 1, .wState 16 16 3, .wJi 17 16 16,
   .call 17 .join 16, .call 18 .detach 16, .ldDet 17 16 1, .xchgDet 17 16 1 2, .ldRes 17 16 1000,
   .xchgJi 17 16 16, .wState 17 16 2, .ret 17 .join 16 true 1000,
   .xchgDet 18 16 2 3, .xchgJi 18 16 0, .wState 16 16 4, .destroy 17 16, .xchgJi 18 16 0]

/-- F-C04d: 17's join loads NONE, 18 detaches, 17's exchange overwrites DETACHED with
    WAIT_TO_JOIN and returns ERROR; 16 then finishes, finds WAIT_TO_JOIN and waits for ever for
    a joiner that does not exist -/
def wOver : List Ev :=
  [.call 17 .join 16, .ldDet 17 16 0, .call 18 .detach 16, .xchgDet 18 16 0 3, .ret 18 .detach 16 true 0,
   .xchgDet 17 16 3 2, .ret 17 .join 16 false 0,
   .fnRet 16 1000, .stRes 16 16 1000, .ldDet 16 16 2, .xchgDet 16 16 2 1, .xchgJi 16 16 0]

/-- joiner first, no window: the value is handed over, 16 is destroyed, nothing touches it later -/
def okJoinFirst : List Ev :=
  [.call 17 .join 16, .ldDet 17 16 0, .xchgDet 17 16 0 2, .wState 17 17 3, .wJi 16 16 17,
   .fnRet 16 1000, .stRes 16 16 1000, .ldDet 16 16 2, .xchgDet 16 16 2 1, .xchgJi 16 16 17,
   .ldRes 16 16 1000, .stRes 16 17 1000, .wState 16 17 2, .wState 16 16 4, .destroy 17 16,
   .ldRes 17 17 1000, .stRes 17 17 0, .ret 17 .join 16 true 1000]

/-- finisher first, tryjoin arrives while the finisher is still mid context-switch (the
    deferred store has not happened yet: first mailbox exchange returns NULL) -/
def okFinishFirst : List Ev :=
  [.fnRet 16 1000, .stRes 16 16 1000, .ldDet 16 16 0, .xchgDet 16 16 0 1, .wState 16 16 3,
   .call 17 .tryjoin 16, .ldDet 17 16 1, .ldDet 17 16 1, .xchgDet 17 16 1 2, .ldRes 17 16 1000,
   .xchgJi 17 16 0, .wJi 18 16 16, .xchgJi 17 16 16, .wState 17 16 2, .ret 17 .tryjoin 16 true 1000,
   .wState 16 16 4, .destroy 18 16]

/-- detach, then a join fails, then the fiber finishes and is destroyed -/
def okDetached : List Ev :=
  [.call 18 .detach 16, .xchgDet 18 16 0 3, .ret 18 .detach 16 true 0,
   .call 17 .join 16, .ldDet 17 16 3, .ret 17 .join 16 false 0,
   .fnRet 16 1000, .stRes 16 16 1000, .ldDet 16 16 3, .wState 16 16 4, .destroy 17 16]

def isT2 : Nat → Bool := fun f => f == 16 || f == 18

/-- NULL result pointer, joiner first: 17 does `fiber_join(16, NULL)` and parks; 16 returns 1000
    and hands it over into 17's slot; 17 wakes, does NOT read the slot, clears it, SUCCESS.
    Then 17 does `fiber_join(18, &r)`, parks, and is woken by 19's detach (the F-C04 window):
    it reads its slot — clear, not 16's value — and returns SUCCESS with 0. -/
def nullThenJoin : List Ev :=
  [.callN 17 .join 16, .ldDet 17 16 0, .xchgDet 17 16 0 2, .wState 17 17 3, .wJi 16 16 17,
   .fnRet 16 1000, .stRes 16 16 1000, .ldDet 16 16 2, .xchgDet 16 16 2 1, .xchgJi 16 16 17,
   .ldRes 16 16 1000, .stRes 16 17 1000, .wState 16 17 2, .wState 16 16 4, .destroy 17 16,
   .stRes 17 17 0, .retN 17 .join 16 true,
   .call 17 .join 18, .ldDet 17 18 0, .xchgDet 17 18 0 2, .wState 17 17 3, .wJi 18 18 17,
   .call 19 .detach 18, .xchgDet 19 18 2 3, .xchgJi 19 18 17, .wState 19 17 2, .ret 19 .detach 18 true 0,
   .ldRes 17 17 0, .stRes 17 17 0, .ret 17 .join 18 true 0]

/-- NULL result pointer, finisher first: `fiber_tryjoin(16, NULL)` claims the parked finished
    fiber without reading its result and wakes it -/
def nullTryjoin : List Ev :=
  [.fnRet 16 1000, .stRes 16 16 1000, .ldDet 16 16 0, .xchgDet 16 16 0 1, .wState 16 16 3, .wJi 18 16 16,
   .callN 17 .tryjoin 16, .ldDet 17 16 1, .ldDet 17 16 1, .xchgDet 17 16 1 2,
   .xchgJi 17 16 16, .wState 17 16 2, .retN 17 .tryjoin 16 true, .wState 16 16 4, .destroy 18 16]

/-- what the witnesses are judged by -/
def obs (s : St) : List Nat × Option Nat × Bool × Nat × Bool × Bool :=
  (s.succ 16, s.retval 16, s.destroyed 16, s.late 16, decide (untainted s 16), s.detX 16)

theorem wDetach_obs : ((sys isT).run wDetach).map obs = some ([0], none, false, 0, false, true) := by decide
theorem wThird_obs : ((sys isT).run wThird).map obs = some ([0, 1000], some 1000, false, 0, false, false) := by decide
theorem wStale_obs : ((sys isT).run wStale).map obs = some ([1000], some 1000, true, 1, false, true) := by decide
theorem wOver_obs : ((sys isT).run wOver).map (fun s => (decide (s.pc 16 = .fTake), s.first 16, decide (untainted s 16))) =
    some (true, none, false) := by decide
theorem okJoinFirst_obs : ((sys isT).run okJoinFirst).map obs = some ([1000], some 1000, true, 0, true, false) := by decide
theorem okFinishFirst_obs : ((sys isT).run okFinishFirst).map obs = some ([1000], some 1000, true, 0, true, false) := by decide
theorem okDetached_obs : ((sys isT).run okDetached).map obs = some ([], some 1000, true, 0, true, true) := by decide

/-- … and the two-target witness -/
def obs2 (s : St) : (List Nat × List Nat × Option Nat × Option Nat) × (Nat × Bool × Bool × Nat) :=
  ((s.succ 16, s.succ 18, s.retval 16, s.retval 18), (s.res 17, decide (untainted s 16), s.destroyed 16, s.late 16))

theorem nullThenJoin_obs : ((sys isT2).run nullThenJoin).map obs2 =
    some (([1000], [0], some 1000, none), (0, true, true, 0)) := by decide
theorem nullTryjoin_obs : ((sys isT).run nullTryjoin).map obs = some ([1000], some 1000, true, 0, true, false) := by decide

/-! ## 1. a successful join / tryjoin comes after the return and carries the return value -/

/-- FALSE at full strength: in `wDetach` a join has returned SUCCESS (value 0) although the
    target's function has not returned. -/
theorem success_after_return_fails :
    ¬ (∀ es s, (sys isT).run es = some s → ∀ g v, v ∈ s.succ g → s.retval g = some v) := by
  intro h
  obtain ⟨s, hr, ho⟩ := Option.map_eq_some_iff.1 wDetach_obs
  simp [obs] at ho
  have := h _ _ hr 16 0 (by simp [ho.1])
  simp [ho.2.1] at this

/-- Without a window: every value delivered by a successful join/tryjoin on g is the value
    g's function returned (in particular the function has returned). -/
theorem success_after_return_partial (isTarget : Nat → Bool) : ∀ es s, (sys isTarget).run es = some s →
    ∀ g v, untainted s g → v ∈ s.succ g → s.retval g = some v := by
  intro es s h g v hu hv
  exact (inv_of_run h).i2.sv g v hu hv

/-- The same for calls that are about to return: every fiber on its way to report SUCCESS v
    for g (woken joiner, or claimer of the finished fiber) holds g's return value. -/
theorem pending_success_has_value (isTarget : Nat → Bool) : ∀ es s, (sys isTarget).run es = some s →
    ∀ g a op v, untainted s g → s.pc a = .retn op g true v → op ≠ .detach → s.retval g = some v := by
  intro es s h g a op v hu hp hop
  exact (inv_of_run h).i2.cv3 g a op v hu hp hop

/-! ## 1b. the joiner's hand-over slot (joins with and without a result pointer) -/

/-- (unconditional) The private hand-over slot of a fiber that makes calls is clear at every
    program point outside the stretch "parked in a mailbox … own clearing store": when it is
    idle, when it issues a call, all along the non-blocking paths, and when it is about to
    return from ANY join / tryjoin / detach — with or without a result pointer. -/
theorem slot_clear (isTarget : Nat → Bool) : ∀ es s, (sys isTarget).run es = some s →
    ∀ a, slotFree (s.pc a) = true → s.res a = 0 := by
  intro es s h a hp
  exact (inv_of_run h).i1.sc a hp

/-- (a) After a blocking join returns — `retn` is the program point between the last access of
    the call and its return, reached by a joiner that waited only through its clearing store —
    the joiner's slot is clear, whether or not the call had a result pointer and whether it was
    woken by the finishing fiber or by a detach (window F-C04). -/
theorem join_return_slot_clear (isTarget : Nat → Bool) : ∀ es s, (sys isTarget).run es = some s →
    ∀ a op g ok v, s.pc a = .retn op g ok v → s.res a = 0 := by
  intro es s h a op g ok v hp
  exact (inv_of_run h).i1.sc a (by simp [hp])

/-- … hence a later call by the same fiber starts with a clear slot, and so does the joiner that
    is about to park (the state in which the next hand-over finds it). -/
theorem next_call_slot_clear (isTarget : Nat → Bool) : ∀ es s, (sys isTarget).run es = some s →
    ∀ a, (s.pc a = .idle ∨ (∃ op g, s.pc a = .called op g) ∨ (∃ g, s.pc a = .jParking g)) → s.res a = 0 := by
  intro es s h a hp
  refine (inv_of_run h).i1.sc a ?_
  rcases hp with hp | ⟨op, g, hp⟩ | ⟨g, hp⟩ <;> simp [hp]

/-- The clearing store is not optional: a woken joiner (either variant) cannot return before
    it — the model accepts no `ret` / `retN` from the program points between the wake-up and
    the store, so a build that skips the store is rejected at the return note. -/
theorem woken_joiner_cannot_return (isTarget : Nat → Bool) : ∀ (s : St) a t,
    (s.pc a = .jWoken t ∨ ∃ w, s.pc a = .jGotRes t w) →
      (∀ op g ok v, (sys isTarget).step s (.ret a op g ok v) = none) ∧
      (∀ op g ok, (sys isTarget).step s (.retN a op g ok) = none) := by
  intro s a t hp
  rcases hp with hp | ⟨w, hp⟩ <;> exact ⟨fun op g ok v => by simp [sys, step, stepCore, hp],
    fun op g ok => by simp [sys, step, stepCore, hp]⟩

/-- With a NULL result pointer the woken joiner does not read its slot (a load is rejected),
    and the one store it may do to it writes 0 and leads to the SUCCESS return. -/
theorem null_joiner_clears_unread (isTarget : Nat → Bool) : ∀ (s : St) a t, s.pc a = .jWoken t → s.nul a = true →
    (∀ v, (sys isTarget).step s (.ldRes a a v) = none) ∧
    (∀ v s', (sys isTarget).step s (.stRes a a v) = some s' →
       v = 0 ∧ s'.res a = 0 ∧ s'.pc a = .retn .join t true (s.res a)) := by
  intro s a t hp hn
  refine ⟨fun v => by simp [sys, step, stepCore, hp, hn], ?_⟩
  intro v s' hst
  obtain ⟨s1, hc, rfl⟩ := step_some hst
  rcases stepCore_trans hc with ht | ⟨hs, _⟩
  · cases ht <;> simp_all
  · cases hs

/-- (b) (unconditional: every history, windows included)  What a joiner finds in its slot after
    the wake-up is either nothing or the return value of THE TARGET IT IS JOINING — the slot was
    clear when it parked (`slot_clear`) and only the finishing fiber whose mailbox it is parked
    in writes to it. -/
theorem woken_joiner_slot_own_target (isTarget : Nat → Bool) : ∀ es s, (sys isTarget).run es = some s →
    ∀ p t, (s.pc p = .jParked t ∨ s.pc p = .jWoken t) → s.res p = 0 ∨ s.retval t = some (s.res p) := by
  intro es s h p t hp
  rcases hp with hp | hp
  · exact (inv_of_run h).i1.jo1 p t hp
  · exact (inv_of_run h).i1.jo2 p t hp

/-- (b) (unconditional)  Every fiber on its way to report SUCCESS v for g holds either 0 or g's
    return value, never a value handed over for another target. -/
theorem pending_success_value_own_target (isTarget : Nat → Bool) : ∀ es s, (sys isTarget).run es = some s →
    ∀ a op g v, s.pc a = .retn op g true v → op ≠ .detach → v = 0 ∨ s.retval g = some v := by
  intro es s h a op g v hp hop
  exact (inv_of_run h).i1.jo4 a op g v hp hop

/-- (b) (unconditional)  The value delivered by a successful join / tryjoin on g (for a
    NULL-result call: the value it was handed and discarded) is g's return value or 0.  The 0 is
    the known window F-C04 (`wDetach`, `success_after_return_fails`: SUCCESS with NULL before the
    target returned); without a window `success_after_return_partial` excludes it. -/
theorem success_value_own_target (isTarget : Nat → Bool) : ∀ es s, (sys isTarget).run es = some s →
    ∀ g v, v ∈ s.succ g → v = 0 ∨ s.retval g = some v := by
  intro es s h g v hv
  exact (inv_of_run h).i1.jo5 g v hv

/-- … in particular a non-NULL value delivered for g is never the return value of a different
    fiber g' unless the two functions returned the same value. -/
theorem success_value_not_foreign (isTarget : Nat → Bool) : ∀ es s, (sys isTarget).run es = some s →
    ∀ g g' v, v ∈ s.succ g → v ≠ 0 → s.retval g' = some v → s.retval g = s.retval g' := by
  intro es s h g g' v hv hv0 hr
  rcases (inv_of_run h).i1.jo5 g v hv with h0 | h1
  · exact absurd h0 hv0
  · rw [h1, hr]

/-- The 0 cannot be dropped from (b) for the code as it is: in `nullThenJoin` the second join
    (with a result pointer, ended by a detach) returns SUCCESS 0 for a target that has not
    returned — but NOT the 1000 handed over for the first, NULL-result, join. -/
theorem success_value_own_target_zero_needed :
    ¬ (∀ es s, (sys isT2).run es = some s → ∀ g v, v ∈ s.succ g → s.retval g = some v) := by
  intro h
  obtain ⟨s, hr, ho⟩ := Option.map_eq_some_iff.1 nullThenJoin_obs
  simp [obs2] at ho
  have := h _ _ hr 18 0 (by simp [ho.1.2.1])
  simp [ho.1.2.2.2] at this

/-- A build in which `fiber_join(g, NULL)` leaves the slot alone is rejected: the return note
    right after the wake-up is not accepted … -/
theorem nullThenJoin_without_clear_rejected :
    (sys isT2).run ((nullThenJoin.take 15) ++ [.retN 17 .join 16 true]) = none := by decide

/-- … and so is a later join by the same fiber that finds the stale value in its slot. -/
theorem nullThenJoin_stale_slot_rejected :
    (sys isT2).run ((nullThenJoin.take 27) ++ [.ldRes 17 17 1000]) = none := by decide

/-! ## 2. at most one joiner succeeds -/

/-- FALSE at full strength: two SUCCESSes in `wThird`. -/
theorem at_most_one_success_fails :
    ¬ (∀ es s, (sys isT).run es = some s → ∀ g, (s.succ g).length ≤ 1) := by
  intro h
  obtain ⟨s, hr, ho⟩ := Option.map_eq_some_iff.1 wThird_obs
  simp [obs] at ho
  have := h _ _ hr 16
  simp [ho.1] at this

theorem at_most_one_success_partial (isTarget : Nat → Bool) : ∀ es s, (sys isTarget).run es = some s →
    ∀ g, untainted s g → (s.succ g).length ≤ 1 := by
  intro es s h g hu
  exact (inv_of_run h).i2.sl g hu

/-- … and at any time at most one fiber is on a path that can still end in SUCCESS (parked or
    woken joiner, claimer of the finished fiber), none once a SUCCESS has been returned. -/
theorem one_claimant (isTarget : Nat → Bool) : ∀ es s, (sys isTarget).run es = some s →
    ∀ g, untainted s g →
      (∀ a a', claimPath (s.pc a) g = true → claimPath (s.pc a') g = true → a = a') ∧
      (s.succ g ≠ [] → ∀ a, claimPath (s.pc a) g = false) := by
  intro es s h g hu
  exact ⟨fun a a' => (inv_of_run h).i2.uq g a a' hu, fun hs a => (inv_of_run h).i2.sq g a hu hs⟩

/-! ## 3. joining a detached fiber fails -/

/-- Without a window a detached fiber stays DETACHED, it has never been joined successfully and
    the only clients still acting on it are detach calls waking the finished fiber. -/
theorem detached_fails (isTarget : Nat → Bool) : ∀ es s, (sys isTarget).run es = some s →
    ∀ g, untainted s g → s.detX g = true →
      s.det g = DET ∧ s.succ g = [] ∧ ∀ a, claimPath (s.pc a) g = true → detTake (s.pc a) g = true := by
  intro es s h g hu hd
  have I := (inv_of_run h).i2
  exact ⟨I.t4 g hu hd, I.dx1 g hu hd, fun a => I.dx2 g a hu hd⟩

/-- … so a join / tryjoin whose first load comes after the detach goes straight to its
    ERROR return. -/
theorem join_of_detached_returns_error (isTarget : Nat → Bool) : ∀ es s, (sys isTarget).run es = some s →
    ∀ g a op v s', untainted s g → s.detX g = true → s.pc a = .called op g →
      (sys isTarget).step s (.ldDet a g v) = some s' → s'.pc a = .retn op g false 0 := by
  intro es s h g a op v s' hu hd hp hst
  have hdet := (inv_of_run h).i2.t4 g hu hd
  obtain ⟨s1, hc, rfl⟩ := step_some hst
  rcases stepCore_trans hc with ht | ⟨hs, _⟩
  · cases ht <;> simp_all
  · cases hs

/-- In the failing history the overlapping join nevertheless returned SUCCESS on a fiber that
    is detached. -/
theorem detached_fails_fails :
    ¬ (∀ es s, (sys isT).run es = some s → ∀ g, s.detX g = true → s.succ g = []) := by
  intro h
  obtain ⟨s, hr, ho⟩ := Option.map_eq_some_iff.1 wDetach_obs
  simp [obs] at ho
  have := h _ _ hr 16 ho.2.2.2.2.2
  simp [ho.1] at this

/-! ## 4. reclaimed exactly once, after finish and join-or-detach, not touched afterwards -/

/-- (unconditional) A destroyed fiber had written DONE, its function had returned, and it had
    been claimed by a join/tryjoin, taken its own joiner, or been detached. -/
theorem destroy_once_after (isTarget : Nat → Bool) : ∀ es s, (sys isTarget).run es = some s →
    ∀ g, s.destroyed g = true →
      s.pc g = .fDone ∧ (∃ v, s.retval g = some v) ∧ (s.claimed g = true ∨ s.detX g = true) := by
  intro es s h g hd
  have I := inv_of_run h
  have hp := I.i0.dst g hd
  refine ⟨hp, ⟨s.res g, I.i1.st g (by simp [hp])⟩, I.i1.dj g (Or.inr (Or.inr hp))⟩

/-- (unconditional) … and it is destroyed at most once, never by itself: the model accepts
    `destroy a g` only for a DONE, not yet destroyed g and a ≠ g. -/
theorem destroy_at_most_once (isTarget : Nat → Bool) : ∀ (s : St) a g s',
    (sys isTarget).step s (.destroy a g) = some s' →
      s.pc g = .fDone ∧ s.destroyed g = false ∧ a ≠ g ∧ s'.destroyed g = true := by
  intro s a g s' hst
  obtain ⟨s1, hc, rfl⟩ := step_some hst
  rcases stepCore_trans hc with ht | ⟨hs, _⟩
  · cases ht <;> simp_all
  · cases hs

/-- FALSE at full strength: in `wStale` the hanging detach exchanges 16's join_info after 16
    has been destroyed. -/
theorem not_touched_after_fails :
    ¬ (∀ es s, (sys isT).run es = some s → ∀ g, s.late g = 0) := by
  intro h
  obtain ⟨s, hr, ho⟩ := Option.map_eq_some_iff.1 wStale_obs
  simp [obs] at ho
  have := h _ _ hr 16
  simp [ho.2.2.2.1] at this

/-- Without a window no protocol participant (anything after a call's exchange of
    detach_state, the finishing fiber, the successor doing the deferred store) touches a
    destroyed fiber's cells. -/
theorem not_touched_after_partial (isTarget : Nat → Bool) : ∀ es s, (sys isTarget).run es = some s →
    ∀ g, untainted s g → s.late g = 0 := by
  intro es s h g hu
  exact (inv_of_run h).i3 g hu

/-! ## 5. nobody stays parked once the other party has exchanged detach_state -/

/-- FALSE at full strength: in `wOver` the finished fiber waits in clear_or_wait (mailbox empty)
    and no fiber is, or will be, a joiner of it. -/
theorem no_stranded_fails :
    ¬ (∀ es s, (sys isT).run es = some s → ∀ g, s.pc g = .fTake → ∃ p, joinerPark (s.pc p) g = true) := by
  intro h
  obtain ⟨s, hr, ho⟩ := Option.map_eq_some_iff.1 wOver_obs
  simp at ho
  obtain ⟨p, hp⟩ := h _ _ hr 16 ho.1
  have := (inv_of_run hr).i0.fj p 16 (jpk_jp hp)
  simp [ho.2.1] at this

/-- Without a window every waiting party has a live counterpart:
    (i)   a client in clear_or_wait on g's mailbox: the finished g is on its way into the
          mailbox or in it (so the loop ends as soon as the deferred store lands);
    (ii)  the finished g in clear_or_wait on its own mailbox: its joiner (the fiber whose
          exchange found NONE) is on its way into the mailbox or in it;
    (iii) a parked joiner of g, once g has exchanged: g is busy delivering to exactly it;
    (iv)  the parked finished g, once somebody exchanged its detach_state: that client is in
          its take phase and will wake g. -/
theorem no_stranded (isTarget : Nat → Bool) : ∀ es s, (sys isTarget).run es = some s →
    ∀ g, untainted s g →
      (∀ b, takePh (s.pc b) g = true → parkF (s.pc g) = true) ∧
      (s.pc g = .fTake → ∃ p, s.first g = some p ∧ joinerPark (s.pc p) g = true) ∧
      (∀ p, joinerPark (s.pc p) g = true → finX (s.pc g) = true → delivering (s.pc g) p = true) ∧
      (parkF (s.pc g) = true → s.det g ≠ WFJ → ∃ b, s.taker g = some b ∧ takePh (s.pc b) g = true) := by
  intro es s h g hu
  have I := (inv_of_run h).i2
  refine ⟨fun b => I.c1 g b hu, ?_, fun p => I.iii g p hu, ?_⟩
  · intro hp
    obtain ⟨hne, hall⟩ := I.ii g hu hp
    cases hf : s.first g with
    | none => exact absurd hf hne
    | some p => exact ⟨p, rfl, hall p hf⟩
  · intro hp hd
    obtain ⟨hne, hall⟩ := I.iv g hu hp hd
    cases hf : s.taker g with
    | none => exact absurd hf hne
    | some b => exact ⟨b, rfl, hall b hf⟩

/-! ## non-vacuity: window-free histories that exercise the theorems -/

/-- joiner first: SUCCESS with the token, target destroyed, never touched afterwards -/
example : ∃ s, (sys isT).run okJoinFirst = some s ∧ untainted s 16 ∧ s.succ 16 = [1000] ∧
    s.retval 16 = some 1000 ∧ s.destroyed 16 = true ∧ s.late 16 = 0 := by
  obtain ⟨s, hr, ho⟩ := Option.map_eq_some_iff.1 okJoinFirst_obs
  simp [obs] at ho
  exact ⟨s, hr, by simp [ho]⟩

/-- finisher first, tryjoin while the finisher is mid context-switch -/
example : ∃ s, (sys isT).run okFinishFirst = some s ∧ untainted s 16 ∧ s.succ 16 = [1000] ∧
    s.retval 16 = some 1000 ∧ s.destroyed 16 = true ∧ s.late 16 = 0 := by
  obtain ⟨s, hr, ho⟩ := Option.map_eq_some_iff.1 okFinishFirst_obs
  simp [obs] at ho
  exact ⟨s, hr, by simp [ho]⟩

/-- detach, then a failing join, then completion and destruction -/
example : ∃ s, (sys isT).run okDetached = some s ∧ untainted s 16 ∧ s.detX 16 = true ∧ s.succ 16 = [] ∧
    s.destroyed 16 = true := by
  obtain ⟨s, hr, ho⟩ := Option.map_eq_some_iff.1 okDetached_obs
  simp [obs] at ho
  exact ⟨s, hr, by simp [ho]⟩

/-- NULL result pointer, joiner first, then a join with a result pointer by the same fiber: the
    first call succeeds (the discarded value was 16's), the slot is clear afterwards, the second
    call does not deliver 16's value -/
example : ∃ s, (sys isT2).run nullThenJoin = some s ∧ untainted s 16 ∧ s.succ 16 = [1000] ∧
    s.retval 16 = some 1000 ∧ s.res 17 = 0 ∧ s.succ 18 = [0] ∧ s.destroyed 16 = true ∧ s.late 16 = 0 := by
  obtain ⟨s, hr, ho⟩ := Option.map_eq_some_iff.1 nullThenJoin_obs
  simp [obs2] at ho
  exact ⟨s, hr, by simp [ho]⟩

/-- NULL result pointer, finisher first (tryjoin) -/
example : ∃ s, (sys isT).run nullTryjoin = some s ∧ untainted s 16 ∧ s.succ 16 = [1000] ∧
    s.retval 16 = some 1000 ∧ s.destroyed 16 = true ∧ s.late 16 = 0 := by
  obtain ⟨s, hr, ho⟩ := Option.map_eq_some_iff.1 nullTryjoin_obs
  simp [obs] at ho
  exact ⟨s, hr, by simp [ho]⟩

end LibfiberVerif.C04
