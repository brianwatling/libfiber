/-
  Props/C12.lean — the fiber barrier (src/fiber_barrier.c).

  "No fiber returns from its k-th fiber_barrier_wait before count fibers have entered their
   k-th wait, exactly one of them is told it is the serial fiber, and all of them do return.
   This holds round after round when the same barrier is reused immediately by the same
   fibers."

  Model: `Barrier.sys count queues nodeOf` (Model/Barrier.lean), one step per shared access of
  fiber_barrier_wait / fiber_manager_wait_in_mpsc_queue / fiber_manager_wake_from_mpsc_queue,
  validated against the real code on every run of the check.  `queues = 1` is the code as it
  is, `queues = 2` the candidate fix docs/fix-C12.diff.  Any number of fibers may exist; at
  most `count` of them ever call wait (client assumption of the property).

  Vocabulary (Model/Barrier.lean, Proof/Barrier.lean):
    s.rnd f        number of waits fiber f has started (its current round)
    s.entered k    number of fibers that have entered their k-th wait (counted at the fetch_add)
    s.told k       number of fibers told to be the serial fiber in their k-th wait
    s.serials      number of arrivals that took the serial branch
    sig pc         coarse class of a pc: kind idle | called | pend (arrived .. parked, entry not
                   popped) | woken | pre / post (serial fiber inside the wake loop, before /
                   after the effect of the current pop) | done; `need` = pops still to be made
    inWakeLoop pc  := kind pre or post
    pendW / needW  1 for a pending waiter / outstanding pops of a fiber in the wake loop
    tot g l        sum of g over the list l

  RESULT.  Clauses that hold for the code as it is, for every count ≥ 1:
    `one_serial_per_round`, `single_consumer`, `pending_accounted`.
  The clause "no fiber returns from its k-th wait before count fibers have entered it" is FALSE
  for the code as it is when count ≥ 3 (F-C12): `no_early_pass_false` is a kernel-checked
  witness, the prefix of a trace logged from the real implementation.  It holds for
  count ≤ 2 (`no_early_pass_partial`) and for the two-queue fix (`no_early_pass_fixed`); with
  it come `one_serial_per_caller_round_*` and `no_stranded_*`.

  Full-strength statement that is NOT a theorem of the code as it is:
      theorem no_early_pass (hc : 0 < count) : ∀ es s, (sys count 1 nodeOf).run es = some s →
        ∀ f k b s', (sys count 1 nodeOf).step s (.retWait f k b) = some s' → count ≤ s.entered k
-/
import LibfiberVerif.Proof.Barrier

namespace LibfiberVerif.C12
open LibfiberVerif.Barrier

/-- the serial fiber is inside `fiber_manager_wake_from_mpsc_queue` (it has not finished its
    last wake-up) -/
def inWakeLoop (p : Pc) : Prop := (sig p).kind = .pre ∨ (sig p).kind = .post

/-! ## 1. clauses that hold for every variant, every count ≥ 1 -/

/-- Exactly one arrival out of every `count` consecutive ones is told to be the serial fiber:
    the number of serial decisions is the number of completed blocks of `count` arrivals. -/
theorem one_serial_per_round {count queues : Nat} {nodeOf : Nat → Nat} (hc : 0 < count) :
    ∀ es s, (sys count queues nodeOf).run es = some s → s.serials = s.counter / count := by
  intro es s h
  exact (invA_of_run hc h).ser

/-- ... and a fiber is told so exactly when its own fetch_add completed such a block: a
    `ret wait _ 1` is accepted only from a fiber that went through the wake loop, a
    `ret wait _ 0` only from a fiber whose queue entry was popped and whose wake-up is complete. -/
theorem serial_iff_went_through_wake_loop {count queues : Nat} {nodeOf : Nat → Nat} :
    ∀ s f k b s', (sys count queues nodeOf).step s (.retWait f k b) = some s' →
      k = s.rnd f ∧ ((∃ c, s.pc f = .serialDone c ∧ b = true) ∨ (∃ c, s.pc f = .runnable c ∧ b = false)) := by
  intro s f k b s' h
  have := retWait_pc (count := count) (queues := queues) h
  exact ⟨this.1, this.2.1⟩

/-- The waiter queue has a single consumer: at most one fiber is inside the wake loop - also
    in the presence of F-C12 (the serial fibers of two consecutive rounds never overlap). -/
theorem single_consumer {count queues : Nat} {nodeOf : Nat → Nat} (hc : 0 < count) :
    ∀ es s, (sys count queues nodeOf).run es = some s →
      ∀ f g, inWakeLoop (s.pc f) → inWakeLoop (s.pc g) → f = g := by
  intro es s h f g hf hg
  exact (invA_of_run hc h).single f g hf hg

/-- Accounting (the safety half of "all of them do return"): the number of waiters whose queue
    entry has not been popped equals the number of arrivals of the round still being filled
    plus the pops the serial fiber in the wake loop has still to make.  In particular, once a
    round is complete and its serial fiber has left the wake loop, no waiter is left over -
    in number; WHICH waiter is popped is the business of `no_early_pass`. -/
theorem pending_accounted {count queues : Nat} {nodeOf : Nat → Nat} (hc : 0 < count) :
    ∀ es s, (sys count queues nodeOf).run es = some s →
      tot (fun x => pendW (sig (s.pc x))) s.members
        = s.counter % count + tot (fun x => needW (sig (s.pc x))) s.members := by
  intro es s h
  exact (invA_of_run hc h).acct

/-- The participants: never more than `count` distinct fibers, and only they are ever inside. -/
theorem participants {count queues : Nat} {nodeOf : Nat → Nat} (hc : 0 < count) :
    ∀ es s, (sys count queues nodeOf).run es = some s →
      s.members.Nodup ∧ s.members.length ≤ count ∧ ∀ f, s.pc f ≠ .idle → f ∈ s.members := by
  intro es s h
  have hI := invA_of_run hc h
  refine ⟨hI.nodup, hI.len, ?_⟩
  intro f hf
  apply hI.mem f
  show (sig (s.pc f)).kind ≠ .idle
  intro hk
  apply hf
  cases hp : s.pc f <;> simp [hp] at hk ⊢

/-! ## 2. no early pass -/

/-- Under `2 ≤ queues ∨ count ≤ 2`: a `ret wait k` is accepted only when `count` fibers have
    entered their k-th wait. -/
theorem no_early_pass_of {count queues : Nat} {nodeOf : Nat → Nat} (hc : 0 < count)
    (H : 2 ≤ queues ∨ count ≤ 2) :
    ∀ es s, (sys count queues nodeOf).run es = some s →
      ∀ f k b s', (sys count queues nodeOf).step s (.retWait f k b) = some s' →
        1 ≤ k ∧ s.entered k = count ∧ s.told k = 1 := by
  intro es s h f k b s' hst
  obtain ⟨_, hK⟩ := invK_of_run hc H h
  obtain ⟨hk, hpc, -⟩ := retWait_pc (count := count) (queues := queues) hst
  have hf := hK.fib f
  have hf' : ∃ c, c + 1 = s.counter / count ∧ s.rnd f = s.counter / count := by
    rcases hpc with ⟨c, hp, _⟩ | ⟨c, hp, _⟩
    · simp [abs, hp, fiberOk] at hf; exact ⟨c, hf⟩
    · simp [abs, hp, fiberOk] at hf; exact ⟨c, hf⟩
  obtain ⟨c, h1, h2⟩ := hf'
  have hk' : k = s.counter / count := by rw [hk]; exact h2
  have := hK.past k (by omega) (by rw [hk']; exact Nat.le_refl _)
  exact ⟨by omega, this.1, this.2⟩

/-- The code as it is, count ≤ 2: no fiber returns from its k-th wait before `count` fibers
    have entered their k-th wait. -/
theorem no_early_pass_partial {count : Nat} {nodeOf : Nat → Nat} (hc : 0 < count) (h2 : count ≤ 2) :
    ∀ es s, (sys count 1 nodeOf).run es = some s →
      ∀ f k b s', (sys count 1 nodeOf).step s (.retWait f k b) = some s' → count ≤ s.entered k := by
  intro es s h f k b s' hst
  have := (no_early_pass_of hc (Or.inr h2) es s h f k b s' hst).2.1
  omega

/-- The two-queue fix (docs/fix-C12.diff), every count ≥ 1: the full-strength clause. -/
theorem no_early_pass_fixed {count : Nat} {nodeOf : Nat → Nat} (hc : 0 < count) :
    ∀ es s, (sys count 2 nodeOf).run es = some s →
      ∀ f k b s', (sys count 2 nodeOf).step s (.retWait f k b) = some s' → count ≤ s.entered k := by
  intro es s h f k b s' hst
  have := (no_early_pass_of hc (Or.inl (Nat.le_refl 2)) es s h f k b s' hst).2.1
  omega

/-- Under the same hypotheses, in terms of the CALLERS' rounds: every round k that is complete
    (k ≤ counter / count) was entered by exactly `count` fibers and exactly one of them was
    told to be the serial fiber; the round being filled has `counter % count` arrivals and no
    serial fiber yet; later rounds are untouched. -/
theorem one_serial_per_caller_round_of {count queues : Nat} {nodeOf : Nat → Nat} (hc : 0 < count)
    (H : 2 ≤ queues ∨ count ≤ 2) :
    ∀ es s, (sys count queues nodeOf).run es = some s →
      (∀ k, 1 ≤ k → k ≤ s.counter / count → s.entered k = count ∧ s.told k = 1) ∧
      (s.entered (s.counter / count + 1) = s.counter % count ∧ s.told (s.counter / count + 1) = 0) ∧
      (∀ k, s.counter / count + 1 < k → s.entered k = 0 ∧ s.told k = 0) := by
  intro es s h
  obtain ⟨_, hK⟩ := invK_of_run hc H h
  exact ⟨hK.past, hK.now, hK.future⟩

theorem one_serial_per_caller_round_partial {count : Nat} {nodeOf : Nat → Nat} (hc : 0 < count)
    (h2 : count ≤ 2) : ∀ es s, (sys count 1 nodeOf).run es = some s →
      ∀ k, 1 ≤ k → k ≤ s.counter / count → s.entered k = count ∧ s.told k = 1 := by
  intro es s h
  exact (one_serial_per_caller_round_of hc (Or.inr h2) es s h).1

theorem one_serial_per_caller_round_fixed {count : Nat} {nodeOf : Nat → Nat} (hc : 0 < count) :
    ∀ es s, (sys count 2 nodeOf).run es = some s →
      ∀ k, 1 ≤ k → k ≤ s.counter / count → s.entered k = count ∧ s.told k = 1 := by
  intro es s h
  exact (one_serial_per_caller_round_of hc (Or.inl (Nat.le_refl 2)) es s h).1

/-- Safety half of "all of them do return", under the same hypotheses: a waiter whose round is
    complete (all `count` fibers have entered it) and whose queue entry has not been popped
    yet is never stranded - a serial fiber is inside the wake loop with at least one more pop
    to make.  (That the pop then happens is a matter of fair scheduling, decided per run by
    the check: status HANG / the `stranded` oracle.) -/
theorem no_stranded_of {count queues : Nat} {nodeOf : Nat → Nat} (hc : 0 < count)
    (H : 2 ≤ queues ∨ count ≤ 2) :
    ∀ es s, (sys count queues nodeOf).run es = some s →
      ∀ g, (sig (s.pc g)).kind = .pend → count ≤ s.entered (s.rnd g) →
        ∃ f ∈ s.members, 1 ≤ needW (sig (s.pc f)) := by
  intro es s h g hg hent
  obtain ⟨hA, hK⟩ := invK_of_run hc H h
  have hgm : g ∈ s.members := hA.mem g (by show (sig (s.pc g)).kind ≠ .idle; rw [hg]; simp)
  have hf := hK.fib g
  have hg' : ((abs s).sg g).kind = .pend := hg
  simp [fiberOk, hg'] at hf
  -- g's round is complete, so it is not the round being filled
  have hnow := hK.now.1
  have hlt := Nat.mod_lt s.counter hc
  have hc1 : ((abs s).sg g).c + 1 = s.counter / count := by
    rcases hf.1 with e | e
    · exfalso
      have hr : s.rnd g = s.counter / count + 1 := by
        have := hf.2.1; simp only [abs] at this e ⊢; omega
      rw [hr] at hent
      have : s.entered (s.counter / count + 1) = s.counter % count := hnow
      omega
    · exact e
  -- so it is counted by pendW but not by pendAtW: outstanding pops exist
  apply exists_of_tot_pos
  apply Classical.byContradiction
  intro hz
  have hN : tot (fun x => needW (sig (s.pc x))) s.members = 0 := by omega
  have hacct := hA.acct
  have hcur := hK.cur
  have heq := eq_of_tot_eq (g := fun x => pendAtW (s.counter / count) (sig (s.pc x)))
    (g' := fun x => pendW (sig (s.pc x))) (l := s.members)
    (fun x _ => pendAtW_le_pendW _ _) (by
      simp only [abs] at hacct hcur; omega)
  have := heq g hgm
  have e1 : pendW (sig (s.pc g)) = 1 := by simp [pendW, hg]
  have e2 : pendAtW (s.counter / count) (sig (s.pc g)) = 0 := by
    simp only [abs] at hc1
    simp [pendAtW, hg]; omega
  omega

theorem no_stranded_partial {count : Nat} {nodeOf : Nat → Nat} (hc : 0 < count) (h2 : count ≤ 2) :
    ∀ es s, (sys count 1 nodeOf).run es = some s →
      ∀ g, (sig (s.pc g)).kind = .pend → count ≤ s.entered (s.rnd g) →
        ∃ f ∈ s.members, 1 ≤ needW (sig (s.pc f)) :=
  no_stranded_of hc (Or.inr h2)

theorem no_stranded_fixed {count : Nat} {nodeOf : Nat → Nat} (hc : 0 < count) :
    ∀ es s, (sys count 2 nodeOf).run es = some s →
      ∀ g, (sig (s.pc g)).kind = .pend → count ≤ s.entered (s.rnd g) →
        ∃ f ∈ s.members, 1 ≤ needW (sig (s.pc f)) :=
  no_stranded_of hc (Or.inl (Nat.le_refl 2))

/-! ## 3. the code as it is violates `no_early_pass` for count = 3 (F-C12)

  The witness is the first 50 model events of a log of the REAL implementation
  (`barrier 3 'w,w|w,w|w,w'`, VR_SCHED=pct VR_SEED=708740839 VR_PCT_D=3 VR_PCT_LEN=40; fibers
  16 17 18, nodes: 1 = the queue's stub, 19 20 21 = the fibers' own nodes):
  16 has done its fetch_add (round 1) but is stalled before its xchg; 17 is enqueued; 18 is the
  serial fiber, pops 17 and polls for a second waiter; 17 returns, re-enters (round 2) and
  enqueues; 18 pops 17 AGAIN.  Now `ret wait 2` of fiber 17 is enabled although only one
  fiber has entered its 2nd wait. -/

def nodeOf (k : Nat) : Nat := k + 3

def witness : List Ev := [
    .callWait 16 1, .fadd 16 0, .wState 16 16 5, .rNode 16 16 19, .wData 16 19 16, .wNode 16 16 0,
     .wNext 16 19 0, .callWait 17 1, .fadd 17 1, .wState 17 17 5, .rNode 17 17 20, .wData 17 20 17,
     .wNode 17 17 0, .wNext 17 20 0, .xchgTail 17 0 1 20, .wNext 17 1 20, .callWait 18 1,
     .fadd 18 2, .rHead 18 0 1, .rNext 18 1 20, .wHead 18 0 20, .rData 18 20 17, .wData 18 1 17,
     .rData 18 1 17, .wNode 18 17 1, .rState 18 17 3, .wState 18 17 2, .rHead 18 0 20,
     .rNext 18 20 0, .rHead 18 0 20, .rNext 18 20 0, .retWait 17 1 false, .callWait 17 2,
     .fadd 17 3, .wState 17 17 5, .rNode 17 17 1, .wData 17 1 17, .wNode 17 17 0, .wNext 17 1 0,
     .xchgTail 17 0 20 1, .wNext 17 20 1, .rHead 18 0 20, .rNext 18 20 1, .wHead 18 0 1,
     .rData 18 1 17, .wData 18 20 17, .rData 18 20 17, .wNode 18 17 20, .rState 18 17 3,
     .wState 18 17 2
  ]

/-- the state reached by the witness trace (it is accepted: `witness_accepted`) -/
def witnessState : St := (((sys 3 1 nodeOf).run witness).getD (init nodeOf))

theorem witness_accepted : (sys 3 1 nodeOf).run witness = some witnessState := by
  have h : ((sys 3 1 nodeOf).run witness).isSome = true := by decide
  unfold witnessState
  cases hr : (sys 3 1 nodeOf).run witness with
  | none => rw [hr] at h; cases h
  | some s => rfl

theorem no_early_pass_false :
    ∃ es s f k b s', (sys 3 1 nodeOf).run es = some s ∧
      (sys 3 1 nodeOf).step s (.retWait f k b) = some s' ∧ s.entered k < 3 := by
  have hstep : ((sys 3 1 nodeOf).step witnessState (.retWait 17 2 false)).isSome = true := by decide
  have hent : witnessState.entered 2 < 3 := by decide
  cases hs : (sys 3 1 nodeOf).step witnessState (.retWait 17 2 false) with
  | none => rw [hs] at hstep; simp at hstep
  | some s' => exact ⟨witness, witnessState, 17, 2, false, s', witness_accepted, hs, hent⟩

/-- ... and the displaced round-1 waiter: in the same state fiber 16 has entered round 1, all
    three fibers have, fiber 18 (the round-1 serial fiber) has made both its pops, and fiber
    16 is still waiting: `no_stranded` fails as well. -/
theorem no_stranded_false :
    ∃ es s g, (sys 3 1 nodeOf).run es = some s ∧ (sig (s.pc g)).kind = .pend ∧
      3 ≤ s.entered (s.rnd g) ∧ ∀ f ∈ s.members, needW (sig (s.pc f)) = 0 :=
  ⟨witness, witnessState, 16, witness_accepted, by decide, by decide, by decide⟩

/-! ## 4. non-vacuity: accepted traces of the real implementation -/

/-- `barrier 2 'w,w|w,w|w,w'` (VR_SCHED=rand VR_SEED=3): three fibers, two rounds, the code as
    it is; every access of the run, 82 model events -/
def demo : List Ev := [
    .callWait 18 1, .fadd 18 0, .wState 18 18 5, .rNode 18 18 21, .wData 18 21 18, .wNode 18 18 0,
     .wNext 18 21 0, .xchgTail 18 0 1 21, .callWait 16 1, .fadd 16 1, .wNext 18 1 21,
     .wState 16 16 5, .rNode 16 16 19, .wData 16 19 16, .callWait 17 1, .wNode 16 16 0,
     .wNext 16 19 0, .fadd 17 2, .xchgTail 16 0 21 19, .wNext 16 21 19, .rHead 17 0 1,
     .rNext 17 1 21, .wHead 17 0 21, .rData 17 21 18, .wData 17 1 18, .rData 17 1 18,
     .wNode 17 18 1, .rState 17 18 3, .wState 17 18 2, .rHead 17 0 21, .rNext 17 21 19,
     .wHead 17 0 19, .rData 17 19 16, .wData 17 21 16, .rData 17 21 16, .wNode 17 16 21,
     .rState 17 16 3, .wState 17 16 2, .retWait 17 1 true, .callWait 17 2, .fadd 17 3,
     .wState 17 17 5, .rNode 17 17 20, .wData 17 20 17, .wNode 17 17 0, .wNext 17 20 0,
     .xchgTail 17 0 19 20, .wNext 17 19 20, .retWait 18 1 false, .callWait 18 2, .fadd 18 4,
     .wState 18 18 5, .rNode 18 18 1, .wData 18 1 18, .wNode 18 18 0, .wNext 18 1 0,
     .xchgTail 18 0 20 1, .wNext 18 20 1, .retWait 16 1 false, .callWait 16 2, .fadd 16 5,
     .rHead 16 0 19, .rNext 16 19 20, .wHead 16 0 20, .rData 16 20 17, .wData 16 19 17,
     .rData 16 19 17, .wNode 16 17 19, .rState 16 17 3, .wState 16 17 2, .rHead 16 0 20,
     .rNext 16 20 1, .wHead 16 0 1, .rData 16 1 18, .wData 16 20 18, .rData 16 20 18,
     .wNode 16 18 20, .rState 16 18 3, .wState 16 18 2, .retWait 16 2 true, .retWait 18 2 false,
     .retWait 17 2 false
  ]

example : ((sys 3 1 nodeOf).run demo).isSome = true := by decide
/-- after the run: 6 arrivals, 2 serial decisions, every round entered by 3 and told once -/
example : ((sys 3 1 nodeOf).run demo).map (fun s => (s.counter, s.serials, s.members.length)) =
    some (6, 2, 3) := by decide
example : ((sys 3 1 nodeOf).run demo).map (fun s => (s.entered 1, s.entered 2, s.told 1, s.told 2)) =
    some (3, 3, 1, 1) := by decide

/-- `barrier 2 'w,w|w,w'` (VR_SCHED=rand VR_SEED=7): count = 2, the hypotheses of the
    `_partial` theorems are satisfiable by a trace with waiting, waking and returns -/
def demo2 : List Ev := [
    .callWait 16 1, .fadd 16 0, .wState 16 16 5, .rNode 16 16 19, .wData 16 19 16, .callWait 17 1,
     .wNode 16 16 0, .fadd 17 1, .wNext 16 19 0, .xchgTail 16 0 1 19, .wNext 16 1 19, .rHead 17 0 1,
     .rNext 17 1 19, .wHead 17 0 19, .rData 17 19 16, .wData 17 1 16, .rData 17 1 16,
     .wNode 17 16 1, .rState 17 16 3, .wState 17 16 2, .retWait 17 1 true, .callWait 17 2,
     .fadd 17 2, .wState 17 17 5, .rNode 17 17 20, .wData 17 20 17, .wNode 17 17 0, .wNext 17 20 0,
     .xchgTail 17 0 19 20, .wNext 17 19 20, .retWait 16 1 false, .callWait 16 2, .fadd 16 3,
     .rHead 16 0 19, .rNext 16 19 20, .wHead 16 0 20, .rData 16 20 17, .wData 16 19 17,
     .rData 16 19 17, .wNode 16 17 19, .rState 16 17 3, .wState 16 17 2, .retWait 16 2 true,
     .retWait 17 2 false
  ]

example : ((sys 2 1 nodeOf).run demo2).isSome = true := by decide
example : ((sys 2 1 nodeOf).run demo2).map (fun s => (s.counter, s.entered 1, s.entered 2, s.told 2)) =
    some (4, 2, 2, 1) := by decide

/-- the candidate fix (docs/fix-C12.diff) under the schedule of the known finding
    (`barrier 2 'w,w|w,w|w,w'`, VR_SCHED=freeze VR_SEED=4 VR_FREEZE_DEN=6 VR_FREEZE_LEN=300):
    accepted by the two-queue variant, both queues in use -/
def demoFixed : List Ev := [
    .callWait 18 1, .fadd 18 0, .wState 18 18 5, .rNode 18 18 21, .wData 18 21 18, .wNode 18 18 0,
     .wNext 18 21 0, .callWait 16 1, .fadd 16 1, .xchgTail 18 0 1 21, .wNext 18 1 21,
     .callWait 17 1, .fadd 17 2, .rHead 17 0 1, .rNext 17 1 21, .wHead 17 0 21, .rData 17 21 18,
     .wData 17 1 18, .rData 17 1 18, .wNode 17 18 1, .rState 17 18 3, .wState 17 18 2,
     .rHead 17 0 21, .rNext 17 21 0, .retWait 18 1 false, .callWait 18 2, .fadd 18 3,
     .wState 18 18 5, .rNode 18 18 1, .wData 18 1 18, .wNode 18 18 0, .wNext 18 1 0,
     .xchgTail 18 1 2 1, .wNext 18 2 1, .wState 16 16 5, .rNode 16 16 19, .wData 16 19 16,
     .wNode 16 16 0, .wNext 16 19 0, .xchgTail 16 0 21 19, .wNext 16 21 19, .rHead 17 0 21,
     .rNext 17 21 19, .wHead 17 0 19, .rData 17 19 16, .wData 17 21 16, .rData 17 21 16,
     .wNode 17 16 21, .rState 17 16 3, .wState 17 16 2, .retWait 17 1 true, .callWait 17 2,
     .fadd 17 4, .wState 17 17 5, .rNode 17 17 20, .wData 17 20 17, .wNode 17 17 0, .wNext 17 20 0,
     .xchgTail 17 1 1 20, .wNext 17 1 20, .retWait 16 1 false, .callWait 16 2, .fadd 16 5,
     .rHead 16 1 2, .rNext 16 2 1, .wHead 16 1 1, .rData 16 1 18, .wData 16 2 18, .rData 16 2 18,
     .wNode 16 18 2, .rState 16 18 3, .wState 16 18 2, .rHead 16 1 1, .rNext 16 1 20,
     .wHead 16 1 20, .rData 16 20 17, .wData 16 1 17, .rData 16 1 17, .wNode 16 17 1,
     .rState 16 17 3, .wState 16 17 2, .retWait 16 2 true, .retWait 17 2 false, .retWait 18 2 false
  ]

example : ((sys 3 2 nodeOf).run demoFixed).isSome = true := by decide
example : ((sys 3 2 nodeOf).run demoFixed).map (fun s => (s.counter, s.serials, s.entered 1, s.entered 2,
    ((s.q 0).order.length, (s.q 1).order.length))) = some (6, 2, 3, 3, (2, 2)) := by decide
/-- the one-queue model does NOT accept the fixed code's trace and vice versa: the two
    variants are told apart by the correspondence check -/
example : ((sys 3 1 nodeOf).run demoFixed).isSome = false := by decide
example : ((sys 3 2 nodeOf).run demo).isSome = false := by decide

end LibfiberVerif.C12
