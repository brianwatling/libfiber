/-
  Props/C13.lean — property C13:

  "The multi-producer/multi-consumer FIFO behaves as an atomic FIFO queue: every pushed value
   is popped exactly once, in an order consistent with one total order of the pushes that
   respects real-time precedence and each thread's program order.  A pop reports empty only
   if the queue was empty at some instant during the call or a push was still in flight."

  Model: `Mpmc.sys` (Model/Mpmc.lean) — include/mpmc_fifo.h (Ladan-Mozes/Shavit optimistic
  queue) at the granularity of the individual shared accesses, with hazard-pointer
  reclamation and node REUSE (a reclaimed node can be re-initialised and pushed again by
  anyone while other threads still hold its address: ABA is in the model).
  Every theorem quantifies over EVERY event list the model accepts: any number of pushers and
  poppers, any operation mix, any number of nodes, all interleavings of the atomic steps,
  including retirement, reclamation and reuse.

  Composition assumption (trusted base, discharged by C14's `Hp.no_reclaim_protected`): the
  ghost event `reclaim n` is enabled only if `n` is retired and no thread holds a slot on `n`
  that was published and validated before the retirement (`prot0`/`prot1`).

  Vocabulary (ghost fields of `Mpmc.St`):
    pushed     values in the order of their successful tail CAS (the total order of the pushes)
    popped     values in the order of the successful head CASes
    ordN j     node at position j of the tail-CAS order (position 0 = the initial dummy)
    hd         position of the current dummy = number of successful pops
    life n     free | owned t | inq | retired
-/
import LibfiberVerif.Proof.Mpmc

namespace LibfiberVerif.C13
open LibfiberVerif.Mpmc

/-! ## 1. memory safety of the algorithm under reuse -/

/-- **No field of a free node is ever accessed.**  In every reachable state, for every
    thread, the node whose `value`/`prev`/`next` field the thread's next step dereferences
    (`nextAccess`, read off its program counter) is not free.  So the model's rule "reject any
    access to a free node" never fires on a trace produced by following the algorithm. -/
theorem no_access_free : ∀ es s, sys.run es = some s →
    ∀ t n, nextAccess (s.pc t) = some n → s.life n ≠ .free := by
  intro es s h t n hn
  exact next_not_free (inv_of_run h) t n hn

/-- `nextAccess` is faithful: every node-field access event the model accepts is the one
    `nextAccess` names for the acting thread (hence, with `no_access_free`, hits a non-free
    node; the guard in `step` is implied by the invariant). -/
theorem access_is_nextAccess : ∀ es s e s', sys.run es = some s → step s e = some s' →
    (∀ t n v, e = .wrValue t n v → nextAccess (s.pc t) = some n ∧ s.life n ≠ .free) ∧
    (∀ t n x, e = .rdValue t n x → nextAccess (s.pc t) = some n ∧ s.life n ≠ .free) ∧
    (∀ t n x, e = .wrPrev t n x → nextAccess (s.pc t) = some n ∧ s.life n ≠ .free) ∧
    (∀ t n x, e = .rdPrev t n x → nextAccess (s.pc t) = some n ∧ s.life n ≠ .free) ∧
    (∀ t n x, e = .wrNext t n x → nextAccess (s.pc t) = some n ∧ s.life n ≠ .free) := by
  intro es s e s' h hs
  have nf := fun t n => next_not_free (inv_of_run h) t n
  obtain ⟨a1, a2, a3, a4, a5⟩ := access_is_next hs
  exact ⟨fun t n v he => ⟨a1 t n v he, nf t n (a1 t n v he)⟩,
         fun t n v he => ⟨a2 t n v he, nf t n (a2 t n v he)⟩,
         fun t n v he => ⟨a3 t n v he, nf t n (a3 t n v he)⟩,
         fun t n v he => ⟨a4 t n v he, nf t n (a4 t n v he)⟩,
         fun t n v he => ⟨a5 t n v he, nf t n (a5 t n v he)⟩⟩

/-- Validated protections are sound uses of the hazard-pointer API: a node in a validated
    slot is in the queue or retired — never free, never being re-initialised by a pusher. -/
theorem protected_not_reused : ∀ es s, sys.run es = some s →
    ∀ u n, ((u, n) ∈ s.prot0 ∨ (u, n) ∈ s.prot1) → s.life n = .inq ∨ s.life n = .retired := by
  intro es s h u n hm
  exact hm.elim ((inv_of_run h).p0_life u n) ((inv_of_run h).p1_life u n)

/-- The client side of the hazard-pointer contract (what C14's `Hp` model assumes of its
    user): a retired node is unreachable from the shared cells the validating re-reads look
    at (`head`, `tail`), and so is a free or privately owned one — only nodes in the queue
    are ever published there.  (A node is retired once per incarnation, by the popper whose
    head CAS unlinked it, and is handed out again only after `reclaim`: `take` needs `free`.) -/
theorem retired_unreachable : ∀ es s, sys.run es = some s →
    s.life s.head = .inq ∧ s.life s.tail = .inq := by
  intro es s h
  exact ⟨(inv_of_run h).head_inq, (inv_of_run h).tail_inq⟩

/-! ## 2. a successful pop returns the oldest value -/

/-- **pop_value.**  A successful head CAS by thread `t` happens in a state where the queue
    is non-empty (`hd + 1 < len`), swings `head` to the node at position `hd + 1`, and the
    value the pop will return (`popCased x`, later `ret pop x`) is that node's value, which
    is the `hd`-th pushed value. -/
theorem pop_value : ∀ es s t f e d s', sys.run es = some s →
    step s (.casHead t f e d true) = some s' →
    s.hd + 1 < s.len ∧ d = s.ordN (s.hd + 1) ∧
    s'.pc t = .popCased (s.value (s.ordN (s.hd + 1))) ∧
    s.pushed[s.hd]? = some (s.value (s.ordN (s.hd + 1))) ∧
    s'.popped = s.popped ++ [s.value (s.ordN (s.hd + 1))] ∧ s'.hd = s.hd + 1 := by
  intro es s t f e d s' h hs
  cases Step.of_step hs with
  | pc _ m => cases m
  | casHead hpc hh =>
    obtain ⟨c1, c2, -, c4, c5⟩ := casHead_facts (inv_of_run h) hpc hh
    exact ⟨c1, c2, by simp [← c4], c4 ▸ c5, by simp [← c4], rfl⟩

/-! ## 3. exactly once, in FIFO order -/

/-- **fifo_order.**  The values returned by successful pops, in head-CAS order, are exactly
    the first `hd` values of the tail-CAS order of the pushes: the i-th successful pop returns
    the i-th pushed value. -/
theorem fifo_order : ∀ es s, sys.run es = some s →
    s.popped = s.pushed.take s.hd ∧ s.hd ≤ s.pushed.length ∧ s.popped.length = s.hd := by
  intro es s h
  have hI := inv_of_run h
  have h1 := hI.popped_eq
  have h2 := hI.pushed_len
  have h3 := hI.hd_lt
  refine ⟨h1, by omega, ?_⟩
  rw [h1, List.length_take]; omega

/-- **exactly_once.**  Every pushed value (every successful tail CAS) is either already popped
    — once, at its own position — or still in the queue: `pushed = popped ++ contents`, where
    `contents` are the values currently stored in the nodes at positions `hd+1 … len-1`,
    all of which are in the queue (`inq`), pairwise distinct nodes.  Nothing is lost,
    duplicated or invented, whatever was retired, reclaimed and reused meanwhile. -/
theorem exactly_once : ∀ es s, sys.run es = some s →
    s.pushed = s.popped ++ (List.range' (s.hd + 1) (s.len - (s.hd + 1))).map (fun j => s.value (s.ordN j))
    ∧ (∀ j, s.hd ≤ j → j < s.len → s.life (s.ordN j) = .inq)
    ∧ (∀ i j, s.hd ≤ i → i < j → j < s.len → s.ordN i ≠ s.ordN j) := by
  intro es s h
  have hI := inv_of_run h
  refine ⟨?_, hI.q_life, ?_⟩
  · have hl := hI.pushed_len
    have hlt := hI.hd_lt
    rw [hI.popped_eq]
    conv => lhs; rw [← List.take_append_drop s.hd s.pushed]
    congr 1
    apply List.ext_getElem?
    intro i
    by_cases hi : i < s.len - (s.hd + 1)
    · rw [List.getElem?_drop, hI.pushed_val (s.hd + i) (by omega)]
      simp [hi]
      rw [hI.q_val (s.hd + 1 + i) (by omega) (by omega)]
      congr 1; omega
    · rw [List.getElem?_drop]
      rw [List.getElem?_eq_none (by omega)]
      simp [hi]
  · intro i j h1 h2 h3 he
    have a := hI.q_pos i h1 (by omega)
    have b := hI.q_pos j (by omega) h3
    rw [he] at a; omega

/-! ## 4. EMPTY is justified -/

/-- **empty_justified.**  When a pop reads `head->prev == NULL` (its linearisation point for
    EMPTY), the node it reads is the current dummy, and either the queue is empty at that very
    instant (`hd` is the last position of the tail-CAS order: every pushed value has been
    popped), or the push of the next node is still in flight: its thread has done the tail CAS
    and has not yet written `tail->prev` (pc `pushCased`, between `call push` and `ret push`). -/
theorem empty_justified : ∀ es s t h s', sys.run es = some s →
    step s (.rdPrev t h none) = some s' →
    h = s.ordN s.hd ∧ s'.pc t = .popEmpty ∧
    (s.hd + 1 = s.len ∧ s.popped = s.pushed
     ∨ ∃ u v, s.pc u = .pushCased (s.ordN (s.hd + 1)) v (s.ordN s.hd)) := by
  intro es s t h s' hr hs
  have hI := inv_of_run hr
  cases Step.of_step hs with | pc hpc m =>
  cases m with | rdPrevNone hnone =>
  obtain ⟨e1, e2⟩ := empty_facts hI hpc hnone
  refine ⟨e1, by simp, ?_⟩
  rcases e2 with e2 | ⟨u, hu⟩
  · left
    refine ⟨e2, ?_⟩
    rw [hI.popped_eq]; exact List.take_of_length_le (by have := hI.pushed_len; omega)
  · right
    cases hpu : s.pc u <;> simp [hpu, linking] at hu
    exact ⟨u, _, by rw [hpu, hu.1, hu.2]⟩

/-! ## 5. linearizability -/

/-- **linearizable.**  Project an accepted trace to the API level (`api`): invocations
    (`call push v`, `call pop`), responses (`ret push`, `ret pop x`) and one linearisation
    point per operation — the successful tail CAS for push, the successful head CAS for a
    successful pop, the read of `head->prev == NULL` on the validated head for EMPTY.  The
    projected trace is a run of the sequential specification `specSys`, i.e.
    * the operations, taken in the order of their linearisation points, form a legal history
      of ONE sequential FIFO queue (`Spec.q`): push appends, a successful pop removes and
      returns the oldest value, EMPTY happens only when the abstract queue is empty or while
      a push that has passed its linearisation point has not yet returned (the property's
      weakening; see `empty_justified`);
    * each thread's events follow invocation → linearisation point → response, and the
      response carries the value determined at the linearisation point (`Spec.ph`); hence
      every linearisation point lies between its operation's call and return, so the total
      order respects real-time precedence and each thread's program order;
    * the abstract queue is what is physically in the structure: `pushed.drop hd`. -/
theorem linearizable : ∀ es s, sys.run es = some s →
    ∃ a, specSys.run (es.filterMap api) = some a ∧
      a.q = s.pushed.drop s.hd ∧ (∀ t, a.ph t = phaseOf (s.pc t)) := by
  intro es s h
  obtain ⟨_, a, ha, hR⟩ := refines h
  exact ⟨a, ha, hR.q_eq, hR.ph_eq⟩

/-- **lin_between** (what a run of the specification means for one thread): after any API
    trace the specification accepts, a thread's phase is determined by ITS last event.  Since
    `Spec.step` lets a response happen only in phase `pushLin`/`popLin x` and a linearisation
    point only in phase `pushPend v`/`popPend`, in each thread's own event sequence a response
    is directly preceded by exactly one linearisation point of that operation, which is
    directly preceded by the invocation. -/
theorem lin_between : ∀ (l : List Api) a, specSys.run l = some a →
    ∀ t, PhaseAfter (a.ph t) (lastOf t l) := by
  intro l a h
  exact spec_phase_last h

/-- the per-thread shape, transported to model traces -/
theorem lin_between_trace : ∀ es s, sys.run es = some s →
    ∀ t, PhaseAfter (phaseOf (s.pc t)) (lastOf t (es.filterMap api)) := by
  intro es s h t
  obtain ⟨a, ha, _, hp⟩ := linearizable es s h
  rw [← hp t]; exact spec_phase_last ha t

/-! ## 6. non-vacuity: concrete accepted traces -/

/-- thread `t` pushes value `v` with node `n` onto tail `tl`, uncontended -/
def pushTrace (t n v tl : Nat) : List Ev :=
  [.take t n, .wrValue t n v, .callPush t v, .wrPrev t n none, .ldTail t tl,
   .wrSlot t t 0 (some tl), .fence t, .ldTail t tl, .wrNext t n (some tl),
   .casTail t tl tl n true, .wrPrev t tl (some n), .wrSlot t t 0 none, .retPush t]

/-- thread `t` pops value `x` = value of node `p` = `h->prev`, uncontended -/
def popTrace (t h p x : Nat) : List Ev :=
  [.callPop t, .ldHead t h, .wrSlot t t 0 (some h), .fence t, .ldHead t h, .rdPrev t h (some p),
   .wrSlot t t 1 (some p), .fence t, .ldHead t h, .rdValue t p x, .casHead t h h p true,
   .wrSlot t t 0 none, .wrSlot t t 1 none, .retPop t x]

/-- ABA, part 1: thread 1 loads `head = n0` and is preempted; thread 0 pops (n0 retired),
    scans (n0 reclaimed: nobody holds a validated slot on it), and pushes again REUSING n0;
    thread 1 then publishes its stale pointer and its re-validation of `head` fails. -/
def abaTrace1 : List Ev :=
  pushTrace 0 1 5 0 ++
  [.callPop 1, .ldHead 1 0] ++
  popTrace 0 0 1 5 ++
  [.callScan 0, .rdSlot 0 1 0 none, .rdSlot 0 1 1 none, .reclaim 0 0, .retScan 0] ++
  pushTrace 0 0 6 1 ++
  [.wrSlot 1 1 0 (some 0), .fence 1, .ldHead 1 1]

example : (sys.run abaTrace1).map (fun s => (s.pc 1, s.life 0, s.life 1, s.pushed, s.popped, s.head, s.tail))
    = some (.popCalled, .inq, .inq, [5, 6], [5], 1, 0) := by rfl

/-- ABA, part 2 (the address really comes back): as above, but before thread 1 resumes thread
    0 also pops the 6, so `head` is node n0 AGAIN — a recycled n0.  Thread 1's re-validation
    now succeeds on the stale pointer; that is harmless: n0 is legitimately the dummy, the
    slot protects it from now on, and the pop correctly reports EMPTY (everything pushed has
    been popped). -/
def abaTrace2 : List Ev :=
  pushTrace 0 1 5 0 ++
  [.callPop 1, .ldHead 1 0] ++
  popTrace 0 0 1 5 ++
  [.callScan 0, .rdSlot 0 1 0 none, .rdSlot 0 1 1 none, .reclaim 0 0, .retScan 0] ++
  pushTrace 0 0 6 1 ++
  popTrace 0 1 0 6 ++
  [.wrSlot 1 1 0 (some 0), .fence 1, .ldHead 1 0, .rdPrev 1 0 none, .wrSlot 1 1 0 none, .retPop 1 0]

example : (sys.run abaTrace2).map (fun s => (s.pc 1, s.life 0, s.life 1, s.pushed, s.popped, s.hd, s.len))
    = some (.idle, .inq, .retired, [5, 6], [5, 6], 2, 3) := by rfl

/-- the hypotheses of `linearizable` are satisfiable by this trace, and its API projection
    really is a run of the specification ending with an empty abstract queue -/
example : (specSys.run (abaTrace2.filterMap api)).map (fun a => (a.q, a.ph 0, a.ph 1, a.fl))
    = some ([], .idle, .idle, []) := by rfl

/-- A validated protection blocks reclamation: thread 1 validates `head = n0` (slot 0), thread
    0 pops (n0 retired) and scans — `reclaim n0` is NOT accepted while thread 1 holds the slot;
    after thread 1 has moved on (its slot overwritten) it is. -/
def protTrace : List Ev :=
  pushTrace 0 1 5 0 ++
  [.callPop 1, .ldHead 1 0, .wrSlot 1 1 0 (some 0), .fence 1, .ldHead 1 0] ++
  popTrace 0 0 1 5 ++
  [.callScan 0, .rdSlot 0 1 0 (some 0)]

example : (sys.run protTrace).map (fun s => (s.life 0, s.prot0)) = some (.retired, [(1, 0)]) := by rfl
example : (sys.run (protTrace ++ [.reclaim 0 0])).isNone = true := by rfl
/-- thread 1 reads the retired (not free!) n0's `prev`, publishes slot 1, fails its second
    re-validation, retries with the new head: slot 0 is overwritten, n0 becomes reclaimable -/
example : (sys.run (protTrace ++
    [.rdPrev 1 0 (some 1), .wrSlot 1 1 1 (some 1), .fence 1, .ldHead 1 1,
     .ldHead 1 1, .wrSlot 1 1 0 (some 1), .reclaim 0 0])).map (fun s => (s.life 0, s.pc 1))
    = some (.free, .popPub0 1) := by rfl

/-- EMPTY with a push in flight (the optimistic window): thread 0 has CASed the tail but not
    yet written `tail->prev`; thread 1's pop reports EMPTY although value 5 is already in the
    tail-CAS order.  This is the case the property's second clause allows, and the second
    disjunct of `empty_justified`. -/
def inflightTrace : List Ev :=
  (pushTrace 0 1 5 0).take 10 ++
  [.callPop 1, .ldHead 1 0, .wrSlot 1 1 0 (some 0), .fence 1, .ldHead 1 0, .rdPrev 1 0 none,
   .wrSlot 1 1 0 none, .retPop 1 0]

example : (sys.run inflightTrace).map (fun s => (s.pc 0, s.pc 1, s.pushed, s.popped, s.hd, s.len))
    = some (.pushCased 1 5 0, .idle, [5], [], 0, 2) := by rfl
example : (specSys.run (inflightTrace.filterMap api)).map (fun a => (a.q, a.fl)) = some ([5], [0]) := by rfl

/-- the model refuses an access to a free node (what a use-after-reclaim in the
    implementation would look like in the log): node 2 was never taken -/
example : (sys.run [.callPop 0, .ldHead 0 0, .wrSlot 0 0 0 (some 0), .fence 0, .ldHead 0 0,
    .rdPrev 0 2 none]).isNone = true := by rfl

/-- the specification is not vacuous either: it rejects a non-FIFO history, an EMPTY on a
    non-empty queue with no push in flight, and a response before the linearisation point -/
example : (specSys.run [.callPush 0 1, .linPush 0, .retPush 0, .callPush 0 2, .linPush 0, .retPush 0,
    .callPop 1, .linPopOk 1, .retPop 1 2]).isNone = true := by rfl
example : (specSys.run [.callPush 0 1, .linPush 0, .retPush 0, .callPop 1, .linPopEmpty 1]).isNone = true := by rfl
example : (specSys.run [.callPush 0 1, .retPush 0]).isNone = true := by rfl

end LibfiberVerif.C13
