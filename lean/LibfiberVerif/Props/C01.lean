/-
  Props/C01.lean — property C01: "a fiber runs on one kernel thread at a time and is resumed
  only from a saved state".

  "At every instant a fiber is executing on at most one kernel thread, and a fiber that
   suspends (yield, blocking on any primitive, I/O, sleep, completion) is never resumed - by a
   wake-up, a steal or its own thread - before that suspension has completed.  A finished
   fiber's stack and control block are never executed, scheduled or reclaimed while still in
   use."

  Model: `Rt.sys` (Model/Rt.lean) — kernel threads, run queues, the state word of every fiber,
  context switches, creation and destruction — validated against the instrumented runtime.
  Inductive invariant: `Rt.Inv` (Proof/Rt.lean).

  All theorems quantify over EVERY event list the model accepts: any number (≤ 16, the bound
  the model itself enforces on every log through `Ev.wf`) of kernel threads, any number of
  fibers, any interleaving of wake-ups, pops, steals and context switches, any length.

  Vocabulary:
    s.ctx g       ghost: none / fresh / running k / saved / dead — where g's context is
    s.cur k       the fiber kernel thread k is executing
    s.old k       the fiber k last switched away from (the one its maintenance works for)
    s.tpc k       what k is in the middle of: run / held g / requeue g / checked g / armed g / stolen g
    (s.tpc k).fib the fiber in k's hand (popped or stolen, not yet re-queued or run)
    s.bag q       run queue q (q / 2 is its owner)
    s.fst g       g's state word (RUNNING=1 READY=2 WAITING=3 DONE=4 SAVING=5)
    s.pub g       ghost: wakers can find g (it sits in some primitive's waiter list)
    s.tracked g   g is a script fiber or the main fiber (its state word is logged);
                  untracked = per-thread maintenance fibers, `s.maintOf g` = their thread
    mentions g e  event e names fiber g — including `touch _ g`: any access to a field of g's
                  control block other than `state` (result, join_info, detach_state,
                  mpsc_fifo_node, scratch)
-/
import LibfiberVerif.Proof.Rt

namespace LibfiberVerif.Rt

/-! ## 0. the bounds the model enforces on every log -/

/-- every accepted event carries a kernel-thread id < 16 and a run-queue id < 32 -/
theorem accepted_in_range {s s' : St} {e : Ev} (h : sys.step s e = some s') : e.wf = true :=
  (step_core h).1

/-! ## 1. a context switch always targets a saved context that runs nowhere -/

/-- **switch_target_saved** (state form).  Whenever kernel thread k has written
    `g.state := RUNNING` and is about to switch to g, g's context is saved (or was never
    run) and no kernel thread is executing g.  The `switch` step of the model has no guard on
    `ctx`: this is a theorem about every reachable state. -/
theorem switch_target_saved {es : List Ev} {s : St} (h : sys.run es = some s) {k g : Nat}
    (ha : s.tpc k = .armed g) :
    (s.ctx g = .saved ∨ s.ctx g = .fresh) ∧ ∀ k', k' < 16 → s.cur k' ≠ g := by
  have hI := inv_of_run h
  have hc := (hI.arm k g ha).1
  exact ⟨hc, not_cur hI (by rcases hc with hc | hc <;> simp [hc])⟩

/-- **switch_target_saved** (event form).  EVERY accepted `switch k g` — to a script fiber
    or to a kernel thread's maintenance fiber — finds g's context saved or fresh, with no
    kernel thread executing g; a maintenance fiber is switched to by its own thread only. -/
theorem switch_accepted_target_saved {es : List Ev} {s s' : St} (h : sys.run es = some s)
    {k g : Nat} (hs : sys.step s (.switch k g) = some s') :
    (s.ctx g = .saved ∨ s.ctx g = .fresh) ∧ (∀ k', k' < 16 → s.cur k' ≠ g) ∧
    (s.tracked g = false → s.maintOf g = k) := by
  have hI := inv_of_run h
  cases Step.of_step hs with
  | switch hk hok =>
    have hc := switch_target hI hk hok
    refine ⟨hc, not_cur hI (by rcases hc with hc | hc <;> simp [hc]), fun htr => ?_⟩
    rcases hok.2 with h1 | h1
    · simp [h1.1] at htr
    · exact h1.2.2

/-- a maintenance fiber only ever runs on the kernel thread it belongs to -/
theorem maintenance_fiber_on_own_thread {es : List Ev} {s : St} (h : sys.run es = some s)
    {g k : Nat} (htr : s.tracked g = false) (hr : s.ctx g = .running k) : s.maintOf g = k :=
  (inv_of_run h).untr g k htr hr

/-- after an accepted switch the target runs on the switching thread, the fiber switched away
    from is saved -/
theorem switch_effect {s s' : St} {k g : Nat} (hs : sys.step s (.switch k g) = some s') :
    s'.ctx g = .running k ∧ s'.cur k = g ∧ s'.ctx (s.cur k) = .saved ∧ s'.old k = s.cur k := by
  cases Step.of_step hs with
  | switch _ hok => simp [upd, Ne.symm hok.1]

/-! ## 2. a fiber runs on at most one kernel thread -/

/-- **live_unique**: the ghost "g's context is live on k" and the manager's `current_fiber`
    agree, in every reachable state -/
theorem live_unique {es : List Ev} {s : St} (h : sys.run es = some s) {k g : Nat} (hk : k < 16) :
    s.ctx g = .running k ↔ s.cur k = g := by
  have hI := inv_of_run h
  constructor
  · intro hr; exact (hI.liveU g k hr).2
  · intro hc; rw [← hc]; exact hI.live k hk

/-- a context is only ever live on a real kernel thread -/
theorem running_in_range {es : List Ev} {s : St} (h : sys.run es = some s) {k g : Nat}
    (hr : s.ctx g = .running k) : k < 16 :=
  ((inv_of_run h).liveU g k hr).1

/-- hence: at every instant a fiber is executing on at most one kernel thread -/
theorem one_thread_at_a_time {es : List Ev} {s : St} (h : sys.run es = some s) {k k' g : Nat}
    (hk : k < 16) (hk' : k' < 16) (h1 : s.cur k = g) (h2 : s.cur k' = g) : k = k' := by
  have a := (live_unique h hk).mpr h1
  have b := (live_unique h hk').mpr h2
  rw [a] at b; cases b; rfl

/-! ## 3. what sits in a run queue or in a thread's hand -/

/-- **queued_saved_or_saving**: a fiber in a run queue has a saved or fresh context, or is
    still marked SAVING (and then it is the running fiber of the thread it parks on); it is
    not finished and not destroyed -/
theorem queued_saved_or_saving {es : List Ev} {s : St} (h : sys.run es = some s) {q g : Nat}
    (hq : g ∈ s.bag q) :
    (s.ctx g = .saved ∨ s.ctx g = .fresh ∨ s.fst g = SAVING) ∧ s.ctx g ≠ .dead ∧ s.fst g ≠ DONE
    ∧ s.tracked g = true :=
  ((inv_of_run h).bagQ q g hq).saved_or_saving

/-- the same for a fiber in a kernel thread's hand (popped or stolen) -/
theorem held_saved_or_saving {es : List Ev} {s : St} (h : sys.run es = some s) {k g : Nat}
    (hq : (s.tpc k).fib = some g) :
    (s.ctx g = .saved ∨ s.ctx g = .fresh ∨ s.fst g = SAVING) ∧ s.ctx g ≠ .dead ∧ s.fst g ≠ DONE
    ∧ s.tracked g = true :=
  ((inv_of_run h).handQ k g hq).saved_or_saving

/-- the heart of "never resumed before the suspension has completed": once
    `fiber_scheduler_next` has looked at the state word and it was not SAVING, the context IS
    saved (or fresh) — SAVING is only ever cleared by the successor's maintenance, i.e. after
    the context switch away from the fiber -/
theorem checked_is_saved {es : List Ev} {s : St} (h : sys.run es = some s) {k g : Nat}
    (hc : s.tpc k = .checked g ∨ s.tpc k = .armed g) :
    (s.ctx g = .saved ∨ s.ctx g = .fresh) ∧ s.fst g ≠ SAVING := by
  have hI := inv_of_run h
  rcases hc with hc | hc
  · exact hI.chk k g hc
  · have := hI.arm k g hc
    exact ⟨this.1, by simp [this.2, RUNNING, SAVING]⟩

/-- a queued or held fiber that is nevertheless still executing is inside the P-saving window:
    its state word says SAVING, so every popper puts it back -/
theorem running_and_queued_is_saving {es : List Ev} {s : St} (h : sys.run es = some s)
    {g k : Nat} (hr : s.ctx g = .running k)
    (hp : (∃ q, g ∈ s.bag q) ∨ (∃ k', (s.tpc k').fib = some g)) : s.fst g = SAVING := by
  have hI := inv_of_run h
  rcases hp with ⟨q, hq⟩ | ⟨k', hk'⟩
  · exact (hI.bagQ q g hq).saving_of_running hr
  · exact (hI.handQ k' g hk').saving_of_running hr

/-! ## 4. what wakers can find -/

/-- **published_is_safe**: a fiber that wakers can find has completed its suspension (context
    saved) or is still marked SAVING -/
theorem published_is_safe {es : List Ev} {s : St} (h : sys.run es = some s) {g : Nat}
    (hp : s.pub g = true) : s.ctx g = .saved ∨ s.fst g = SAVING := by
  rcases (inv_of_run h).pubS g hp with hc | hc
  · exact Or.inl hc
  · exact Or.inr hc.1

/-! ## 5. never resumed before the suspension has completed -/

/-- a fiber whose state word says SAVING is not switched to, by anyone -/
theorem no_resume_while_saving {es : List Ev} {s : St} (h : sys.run es = some s) {k g : Nat}
    (htr : s.tracked g = true) (hf : s.fst g = SAVING) : sys.step s (.switch k g) = none := by
  have hI := inv_of_run h
  cases hs : sys.step s (.switch k g) with
  | none => rfl
  | some s' =>
    exfalso
    cases Step.of_step hs with
    | switch _ hok =>
      rcases hok.2 with h1 | h1
      · have := (hI.arm k g h1.2).2
        rw [hf] at this; simp [SAVING, RUNNING] at this
      · simp [htr] at h1

/-- **no_resume_before_save**.  Fiber g, running on kernel thread k, writes its parking state
    (`SAVING` through fiber_manager_wait_in_mpsc_queue, or `WAITING` through any of the
    deferred-publication waits).  Whatever events follow — wake-ups by other threads, pushes,
    pops, steals, re-queues, on any thread — NO `switch k' g` is accepted until thread k has
    performed its context switch away from g (`mid` contains a `switch k _`). -/
theorem no_resume_before_save {pre mid : List Ev} {k g v : Nat} {fn : Fn} {k' : Nat} {s' : St}
    (hfn : fn = .waitSaving ∨ fn = .waitDefer)
    (h : sys.run (pre ++ .wState k g v fn :: mid ++ [.switch k' g]) = some s') :
    ∃ x, Ev.switch k x ∈ mid := by
  apply Classical.byContradiction
  intro hno
  have e1 : pre ++ Ev.wState k g v fn :: mid ++ [Ev.switch k' g]
      = pre ++ Ev.wState k g v fn :: (mid ++ [Ev.switch k' g]) := by simp
  rw [e1] at h
  obtain ⟨s1, s2, h1, hw, h⟩ := runFrom_split h
  obtain ⟨s3, s4, h3, hst, -⟩ := runFrom_split h
  -- the parking write is by the running fiber of thread k
  have hcur : s2.cur k = g := by
    cases Step.of_step hw with
    | wCur _ hg | wSaving _ hg => exact hg.symm
    | wArm | wFlip => simp at hfn
    | wWake _ hfn' => rcases hfn with rfl | rfl <;> simp at hfn'
  have := no_switch_to_cur (k' := k') (inv_step (inv_of_run h1) hw)
    (by simpa [Ev.wf] using (step_core hw).1) h3 (fun x hx => hno ⟨x, hx⟩)
  rw [hcur] at this
  simp [this] at hst

/-! ## 6. finished fibers -/

/-- **done_not_scheduled**: a fiber whose state word says DONE is in no run queue and in no
    kernel thread's hand -/
theorem done_not_scheduled {es : List Ev} {s : St} (h : sys.run es = some s) {g : Nat}
    (hd : s.fst g = DONE) : (∀ q, g ∉ s.bag q) ∧ (∀ k, (s.tpc k).fib ≠ some g) := by
  have hI := inv_of_run h
  exact ⟨fun q hq => (hI.bagQ q g hq).2.1 hd, fun k hk => (hI.handQ k g hk).2.1 hd⟩

/-- **destroy_after_switch**: `destroy k g` is accepted only as thread k's maintenance for the
    fiber it has just switched away from: g's context is saved (its last switch-away is
    complete), no kernel thread executes it, it is in no run queue, in no hand, and no waker
    can find it -/
theorem destroy_after_switch {es : List Ev} {s s' : St} (h : sys.run es = some s) {k g : Nat}
    (hs : sys.step s (.destroy k g) = some s') :
    g = s.old k ∧ s.ctx g = .saved ∧ s.fst g = DONE ∧ (∀ k', k' < 16 → s.cur k' ≠ g) ∧
    (∀ q, g ∉ s.bag q) ∧ (∀ k', (s.tpc k').fib ≠ some g) ∧ s.pub g = false ∧
    s'.ctx g = .dead := by
  have hI := inv_of_run h
  cases Step.of_step hs with
  | destroy hg hf _ hm =>
    subst hg
    have hsv := hI.winC k (by simp [hm])
    have hns : s.fst (s.old k) ≠ SAVING := by simp [hf, DONE, SAVING]
    exact ⟨rfl, hsv, hf, not_cur hI (by simp [hsv]), fun q => hI.winBag k q (by simp [hm]) hns,
      fun k' => hI.winHand k k' (by simp [hm]) hns, hI.winPub k (by simp [hm]) hns, by simp⟩

/-- a destroyed fiber stays destroyed and NO later event names it: it is not created again,
    not pushed, popped or stolen, its state word is not read or written, no other field of its
    control block is accessed (`touch`), it is not switched to and not destroyed a second time -/
theorem dead_untouched {es fs : List Ev} {s : St} {g : Nat} (h : sys.run es = some s)
    (hd : s.ctx g = .dead) {s' : St} (hf : sys.runFrom s fs = some s') :
    s'.ctx g = .dead ∧ ∀ e ∈ fs, mentions g e = false :=
  dead_runFrom (inv_of_run h) hd hf

/-- the same over one event list: nothing after an accepted `destroy k g` names g — in
    particular no `touch _ g`: the control block is not touched afterwards -/
theorem destroyed_never_touched {es fs : List Ev} {k g : Nat} {s : St}
    (h : sys.run (es ++ .destroy k g :: fs) = some s) :
    s.ctx g = .dead ∧ ∀ e ∈ fs, mentions g e = false := by
  obtain ⟨s1, s2, h1, hw, h⟩ := runFrom_split h
  exact dead_untouched (Sys.run_snoc sys h1 hw) (destroy_after_switch h1 hw).2.2.2.2.2.2.2 h

/-- **touch_only_live**: every accepted access to a field of g's control block (result,
    join_info, detach_state, mpsc_fifo_node, scratch) finds g not yet destroyed -/
theorem touch_only_live {es : List Ev} {s s' : St} (h : sys.run es = some s) {k g : Nat}
    (hs : sys.step s (.touch k g) = some s') : s.ctx g ≠ .dead := by
  intro hd
  have := (dead_step (inv_of_run h) hd hs).2
  simp [mentions] at this

/-- a destroyed fiber is nowhere: not executing, not queued, not held, not findable -/
theorem dead_is_nowhere {es : List Ev} {s : St} (h : sys.run es = some s) {g : Nat}
    (hd : s.ctx g = .dead) :
    (∀ k, k < 16 → s.cur k ≠ g) ∧ (∀ q, g ∉ s.bag q) ∧ (∀ k, (s.tpc k).fib ≠ some g) ∧
    s.pub g = false := by
  have hI := inv_of_run h
  refine ⟨not_cur hI (by simp [hd]), fun q hq => ?_, fun k hk => ?_, ?_⟩
  · exact (Q.exists hI (hI.bagQ q g hq)).2 hd
  · exact (Q.exists hI (hI.handQ k g hk)).2 hd
  · cases hp : s.pub g with
    | false => rfl
    | true => have := hI.pubS g hp; simp [hd, Ctx.isRunning] at this

/-! ## 7. non-vacuity: the windows the property names are reachable -/

/-- Two kernel threads.  Fiber 16 parks through P-saving on thread 0 (state := SAVING, visible
    to wakers at once); fiber 17, which thread 1 stole and runs, wakes it while it is STILL
    executing on thread 0 (the waker sees SAVING and pushes it on its own queue); thread 1 then
    pops it, sees SAVING, and puts it back. -/
def savingWindow : List Ev := [
  .create 0 16, .create 0 17, .spawn,
  .rqpush 0 1 16 .wake, .rqpush 0 1 17 .wake,
  -- thread 1 steals fiber 17 and runs it
  .rqsteal 1 1 (some 17), .rqpush 1 2 17 .other,
  .rqpop 1 2 (some 17), .rState 1 17 2 .next, .wState 1 17 1 .switchTo, .switch 1 17,
  -- thread 0: the main fiber yields to fiber 16; maintenance re-queues the main fiber
  .rState 0 0 1 .yield, .rqpop 0 1 (some 16), .rState 0 16 2 .next,
  .rState 0 0 1 .switchTo, .wState 0 0 2 .switchTo, .wState 0 16 1 .switchTo, .switch 0 16,
  .rState 0 0 2 .maint, .rqpush 0 1 0 .wake,
  -- fiber 16 parks: state := SAVING, enqueues itself on a mutex, yields
  .wState 0 16 5 .waitSaving, .rState 0 16 5 .yield,
  -- fiber 17 (thread 1) unlocks: pops 16 off the waiter list, sees SAVING, schedules it
  .rState 1 16 5 .wake, .rqpush 1 2 16 .wake,
  -- thread 1 yields: pops 16, sees SAVING, puts it back on its other queue
  .rState 1 17 1 .yield, .rqpop 1 2 (some 16), .rState 1 16 5 .next, .rqpush 1 3 16 .next]

/-- inside the window: fiber 16 is queued (on thread 1's queue) WHILE still executing on
    thread 0, marked SAVING, no longer findable by further wakers -/
example : ∃ s, sys.run savingWindow = some s ∧
    s.ctx 16 = .running 0 ∧ s.cur 0 = 16 ∧ s.fst 16 = SAVING ∧ s.bag 3 = [16] ∧
    s.pub 16 = false ∧ s.ctx 17 = .running 1 :=
  ⟨_, rfl, by decide, by decide, by decide, by decide, by decide, by decide⟩

/-- … then thread 0 completes the suspension (switches to the main fiber, whose maintenance
    flips SAVING → WAITING), and only now does thread 1's pop pass the check: fiber 16 resumes
    on a DIFFERENT kernel thread. -/
def savingResume : List Ev := savingWindow ++ [
  .rqpop 0 1 (some 0), .rState 0 0 2 .next, .rState 0 16 5 .switchTo, .wState 0 0 1 .switchTo,
  .switch 0 0, .rState 0 16 5 .maint, .wState 0 16 3 .maint,
  .rqpop 1 3 (some 16), .rState 1 16 3 .next, .rState 1 17 1 .switchTo, .wState 1 17 2 .switchTo,
  .wState 1 16 1 .switchTo, .switch 1 16]

example : ∃ s, sys.run savingResume = some s ∧
    s.ctx 16 = .running 1 ∧ s.cur 1 = 16 ∧ s.fst 16 = RUNNING ∧ s.ctx 0 = .running 0 ∧
    s.ctx 17 = .saved ∧ s.old 1 = 17 ∧ s.bag 3 = [] :=
  ⟨_, rfl, by decide, by decide, by decide, by decide, by decide, by decide, by decide⟩

/-- a resume attempted INSIDE the window is not an accepted event: a popper that reads the
    state word finds SAVING and can only re-queue; it never reaches `armed` -/
example : sys.run (savingWindow ++ [.rqpop 1 3 (some 16), .rState 1 16 5 .next]) ≠ none ∧
    sys.run (savingWindow ++ [.rqpop 1 3 (some 16), .rState 1 16 5 .next,
                              .wState 1 16 1 .switchTo]) = none ∧
    sys.run (savingWindow ++ [.switch 1 16]) = none := by
  refine ⟨by decide, by decide, by decide⟩

/-- a finished fiber: 16 completes on thread 0, switches to the main fiber, whose maintenance
    destroys it; afterwards every event naming 16 is rejected -/
def doneTrace : List Ev := [
  .create 0 16, .spawn, .rqpush 0 1 16 .wake,
  .rState 0 0 1 .yield, .rqpop 0 1 (some 16), .rState 0 16 2 .next,
  .wState 0 0 2 .switchTo, .wState 0 16 1 .switchTo, .switch 0 16,
  .rState 0 0 2 .maint, .rqpush 0 1 0 .wake,
  .wState 0 16 4 .done, .rState 0 16 4 .yield,
  .rqpop 0 1 (some 0), .rState 0 0 2 .next, .wState 0 0 1 .switchTo, .switch 0 0,
  .rState 0 16 4 .maint, .destroy 0 16]

example : ∃ s, sys.run doneTrace = some s ∧ s.ctx 16 = .dead ∧ s.ctx 0 = .running 0 :=
  ⟨_, rfl, by decide, by decide⟩

example : sys.run (doneTrace ++ [.destroy 0 16]) = none ∧
    sys.run (doneTrace ++ [.rqpush 0 1 16 .wake]) = none ∧
    sys.run (doneTrace ++ [.rState 1 16 4 .other]) = none := by
  refine ⟨by decide, by decide, by decide⟩

/-- the control block: a touch of fiber 16 (say a joiner reading `result`) is accepted right up
    to the destroy — also after 16 marked itself DONE and was switched away from — and rejected
    by ANY kernel thread after it -/
example : sys.run (doneTrace.take 18 ++ [.touch 1 16]) ≠ none ∧
    sys.run (doneTrace ++ [.touch 1 16]) = none ∧
    sys.run (doneTrace ++ [.touch 0 16]) = none ∧
    sys.run (doneTrace ++ [.touch 1 0]) ≠ none := by
  refine ⟨by decide, by decide, by decide, by decide⟩

/-- destroying before the switch away is rejected -/
example : sys.run (doneTrace.take 13 ++ [.destroy 0 16]) = none := by decide

end LibfiberVerif.Rt
