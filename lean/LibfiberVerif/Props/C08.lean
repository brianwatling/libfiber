/-
  Props/C08.lean — shimmed descriptor I/O.

  "A read/readv/recv*/write/writev/send*/accept/connect/close/fcntl/ioctl call on a socket or pipe
   made from a fiber returns a result the plain blocking call is allowed to return: data arrives
   complete, in order and unduplicated (a transfer may be short but never empty), a call on a
   descriptor in blocking mode suspends only the calling fiber and never fails with
   EAGAIN/EWOULDBLOCK, O_NONBLOCK/FIONBIO/MSG_DONTWAIT calls return immediately, and an invalid
   descriptor yields an error return, never a crash or out-of-bounds access.  A fiber blocked on a
   descriptor is always resumed when it becomes ready or is closed, and other fibers on the same
   kernel thread keep running meanwhile."

  Model: `IoShim.sys D maxFd` (Model/IoShim.lean), any number of fibers / kernel threads /
  descriptors / calls, every kernel answer an input.  `D : Decisions` are the decision points of
  the source; `codeDecisions` is what extract/io_extract.py read from the CURRENT
  src/fiber_io.c + src/fiber_event_native.c (Gen/IoDecisions.lean, regenerated on every run).
  Every theorem is stated for an arbitrary `D` with exactly the decisions it needs as
  hypotheses, and then instantiated for the code (`…_code`) through the `code_*` facts, which
  are `decide`d against the generated file: when the source changes a decision, the
  corresponding `code_*` obligation (and only the theorems that need it) break.

  What the source does NOT implement (known findings F-C08e/f/j, see known_findings.json):
  `readTriesFirst`, `fcntlMask`, `closeUnderLock` are false in the code; `close_wakes_all` is
  therefore only proved in its partial form and its full form is refuted by a witness.
  F-C08g (polling only when a kernel thread is idle) belongs to the scheduler (C01/C10) and
  F-C08i (errno's address cached across a migration) is below the model: the model reads the
  kernel's answer of the CURRENT call; both are covered by the harness oracles only.
-/
import LibfiberVerif.Proof.IoShim

namespace LibfiberVerif.C08
open LibfiberVerif.IoShim

/-! ## 0. the decision points of the current source -/

theorem code_blockNeedsBoth : codeDecisions.blockNeedsBoth = true := by decide
theorem code_acceptLoops : codeDecisions.acceptLoops = true := by decide
theorem code_boundsChecked : codeDecisions.boundsChecked = true := by decide
theorem code_errnoOnClosed : codeDecisions.errnoOnClosed = true := by decide
theorem code_ctlChecked : codeDecisions.ctlChecked = true := by decide
/-- write/writev/send/sendto/sendmsg retry after every wait; recv*/send* honour MSG_DONTWAIT
    (the shapes the model's `afterSys` / `enter` transcribe) -/
theorem code_loop_shapes : Gen.Io.writeLoops = true ∧ Gen.Io.dontwaitHonoured = true := by decide
theorem code_flag_values : Gen.Io.flagBlocking = FB ∧ Gen.Io.flagWaitable = FW := by decide
/-- the whole record: the tree after the fix commits F-C08a, b, c, d, h -/
theorem decisions_ok : codeDecisions = fixedDecisions := by decide

/-! ## 1. O_NONBLOCK / FIONBIO / MSG_DONTWAIT calls return immediately -/

theorem sb_both {D : Decisions} (h : D.blockNeedsBoth = true) (v : Nat) :
    sb D v = true ↔ v &&& (FB ||| FW) = (FB ||| FW) := by
  simp [sb, h]

/-- A fiber enters fiber_wait_for_event only from a call without MSG_DONTWAIT whose latest
    `should_block` evaluation loaded flags with BOTH IO_FLAG_BLOCKING and IO_FLAG_WAITABLE. -/
theorem nonblocking_immediate (D : Decisions) (ha : D.blockNeedsBoth = true) (m : Int) :
    ∀ es s, (sys D m).run es = some s → ∀ f c, s.pc f = .wantWait c →
      c.dw = false ∧ ∃ v, s.lastChk f = some v ∧ v &&& (FB ||| FW) = (FB ||| FW) := by
  intro es s h f c hpc
  have hs := sinv_of_run h f
  simp only [SOk, hpc, SOkC] at hs
  obtain ⟨h1, _, _, v, hv, hsb⟩ := hs
  exact ⟨h1, v, hv, (sb_both ha v).mp hsb⟩

/-- … and flags from which fcntl(O_NONBLOCK) / ioctl(FIONBIO, 1) cleared IO_FLAG_BLOCKING
    (`fetch_and ~IO_FLAG_BLOCKING`, operand 254) never satisfy that predicate. -/
theorem nonblock_flags_never_block (old : Nat) : (old &&& 254) &&& (FB ||| FW) ≠ (FB ||| FW) := by
  have h : (old &&& 254) &&& (FB ||| FW) = old &&& 2 := by
    rw [Nat.and_assoc]; rfl
  rw [h]
  have : old &&& 2 ≤ 2 := Nat.and_le_right
  intro h2
  have : (FB ||| FW) = 3 := rfl
  omega

theorem nonblocking_immediate_code (m : Int) :
    ∀ es s, (sys codeDecisions m).run es = some s → ∀ f c, s.pc f = .wantWait c →
      c.dw = false ∧ ∃ v, s.lastChk f = some v ∧ v &&& (FB ||| FW) = (FB ||| FW) :=
  nonblocking_immediate codeDecisions code_blockNeedsBoth m

/-! ## 2. a call on a descriptor in blocking mode never fails with EAGAIN -/

/-- When a read/write-family call or accept is about to return −1/EAGAIN, then MSG_DONTWAIT was
    given, or the descriptor is outside the table, or the `should_block` evaluation that
    followed the last underlying call saw flags that do not ask for blocking. -/
theorem blocking_never_eagain (D : Decisions) (hb : D.acceptLoops = true) (m : Int) :
    ∀ es s, (sys D m).run es = some s → ∀ f c, s.pc f = .retv c (.err EAGAIN) → c.op.xfer = true →
      c.dw = true ∨ inRange m c.fd = false ∨ ∃ v, s.lastChk f = some v ∧ sb D v = false := by
  intro es s h f c hpc hx
  have hs := sinv_of_run h f
  have hm := maxFd_of_run h
  simp only [SOk, hpc, SOkC, hm] at hs
  have hj := (hs hx).2 rfl
  rcases hj with h1 | h1 | h1 | h1
  · exact Or.inl h1
  · exact Or.inr (Or.inl h1)
  · exact Or.inr (Or.inr h1)
  · rw [hb] at h1; exact absurd h1.2 (by decide)

/-- The value handed to the caller: a `ret` event with −1/EAGAIN is accepted only in such a state
    (a wait ended by close() reports EBADF, fix d). -/
theorem ret_eagain_justified (D : Decisions) (hb : D.acceptLoops = true) (hd : D.errnoOnClosed = true) (m : Int) :
    ∀ es s, (sys D m).run es = some s → ∀ f op s', op.xfer = true →
      (sys D m).step s (.ret f op (.err EAGAIN)) = some s' →
      ∃ c, c.op = op ∧ s.pc f = .retv c (.err EAGAIN) ∧
        (c.dw = true ∨ inRange m c.fd = false ∨ ∃ v, s.lastChk f = some v ∧ sb D v = false) := by
  intro es s h f op s' hx hst
  obtain ⟨c, rfl, hp⟩ := ret_eagain_at_retv hd
    (step_fiber (f := f) (show step D s (.ret f _ (.err EAGAIN)) = some s' from hst) rfl) (sinv_of_run h f) hx
  exact ⟨c, rfl, hp, blocking_never_eagain D hb m es s h f _ hp hx⟩

theorem blocking_never_eagain_code (m : Int) :
    ∀ es s, (sys codeDecisions m).run es = some s → ∀ f op s', op.xfer = true →
      (sys codeDecisions m).step s (.ret f op (.err EAGAIN)) = some s' →
      ∃ c, c.op = op ∧ s.pc f = .retv c (.err EAGAIN) ∧
        (c.dw = true ∨ inRange m c.fd = false ∨ ∃ v, s.lastChk f = some v ∧ sb codeDecisions v = false) :=
  ret_eagain_justified codeDecisions code_acceptLoops code_errnoOnClosed m

/-! ## 3. transparency: complete, ordered, unduplicated, short but never invented -/

/-- The value a read/write-family call or accept returns is the LAST underlying call's; every
    earlier underlying call of the invocation failed with EAGAIN (so transferred nothing). -/
theorem transparent (D : Decisions) (m : Int) :
    ∀ es s, (sys D m).run es = some s → ∀ f c r, s.pc f = .retv c r → c.op.xfer = true →
      ∃ rest, s.syss f = r :: rest ∧ ∀ x ∈ rest, x = .err EAGAIN := by
  intro es s h f c r hpc hx
  have hs := sinv_of_run h f
  simp only [SOk, hpc, SOkC] at hs
  obtain ⟨rest, h1, h2⟩ := (hs hx).1
  refine ⟨rest, h1, ?_⟩
  intro x hxm
  have hr := h2 x hxm
  have hnc : c.op.isConnect = false := by
    cases hc : c.op <;> simp_all [Op.xfer, Op.isRead, Op.isWrite, Op.isAccept, Op.isConnect]
  cases x with
  | ok n => simp [retryable] at hr
  | err e => simp [retryable, hnc] at hr; rw [hr]

/-! ## 4. every index into fd_info / wait_info is inside [0, max_fd) -/

/-- `idx e` = the descriptor with which event `e` indexes one of the two tables. -/
theorem index_in_bounds (D : Decisions) (hc : D.boundsChecked = true) (m : Int) :
    ∀ es s, (sys D m).run es = some s → ∀ e s', (sys D m).step s e = some s' →
      ∀ fd, idx e = some fd → 0 ≤ fd ∧ fd < m := by
  intro es s h e s' hst fd hi
  have hm := maxFd_of_run h
  obtain ⟨hs, hx⟩ := xinv_sinv_of_run hc h
  have := index_step hc hs hx hst hi
  rw [hm] at this
  simpa [inRange] using this

theorem index_in_bounds_code (m : Int) :
    ∀ es s, (sys codeDecisions m).run es = some s → ∀ e s', (sys codeDecisions m).step s e = some s' →
      ∀ fd, idx e = some fd → 0 ≤ fd ∧ fd < m :=
  index_in_bounds codeDecisions code_boundsChecked m

/-! ## 5. a parked fiber is armed; the sweep of close() wakes everybody on the list -/

/-- Outside the critical sections: if somebody is parked on `fd` then its interest is armed in
    epoll (or the event is already on its way to a poller) — unless that descriptor NUMBER has
    been closed at some time (the close race, F-C08j). -/
theorem waiter_armed (D : Decisions) (hh : D.ctlChecked = true) (m : Int) :
    ∀ es s, (sys D m).run es = some s → ∀ fd, (s.sec fd = .free ∨ s.sec fd = .parked) →
      s.waiters fd ≠ [] → s.interest fd ≠ 0 ∨ s.everClosed fd = true := by
  intro es s h fd hsec hw
  have he := einv_of_run hh h fd
  unfold EOk at he
  rcases hsec with h1 | h1 <;> rw [h1] at he <;> exact he hw

theorem waiter_armed_code (m : Int) :
    ∀ es s, (sys codeDecisions m).run es = some s → ∀ fd, (s.sec fd = .free ∨ s.sec fd = .parked) →
      s.waiters fd ≠ [] → s.interest fd ≠ 0 ∨ s.everClosed fd = true :=
  waiter_armed codeDecisions code_ctlChecked m

/-- PARTIAL form of "a fiber blocked on a descriptor is resumed when it is closed": when the wake
    loop of fiber_fd_closed (or of the poller) is over, the waiter list is empty — everybody who
    was parked when the sweep took the lock has been made READY.  (Each of them got result −1
    from fiber_fd_closed: the `wScr` step of stage `l6` stores `res`.) -/
theorem close_wakes_all_partial (D : Decisions) (hh : D.ctlChecked = true) (m : Int) :
    ∀ es s, (sys D m).run es = some s → ∀ fd a, s.sec fd = .done a → s.waiters fd = [] := by
  intro es s h fd a hsec
  have he := einv_of_run hh h fd
  unfold EOk at he
  rw [hsec] at he
  exact he

/-! ## 6. an invalid descriptor yields an error return -/

/-- In every run in which the kernel rejects calls on descriptors that are not open (`kernelOk`):
    a shim called with a descriptor outside [0, max_fd) returns −1/EBADF (it hands the call to the
    real libc function and touches none of its tables, see `index_in_bounds`). -/
theorem invalid_fd_error (D : Decisions) (hc : D.boundsChecked = true) (m : Int) :
    ∀ es s, (sysK D m).run es = some s → ∀ f c r, s.pc f = .retv c r →
      inRange m c.fd = false → c.op.isCreate = false → r = .err EBADF := by
  intro es s h f c r hpc hr hcr
  obtain ⟨_, _, hbi, hm⟩ := allinv_of_runK hc h
  have := hbi f
  simp only [BOk, hpc, BOkC, hm] at this
  exact this hr hcr

theorem invalid_fd_error_code (m : Int) :
    ∀ es s, (sysK codeDecisions m).run es = some s → ∀ f c r, s.pc f = .retv c r →
      inRange m c.fd = false → c.op.isCreate = false → r = .err EBADF :=
  invalid_fd_error codeDecisions code_boundsChecked m

/-! ## 7. witnesses: what the source did before the fix commits, and what it still does -/

def rd5 : Call := { op := .read, fd := 5, dw := false }
def rd6 : Call := { op := .read, fd := 6, dw := false }
def acc5 : Call := { op := .accept, fd := 5, dw := false }

/-- main: socketpair() → descriptors 5, 6 -/
def mkpair : List Ev :=
  [.call 0 { op := .socketpair, fd := -1, dw := false }, .sys2 0 5 6 (.ok 0), .fOr 0 5 0 3, .sysCtl 0 5 (.ok 0),
   .fOr 0 6 0 3, .sysCtl 0 6 (.ok 0), .ret 0 .socketpair (.ok 0)]

/-- main: socket() → descriptor 5 (the listener) -/
def mklisten : List Ev :=
  [.call 0 { op := .socket, fd := -1, dw := false }, .sys 0 (-1) (.ok 5), .fOr 0 5 0 3, .sysCtl 0 5 (.ok 0),
   .ret 0 .socket (.ok 5)]

/-- fiber `f` registers for EPOLLIN on `fd` (first registration), parks; fiber `u` releases the lock -/
def waitIn (f : Nat) (fd : Int) (u : Nat) (t : Nat) : List Ev :=
  [.lkTake f fd t, .lkPoll f fd t, .rEvents f fd 0, .wEvents f fd 1, .rEvents f fd 1, .rAdded f fd 0,
   .ctl f 0 fd 1 true, .wAdded f fd 1, .rWaiters f fd 0, .wScr f f 0, .wWaiters f fd f, .wSt f f 3,
   .ulLoad u fd t, .ulStore u fd (t + 1)]

/-- poller `p` handles EPOLLIN on `fd` with the single waiter `g` -/
def pollIn (p : Nat) (fd : Int) (g : Nat) (t : Nat) : List Ev :=
  [.lkTake p fd t, .lkPoll p fd t, .rEvents p fd 1, .wEvents p fd 0, .rWaiters p fd g, .rScr p g 0,
   .wWaiters p fd 0, .wScr p g 0, .wSt p g 2, .wScr p g 0, .rWaiters p fd 0, .ulLoad p fd t, .ulStore p fd (t + 1)]

/-- F-C08a (before 6593346): fcntl(6, F_SETFL, O_NONBLOCK), then read(6) on the empty socket -/
def traceA : List Ev :=
  mkpair ++ [.call 16 { op := .fcntlNb, fd := 6, dw := false }, .fAnd 16 6 3 254, .ret 16 .fcntlNb (.ok 0),
             .call 16 rd6, .fLoad 16 6 2]

/-- `nonblocking_immediate` was FALSE for the old predicate: with IO_FLAG_BLOCKING cleared (flags = 2)
    the read still goes to fiber_wait_for_event. -/
theorem nonblocking_immediate_false_before_fix :
    ((sys currentDecisions 100).run traceA).map (fun s => (s.pc 16, s.lastChk 16)) =
      some (.wantWait rd6, some 2) := by decide

/-- … with the fixed predicate (and the `fd_is_managed` load of fix c) the same calls end in the
    underlying read, whose EAGAIN is then returned: no wait. -/
example : ((sys fixedDecisions 100).run (mkpair ++ [.call 16 { op := .fcntlNb, fd := 6, dw := false },
      .fLoad 16 6 3, .fAnd 16 6 3 254, .ret 16 .fcntlNb (.ok 0), .call 16 rd6, .fLoad 16 6 2, .sys 16 6 (.err 11),
      .fLoad 16 6 2])).map (fun s => (s.pc 16, s.lastChk 16)) =
    some (.retv rd6 (.err EAGAIN), some 2) := by decide

/-- F-C08b (before 8a6481a): two acceptors, one connection: the loser's second accept() fails with
    EAGAIN and the shim returns it although the listener is in blocking mode. -/
def traceB : List Ev :=
  mklisten ++ [.call 16 acc5, .sys 16 5 (.err 11), .fLoad 16 5 3] ++ waitIn 16 5 17 0 ++ pollIn 18 5 16 1 ++
    [.rScr 16 16 0, .sys 16 5 (.err 11)]

/-- `blocking_never_eagain` was FALSE for accept when it retried only once: about to return
    −1/EAGAIN, no MSG_DONTWAIT, descriptor in range, and NO `should_block` evaluation since the
    last underlying call. -/
theorem blocking_never_eagain_false_before_fix :
    ((sys currentDecisions 100).run traceB).map (fun s => (s.pc 16, s.lastChk 16, inRange 100 5)) =
      some (.retv acc5 (.err EAGAIN), none, true) := by decide

/-- with the loop the same prefix continues with another `should_block` evaluation -/
example : ((sys fixedDecisions 100).run traceB).map (fun s => s.pc 16) =
    some (.sbRetry acc5 (.err EAGAIN)) := by decide

/-- F-C08c (before 2f17cea): close(−1) takes the spinlock of wait_info[−1] -/
def traceC : List Ev := [.call 16 { op := .close, fd := -1, dw := false }, .lkTake 16 (-1) 0]

/-- `index_in_bounds` was FALSE without the bounds checks … -/
theorem index_in_bounds_false_before_fix :
    ((sys currentDecisions 100).run traceC).isSome = true ∧ idx (.lkTake 16 (-1) 0) = some (-1) := by decide

/-- … and the checked variant refuses that access (close(−1) goes straight to the real close). -/
example : ((sys fixedDecisions 100).run traceC).isSome = false := by decide
example : ((sysK fixedDecisions 100).run
    [.call 16 { op := .close, fd := -1, dw := false }, .sys 16 (-1) (.err EBADF), .ret 16 .close (.err EBADF)]).isSome = true := by decide

/-- F-C08j (NOT fixed; known finding): fiber 17 has passed `should_block` for read(5); fiber 16 runs
    close(5): the sweep finds nobody, releases the lock; fiber 17 now registers (EPOLL_CTL_ADD still
    succeeds) and parks; fiber 16 clears the flags and really closes the descriptor. -/
def traceJ : List Ev :=
  mkpair ++ [.call 17 rd5, .fLoad 17 5 3, .call 16 { op := .close, fd := 5, dw := false },
    .lkTake 16 5 0, .lkPoll 16 5 0, .rBoth 16 5 0 0, .rWaiters 16 5 0, .ulLoad 16 5 0, .ulStore 16 5 1] ++
  waitIn 17 5 18 1 ++ [.fStore 16 5 0, .sys 16 5 (.ok 0), .ret 16 .close (.ok 0)]

/-- The full clause "a fiber blocked on a descriptor is resumed when it is closed" is FALSE for the
    code as it is: descriptor 5 is closed, no critical section is in progress, nobody will ever
    touch wait_info[5] again on its behalf - and fiber 17 is parked on it, unarmed. -/
theorem close_wakes_all_false :
    ((sys codeDecisions 100).run traceJ).map
        (fun s => (s.isOpen 5, s.waiters 5, decide (s.sec 5 = .free), s.pc 17, s.interest 5, s.pc 16)) =
      some (false, [17], true, .inWait rd5, 0, .idle) := by decide

/-! ## 8. non-vacuity: the hypotheses of the theorems are met by non-trivial runs -/

/-- a blocking read that parks, is woken by the poller after a write, and returns the 10 bytes:
    passes through `wantWait` (theorem 1), a parked waiter with armed interest (theorem 5),
    `retv` (theorems 2, 3), indexes the tables (theorem 4), and obeys `kernelOk` (theorem 6) -/
def traceOk : List Ev :=
  mkpair ++ [.call 16 rd6, .fLoad 16 6 3] ++ waitIn 16 6 17 0 ++
  [.call 19 { op := .write, fd := 5, dw := false }, .sys 19 5 (.ok 10), .ret 19 .write (.ok 10)] ++
  pollIn 18 6 16 1 ++ [.rScr 16 16 0, .sys 16 6 (.ok 10), .ret 16 .read (.ok 10)]

example : ((sysK codeDecisions 100).run traceOk).map (fun s => (s.pc 16, s.waiters 6, s.events 6)) =
    some (.idle, [], 0) := by decide

/-- … the moment the reader is parked: waiters = [16], interest armed, lock released -/
example : ((sys codeDecisions 100).run (mkpair ++ [.call 16 rd6, .fLoad 16 6 3] ++ waitIn 16 6 17 0)).map
    (fun s => (s.waiters 6, s.interest 6, decide (s.sec 6 = .free), s.pc 16)) =
    some ([16], 1, true, .inWait rd6) := by decide

/-- … and the moment it is about to return: the last underlying result, preceded by nothing -/
example : ((sys codeDecisions 100).run (traceOk.take 41)).map (fun s => (s.pc 16, s.syss 16)) =
    some (.retv rd6 (.ok 10), [.ok 10]) := by decide

/-- a retried write: EAGAIN, wait, then 7 bytes - `transparent` with a non-empty EAGAIN prefix -/
example : ((sys codeDecisions 100).run (mkpair ++ [.call 16 { op := .write, fd := 5, dw := false },
      .sys 16 5 (.err 11), .fLoad 16 5 3])).map (fun s => (s.pc 16, s.syss 16)) =
    some (.wantWait { op := .write, fd := 5, dw := false }, [.err 11]) := by decide

end LibfiberVerif.C08
