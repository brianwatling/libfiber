/-
  Props/C15.lean — property C15:

  "For the multi-producer/single-consumer, single-producer/single-consumer and relaxed
   multi-producer queues, every pushed item is returned by exactly one pop, items of one
   producer are returned in the order pushed (and, for the strict MPSC queue, pushes that
   completed before another began are returned first), and pop never returns an item that
   was not pushed.  A pop may report empty only when no completed push is pending or a push
   is still in flight."

  Models: `Mpsc.sys k stub` with `k = .mpsc` for include/mpsc_fifo.h and `k = .spsc` for
  include/spsc_fifo.h (Model/Mpsc.lean, Model/Spsc.lean), `Mpscr.sys np` for
  include/mpsc_relaxed_fifo.h (Model/Mpscr.lean).  All theorems quantify over EVERY event
  list the model accepts: any number of producer threads, any number of operations, every
  interleaving of the individual shared accesses (a producer's `next = NULL` / publication /
  link write against the consumer's `head` / `next` / `data` accesses), with nodes being
  reused as soon as trypop hands them back.

  Reading guide for the ghost fields (all are plain recordings made by `step`):
    `called`   payloads handed to push            (appended at `call push v`)
    `pushed`   payloads in PUBLICATION order      (appended at the tail xchg / tail store)
    `returned` payloads whose push has returned   (appended at `ret push`)
    `popped`   payloads in the order successful trypops RETURNED them (appended at `ret pop v`)
    `q`        the nodes owned by the queue, stub first.
    `peeked`   one entry `(i, v)` per `mpsc_fifo_peek` that reported a payload (appended at
               `ret peek v`, v ≠ 0): `v` = what it reported, `i` = the number of successful
               trypops that had RETURNED before it — the consumer runs one operation at a time,
               so "the consumer's next successful trypop after that peek" is the one that
               fills `popped[i]`.
  `mpsc_fifo_peek` exists for the strict MPSC queue only (`step` accepts `call peek` for
  `Kind.mpsc` alone, `spsc_has_no_peek`); its two reads `head`, `head->next` are the SAME model
  events (`rdHead`, `rdNext`) as trypop's, so every theorem below that speaks about a NULL read
  of `head->next` covers trypop and peek alike.
  Client obligations (one trypop / peek at a time; SPSC: one push at a time; a pushed node is owned
  by the pusher; payloads distinct and non-zero) are enforced by `step` itself, see the model
  headers.
-/
import LibfiberVerif.Proof.Mpsc
import LibfiberVerif.Proof.Spsc
import LibfiberVerif.Proof.Mpscr

namespace LibfiberVerif.Props.C15

open Mpsc (Kind St Ev sys step inflight)

section queue
variable (k : Kind) (stub : Nat) (h0 : stub ≠ 0)
include h0

/-- The i-th successful trypop returns the i-th published payload: pops come out in
    publication (tail xchg / tail store) order, none skipped. -/
theorem pop_is_next_in_order {es : List Ev} {s : St} (h : (sys k stub).run es = some s) :
    ∀ (i v : Nat), s.popped[i]? = some v → s.pushed[i]? = some v :=
  fun _ _ => Mpsc.popped_at (Mpsc.invs_of_run h0 h).1

/-- Exactly once: no payload is returned twice, and none is lost — every published payload
    has been returned, or is in the hands of the trypop in progress, or is the payload of a
    node still in the queue (and it is there once: `pushed` has no duplicates). -/
theorem exactly_once {es : List Ev} {s : St} (h : (sys k stub).run es = some s) :
    s.popped.Nodup ∧ s.pushed.Nodup ∧
      s.pushed = s.popped ++ inflight s ++ (s.q.drop 1).map s.data :=
  let ⟨hi, hv⟩ := Mpsc.invs_of_run h0 h
  ⟨Mpsc.popped_nodup hi hv, hv.pushedNd, hi.vals⟩

/-- trypop never returns something that was not pushed: every returned payload was handed
    to a push (and published by it) before; it is never the NULL token. -/
theorem never_invented {es : List Ev} {s : St} (h : (sys k stub).run es = some s) :
    ∀ v, v ∈ s.popped → v ∈ s.pushed ∧ v ∈ s.called ∧ v ≠ 0 := by
  obtain ⟨hi, hv⟩ := Mpsc.invs_of_run h0 h
  exact fun v hp => ⟨Mpsc.popped_sub hi hp, Mpsc.pushed_called hv (Mpsc.popped_sub hi hp)⟩

/-- every completed push has published its payload (so it is covered by `exactly_once`) -/
theorem returned_published {es : List Ev} {s : St} (h : (sys k stub).run es = some s) :
    ∀ v, v ∈ s.returned → v ∈ s.pushed :=
  (Mpsc.invs_of_run h0 h).2.retSub

/-- Real-time FIFO (strict MPSC; also SPSC): if the push of `vA` had returned (state `s1`)
    before the push of `vB` was called, then `vA` is published before `vB` … -/
theorem realtime_fifo {es1 es2 : List Ev} {s1 s2 : St} {tB vA vB : Nat}
    (h1 : (sys k stub).run es1 = some s1) (hA : vA ∈ s1.returned)
    (h2 : (sys k stub).runFrom s1 (.callPush tB vB :: es2) = some s2) :
    ∀ (i j : Nat), s2.pushed[i]? = some vA → s2.pushed[j]? = some vB → i < j :=
  fun _ _ hi hj => Mpsc.realtime_core (Mpsc.invs_of_run h0 h1) hA h2 hi hj

/-- … and therefore returned first: if `vB` has been popped then `vA` was popped before it. -/
theorem realtime_fifo_pops {es1 es2 : List Ev} {s1 s2 : St} {tB vA vB : Nat}
    (h1 : (sys k stub).run es1 = some s1) (hA : vA ∈ s1.returned)
    (h2 : (sys k stub).runFrom s1 (.callPush tB vB :: es2) = some s2) :
    ∀ (j : Nat), s2.popped[j]? = some vB → ∃ i : Nat, i < j ∧ s2.popped[i]? = some vA := by
  intro j hj
  have hi1 := Mpsc.invs_of_run h0 h1
  obtain ⟨hi2, hv2⟩ := Mpsc.invs_of_runFrom hi1 h2
  have hpre := Mpsc.popped_prefix hi2
  have hjb := Mpsc.popped_at hi2 hj
  have hAp : vA ∈ s2.pushed := (Mpsc.pushed_prefix_of_runFrom h2).subset (hi1.2.retSub _ hA)
  obtain ⟨i, hia⟩ := Mpsc.idx_of_mem hAp
  have hlt := Mpsc.realtime_core hi1 hA h2 hia hjb
  refine ⟨i, hlt, ?_⟩
  have hjl := Mpsc.idx_lt hj
  obtain ⟨l, hl⟩ := hpre
  rw [← hl, List.getElem?_append_left (by omega)] at hia
  exact hia

/-- Per-producer FIFO: two pushes of the same thread are published (hence, by
    `pop_is_next_in_order`, returned) in program order. -/
theorem per_producer_fifo {es1 es2 es3 : List Ev} {s1 s2 s3 s4 s : St} {t vA vB : Nat}
    (h1 : (sys k stub).run es1 = some s1)
    (hA : step k s1 (.callPush t vA) = some s2)
    (h2 : (sys k stub).runFrom s2 es2 = some s3)
    (hB : step k s3 (.callPush t vB) = some s4)
    (h3 : (sys k stub).runFrom s4 es3 = some s) :
    ∀ (i j : Nat), s.pushed[i]? = some vA → s.pushed[j]? = some vB → i < j := by
  intro i j hi hj
  have hi1 := Mpsc.invs_of_run h0 h1
  have hi2 : Mpsc.Inv k s2 ∧ Mpsc.VInv s2 := ⟨Mpsc.inv_step hi1.1 hA, Mpsc.vinv_step hi1.2 hA⟩
  have hi3 := Mpsc.invs_of_runFrom hi2 h2
  obtain ⟨_, hvA, _, hpcA⟩ := Mpsc.callPush_fresh hA
  obtain ⟨hidle, _, _, _⟩ := Mpsc.callPush_fresh hB
  have hret : vA ∈ s3.returned :=
    Mpsc.returned_when_idle hvA (by rw [hpcA]; rfl) h2 hidle
  exact Mpsc.realtime_core hi3 hret (Sys.runFrom_cons_some.mpr ⟨s4, hB, h3⟩) hi hj

/-- Empty is justified: at the instant a trypop reads `head->next = NULL`, either no node
    follows the stub in publication order, or the producer of the next node sits between its
    publication (xchg / tail store) and its link write. -/
theorem empty_justified {es : List Ev} {s s' : St} {t h : Nat}
    (hr : (sys k stub).run es = some s) (hs : step k s (.rdNext t h 0) = some s') :
    h = s.head ∧
      (s.q = [s.head] ∨ ∃ p v n, s.pc p = .xchgd v n s.head ∧ s.q[1]? = some n) :=
  Mpsc.empty_core (Mpsc.invs_of_run h0 hr).1 hs

/-- … in the words of the property: a trypop reads NULL only when no completed push is
    pending (every returned push has been popped) or a push is still in flight (between its
    publication and its link). -/
theorem empty_only_if_none_pending_or_inflight {es : List Ev} {s s' : St} {t h : Nat}
    (hr : (sys k stub).run es = some s) (hs : step k s (.rdNext t h 0) = some s') :
    (∀ v, v ∈ s.returned → v ∈ s.popped) ∨ ∃ p v n p', s.pc p = .xchgd v n p' :=
  let ⟨hi, hv⟩ := Mpsc.invs_of_run h0 hr
  Mpsc.empty_pending_core hi hv hs

/-- a trypop reports empty (returns 0) only after such a NULL read of `head->next` -/
theorem empty_report_after_null_read {es : List Ev} {s s' : St} {t : Nat}
    (hr : (sys k stub).run es = some s) (hs : step k s (.retPop t 0) = some s') :
    ∃ h, s.cpc = .gotNext h 0 :=
  let ⟨hi, hv⟩ := Mpsc.invs_of_run h0 hr
  Mpsc.ret_zero_core hi hv hs

/-- What a peek reports, at the instant it returns: `0` only after a NULL read of `head->next`
    (nothing recorded); otherwise the payload that is NEXT in publication order,
    `pushed[popped.length]`, and exactly that is recorded in `peeked`. -/
theorem peek_report {es : List Ev} {s s' : St} {t v : Nat}
    (hr : (sys k stub).run es = some s) (hs : step k s (.retPeek t v) = some s') :
    (v = 0 ∧ (∃ h, s.cpc = .pkGotNext h 0) ∧ s'.peeked = s.peeked) ∨
      (v ≠ 0 ∧ s.pushed[s.popped.length]? = some v ∧
        s'.peeked = s.peeked ++ [(s.popped.length, v)]) :=
  let ⟨hi, hv⟩ := Mpsc.invs_of_run h0 hr
  Mpsc.peek_ret_core hi hv hs

/-- Peek returns exactly the payload the consumer's next successful trypop returns: in every
    reachable state, a peek that reported `v` after `i` successful trypops saw the `i`-th
    published payload, and if the `i`-th successful trypop has happened, it returned `v`. -/
theorem peek_is_next_pop {es : List Ev} {s : St} (h : (sys k stub).run es = some s) :
    ∀ i v, (i, v) ∈ s.peeked →
      s.pushed[i]? = some v ∧ ∀ w, s.popped[i]? = some w → w = v := by
  obtain ⟨hi, hv⟩ := Mpsc.invs_of_run h0 h
  intro i v hm
  have hp := hi.pk _ _ hm
  exact ⟨hp, fun w hw => Option.some.inj ((Mpsc.popped_at hi hw).symm.trans hp)⟩

/-- … the same, along a run: a peek reports `v ≠ 0` in state `s1`; whatever happens afterwards
    (more pushes, more peeks, empty trypops), the first successful trypop after it — the one
    that fills `popped[s1.popped.length]` — returns `v`. -/
theorem peek_then_pop {es1 es2 : List Ev} {s1 s2 : St} {t v : Nat}
    (h1 : (sys k stub).run es1 = some s1) (hv0 : v ≠ 0)
    (h2 : (sys k stub).runFrom s1 (.retPeek t v :: es2) = some s2) :
    ∀ w, s2.popped[s1.popped.length]? = some w → w = v := by
  intro w hw
  have hi1 := Mpsc.invs_of_run h0 h1
  have hi2 := Mpsc.invs_of_runFrom hi1 h2
  obtain ⟨_, hst, -⟩ := Sys.runFrom_cons_some.mp h2
  have hfront : s1.pushed[s1.popped.length]? = some v :=
    (Mpsc.peek_ret_core hi1.1 hi1.2 (k := k) hst).elim (fun hz => absurd hz.1 hv0) fun hf => hf.2.1
  have hp2 := Mpsc.idx_of_prefix (Mpsc.pushed_prefix_of_runFrom h2) hfront
  exact Option.some.inj ((Mpsc.popped_at hi2.1 hw).symm.trans hp2)

/-- Peek is stable: two peeks with no successful trypop between them (same count `i`) report
    the same payload. -/
theorem peek_stable {es : List Ev} {s : St} (h : (sys k stub).run es = some s) :
    ∀ i v v', (i, v) ∈ s.peeked → (i, v') ∈ s.peeked → v = v' := by
  obtain ⟨hi, _⟩ := Mpsc.invs_of_run h0 h
  intro i v v' hm hm'
  have := hi.pk _ _ hm
  rw [hi.pk _ _ hm'] at this
  exact (Option.some.inj this).symm

/-- … and once a peek has reported a payload, neither a later peek nor a trypop can find the
    queue "empty" before a trypop has taken that payload: while `(popped.length, v)` is in
    `peeked`, no NULL read of `head->next` is possible (links are never undone and only the
    consumer moves `head`). -/
theorem peek_no_empty_after_payload {es : List Ev} {s s' : St} {t h : Nat}
    (hr : (sys k stub).run es = some s) (hs : step k s (.rdNext t h 0) = some s') :
    ∀ v, (s.popped.length, v) ∉ s.peeked := by
  obtain ⟨hi, _⟩ := Mpsc.invs_of_run h0 hr
  have hpk := Mpsc.pkinv_of_run h0 hr
  intro v hm
  obtain ⟨_, hnx, hin, _⟩ := Mpsc.null_read_shape hi hs
  exact hpk.linked v hm (Mpsc.holds_of_inflight_nil hin) hnx

/-- peeks are recorded with the number of trypops that had returned: never ahead of `popped` -/
theorem peek_index_le {es : List Ev} {s : St} (h : (sys k stub).run es = some s) :
    ∀ i v, (i, v) ∈ s.peeked → i ≤ s.popped.length :=
  (Mpsc.pkinv_of_run h0 h).le

/-- Peek never reports something that was not pushed: every reported payload was handed to a
    push and published by it; it is never the NULL token. -/
theorem peek_never_invented {es : List Ev} {s : St} (h : (sys k stub).run es = some s) :
    ∀ i v, (i, v) ∈ s.peeked → v ∈ s.pushed ∧ v ∈ s.called ∧ v ≠ 0 := by
  obtain ⟨hi, hv⟩ := Mpsc.invs_of_run h0 h
  exact fun i v hm =>
    ⟨Mpsc.mem_of_idx (hi.pk _ _ hm), Mpsc.pushed_called hv (Mpsc.mem_of_idx (hi.pk _ _ hm))⟩

/-- Peek never reports something that was already popped: at its return, the reported payload
    has not been returned by any trypop … -/
theorem peek_not_yet_popped {es : List Ev} {s s' : St} {t v : Nat}
    (hr : (sys k stub).run es = some s) (hs : step k s (.retPeek t v) = some s') (hv0 : v ≠ 0) :
    v ∉ s.popped := by
  obtain ⟨hi, hv⟩ := Mpsc.invs_of_run h0 hr
  rcases Mpsc.peek_ret_core hi hv hs with ⟨hz, _⟩ | ⟨_, hf, _⟩
  · exact absurd hz hv0
  · exact Mpsc.front_not_popped hi hv hf

/-- … and, over whole histories: the payload of a peek made after `i` successful trypops is
    returned by trypop number `i` and by no other (in particular by none of the first `i`). -/
theorem peek_popped_only_next {es : List Ev} {s : St} (h : (sys k stub).run es = some s) :
    ∀ i v, (i, v) ∈ s.peeked → ∀ j, s.popped[j]? = some v → j = i := by
  obtain ⟨hi, hv⟩ := Mpsc.invs_of_run h0 h
  intro i v hm j hj
  exact Mpsc.popped_idx_unique hi hv (hi.pk _ _ hm) hj

/-- A peek reports empty only after a NULL read of `head->next` … -/
theorem peek_empty_report_after_null_read {es : List Ev} {s s' : St} {t : Nat}
    (hr : (sys k stub).run es = some s) (hs : step k s (.retPeek t 0) = some s') :
    ∃ h, s.cpc = .pkGotNext h 0 :=
  (peek_report k stub h0 hr hs).elim (fun hz => hz.2.1) fun hf => absurd rfl hf.1

/-- … and that read (the consumer is inside a peek: `pkGotHead`) happens only when no node
    follows the stub or the next node's producer sits between its publication and its link
    write; in the words of the property: no completed push is pending, or a push is in
    flight. -/
theorem peek_empty_justified {es : List Ev} {s s' : St} {t h h' : Nat}
    (hr : (sys k stub).run es = some s) (hpk : s.cpc = .pkGotHead h')
    (hs : step k s (.rdNext t h 0) = some s') :
    s'.cpc = .pkGotNext h 0 ∧ h = s.head ∧
      (s.q = [s.head] ∨ ∃ p v n, s.pc p = .xchgd v n s.head ∧ s.q[1]? = some n) ∧
      ((∀ v, v ∈ s.returned → v ∈ s.popped) ∨ ∃ p v n p', s.pc p = .xchgd v n p') := by
  obtain ⟨hi, hv⟩ := Mpsc.invs_of_run h0 hr
  obtain ⟨hh, hj⟩ := Mpsc.empty_core hi hs
  refine ⟨?_, hh, hj, Mpsc.empty_pending_core hi hv hs⟩
  cases Mpsc.Step.of_step hs with
  | rdNext hcp => cases hpk.symm.trans hcp
  | rdNextPeek => rfl

end queue

/-- spsc_fifo.h has no peek: the SPSC model (hence every sub-queue of the relaxed queue)
    rejects `call peek` in every state. -/
theorem spsc_has_no_peek (s : St) (t : Nat) : step .spsc s (.callPeek t) = none := by
  simp [step]

/-- SPSC, strict emptiness: a trypop reads `head->next = NULL` only if every push that has
    returned has already been popped (the only push that can be in flight is a later one). -/
theorem spsc_empty_strict (stub : Nat) (h0 : stub ≠ 0) {es : List Ev} {s s' : St} {t h : Nat}
    (hr : (Spsc.sys stub).run es = some s) (hs : step .spsc s (.rdNext t h 0) = some s') :
    ∀ v, v ∈ s.returned → v ∈ s.popped :=
  let ⟨hi, hv⟩ := Spsc.invs_of_run h0 hr
  Mpsc.spsc_empty_core hi hv hs

/-- SPSC: the model really has a single producer — two threads are never inside push at once
    (`step` rejects the second call; this is the client obligation of spsc_fifo.h). -/
theorem spsc_single_producer (stub : Nat) (h0 : stub ≠ 0) {es : List Ev} {s : St}
    (hr : (Spsc.sys stub).run es = some s) (t t' : Nat)
    (ht : s.pc t ≠ .idle) (ht' : s.pc t' ≠ .idle) : t = t' :=
  (Spsc.invs_of_run h0 hr).1.one_pusher rfl ht ht'

section relaxed
variable (np : Nat)

/-- Reduction: in every reachable state of the relaxed queue, sub-queue `p` is in a state
    that the SPSC model (started with that sub-queue's stub) can reach by itself.  Hence every
    SPSC theorem above holds per sub-queue; the next theorems spell that out. -/
theorem mpscr_sub_reachable {es : List Mpscr.Ev} {s : Mpscr.St}
    (h : (Mpscr.sys np).run es = some s) (p : Nat) :
    ∃ l, (Spsc.sys (p + 1)).run l = some (s.sub p) :=
  Mpscr.sub_reachable h p

/-- per producer number: pops come out in that producer's publication order, none skipped -/
theorem mpscr_pop_is_next_in_order {es : List Mpscr.Ev} {s : Mpscr.St}
    (h : (Mpscr.sys np).run es = some s) (p : Nat) :
    ∀ (i v : Nat), (s.sub p).popped[i]? = some v → (s.sub p).pushed[i]? = some v :=
  fun _ _ => Mpsc.popped_at (Mpscr.subOk_of_run h p).1

/-- exactly once across the whole relaxed queue: per sub-queue nothing is returned twice and
    nothing is lost, and different sub-queues never carry the same payload -/
theorem mpscr_exactly_once {es : List Mpscr.Ev} {s : Mpscr.St}
    (h : (Mpscr.sys np).run es = some s) :
    (∀ p, (s.sub p).popped.Nodup ∧ (s.sub p).pushed.Nodup ∧
      (s.sub p).pushed =
        (s.sub p).popped ++ inflight (s.sub p) ++ ((s.sub p).q.drop 1).map (s.sub p).data) ∧
    (∀ p p' v, p ≠ p' → v ∈ (s.sub p).popped → v ∉ (s.sub p').popped) := by
  refine ⟨fun p => ?_, ?_⟩
  · obtain ⟨hi, hv⟩ := Mpscr.subOk_of_run h p
    exact ⟨Mpsc.popped_nodup hi hv, hv.pushedNd, hi.vals⟩
  · intro p p' v hne hp hp'
    have hd := Mpscr.dinv_of_run h
    have inCalled : ∀ q, v ∈ (s.sub q).popped → v ∈ (s.sub q).called := fun q hq =>
      have ⟨hi, hv⟩ := Mpscr.subOk_of_run h q
      (Mpsc.pushed_called hv (Mpsc.popped_sub hi hq)).1
    exact hd.disj p p' v hne (inCalled p hp) (inCalled p' hp')

theorem mpscr_never_invented {es : List Mpscr.Ev} {s : Mpscr.St}
    (h : (Mpscr.sys np).run es = some s) (p : Nat) :
    ∀ v, v ∈ (s.sub p).popped → v ∈ (s.sub p).pushed ∧ v ∈ s.called ∧ v ≠ 0 := by
  obtain ⟨hi, hv⟩ := Mpscr.subOk_of_run h p
  intro v hp
  have ⟨hc, hv0⟩ := Mpsc.pushed_called hv (Mpsc.popped_sub hi hp)
  exact ⟨Mpsc.popped_sub hi hp, (Mpscr.dinv_of_run h).sub p v hc, hv0⟩

/-- Per-producer FIFO: if a push with producer number `p` had returned (`vA`, state `s1`)
    before thread `tB`, having announced the same producer number, called push with `vB`,
    then `vA` is published before `vB` in sub-queue `p` — and by
    `mpscr_pop_is_next_in_order` returned before it.  (No order is promised between different
    producer numbers.) -/
theorem mpscr_per_producer_fifo {es1 es2 : List Mpscr.Ev} {s1 s2 : Mpscr.St}
    {qi : Option Nat} {tB vA vB : Nat}
    (h1 : (Mpscr.sys np).run es1 = some s1) (hA : vA ∈ (s1.sub (s1.tq tB)).returned)
    (h2 : (Mpscr.sys np).runFrom s1 (.sub qi (.callPush tB vB) :: es2) = some s2) :
    ∀ (i j : Nat), (s2.sub (s1.tq tB)).pushed[i]? = some vA → (s2.sub (s1.tq tB)).pushed[j]? = some vB →
      i < j := by
  intro i j hi hj
  have hok1 := Mpscr.subOk_of_run h1
  have hok2 := Mpscr.subOk_of_runFrom hok1 h2
  have hpre := Mpscr.sub_pushed_prefix_runFrom h2 (s1.tq tB)
  -- the call was accepted by the sub-queue, so `vB` was fresh there
  obtain ⟨_, hst, -⟩ := Sys.runFrom_cons_some.mp h2
  have hfresh : vB ∉ (s1.sub (s1.tq tB)).called := by
    cases Mpscr.Step.of_step (s := s1) (e := .sub qi (.callPush tB vB)) hst with
    | push hside _ hq => cases hside; exact (Mpsc.callPush_fresh hq).2.2.1
    | pop hside => cases hside
  exact Mpsc.realtime_abs (hok1 _).2 hA hfresh hpre (hok2 _).2.pushedNd hi hj

/-- EMPTY only after every sub-queue was examined: when trypop returns NULL, each of the
    `np` sub-queues is in `seen`, the list of sub-queues this call examined and found with
    `head->next = NULL` … -/
theorem mpscr_empty_examined_all {es : List Mpscr.Ev} {s s' : Mpscr.St} {t : Nat}
    (hnp : 0 < np) (hr : (Mpscr.sys np).run es = some s)
    (hs : Mpscr.step s (.retPop t 0) = some s') : ∀ j, j < np → j ∈ s.seen := by
  have hl := Mpscr.linv_of_run hr
  cases Mpscr.Step.of_step hs with
  | retEmpty hcp =>
    intro j hj
    rw [(hl.loop _ _ hcp).2.2, hl.npEq]
    exact Mpscr.examined_all hnp j hj
  | retPop _ hv => exact absurd rfl hv

/-- … and a sub-queue enters `seen` only at an instant at which it was empty or in flight: at
    the NULL read of its `head->next`, no node follows its stub or that node's producer sits
    between its tail store and its link write; in either case every push to that sub-queue
    that has returned has already been popped. -/
theorem mpscr_examined_justified {es : List Mpscr.Ev} {s s' : Mpscr.St} {qi : Option Nat}
    {t h : Nat} (hr : (Mpscr.sys np).run es = some s)
    (hs : Mpscr.step s (.sub qi (.rdNext t h 0)) = some s') :
    ∃ i c0 idx, s.cpc = .inSub i c0 idx ∧ s'.seen = s.seen ++ [idx] ∧
      h = (s.sub idx).head ∧
      ((s.sub idx).q = [h] ∨ ∃ p v n, (s.sub idx).pc p = .xchgd v n h ∧ (s.sub idx).q[1]? = some n) ∧
      (∀ v, v ∈ (s.sub idx).returned → v ∈ (s.sub idx).popped) := by
  cases Mpscr.Step.of_step hs with
  | push hside => cases hside
  | popNull hcp hq =>
    obtain ⟨hi, hv⟩ := Mpscr.subOk_of_run hr _
    obtain ⟨hh, hj⟩ := Mpsc.empty_core hi hq
    exact ⟨_, _, _, hcp, rfl, hh, hh ▸ hj, Mpsc.spsc_empty_core hi hv hq⟩
  | pop _ hne => exact (hne _ _ rfl).elim

end relaxed

/-! ## non-vacuity: concrete interleaved traces accepted by the models -/

/-- MPSC, threads 1 and 2 produce, thread 0 consumes, nodes 1 (stub) 2 3.
    Producer 1 publishes node 2 and stalls before linking; producer 2 runs a whole push of
    node 3 behind it; the consumer reads NULL (empty although push 20 has returned — the
    in-flight case of `empty_justified`); producer 1 links; the consumer pops 10, and the stub
    it got back (node 1) is pushed again with payload 30; the consumer pops 20. -/
def traceMpsc : List Ev := [
  .callPush 1 10, .wrDataClient 1 2 10, .wrNext 1 2 0, .xchgTail 1 1 2,
  .callPush 2 20, .wrDataClient 2 3 20, .wrNext 2 3 0, .xchgTail 2 2 3, .wrNext 2 2 3, .retPush 2 1,
  .callPop 0, .rdHead 0 1, .rdNext 0 1 0, .retPop 0 0,
  .wrNext 1 1 2, .retPush 1 1,
  .callPop 0, .rdHead 0 1, .rdNext 0 1 2, .wrHead 0 2, .rdDataPop 0 2 10, .wrDataPop 0 1 10,
  .rdDataClient 0 1 10, .retPop 0 10,
  .callPush 1 30, .wrDataClient 1 1 30, .wrNext 1 1 0, .xchgTail 1 3 1, .wrNext 1 3 1, .retPush 1 1,
  .callPop 0, .rdHead 0 2, .rdNext 0 2 3, .wrHead 0 3, .rdDataPop 0 3 20, .wrDataPop 0 2 20,
  .rdDataClient 0 2 20, .retPop 0 20]

example : ((sys .mpsc 1).run traceMpsc).map (fun s => (s.pushed, s.popped, s.returned, s.q)) =
    some ([10, 20, 30], [10, 20], [20, 10, 30], [3, 1]) := by decide

/-- the hypotheses of `realtime_fifo` / `per_producer_fifo` are satisfiable: after the first 24
    events push 20 has returned, then thread 1 calls push 30 -/
example : ((sys .mpsc 1).run (traceMpsc.take 24)).map (fun s => decide (20 ∈ s.returned)) = some true ∧
    (traceMpsc.drop 24).head? = some (.callPush 1 30) := by decide

/-- the hypothesis of `empty_justified` is satisfiable in its in-flight branch: the 13th event
    is a NULL read of `head->next` while `q = [1, 2, 3]` and producer 1 sits in `xchgd` -/
example : ((sys .mpsc 1).run (traceMpsc.take 12)).map (fun s => (s.q, s.pc 1, s.returned)) =
    some ([1, 2, 3], .xchgd 10 2 1, [20]) ∧ traceMpsc[12]? = some (.rdNext 0 1 0) := by decide

/-- MPSC with peeks (thread 0 is the consumer).  Producer 1 publishes node 2 and stalls before
    linking: the first peek reads NULL and reports empty (in-flight branch of
    `peek_empty_justified`).  After the link, a second peek reads `head`, `head->next`, then a
    whole push of 20 by producer 2 runs, then the peek reads the payload and reports 10; a third
    peek reports 10 again (`peek_stable`); the trypop returns 10 (`peek_is_next_pop`); the last
    peek reports 20. -/
def tracePeek : List Ev := [
  .callPush 1 10, .wrDataClient 1 2 10, .wrNext 1 2 0, .xchgTail 1 1 2,
  .callPeek 0, .rdHead 0 1, .rdNext 0 1 0, .retPeek 0 0,
  .wrNext 1 1 2, .retPush 1 1,
  .callPeek 0, .rdHead 0 1, .rdNext 0 1 2,
  .callPush 2 20, .wrDataClient 2 3 20, .wrNext 2 3 0, .xchgTail 2 2 3, .wrNext 2 2 3, .retPush 2 1,
  .rdDataPeek 0 2 10, .retPeek 0 10,
  .callPeek 0, .rdHead 0 1, .rdNext 0 1 2, .rdDataPeek 0 2 10, .retPeek 0 10,
  .callPop 0, .rdHead 0 1, .rdNext 0 1 2, .wrHead 0 2, .rdDataPop 0 2 10, .wrDataPop 0 1 10,
  .rdDataClient 0 1 10, .retPop 0 10,
  .callPeek 0, .rdHead 0 2, .rdNext 0 2 3, .rdDataPeek 0 3 20, .retPeek 0 20]

example : ((sys .mpsc 1).run tracePeek).map (fun s => (s.pushed, s.popped, s.peeked, s.q)) =
    some ([10, 20], [10], [(0, 10), (0, 10), (1, 20)], [2, 3]) := by decide

/-- the hypotheses of `peek_empty_justified` are satisfiable in the in-flight branch: the 7th
    event is a NULL read of `head->next` by a peek while `q = [1, 2]` and producer 1 sits in
    `xchgd`; and those of `peek_report` / `peek_then_pop`: the 21st event is `ret peek 10` -/
example : ((sys .mpsc 1).run (tracePeek.take 6)).map (fun s => (s.q, s.pc 1, s.cpc)) =
    some ([1, 2], .xchgd 10 2 1, .pkGotHead 1) ∧ tracePeek[6]? = some (.rdNext 0 1 0) ∧
    tracePeek[20]? = some (.retPeek 0 10) := by decide

/-- a peek is a consumer-side operation: while one is in progress the model rejects a trypop
    (and vice versa), and the SPSC model rejects peek altogether -/
example : ((sys .mpsc 1).run (tracePeek.take 11 ++ [.callPop 0])).isSome = false ∧
    ((sys .mpsc 1).run (tracePeek.take 27 ++ [.callPeek 0])).isSome = false ∧
    ((sys .spsc 1).run [.callPeek 0]).isSome = false := by decide

/-- SPSC: one producer (thread 1), consumer thread 0 interleaved inside the producer's
    load-tail / store-tail / link sequence; node 1 is reused. -/
def traceSpsc : List Ev := [
  .callPush 1 10, .wrDataClient 1 2 10, .wrNext 1 2 0, .ldTail 1 1,
  .callPop 0, .rdHead 0 1, .stTail 1 2, .rdNext 0 1 0, .retPop 0 0,
  .wrNext 1 1 2, .retPush 1 1,
  .callPop 0, .rdHead 0 1, .rdNext 0 1 2, .wrHead 0 2,
  .callPush 1 20, .wrDataClient 1 3 20,
  .rdDataPop 0 2 10, .wrDataPop 0 1 10, .rdDataClient 0 1 10, .retPop 0 10,
  .wrNext 1 3 0, .ldTail 1 2, .stTail 1 3, .wrNext 1 2 3, .retPush 1 1,
  .callPush 1 30, .wrDataClient 1 1 30, .wrNext 1 1 0, .ldTail 1 3, .stTail 1 1, .wrNext 1 3 1,
  .retPush 1 1,
  .callPop 0, .rdHead 0 2, .rdNext 0 2 3, .wrHead 0 3, .rdDataPop 0 3 20, .wrDataPop 0 2 20,
  .rdDataClient 0 2 20, .retPop 0 20]

example : ((Spsc.sys 1).run traceSpsc).map (fun s => (s.pushed, s.popped, s.returned, s.q)) =
    some ([10, 20, 30], [10, 20], [10, 20, 30], [3, 1]) := by decide

/-- relaxed MPSC with 2 producer numbers (stubs 1 and 2): thread 1 uses number 0, thread 2
    number 1; the consumer's first trypop finds sub-queue 0 in flight and takes 20 from
    sub-queue 1, a later one wraps around; the stub of sub-queue 1 (node 2) is re-pushed into
    sub-queue 0; the last trypop examines both sub-queues and returns NULL. -/
def traceMpscr : List Mpscr.Ev := [
  .producer 1 0, .sub none (.callPush 1 10), .sub none (.wrDataClient 1 3 10),
  .sub none (.wrNext 1 3 0), .sub (some 0) (.ldTail 1 1), .sub (some 0) (.stTail 1 3),
  .producer 2 1, .sub none (.callPush 2 20), .sub none (.wrDataClient 2 4 20),
  .sub none (.wrNext 2 4 0), .sub (some 1) (.ldTail 2 2), .sub (some 1) (.stTail 2 4),
  .sub none (.wrNext 2 2 4), .sub none (.retPush 2 1),
  .callPop 0, .rdCounter 0 0, .wrCounter 0 1, .sub (some 0) (.rdHead 0 1), .sub none (.rdNext 0 1 0),
  .rdCounter 0 1, .wrCounter 0 2, .sub (some 1) (.rdHead 0 2), .sub none (.rdNext 0 2 4),
  .sub (some 1) (.wrHead 0 4), .sub none (.rdDataPop 0 4 20), .sub none (.wrDataPop 0 2 20),
  .sub none (.rdDataClient 0 2 20), .retPop 0 20,
  .sub none (.wrNext 1 1 3), .sub none (.retPush 1 1),
  .producer 1 0, .sub none (.callPush 1 30), .sub none (.wrDataClient 1 2 30),
  .sub none (.wrNext 1 2 0), .sub (some 0) (.ldTail 1 3), .sub (some 0) (.stTail 1 2),
  .sub none (.wrNext 1 3 2), .sub none (.retPush 1 1),
  .callPop 0, .rdCounter 0 2, .wrCounter 0 3, .sub (some 0) (.rdHead 0 1), .sub none (.rdNext 0 1 3),
  .sub (some 0) (.wrHead 0 3), .sub none (.rdDataPop 0 3 10), .sub none (.wrDataPop 0 1 10),
  .sub none (.rdDataClient 0 1 10), .retPop 0 10,
  .callPop 0, .rdCounter 0 3, .wrCounter 0 4, .sub (some 1) (.rdHead 0 4), .sub none (.rdNext 0 4 0),
  .rdCounter 0 4, .wrCounter 0 5, .sub (some 0) (.rdHead 0 3), .sub none (.rdNext 0 3 2),
  .sub (some 0) (.wrHead 0 2), .sub none (.rdDataPop 0 2 30), .sub none (.wrDataPop 0 3 30),
  .sub none (.rdDataClient 0 3 30), .retPop 0 30,
  .callPop 0, .rdCounter 0 5, .wrCounter 0 6, .sub (some 1) (.rdHead 0 4), .sub none (.rdNext 0 4 0),
  .rdCounter 0 6, .wrCounter 0 7, .sub (some 0) (.rdHead 0 2), .sub none (.rdNext 0 2 0)]

example : ((Mpscr.sys 2).run traceMpscr).map
      (fun s => ((s.sub 0).pushed, (s.sub 0).popped, (s.sub 1).pushed, (s.sub 1).popped, s.seen)) =
    some ([10, 30], [10, 30], [20], [20], [1, 0]) := by decide

/-- … and the NULL return is then accepted (hypothesis of `mpscr_empty_examined_all`) -/
example : ((Mpscr.sys 2).run (traceMpscr ++ [.retPop 0 0])).isSome = true := by decide

end LibfiberVerif.Props.C15
