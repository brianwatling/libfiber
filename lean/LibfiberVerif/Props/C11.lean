/-
  Props/C11.lean — property C11:

  "Every message sent on a bounded, unbounded, single-producer or multi channel is received
   exactly once, messages of one sender arrive in the order sent, and a bounded channel never
   holds more than its capacity nor overwrites an unreceived message.  A receiver blocked on
   an empty channel (or a sender on a full multi channel) is always resumed by a later send
   (receive): a raise racing with a wait is either seen by it or remembered for the next wait,
   never lost."

  Models (actors are FIBERS, any number of them, on any number of kernel threads; one model
  step per shared access in program order; tied to /repo by trace validation, tools/check.py C11):
    Model/Signal.lean     fiber_signal_t + the parking hand-shake (set_wait_location)
    Model/Chan.lean       bounded / unbounded / sp channel (embeds the signal protocol unchanged)
    Model/MultiChan.lean  fiber_multi_channel_t under an abstract lock (C03)

  STATUS (for /repo HEAD)
    Signal      all clauses proved.
    MultiChan   exactly-once / FIFO / capacity proved for both list disciplines.  `no_lost_wake`
                is PROVED IN FULL for the code in /repo (two waiter lists, since fix commit
                b18179b); for the earlier one-list code it is false — `no_lost_wake_false`
                keeps the machine-checked witness (a trace of that implementation) and
                `no_lost_wake_partial` what did hold (homogeneous waiter list).
    Chan        all clauses proved for the three kinds, for channels created with a ready_signal
                AND with a NULL signal (spinning), over histories that mix blocking receive and
                `*_try_receive`: exactly-once and per-sender FIFO, capacity / no-overwrite for
                the bounded ring, single wake-up, `receiver_resumed_*` (publish-then-raise vs
                clear-then-recheck); spinning channels never sleep and their receive loop takes
                an available message in its next pass (`spin_never_sleeps`, `receive_takes_*`);
                a try_receive reports empty only if the channel was empty at an instant of the
                call or the send of the message next in line was in flight (`try_empty_*`).
-/
import LibfiberVerif.Proof.Signal
import LibfiberVerif.Proof.MultiChan
import LibfiberVerif.Proof.ChanWake
import LibfiberVerif.Proof.ChanBWake
import LibfiberVerif.Proof.ChanTry

namespace LibfiberVerif.Props.C11

/-! ################################################################################
    ## fiber_signal_t  (include/fiber_signal.h, harness/signal.c)
    ################################################################################ -/
namespace Signal
open LibfiberVerif LibfiberVerif.Signal

/-- `raise_seen_or_remembered` — the invariant behind "never lost".  `tokens > 0` = a
    completed publication that has not been taken; w = the signal's one waiter.  Then
    * if w has found nothing and is on its way to sleep (`committed`: it loaded 0 tokens,
      or is before the CAS inside fiber_signal_wait), the word is RAISED — so its CAS will
      fail and it looks again — or a publisher has not yet done its exchange (`inFlight`);
    * if w is asleep (in the word / parked, not yet woken), a publisher is still in flight
      or a raiser has exchanged w out of the word and is on its way to wake it.
    In every other state w will load `tokens` again before it can sleep ("receiver not
    parked"). -/
theorem raise_seen_or_remembered (es : List Ev) (s : St) (w : Nat) (h : sys.run es = some s)
    (hw : s.p.waiterId = some w) (ht : 0 < s.tokens) :
    (committed s w → s.p.word = .raised ∨ ∃ g, inFlight s g) ∧
    (asleep s w → ∃ g, inFlight s g ∨ (s.p.pc g).targets w) :=
  covered_of_inv (tinv_of_run h) w hw ht

/-- `never_lost` — with every other fiber outside any operation, a token present and the
    waiter asleep for ever is unreachable; and if the waiter has just decided to sleep, the
    raise is remembered (the word is RAISED). -/
theorem never_lost (es : List Ev) (s : St) (w : Nat) (h : sys.run es = some s)
    (hw : s.p.waiterId = some w) (ht : 0 < s.tokens) (hq : ∀ g, g ≠ w → s.tk g = .idle) :
    ¬ asleep s w ∧ (committed s w → s.p.word = .raised) :=
  not_lost_of_inv (tinv_of_run h) w hw ht hq

/-- `single_wake` — a sleep is ended by at most one wake-up (`wakes ≤ parks ≤ wakes + 1`) and
    at most one raiser is on its way to wake a given fiber. -/
theorem single_wake (es : List Ev) (s : St) (f : Nat) (h : sys.run es = some s) :
    s.p.wakes f ≤ s.p.parks f ∧ s.p.parks f ≤ s.p.wakes f + 1 ∧
    (∀ g g', (s.p.pc g).targets f → (s.p.pc g').targets f → g = g') :=
  single_wake_of_inv (tinv_of_run h).pinv f

/-- … and the wake-up (`old->state = READY`, then schedule) is issued only after the sleeper's
    hand-shake marker: the sleeper is `parked` (its successor wrote READY_TO_WAKE after the
    context switch), it was owed exactly this wake-up, and afterwards it is owed none. -/
theorem wake_after_marker (es : List Ev) (s s' : St) (g f : Nat) (h : sys.run es = some s)
    (hs : step s (.p (.wStateReady g f)) = some s') :
    s.p.pc f = .parked ∧ s.p.scratch f = true ∧ s.p.wakes f + 1 = s.p.parks f ∧
    s'.p.wakes f = s'.p.parks f := by
  have hp := (tinv_of_run h).pinv
  simp only [step, Option.map_eq_some_iff] at hs
  obtain ⟨p', hp', rfl⟩ := hs
  exact wake_after_marker_of_inv hp g f hp'

/-- the word holds a fiber only while that fiber is going to sleep / asleep and un-woken, and
    it is the signal's one waiter (client contract) -/
theorem word_is_sleeper (es : List Ev) (s : St) (f : Nat) (h : sys.run es = some s)
    (hw : s.p.word = .fiber f) : (s.p.pc f).sleepy ∧ s.p.wakes f + 1 = s.p.parks f ∧ s.p.waiterId = some f :=
  let hp := (tinv_of_run h).pinv
  ⟨(hp.word_sleepy f hw).1, (hp.word_sleepy f hw).2.1, hp.word_id f hw⟩

/-! non-vacuity: a trace of the real implementation (harness/signal.c, script `t,t|p,y,p`,
    2 kernel threads, VR_SEED=5) — the waiter finds a latched RAISED (CAS fails, consumes),
    later really sleeps, a raiser exchanges it out, spins for the marker and wakes it. -/
def witness : List Ev :=
  [.callPublish 17, .faddTokens 17 0, .callTake 16, .ldTokens 16 1, .fsubTokens 16 1,
   .p (.callRaise 17), .p (.xchg 17 .none), .p (.retRaise 17 false), .retTake 16, .callTake 16,
   .ldTokens 16 0, .p (.callWait 16), .p (.clrScratch 16), .p (.casWaiter 16 .raised false),
   .p (.stNone 16), .p (.retWait 16), .ldTokens 16 0, .p (.callWait 16), .p (.clrScratch 16),
   .p (.casWaiter 16 .none true), .callPublish 17, .p (.wStateWaiting 16), .p (.setWait 1 16),
   .faddTokens 17 0, .p (.callRaise 17), .p (.xchg 17 (.fiber 16)), .p (.stNone 17),
   .p (.rScratch 17 16 true), .p (.wStateReady 17 16), .p (.retRaise 17 true),
   .p (.clrScratch 16), .p (.stNone 16), .p (.retWait 16), .ldTokens 16 1, .fsubTokens 16 1,
   .retTake 16]

example : (sys.run witness).map (fun s => (s.tokens, s.published, s.taken, s.p.parks 16, s.p.wakes 16))
    = some (0, 2, 2, 1, 1) := by decide

/-- inside that trace the hypotheses of `raise_seen_or_remembered` hold with the waiter asleep:
    after 24 events a token is there, 16 is parked and publisher 17 is in flight -/
example : (sys.run (witness.take 24)).map
      (fun s => (s.tokens, s.p.waiterId, s.p.pc 16, s.p.word, s.fl))
    = some (1, some 16, .parked, .fiber 16, [17]) := by decide

end Signal

/-! ################################################################################
    ## fiber_multi_channel_t  (include/fiber_multi_channel.h, harness/multichan.c)

    `MultiChan.sys two cap`: `two = false` is the ONE-list discipline (blocked senders and
    receivers on one list, wake its head — the code before /repo commit b18179b), `two = true`
    the TWO-list discipline of /repo HEAD (a send wakes a blocked receiver, a receive a blocked
    sender).  The harness reports the discipline of the build under test (struct layout) and
    the trace is validated against that variant.
    ################################################################################ -/
namespace MultiChan
open LibfiberVerif LibfiberVerif.MultiChan

/-- `exactly_once` (and total FIFO), both disciplines: what has been received is exactly the
    first `low` messages in the order `high` was advanced — nothing lost, duplicated, invented
    or re-ordered — and everything received was sent (non-NULL). -/
theorem exactly_once (two : Bool) (cap : Nat) (es : List Ev) (s : St) (h : (sys two cap).run es = some s) :
    s.recvd = (s.sent.map Prod.snd).take s.low ∧ s.recvd <+: s.sent.map Prod.snd ∧
    s.sent.length = s.high ∧ s.low ≤ s.high ∧ (∀ p, p ∈ s.sent → p.2 ≠ 0) := by
  have hr := rinv_of_run h
  have e : s.recvd = (s.sent.map Prod.snd).take s.low := by rw [hr.recvd_eq, List.map_take]
  exact ⟨e, by rw [e]; exact List.take_prefix _ _, hr.len, hr.lowhigh.1, hr.nonzero⟩

/-- `fifo` — messages of one sender arrive in the order sent: the messages of fiber f appear
    in the (totally ordered, see `exactly_once`) delivery sequence in the order of f's calls
    to send; only f's call in progress may be missing. -/
theorem fifo (two : Bool) (cap : Nat) (es : List Ev) (s : St) (f : Nat) (h : (sys two cap).run es = some s) :
    sentBy s f <+: s.calls f ∧ sentBy s f ++ (s.pc f).pending = s.calls f := by
  have := (rinv_of_run h).calls_eq f
  exact ⟨⟨_, this⟩, this⟩

/-- `bounded` — never more than `size` messages are buffered … -/
theorem bounded (two : Bool) (cap : Nat) (es : List Ev) (s : St) (h : (sys two cap).run es = some s) :
    s.low ≤ s.high ∧ s.high - s.low ≤ s.cap :=
  (rinv_of_run h).lowhigh

/-- … and no unreceived message is overwritten: when a sender writes its message, the slot
    holds NULL and the ring is not full; the other buffered messages stay where they are. -/
theorem bounded_no_overwrite (two : Bool) (cap : Nat) (es : List Ev) (s s' : St) (f i x : Nat)
    (h : (sys two cap).run es = some s) (v hh l : Nat) (hpc : s.pc f = .gotLow (.send v) hh l)
    (hs : step s (.wBuf f i x) = some s') :
    s.buf i = 0 ∧ s.high - s.low < s.cap ∧
    (∀ j, s.low ≤ j → j < s.high → s'.buf (j % s.cap) = s.buf (j % s.cap)) := by
  have hi := linv_of_run h
  have hr := rinv_of_run h
  cases Step.of_step hs with
  | clear hpc' => rw [hpc] at hpc'; exact nomatch hpc'
  | put hpc' hlt =>
    rw [hpc] at hpc'; cases hpc'
    obtain ⟨h1, h2⟩ := send_slot_free hi hr f x hh l hpc hlt
    obtain ⟨e1, e2⟩ := hi.gotLow_eq f (.send x) hh l hpc
    subst e1 e2
    refine ⟨h1, h2, fun j hj1 hj2 => ?_⟩
    have : j % s.cap ≠ s.high % s.cap := mod_ne_of_lt hj2 (by omega)
    simp [upd, this]

/-- the buffered messages are where they belong -/
theorem buffered (two : Bool) (cap : Nat) (es : List Ev) (s : St) (i : Nat)
    (h : (sys two cap).run es = some s)
    (h1 : s.low ≤ i) (h2 : i < s.high) (h3 : ∀ f m, s.pc f ≠ .rCleared i m) :
    s.buf (i % s.cap) = val s i :=
  (rinv_of_run h).slots i h1 h2 h3

/-- mutual exclusion of the channel's critical section (from the abstract lock) -/
theorem critical_section_exclusive (two : Bool) (cap : Nat) (es : List Ev) (s : St) (f g : Nat)
    (h : (sys two cap).run es = some s) (hf : (s.pc f).inCS = true) (hg : (s.pc g).inCS = true) : f = g :=
  cs_unique (linv_of_run h) hf hg

/-- `no_lost_wake`, the full statement: in a state where nobody is active (every fiber is
    outside any operation or asleep and un-woken, the lock is free) no sleeper could proceed,
    i.e. every sleeping sender faces a full ring and every sleeping receiver an empty one. -/
def NoLostWake (two : Bool) (cap : Nat) : Prop :=
  ∀ es s, (sys two cap).run es = some s → quiescent s = true → ∀ f, stranded s f = false

/-- **`no_lost_wake` holds for the code in /repo** (two-list discipline, every capacity, any
    number of senders, receivers and kernel threads): a sender blocked on a full channel /
    a receiver blocked on an empty one is always resumed by a later receive / send.  Proof:
    while the receivers' list is non-empty, #buffered messages ≤ #receivers that are awake and
    have not taken their message (+1 while a sender still owes its wake-up), because every
    message put then wakes exactly one receiver; symmetrically for free slots and senders; in
    a quiescent state both bounds are 0 (Proof/MultiChanWait.lean, Proof/MultiChan.lean). -/
theorem no_lost_wake (cap : Nat) : NoLostWake true cap :=
  fun _ _ h hq f => have ⟨h2, _, hi⟩ := winv_of_run h; not_stranded_two hi h2 hq f

/-- Witness against `NoLostWake false 2` (the OLD code): the trace of the real implementation
    before commit b18179b for `multichan 1 1 's1,s2|s3|s4,s5,s6|r,r|r|r,r,r'` (1 kernel thread,
    capacity 2; it hung), projected to model events (189 of them). -/
def lostWakeTrace : List Ev :=
    [.callRecv 21, .fsub 21 1, .rHigh 21 0, .rLow 21 0, .rWaiters 21 0, .wScratch 21 21 0,
   .wWaiters 21 21, .wStateWaiting 21, .fadd 20 0, .callRecv 20, .fsub 20 1, .rHigh 20 0,
   .rLow 20 0, .rWaiters 20 21, .wScratch 20 20 21, .wWaiters 20 20, .wStateWaiting 20,
   .fadd 19 0, .callRecv 19, .fsub 19 1, .rHigh 19 0, .rLow 19 0, .rWaiters 19 20,
   .wScratch 19 19 20, .wWaiters 19 19, .wStateWaiting 19, .fadd 18 0, .callSend 18 4,
   .fsub 18 1, .rHigh 18 0, .rLow 18 0, .wBuf 18 0 4, .wHigh 18 1, .rWaiters 18 19,
   .rScratch 18 19 20, .wWaiters 18 20, .wScratch 18 19 0, .wStateReady 18 19, .fadd 18 0,
   .retSend 18, .callSend 18 5, .fsub 18 1, .rHigh 18 1, .rLow 18 0, .wBuf 18 1 5, .wHigh 18 2,
   .rWaiters 18 20, .rScratch 18 20 21, .wWaiters 18 21, .wScratch 18 20 0, .wStateReady 18 20,
   .fadd 18 0, .retSend 18, .callSend 18 6, .fsub 18 1, .rHigh 18 2, .rLow 18 0, .rWaiters 18 21,
   .wScratch 18 18 21, .wWaiters 18 18, .wStateWaiting 18, .fadd 17 0, .callSend 17 3,
   .fsub 17 1, .rHigh 17 2, .rLow 17 0, .rWaiters 17 18, .wScratch 17 17 18, .wWaiters 17 17,
   .wStateWaiting 17, .fadd 16 0, .callSend 16 1, .fsub 16 1, .rHigh 16 2, .rLow 16 0,
   .rWaiters 16 17, .wScratch 16 16 17, .wWaiters 16 16, .wStateWaiting 16, .fadd 20 0,
   .fsub 20 1, .rHigh 20 2, .rLow 20 0, .rBuf 20 0 4, .wBuf 20 0 0, .wLow 20 1, .rWaiters 20 16,
   .rScratch 20 16 17, .wWaiters 20 17, .wScratch 20 16 0, .wStateReady 20 16, .fadd 20 0,
   .retRecv 20 4, .fsub 19 1, .rHigh 19 2, .rLow 19 1, .rBuf 19 1 5, .wBuf 19 1 0, .wLow 19 2,
   .rWaiters 19 17, .rScratch 19 17 18, .wWaiters 19 18, .wScratch 19 17 0, .wStateReady 19 17,
   .fadd 19 0, .retRecv 19 5, .callRecv 19, .fsub 19 1, .rHigh 19 2, .rLow 19 2, .rWaiters 19 18,
   .wScratch 19 19 18, .wWaiters 19 19, .wStateWaiting 19, .fadd 0 0, .fsub 17 1, .rHigh 17 2,
   .rLow 17 2, .wBuf 17 0 3, .wHigh 17 3, .rWaiters 17 19, .rScratch 17 19 18, .wWaiters 17 18,
   .wScratch 17 19 0, .wStateReady 17 19, .fadd 17 0, .retSend 17, .fsub 16 1, .rHigh 16 3,
   .rLow 16 2, .wBuf 16 1 1, .wHigh 16 4, .rWaiters 16 18, .rScratch 16 18 21, .wWaiters 16 21,
   .wScratch 16 18 0, .wStateReady 16 18, .fadd 16 0, .retSend 16, .callSend 16 2, .fsub 16 1,
   .rHigh 16 4, .rLow 16 2, .rWaiters 16 21, .wScratch 16 16 21, .wWaiters 16 16,
   .wStateWaiting 16, .fadd 18 0, .fsub 18 1, .rHigh 18 4, .rLow 18 2, .rWaiters 18 16,
   .wScratch 18 18 16, .wWaiters 18 18, .wStateWaiting 18, .fadd 19 0, .fsub 19 1, .rHigh 19 4,
   .rLow 19 2, .rBuf 19 0 3, .wBuf 19 0 0, .wLow 19 3, .rWaiters 19 18, .rScratch 19 18 16,
   .wWaiters 19 16, .wScratch 19 18 0, .wStateReady 19 18, .fadd 19 0, .retRecv 19 3, .fsub 18 1,
   .rHigh 18 4, .rLow 18 3, .wBuf 18 0 6, .wHigh 18 5, .rWaiters 18 16, .rScratch 18 16 21,
   .wWaiters 18 21, .wScratch 18 16 0, .wStateReady 18 16, .fadd 18 0, .retSend 18, .fsub 16 1,
   .rHigh 16 5, .rLow 16 3, .rWaiters 16 21, .wScratch 16 16 21, .wWaiters 16 16,
   .wStateWaiting 16, .fadd 0 0]

set_option maxRecDepth 100000 in
/-- `no_lost_wake` is FALSE for the one-list discipline (finding F-C11, fixed in /repo by
    b18179b): the trace above is accepted by the model and ends with nobody active, two of two
    slots used, waiter list [sender 16, receiver 21] — receiver 21 is asleep although
    messages are buffered, because the wake-up it needed went to a sender at the head of the
    mixed list. -/
theorem no_lost_wake_false : ¬ NoLostWake false 2 := by
  intro hN
  have key : ((sys false 2).run lostWakeTrace).map (fun s => (quiescent s, stranded s 21)) = some (true, true) := by
    decide
  cases hr : (sys false 2).run lostWakeTrace with
  | none => rw [hr] at key; simp at key
  | some s =>
    rw [hr] at key
    simp only [Option.map_some, Option.some.injEq, Prod.mk.injEq] at key
    have := hN lostWakeTrace s hr key.1 21
    rw [key.2] at this; simp at this

set_option maxRecDepth 100000 in
example : ((sys false 2).run lostWakeTrace).map (fun s => (s.high, s.low, s.wl, s.everS && s.everR))
    = some (5, 3, [16, 21], true) := by decide

/-- `no_lost_wake_partial` (one-list discipline): the statement holds in every reachable state
    in which the waiter list has been homogeneous so far — only senders, or only receivers,
    have ever blocked.  What is missing for the full statement is exactly the case of F-C11. -/
theorem no_lost_wake_partial (cap : Nat) (es : List Ev) (s : St) (f : Nat)
    (h : (sys false cap).run es = some s) (hq : quiescent s = true)
    (hh : (s.everS && s.everR) = false) : stranded s f = false :=
  not_stranded_of_homogeneous (inv_of_run h) hq hh f

/-! non-vacuity of `no_lost_wake`: the SAME script on /repo HEAD (two lists) — the real run,
    projected to model events — is accepted by the two-list model, blocks senders and receivers
    alike, and ends quiescent with everything delivered in order. -/
def fixedTrace : List Ev :=
    [.callRecv 21, .fsub 21 1, .rHigh 21 0, .rLow 21 0, .rWaiters 21 0, .wScratch 21 21 0,
   .wWaiters 21 21, .wStateWaiting 21, .fadd 20 0, .callRecv 20, .fsub 20 1, .rHigh 20 0,
   .rLow 20 0, .rWaiters 20 21, .wScratch 20 20 21, .wWaiters 20 20, .wStateWaiting 20,
   .fadd 19 0, .callRecv 19, .fsub 19 1, .rHigh 19 0, .rLow 19 0, .rWaiters 19 20,
   .wScratch 19 19 20, .wWaiters 19 19, .wStateWaiting 19, .fadd 18 0, .callSend 18 4,
   .fsub 18 1, .rHigh 18 0, .rLow 18 0, .wBuf 18 0 4, .wHigh 18 1, .rWaiters 18 19,
   .rScratch 18 19 20, .wWaiters 18 20, .wScratch 18 19 0, .wStateReady 18 19, .fadd 18 0,
   .retSend 18, .callSend 18 5, .fsub 18 1, .rHigh 18 1, .rLow 18 0, .wBuf 18 1 5, .wHigh 18 2,
   .rWaiters 18 20, .rScratch 18 20 21, .wWaiters 18 21, .wScratch 18 20 0, .wStateReady 18 20,
   .fadd 18 0, .retSend 18, .callSend 18 6, .fsub 18 1, .rHigh 18 2, .rLow 18 0, .rSWaiters 18 0,
   .wScratch 18 18 0, .wSWaiters 18 18, .wStateWaiting 18, .fadd 17 0, .callSend 17 3,
   .fsub 17 1, .rHigh 17 2, .rLow 17 0, .rSWaiters 17 18, .wScratch 17 17 18, .wSWaiters 17 17,
   .wStateWaiting 17, .fadd 16 0, .callSend 16 1, .fsub 16 1, .rHigh 16 2, .rLow 16 0,
   .rSWaiters 16 17, .wScratch 16 16 17, .wSWaiters 16 16, .wStateWaiting 16, .fadd 20 0,
   .fsub 20 1, .rHigh 20 2, .rLow 20 0, .rBuf 20 0 4, .wBuf 20 0 0, .wLow 20 1, .rSWaiters 20 16,
   .rScratch 20 16 17, .wSWaiters 20 17, .wScratch 20 16 0, .wStateReady 20 16, .fadd 20 0,
   .retRecv 20 4, .fsub 19 1, .rHigh 19 2, .rLow 19 1, .rBuf 19 1 5, .wBuf 19 1 0, .wLow 19 2,
   .rSWaiters 19 17, .rScratch 19 17 18, .wSWaiters 19 18, .wScratch 19 17 0, .wStateReady 19 17,
   .fadd 19 0, .retRecv 19 5, .callRecv 19, .fsub 19 1, .rHigh 19 2, .rLow 19 2, .rWaiters 19 21,
   .wScratch 19 19 21, .wWaiters 19 19, .wStateWaiting 19, .fadd 0 0, .fsub 17 1, .rHigh 17 2,
   .rLow 17 2, .wBuf 17 0 3, .wHigh 17 3, .rWaiters 17 19, .rScratch 17 19 21, .wWaiters 17 21,
   .wScratch 17 19 0, .wStateReady 17 19, .fadd 17 0, .retSend 17, .fsub 16 1, .rHigh 16 3,
   .rLow 16 2, .wBuf 16 1 1, .wHigh 16 4, .rWaiters 16 21, .rScratch 16 21 0, .wWaiters 16 0,
   .wScratch 16 21 0, .wStateReady 16 21, .fadd 16 0, .retSend 16, .callSend 16 2, .fsub 16 1,
   .rHigh 16 4, .rLow 16 2, .rSWaiters 16 18, .wScratch 16 16 18, .wSWaiters 16 16,
   .wStateWaiting 16, .fadd 21 0, .fsub 21 1, .rHigh 21 4, .rLow 21 2, .rBuf 21 0 3,
   .wBuf 21 0 0, .wLow 21 3, .rSWaiters 21 16, .rScratch 21 16 18, .wSWaiters 21 18,
   .wScratch 21 16 0, .wStateReady 21 16, .fadd 21 0, .retRecv 21 3, .callRecv 21, .fsub 21 1,
   .rHigh 21 4, .rLow 21 3, .rBuf 21 1 1, .wBuf 21 1 0, .wLow 21 4, .rSWaiters 21 18,
   .rScratch 21 18 0, .wSWaiters 21 0, .wScratch 21 18 0, .wStateReady 21 18, .fadd 21 0,
   .retRecv 21 1, .callRecv 21, .fsub 21 1, .rHigh 21 4, .rLow 21 4, .rWaiters 21 0,
   .wScratch 21 21 0, .wWaiters 21 21, .wStateWaiting 21, .fadd 19 0, .fsub 19 1, .rHigh 19 4,
   .rLow 19 4, .rWaiters 19 21, .wScratch 19 19 21, .wWaiters 19 19, .wStateWaiting 19,
   .fadd 0 0, .fsub 18 1, .rHigh 18 4, .rLow 18 4, .wBuf 18 0 6, .wHigh 18 5, .rWaiters 18 19,
   .rScratch 18 19 21, .wWaiters 18 21, .wScratch 18 19 0, .wStateReady 18 19, .fadd 18 0,
   .retSend 18, .fsub 16 1, .rHigh 16 5, .rLow 16 4, .wBuf 16 1 2, .wHigh 16 6, .rWaiters 16 21,
   .rScratch 16 21 0, .wWaiters 16 0, .wScratch 16 21 0, .wStateReady 16 21, .fadd 16 0,
   .retSend 16, .fsub 21 1, .rHigh 21 6, .rLow 21 4, .rBuf 21 0 6, .wBuf 21 0 0, .wLow 21 5,
   .rSWaiters 21 0, .fadd 21 0, .retRecv 21 6, .fsub 19 1, .rHigh 19 6, .rLow 19 5, .rBuf 19 1 2,
   .wBuf 19 1 0, .wLow 19 6, .rSWaiters 19 0, .fadd 19 0, .retRecv 19 2]

set_option maxRecDepth 100000 in
example : ((sys true 2).run fixedTrace).map (fun s => (quiescent s, s.everS && s.everR, s.high, s.low, s.recvd))
    = some (true, true, 6, 6, [4, 5, 3, 1, 6, 2]) := by decide

set_option maxRecDepth 100000 in
/-- the one-list model rejects that trace (the fixed code reads `send_waiters`), and the two-list
    model rejects the old code's trace: the two disciplines are told apart by validation -/
example : ((sys false 2).run fixedTrace).isNone = true ∧ ((sys true 2).run lostWakeTrace).isNone = true := by
  decide

/-! non-vacuity of `no_lost_wake_partial`: a run of the old code (script `s1|r`, 1 kernel thread)
    in which a receiver blocks on the empty channel, the sender's internal_wake makes it READY,
    and it receives the message; the final state is quiescent and only a receiver ever blocked. -/
def blockedReceiverTrace : List Ev :=
  [.callRecv 17, .fsub 17 1, .rHigh 17 0, .rLow 17 0, .rWaiters 17 0, .wScratch 17 17 0,
   .wWaiters 17 17, .wStateWaiting 17, .fadd 16 0, .callSend 16 1, .fsub 16 1, .rHigh 16 0,
   .rLow 16 0, .wBuf 16 0 1, .wHigh 16 1, .rWaiters 16 17, .rScratch 16 17 0, .wWaiters 16 0,
   .wScratch 16 17 0, .wStateReady 16 17, .fadd 16 0, .retSend 16, .fsub 17 1, .rHigh 17 1,
   .rLow 17 0, .rBuf 17 0 1, .wBuf 17 0 0, .wLow 17 1, .rWaiters 17 0, .fadd 17 0, .retRecv 17 1]

example : ((sys false 2).run blockedReceiverTrace).map (fun s => (quiescent s, s.everS, s.everR))
    = some (true, false, true) := by decide

example : ((sys false 2).run blockedReceiverTrace).map (fun s => (s.recvd, s.sent.map Prod.snd))
    = some ([1], [1]) := by decide

/-- … and half-way through (after 9 events) the receiver is asleep, the state is quiescent and
    the ring is empty: exactly the situation the theorems allow -/
example : ((sys false 2).run (blockedReceiverTrace.take 9)).map
      (fun s => (quiescent s, sleeping s 17, stranded s 17, s.wl))
    = some (true, true, false, [17]) := by decide

end MultiChan

/-! ################################################################################
    ## bounded / unbounded / sp channel  (include/fiber_channel.h, harness/chan.c)

    One model, `Chan.sysM spin kind cap`, for the three single-receiver channels in both
    creation modes: `spin = false` — with a ready_signal (`Chan.sys kind cap` is this case,
    definitionally) — and `spin = true` — created with a NULL signal ("this channel will
    spin").  The signal protocol of the `Signal` section is embedded unchanged.  The receiver
    may mix blocking receives (`callRecv`) and `*_try_receive` (`callTry`) in any order; every
    theorem quantifies over all such histories.  Theorems with suffix `_queue` are for the
    unbounded (MPSC) and sp (SPSC) channels, `_bounded` for the bounded one.
    ################################################################################ -/
namespace Chan
open LibfiberVerif LibfiberVerif.Chan

/-- `sys` is the signal-mode instance of `sysM`: every theorem below, stated for `sysM spin`,
    holds verbatim for `sys k cap` -/
theorem sys_eq_sysM (k : Kind) (cap : Nat) : sys k cap = sysM false k cap := rfl

/-- the ready_signal of a channel obeys the signal protocol: every sleep of the receiver is
    ended by at most one wake-up, issued by one sender -/
theorem single_wake (spin : Bool) (k : Kind) (cap : Nat) (es : List Ev) (s : St) (f : Nat)
    (h : (sysM spin k cap).run es = some s) :
    s.p.wakes f ≤ s.p.parks f ∧ s.p.parks f ≤ s.p.wakes f + 1 ∧
    (∀ g g', (s.p.pc g).targets f → (s.p.pc g').targets f → g = g') :=
  Signal.single_wake_of_inv (pinv_of_run h) f

/-- only the channel's single receiver is ever in the signal word (client contract) -/
theorem word_is_receiver (spin : Bool) (k : Kind) (cap : Nat) (es : List Ev) (s : St) (f : Nat)
    (h : (sysM spin k cap).run es = some s) (hw : s.p.word = .fiber f) :
    (s.p.pc f).sleepy ∧ s.p.waiterId = some f :=
  let hp := pinv_of_run h
  ⟨(hp.word_sleepy f hw).1, hp.word_id f hw⟩

/-- `exactly_once` (unbounded / sp): what has been received — by blocking receives and
    try_receives alike — is exactly the first `hd` messages in the order the senders swapped the
    tail: nothing lost, duplicated, invented or re-ordered; messages are distinct and non-NULL. -/
theorem exactly_once_queue (spin : Bool) (k : Kind) (cap : Nat) (hk : k ≠ .bounded) (es : List Ev) (s : St)
    (h : (sysM spin k cap).run es = some s) :
    s.recvd = (s.sent.map Prod.snd).take s.hd ∧ s.recvd <+: s.sent.map Prod.snd ∧
    s.hd ≤ s.sent.length ∧ (s.sent.map Prod.snd).Nodup ∧ (∀ p, p ∈ s.sent → p.2 ≠ 0) := by
  have hq := qi_of_run hk h
  exact ⟨hq.recvd_eq, by rw [hq.recvd_eq]; exact List.take_prefix _ _, hq.hd_le, (log_of_run h).vnodup,
    (log_of_run h).vnz⟩

/-- `per_sender_fifo` (unbounded / sp): the messages of fiber f are linearised — and therefore,
    by `exactly_once_queue`, received — in the order of f's calls to send. -/
theorem per_sender_fifo_queue (spin : Bool) (k : Kind) (cap : Nat) (hk : k ≠ .bounded) (es : List Ev) (s : St)
    (f : Nat) (h : (sysM spin k cap).run es = some s) :
    sentBy s f <+: s.calls f ∧ sentBy s f ++ (s.pc f).pending = s.calls f :=
  -- holds for every kind: the log does not depend on the container
  have _ := hk
  fifo_of_run h f

/-- what the receiver reads out of a node IS the message with the next sequence number: the
    `data` word of every node still to be received holds its message -/
theorem data_intact_queue (spin : Bool) (k : Kind) (cap : Nat) (hk : k ≠ .bounded) (es : List Ev) (s : St)
    (i : Nat) (h : (sysM spin k cap).run es = some s) (h1 : s.hd ≤ i) (h2 : i < s.sent.length) :
    s.ndata (qval s i + 1) = qval s i :=
  (qi_of_run hk h).data i h1 h2

/-- `receiver_resumed` (unbounded / sp) — the invariant: a message linked at the head of the
    queue while no sender is between publishing and its exchange of RAISED ⇒ if the receiver
    has decided to sleep its CAS will fail (word = RAISED: the raise is remembered), and if it
    is asleep a sender has taken it out of the word and is on its way to wake it (the raise
    was seen).  (On a spinning channel nobody ever decides to sleep or is asleep:
    `spin_never_sleeps`; there the statement holds because its premises are unreachable.) -/
theorem receiver_resumed_queue (spin : Bool) (k : Kind) (cap : Nat) (hk : k ≠ .bounded) (es : List Ev) (s : St)
    (w : Nat) (h : (sysM spin k cap).run es = some s) (ha : avail s) (hq : ∀ g, ¬ inFlight s g) :
    (committed s w → s.p.word = .raised) ∧
    (asleep s w → ∃ g, s.p.waker w = some g ∧ (s.p.pc g).targets w) :=
  (ctl_of_run h).resumed (cov_of_run hk h) ha hq w

/-- … hence: with every other fiber outside any operation and a message available, the
    receiver is NOT asleep (a receiver blocked on the channel has been resumed), and if it has
    just decided to sleep the word is RAISED. -/
theorem receiver_not_stranded_queue (spin : Bool) (k : Kind) (cap : Nat) (hk : k ≠ .bounded) (es : List Ev)
    (s : St) (w : Nat) (h : (sysM spin k cap).run es = some s) (ha : avail s)
    (hidle : ∀ g, g ≠ w → s.pc g = .idle) :
    ¬ asleep s w ∧ (committed s w → s.p.word = .raised) :=
  not_stranded_of_cov (ctl_of_run h) (cov_of_run hk h) ha w hidle

/-- `exactly_once` (bounded): what has been received — by blocking receives and try_receives
    alike — is exactly the first `low` messages in the order the senders claimed their slots
    (CAS on `high`). -/
theorem exactly_once_bounded (spin : Bool) (cap : Nat) (es : List Ev) (s : St)
    (h : (sysM spin .bounded cap).run es = some s) :
    s.recvd = (s.sent.map Prod.snd).take s.low ∧ s.recvd <+: s.sent.map Prod.snd ∧
    s.sent.length = s.high ∧ s.low ≤ s.high ∧ (∀ p, p ∈ s.sent → p.2 ≠ 0) := by
  have hb := binv_of_run h
  exact ⟨hb.recvd_eq, by rw [hb.recvd_eq]; exact List.take_prefix _ _, hb.len, hb.lowhigh.1, hb.vnz⟩

/-- `per_sender_fifo` (bounded): a sender's messages are claimed — hence received — in the
    order of its calls to send. -/
theorem per_sender_fifo_bounded (spin : Bool) (cap : Nat) (es : List Ev) (s : St) (f : Nat)
    (h : (sysM spin .bounded cap).run es = some s) :
    sentBy s f <+: s.calls f ∧ sentBy s f ++ (s.pc f).pending = s.calls f :=
  fifo_of_run h f

/-- `bounded_no_overwrite`: the channel never holds more than `size` messages (claimed and not
    yet consumed); a sender writes only into a slot that holds NULL — the slot of the sequence
    number it claimed, which no other fiber writes —; and every message that is claimed and
    not yet consumed is either in its slot or still to be written by its (unique) claimer.
    The consumer (`rCleared`) may be a blocking receive or a try_receive. -/
theorem bounded_no_overwrite (spin : Bool) (cap : Nat) (es : List Ev) (s : St)
    (h : (sysM spin .bounded cap).run es = some s) :
    s.high - s.low ≤ s.cap ∧
    (∀ f v i, s.pc f = .sClaimed v i → s.low ≤ i ∧ i < s.high ∧ qown s i = f ∧ s.buf (i % s.cap) = 0) ∧
    (∀ i, s.low ≤ i → i < s.high → (∀ f m, s.pc f ≠ .rCleared i m) →
      s.buf (i % s.cap) = qval s i ∨ (s.buf (i % s.cap) = 0 ∧ s.pc (qown s i) = .sClaimed (qval s i) i)) ∧
    (∀ i j, s.low ≤ i → i < j → j < s.high → i % s.cap ≠ j % s.cap) := by
  have hb := binv_of_run h
  refine ⟨hb.lowhigh.2, fun f v i hf => ?_, hb.slots, fun i j h1 h2 h3 => ?_⟩
  · obtain ⟨a, b, c, _, e⟩ := hb.claimed f v i hf
    exact ⟨a, b, c, e⟩
  · exact mod_ne_of_lt h2 (by have := hb.lowhigh; omega)

/-- the write itself: at the step in which a sender stores its message the slot holds NULL -/
theorem send_writes_null_slot (spin : Bool) (cap : Nat) (es : List Ev) (s s' : St) (f i x : Nat)
    (h : (sysM spin .bounded cap).run es = some s) (v hh : Nat) (hpc : s.pc f = .sClaimed v hh)
    (hs : step s (.wBuf f i x) = some s') : s.buf i = 0 ∧ x = v := by
  have hb := binv_of_run h
  rcases step_cases hs with ⟨pe, hpe⟩ | h' | ⟨_, h'⟩ | ⟨hq, _⟩
  · cases hpe
  · cases h'
  · -- of the two stores to the ring only the sender's starts at `sClaimed`
    cases h' <;> rename_i hpc' <;> rw [hpc] at hpc' <;> cases hpc'
    exact ⟨(hb.claimed _ _ _ hpc).2.2.2.2, rfl⟩
  · exact absurd (params_of_run h).1 hq

/-- `receiver_resumed` (bounded): the message with sequence number `low` is in its slot while no
    sender is between claiming a slot and its exchange of RAISED ⇒ the receiver's next CAS
    fails (word = RAISED) if it has decided to sleep, and if it is asleep a sender has taken
    it out of the word and is on its way to wake it. -/
theorem receiver_resumed_bounded (spin : Bool) (cap : Nat) (hcap : 0 < cap) (es : List Ev) (s : St) (w : Nat)
    (h : (sysM spin .bounded cap).run es = some s) (ha : bavail s) (hq : ∀ g, ¬ binFlight s g) :
    (committed s w → s.p.word = .raised) ∧
    (asleep s w → ∃ g, s.p.waker w = some g ∧ (s.p.pc g).targets w) :=
  (ctl_of_run h).resumed (bcov_of_run hcap h) ha hq w

theorem receiver_not_stranded_bounded (spin : Bool) (cap : Nat) (hcap : 0 < cap) (es : List Ev) (s : St)
    (w : Nat) (h : (sysM spin .bounded cap).run es = some s) (ha : bavail s)
    (hidle : ∀ g, g ≠ w → s.pc g = .idle) :
    ¬ asleep s w ∧ (committed s w → s.p.word = .raised) :=
  not_stranded_of_bcov (ctl_of_run h) (bcov_of_run hcap h) ha w hidle

/-- `exactly_once` for all three kinds, both creation modes, any mix of receive and
    try_receive: the received messages are a prefix of the messages in linearisation order
    (slot claim / tail swap): each message is received at most once, only messages that were
    sent are received, and never out of that order. -/
theorem exactly_once (spin : Bool) (k : Kind) (cap : Nat) (es : List Ev) (s : St)
    (h : (sysM spin k cap).run es = some s) : s.recvd <+: s.sent.map Prod.snd := by
  cases k with
  | bounded => exact (exactly_once_bounded spin cap es s h).2.1
  | unbounded => exact (exactly_once_queue spin .unbounded cap (by simp) es s h).2.1
  | sp => exact (exactly_once_queue spin .sp cap (by simp) es s h).2.1

/-- `per_sender_fifo` for all three kinds, both creation modes -/
theorem per_sender_fifo (spin : Bool) (k : Kind) (cap : Nat) (es : List Ev) (s : St) (f : Nat)
    (h : (sysM spin k cap).run es = some s) : sentBy s f <+: s.calls f :=
  (fifo_of_run h f).1

/-! ### channels created with a NULL ready_signal ("this channel will spin") -/

/-- on a spinning channel no fiber ever touches a signal: the embedded protocol is still in its
    initial state (nobody ever parked, was woken, or is in the word), and no fiber is ever on
    its way to sleep or asleep — "a receiver blocked on an empty channel" does not sleep, it
    is somewhere in its receive loop -/
theorem spin_never_sleeps (k : Kind) (cap : Nat) (es : List Ev) (s : St)
    (h : (sysM true k cap).run es = some s) :
    s.p = Signal.pinit ∧ (∀ f, (s.pc f).usesSignal = false) ∧ ∀ w, ¬ committed s w ∧ ¬ asleep s w :=
  let hi := (ctl_of_run h).spinInv (params_of_run h).2.2
  ⟨hi.proto, hi.nosig, LibfiberVerif.Chan.spin_never_sleeps hi⟩

/-- … and that loop takes a message as soon as one is available (bounded; either creation
    mode, blocking receive or try_receive): with the receiver at the top of its loop and the
    message with sequence number `low` in its slot, the next pass — these six events, all
    accepted — delivers exactly that message.  Together with `spin_never_sleeps` this is "a
    receiver blocked on an empty channel is always resumed by a later send" for spinning
    channels: a pass that finds nothing ends at the top of the loop again (`emptyPc`), the
    first pass after the send's write finds the message. -/
theorem receive_takes_bounded (spin : Bool) (cap : Nat) (hcap : 0 < cap) (es : List Ev) (s : St) (f : Nat)
    (h : (sysM spin .bounded cap).run es = some s) (hpc : s.pc f = .rTop) (ha : bavail s) :
    ∃ s', (sysM spin .bounded cap).run (es ++
        [.ldHigh f s.high, .ldLow f s.low, .rBuf f (s.low % s.cap) (s.buf (s.low % s.cap)),
         .wBuf f (s.low % s.cap) 0, .stLow f (s.low + 1), .retRecv f (s.buf (s.low % s.cap))]) = some s' ∧
      s'.pc f = .idle ∧ s'.recvd = s.recvd ++ [s.buf (s.low % s.cap)] ∧ s'.low = s.low + 1 := by
  obtain ⟨hk, hc, -⟩ := params_of_run h
  obtain ⟨s', h1, h2⟩ := LibfiberVerif.Chan.receive_takes_bounded hk (binv_of_run h) (hc ▸ hcap) f hpc ha
  exact ⟨s', run_append h h1, h2⟩

/-- the same for the unbounded / sp channels: a message linked at the head ⇒ the next pass of
    the loop pops that node and returns its message -/
theorem receive_takes_queue (spin : Bool) (k : Kind) (cap : Nat) (hk : k ≠ .bounded) (es : List Ev) (s : St)
    (f : Nat) (h : (sysM spin k cap).run es = some s) (hpc : s.pc f = .rTop) (ha : avail s) :
    ∃ s', (sysM spin k cap).run (es ++
        [.rHead f s.headNode, .rNext f s.headNode (headNext s), .wHead f (headNext s),
         .rData f (headNext s) (s.ndata (headNext s)), .wData f s.headNode (s.ndata (headNext s)),
         .rData f s.headNode (s.ndata (headNext s)), .retRecv f (s.ndata (headNext s))]) = some s' ∧
      s'.pc f = .idle ∧ s'.recvd = s.recvd ++ [s.ndata (headNext s)] ∧ s'.hd = s.hd + 1 := by
  obtain ⟨s', h1, h2⟩ := LibfiberVerif.Chan.receive_takes_queue ((params_of_run h).1 ▸ hk) f hpc ha
  exact ⟨s', run_append h h1, h2⟩

/-! ### `*_try_receive` -/

/-- a try_receive never waits: while the operation in progress is a try_receive no fiber is on
    its way into fiber_signal_wait (and there is one receiver: client contract, ghost-checked) -/
theorem try_never_waits (spin : Bool) (k : Kind) (cap : Nat) (es : List Ev) (s : St)
    (h : (sysM spin k cap).run es = some s) (ht : s.tryMode = true) (f : Nat) :
    s.pc f ≠ .rEmpty ∧ s.pc f ≠ .rWaiting :=
  (ctl_of_run h).nowait ht f

/-- `try_empty_bounded` — the STRONGEST true form of "try_receive reports empty only if the
    channel was empty at some instant of the call or a send was in flight" (bounded channel):
    if a try_receive of fiber f is about to return "empty" (`tEmpty`), then at some instant s1
    since the call began (`SinceCall`: no receive operation has started after s1, so s1 lies
    inside THIS call) either the channel was EMPTY — every message claimed so far had been
    received — or the send of THE MESSAGE NEXT IN LINE was in flight: its sender had claimed
    sequence number `low` by the CAS on `high` and not yet written the slot.  It cannot be
    strengthened to "no completed send was unreceived": `try_empty_despite_completed_send`. -/
theorem try_empty_bounded (spin : Bool) (cap : Nat) (es : List Ev) (s : St) (f : Nat)
    (h : (sysM spin .bounded cap).run es = some s) (hf : s.pc f = .tEmpty) :
    SinceCall (sysM spin .bounded cap) es
      (fun s1 => s1.sent.length = s1.recvd.length ∨ (s1.low < s1.high ∧ ∃ g v, s1.pc g = .sClaimed v s1.low)) :=
  try_hist_bounded spin cap es s f h hf

/-- `try_empty_queue` — the same for the unbounded / sp channels: EMPTY — every message swapped
    into the tail so far had been received — or the send of the message next in line was in
    flight: its sender had swapped the tail and not yet written `prev->next`. -/
theorem try_empty_queue (spin : Bool) (k : Kind) (hk : k ≠ .bounded) (cap : Nat) (es : List Ev) (s : St)
    (f : Nat) (h : (sysM spin k cap).run es = some s) (hf : s.pc f = .tEmpty) :
    SinceCall (sysM spin k cap) es
      (fun s1 => s1.sent.length = s1.recvd.length ∨
        (s1.hd < s1.sent.length ∧ ∃ g v prev, s1.pc g = .qSwapped v prev s1.hd)) :=
  try_hist_queue spin k hk cap es s h f hf

/-- state form (bounded), at the deciding read of ANY receive operation that finds nothing —
    the try_receive that will report empty, the blocking receive that will wait / loop: the
    receiver's load of `high` in this operation saw `high = low` (`emptySeen`, a ghost that is
    reset by every receive call and set only by that load: `emptySeen_set`), or the slot of
    the message next in line is NULL because its claimer has not written it yet -/
theorem empty_at_read_bounded (spin : Bool) (cap : Nat) (es : List Ev) (s s' : St) (f i x hh l : Nat)
    (h : (sysM spin .bounded cap).run es = some s) (hpc : s.pc f = .rLdLow hh l)
    (hs : step s (.rBuf f i x) = some s') (hnone : ¬ (x ≠ 0 ∧ hh > l)) :
    s.emptySeen = true ∨
    (x = 0 ∧ s.low < s.high ∧ s.pc (qown s s.low) = .sClaimed (qval s s.low) s.low) :=
  empty_bounded_of_inv (params_of_run h).1 (binv_of_run h) (bi_of_run h) f i x hh l hpc hs hnone

/-- state form (unbounded / sp): `head->next` is NULL only if every message linearised so far
    has been received, or the node next in line is not linked yet and its sender is between
    its tail swap and the write of `prev->next` -/
theorem empty_at_read_queue (spin : Bool) (k : Kind) (hk : k ≠ .bounded) (cap : Nat) (es : List Ev) (s : St)
    (h : (sysM spin k cap).run es = some s) (h0 : headNext s = 0) :
    s.hd = s.sent.length ∨
    (s.hd < s.sent.length ∧ s.linked s.hd = false ∧ (s.pc (qown s s.hd)).swappedAt s.hd = true) :=
  empty_queue_of_inv (qi_of_run hk h) h0

/-! non-vacuity: runs of the real implementation (harness/chan.c, script `r,r|s1,s2`, 2 kernel
    threads, VR_SCHED=rand VR_SWITCH=2 VR_SEED=3) for the three kinds, projected to model
    events; in each the receiver really goes to sleep on the empty channel and is woken by the
    sender's raise (`woke 17 true`). -/
def traceUnbounded : List Ev :=
  [.callRecv 16, .rHead 16 1, .rNext 16 1 0, .p (.clrScratch 16), .p (.casWaiter 16 .none true),
   .callSend 17 1, .wData 17 2 1, .wNext 17 2 0, .p (.wStateWaiting 16), .xchgTail 17 1 2,
   .p (.setWait 1 16), .wNext 17 1 2, .p (.xchg 17 (.fiber 16)), .p (.stNone 17),
   .p (.rScratch 17 16 true), .p (.wStateReady 17 16), .woke 17 true, .retSend 17,
   .callSend 17 2, .wData 17 3 2, .wNext 17 3 0, .xchgTail 17 2 3, .wNext 17 2 3,
   .p (.xchg 17 .none), .woke 17 false, .retSend 17, .p (.clrScratch 16), .p (.stNone 16),
   .rHead 16 1, .rNext 16 1 2, .wHead 16 2, .rData 16 2 1, .wData 16 1 1, .rData 16 1 1,
   .retRecv 16 1, .callRecv 16, .rHead 16 2, .rNext 16 2 3, .wHead 16 3, .rData 16 3 2,
   .wData 16 2 2, .rData 16 2 2, .retRecv 16 2]

def traceSp : List Ev :=
  [.callRecv 16, .rHead 16 1, .rNext 16 1 0, .p (.clrScratch 16), .p (.casWaiter 16 .none true),
   .callSend 17 1, .wData 17 2 1, .wNext 17 2 0, .p (.wStateWaiting 16), .ldTail 17 1,
   .p (.setWait 1 16), .stTail 17 2, .wNext 17 1 2, .p (.xchg 17 (.fiber 16)), .p (.stNone 17),
   .p (.rScratch 17 16 true), .p (.wStateReady 17 16), .woke 17 true, .retSend 17,
   .callSend 17 2, .wData 17 3 2, .wNext 17 3 0, .ldTail 17 2, .stTail 17 3, .wNext 17 2 3,
   .p (.xchg 17 .none), .woke 17 false, .retSend 17, .p (.clrScratch 16), .p (.stNone 16),
   .rHead 16 1, .rNext 16 1 2, .wHead 16 2, .rData 16 2 1, .wData 16 1 1, .rData 16 1 1,
   .retRecv 16 1, .callRecv 16, .rHead 16 2, .rNext 16 2 3, .wHead 16 3, .rData 16 3 2,
   .wData 16 2 2, .rData 16 2 2, .retRecv 16 2]

def traceBounded : List Ev :=
  [.callRecv 16, .ldHigh 16 0, .ldLow 16 0, .rBuf 16 0 0, .p (.clrScratch 16),
   .p (.casWaiter 16 .none true), .callSend 17 1, .ldLow 17 0, .ldHigh 17 0, .rBuf 17 0 0,
   .casHigh 17 0 0 1 true, .p (.wStateWaiting 16), .p (.setWait 1 16), .wBuf 17 0 1,
   .p (.xchg 17 (.fiber 16)), .p (.stNone 17), .p (.rScratch 17 16 true),
   .p (.wStateReady 17 16), .woke 17 true, .retSend 17, .callSend 17 2, .ldLow 17 0,
   .ldHigh 17 1, .rBuf 17 1 0, .casHigh 17 1 1 2 true, .wBuf 17 1 2, .p (.xchg 17 .none),
   .woke 17 false, .retSend 17, .p (.clrScratch 16), .p (.stNone 16), .ldHigh 16 2, .ldLow 16 0,
   .rBuf 16 0 1, .wBuf 16 0 0, .stLow 16 1, .retRecv 16 1, .callRecv 16, .ldHigh 16 2,
   .ldLow 16 1, .rBuf 16 1 2, .wBuf 16 1 0, .stLow 16 2, .retRecv 16 2]

example : ((sys .unbounded 0).run traceUnbounded).map (fun s => (s.recvd, s.hd, s.p.parks 16, s.p.wakes 16))
    = some ([1, 2], 2, 1, 1) := by decide

example : ((sys .sp 0).run traceSp).map (fun s => (s.recvd, s.hd, s.p.parks 16, s.p.wakes 16))
    = some ([1, 2], 2, 1, 1) := by decide

example : ((sys .bounded 2).run traceBounded).map (fun s => (s.recvd, s.low, s.high, s.p.parks 16))
    = some ([1, 2], 2, 2, 1) := by decide

/-- the hypotheses of `receiver_resumed_queue` are met inside `traceUnbounded`: after 12 events
    the message is linked, the sender has not yet exchanged (in flight), the receiver is parked -/
example : ((sys .unbounded 0).run (traceUnbounded.take 12)).map
      (fun s => (headNext s, s.pc 17, s.p.pc 16, s.p.word))
    = some (2, .sPublished 1, .parked, .fiber 16) := by decide

/-- the hypotheses of `receiver_resumed_bounded` are met inside `traceBounded`: after 14 events
    the message is in its slot, the sender has not yet exchanged (in flight), the receiver is
    parked in the word -/
example : ((sys .bounded 2).run (traceBounded.take 14)).map
      (fun s => (s.buf (s.low % s.cap), s.pc 17, s.p.pc 16, s.p.word))
    = some (1, .sPublished 1, .parked, .fiber 16) := by decide

/-! non-vacuity for `*_try_receive` and for spinning channels: more runs of the real implementation, projected.

    `traceMixed` — `chan 2 b 1 't,r,t,d|s1,s2,s3'` (VR_SCHED=rand VR_SWITCH=2 VR_SEED=3), bounded
    channel WITH a signal, capacity 2: a try_receive on the empty channel reports empty; the
    blocking receive that follows goes to sleep and is woken by the first send; the third send
    spins on the full ring; try_receives take messages 2 and 3, one more reports empty. -/
def traceMixed : List Ev :=
  [.callTry 16, .ldHigh 16 0, .ldLow 16 0, .rBuf 16 0 0, .retRecv 16 0, .callRecv 16, .ldHigh 16 0,
   .ldLow 16 0, .rBuf 16 0 0, .callSend 17 1, .p (.clrScratch 16), .p (.casWaiter 16 .none true),
   .p (.wStateWaiting 16), .ldLow 17 0, .ldHigh 17 0, .rBuf 17 0 0, .casHigh 17 0 0 1 true,
   .wBuf 17 0 1, .p (.xchg 17 (.fiber 16)), .p (.stNone 17), .p (.rScratch 17 16 false),
   .p (.setWait 1 16), .p (.rScratch 17 16 true), .p (.wStateReady 17 16), .woke 17 true,
   .retSend 17, .callSend 17 2, .ldLow 17 0, .ldHigh 17 1, .rBuf 17 1 0, .casHigh 17 1 1 2 true,
   .wBuf 17 1 2, .p (.xchg 17 .none), .woke 17 false, .retSend 17, .callSend 17 3, .ldLow 17 0,
   .ldHigh 17 2, .rBuf 17 0 1, .ldLow 17 0, .ldHigh 17 2, .rBuf 17 0 1, .p (.clrScratch 16),
   .p (.stNone 16), .ldHigh 16 2, .ldLow 16 0, .rBuf 16 0 1, .wBuf 16 0 0, .stLow 16 1,
   .retRecv 16 1, .callTry 16, .ldHigh 16 2, .ldLow 16 1, .rBuf 16 1 2, .wBuf 16 1 0, .stLow 16 2,
   .retRecv 16 2, .callTry 16, .ldHigh 16 2, .ldLow 16 2, .rBuf 16 0 0, .retRecv 16 0, .ldLow 17 2,
   .ldHigh 17 2, .rBuf 17 0 0, .casHigh 17 2 2 3 true, .wBuf 17 0 3, .p (.xchg 17 .none),
   .woke 17 false, .retSend 17, .callTry 16, .ldHigh 16 3, .ldLow 16 2, .rBuf 16 0 3, .wBuf 16 0 0,
   .stLow 16 3, .retRecv 16 3]

example : ((sys .bounded 2).run traceMixed).map (fun s => (s.recvd, s.tryEmpty, s.p.parks 16, s.p.wakes 16))
    = some ([1, 2, 3], 2, 1, 1) := by decide

/-- inside `traceMixed`: after 4 events the try_receive is about to report empty (`tEmpty`) and
    it saw the channel empty (hypothesis of `try_empty_bounded`, first disjunct) -/
example : ((sys .bounded 2).run (traceMixed.take 4)).map
      (fun s => (s.pc 16, s.tryMode, s.emptySeen, s.sent.length, s.recvd.length))
    = some (.tEmpty, true, true, 0, 0) := by decide

/-- `traceInflightB` — `chan 2 b 1 't,t,d|s1'` (VR_SEED=23 VR_SWITCH=2): the sender has claimed
    slot 0 (CAS on `high`) and not written it when the try_receive reads `high = 1 > low = 0`
    and a NULL slot: it reports empty although the channel is NOT empty — the send is in flight
    (second disjunct of `try_empty_bounded`); the next try_receive takes the message. -/
def traceInflightB : List Ev :=
  [.callSend 17 1, .ldLow 17 0, .ldHigh 17 0, .rBuf 17 0 0, .casHigh 17 0 0 1 true, .callTry 16,
   .ldHigh 16 1, .ldLow 16 0, .rBuf 16 0 0, .retRecv 16 0, .callTry 16, .ldHigh 16 1, .wBuf 17 0 1,
   .p (.xchg 17 .none), .ldLow 16 0, .woke 17 false, .retSend 17, .rBuf 16 0 1, .wBuf 16 0 0,
   .stLow 16 1, .retRecv 16 1]

example : ((sys .bounded 2).run (traceInflightB.take 9)).map
      (fun s => (s.pc 16, s.emptySeen, s.sent.length, s.recvd.length, s.pc 17))
    = some (.tEmpty, false, 1, 0, .sClaimed 1 0) := by decide

example : ((sys .bounded 2).run traceInflightB).map (fun s => (s.recvd, s.tryEmpty)) = some ([1], 1) := by
  decide

/-- `traceSpinU` — `chan 2 U 0 't,t,d|s1'` (VR_SEED=7): unbounded channel created with a NULL
    signal; the send never raises (`woke 17 false` straight after the link write); the first
    try_receive reads `head->next = NULL` between the sender's tail swap and its link write
    (in flight: second disjunct of `try_empty_queue`), the second one pops the message. -/
def traceSpinU : List Ev :=
  [.callSend 17 1, .wData 17 2 1, .wNext 17 2 0, .callTry 16, .rHead 16 1, .xchgTail 17 1 2,
   .rNext 16 1 0, .retRecv 16 0, .callTry 16, .rHead 16 1, .wNext 17 1 2, .woke 17 false,
   .retSend 17, .rNext 16 1 2, .wHead 16 2, .rData 16 2 1, .wData 16 1 1, .rData 16 1 1,
   .retRecv 16 1]

example : ((sysM true .unbounded 0).run (traceSpinU.take 7)).map
      (fun s => (s.pc 16, s.sent.length, s.recvd.length, s.hd, s.pc 17))
    = some (.tEmpty, 1, 0, 0, .qSwapped 1 1 0) := by decide

example : ((sysM true .unbounded 0).run traceSpinU).map (fun s => (s.recvd, s.tryEmpty, s.p.word))
    = some ([1], 1, .none) := by decide

/-- the signal-mode model rejects that run (a send that does not raise), the spin-mode model
    rejects a run of a channel with a signal: the two creation modes are told apart by validation -/
example : ((sys .unbounded 0).run traceSpinU).isNone = true ∧
    ((sysM true .unbounded 0).run traceUnbounded).isNone = true := by decide

/-- `traceSpinS` — `chan 2 S 0 't,t,d|s1'` (VR_SEED=2): single-producer channel, NULL signal -/
def traceSpinS : List Ev :=
  [.callTry 16, .rHead 16 1, .rNext 16 1 0, .retRecv 16 0, .callTry 16, .rHead 16 1, .rNext 16 1 0,
   .retRecv 16 0, .callTry 16, .rHead 16 1, .callSend 17 1, .wData 17 2 1, .wNext 17 2 0,
   .ldTail 17 1, .stTail 17 2, .rNext 16 1 0, .retRecv 16 0, .wNext 17 1 2, .callTry 16,
   .rHead 16 1, .woke 17 false, .retSend 17, .rNext 16 1 2, .wHead 16 2, .rData 16 2 1,
   .wData 16 1 1, .rData 16 1 1, .retRecv 16 1]

example : ((sysM true .sp 0).run traceSpinS).map (fun s => (s.recvd, s.tryEmpty, s.p.word))
    = some ([1], 3, .none) := by decide

/-- `traceSpinB` — `chan 2 B 1 'r,t,d|s1,s2,s3'` (VR_SEED=3): bounded channel, NULL signal: the
    blocking receive finds nothing three times and loops (through fiber_yield, skipped by
    projection) instead of sleeping, then takes message 1; try_receives take 2 and 3 and report
    empty twice while the third send is between its claim and its write. -/
def traceSpinB : List Ev :=
  [.callRecv 16, .ldHigh 16 0, .ldLow 16 0, .rBuf 16 0 0, .ldHigh 16 0, .ldLow 16 0, .callSend 17 1,
   .rBuf 16 0 0, .ldHigh 16 0, .ldLow 16 0, .ldLow 17 0, .rBuf 16 0 0, .ldHigh 17 0, .rBuf 17 0 0,
   .casHigh 17 0 0 1 true, .wBuf 17 0 1, .woke 17 false, .retSend 17, .callSend 17 2, .ldLow 17 0,
   .ldHigh 17 1, .rBuf 17 1 0, .casHigh 17 1 1 2 true, .ldHigh 16 2, .ldLow 16 0, .rBuf 16 0 1,
   .wBuf 16 0 0, .stLow 16 1, .retRecv 16 1, .callTry 16, .wBuf 17 1 2, .woke 17 false, .retSend 17,
   .callSend 17 3, .ldHigh 16 2, .ldLow 16 1, .ldLow 17 1, .rBuf 16 1 2, .wBuf 16 1 0, .ldHigh 17 2,
   .rBuf 17 0 0, .casHigh 17 2 2 3 true, .stLow 16 2, .retRecv 16 2, .callTry 16, .ldHigh 16 3,
   .ldLow 16 2, .rBuf 16 0 0, .retRecv 16 0, .callTry 16, .ldHigh 16 3, .ldLow 16 2, .rBuf 16 0 0,
   .retRecv 16 0, .wBuf 17 0 3, .woke 17 false, .retSend 17, .callTry 16, .ldHigh 16 3, .ldLow 16 2,
   .rBuf 16 0 3, .wBuf 16 0 0, .stLow 16 3, .retRecv 16 3]

example : ((sysM true .bounded 2).run traceSpinB).map (fun s => (s.recvd, s.tryEmpty, s.p.word, s.p.parks 16))
    = some ([1, 2, 3], 2, .none, 0) := by decide

/-- inside `traceSpinB`: after 16 events the message is in its slot and the blocking receiver
    is at the top of its loop — the hypotheses of `receive_takes_bounded` -/
example : ((sysM true .bounded 2).run (traceSpinB.take 16)).map
      (fun s => (s.pc 16, s.buf (s.low % s.cap), s.tryMode))
    = some (.rTop, 1, false) := by decide

/-- `traceBehind` — `chan 3 u 0 't,t,t,d|s1|s2'` (VR_SEED=3182 VR_SWITCH=2): sender 18 swaps the
    tail first and stalls before its link write; sender 17 then sends message 1 COMPLETELY
    (swap, link, raise, return); only then is try_receive called — and reports empty, because
    the node next in line (18's) is not linked. -/
def traceBehind : List Ev :=
  [.callSend 18 2, .wData 18 3 2, .wNext 18 3 0, .xchgTail 18 1 3, .callSend 17 1, .wData 17 2 1,
   .wNext 17 2 0, .xchgTail 17 3 2, .wNext 17 3 2, .p (.xchg 17 .none), .woke 17 false, .retSend 17,
   .callTry 16, .rHead 16 1, .rNext 16 1 0, .retRecv 16 0, .callTry 16, .rHead 16 1, .wNext 18 1 3,
   .rNext 16 1 3, .wHead 16 3, .p (.xchg 18 .raised), .woke 18 false, .retSend 18, .rData 16 3 2,
   .wData 16 1 2, .rData 16 1 2, .retRecv 16 2, .callTry 16, .rHead 16 3, .rNext 16 3 2, .wHead 16 2,
   .rData 16 2 1, .wData 16 3 1, .rData 16 3 1, .retRecv 16 1]

/-- `try_empty_*` cannot be strengthened to "try_receive reports empty only if no COMPLETED send
    is unreceived": in this accepted trace of the real code (`traceBehind`) fiber 17's send of
    message 1 has returned (pc idle, message linearised, not received) before the try_receive
    is even called, and throughout the call; the call nevertheless reports empty (`tEmpty`),
    because the send of the message NEXT IN LINE (fiber 18's) is in flight. -/
theorem try_empty_despite_completed_send :
    ∃ es s, (sys .unbounded 0).run es = some s ∧ s.pc 16 = .tEmpty ∧
      s.pc 17 = .idle ∧ (17, 1) ∈ s.sent ∧ 1 ∉ s.recvd ∧ s.pc 18 = .qSwapped 2 1 0 := by
  refine ⟨traceBehind.take 15, ?_⟩
  have key : ((sys .unbounded 0).run (traceBehind.take 15)).map
      (fun s => (s.pc 16, s.pc 17, s.pc 18)) = some (.tEmpty, .idle, .qSwapped 2 1 0) := by decide
  have key2 : ((sys .unbounded 0).run (traceBehind.take 15)).map
      (fun s => (s.sent, s.recvd)) = some ([(18, 2), (17, 1)], []) := by decide
  cases hr : (sys .unbounded 0).run (traceBehind.take 15) with
  | none => rw [hr] at key; simp at key
  | some s =>
    rw [hr] at key key2
    simp only [Option.map_some, Option.some.injEq, Prod.mk.injEq] at key key2
    obtain ⟨k1, k2, k5⟩ := key
    obtain ⟨k3, k4⟩ := key2
    exact ⟨s, rfl, k1, k2, by rw [k3]; simp, by rw [k4]; simp, k5⟩

/-- the whole run delivers everything exactly once, in linearisation order (2 before 1) -/
example : ((sys .unbounded 0).run traceBehind).map (fun s => (s.recvd, s.tryEmpty)) = some ([2, 1], 1) := by
  decide

end Chan

end LibfiberVerif.Props.C11
