/-
  Props/C18.lean — property C18 (fiber spinlock, src/fiber_spinlock.c):

  "While one fiber or thread holds a fiber spinlock no other lock or trylock on it succeeds;
   contenders acquire it in the order they took their tickets; trylock never waits and never
   succeeds while the lock is held or others are queued."  Any number of contenders on any
   number of kernel threads, all interleavings of lock/trylock/unlock, including wrap-around
   of the 32-bit ticket counters.

  All theorems are over EVERY event list the model `Spin.sys v0` accepts, for EVERY initial
  counter value `v0` (ticket = users = v0 mod 2^32), an unbounded number of threads and
  steps.  Hypothesis `BoundedRun (init v0) es`: fewer than 2^32 tickets are outstanding
  (holder + queued contenders) before every event of the run.  `bounded_of_threads` shows
  that it follows from "fewer than 2^32 distinct threads ever touch the lock".
-/
import LibfiberVerif.Proof.Spin

namespace LibfiberVerif.Spin

local macro "M32" : term => `((4294967296 : Nat))

/-- **Mutual exclusion.**  At most one thread holds the lock (a thread holds it from the load
    that saw its ticket / its successful CAS until its unlock store). -/
theorem excl (v0 : Nat) (es : List Ev) (s : St)
    (hr : (sys v0).run es = some s) (hb : BoundedRun (init v0) es) (t1 t2 : Nat)
    (h1 : holder (s.pc t1) = true) (h2 : holder (s.pc t2) = true) : t1 = t2 :=
  (inv_of_run hr hb).excl t1 t2 h1 h2

/-- Mutual exclusion as the harness observes it: two threads are never both between their
    `cs enter` and `cs exit` notes. -/
theorem excl_cs (v0 : Nat) (es : List Ev) (s : St)
    (hr : (sys v0).run es = some s) (hb : BoundedRun (init v0) es) (t1 t2 : Nat)
    (h1 : s.pc t1 = .inCs) (h2 : s.pc t2 = .inCs) : t1 = t2 :=
  excl v0 es s hr hb t1 t2 (by simp [h1, holder]) (by simp [h2, holder])

/-- The concrete 32-bit counters are the ghost counters modulo 2^32 (so every statement below
    about `gTicket`/`gUsers` holds across wrap-around), and `gTicket ≤ gUsers`. -/
theorem counters_mod (v0 : Nat) (es : List Ev) (s : St)
    (hr : (sys v0).run es = some s) (hb : BoundedRun (init v0) es) :
    s.ticket = s.gTicket % M32 ∧ s.users = s.gUsers % M32 ∧ s.gTicket ≤ s.gUsers :=
  let hi := inv_of_run hr hb
  ⟨hi.tk, hi.us, hi.le⟩

/-- **No other lock succeeds while the lock is held; a thread acquires only when the ticket
    being served is its own.**  If the spin loop of `lock` exits (the load returns `my`), then
    at that instant nobody holds the lock and the ghost ticket of the thread is `gTicket`. -/
theorem lock_acquires_own_ticket (v0 : Nat) (es : List Ev) (s s' : St) (t x my g : Nat)
    (hr : (sys v0).run es = some s) (hb : BoundedRun (init v0) (es ++ [.ldTicket t x]))
    (hpc : s.pc t = .spinning my g) (hs : step s (.ldTicket t x) = some s')
    (hacq : s'.pc t = .lockDone) :
    g = s.gTicket ∧ ∀ t', holder (s.pc t') = false := by
  obtain ⟨hb1, hb2⟩ := boundedRun_append hr hb
  obtain ⟨h, q, hg⟩ := good_of_run hr hb1
  cases Step.of_step hs with
  | pc hp hpc' => cases hpc'; rw [hpc] at hp; cases hp
  | spin => rw [hpc] at hacq; cases hacq
  | enter hp =>
    obtain ⟨rfl, rfl⟩ := Pc.spinning.inj (hpc.symm.trans hp)
    obtain rfl := hg.served hb2.1 hp
    obtain ⟨rfl, -⟩ := hg.lock.enter (t := t) (by rw [hp]; rfl)
    exact ⟨rfl, hg.free⟩

/-- **FIFO.**  The threads whose `lock` spin loop has exited, in that order, are a prefix of
    the threads in the order of their `fetch_add(users)` (the order they took their tickets). -/
theorem fifo (v0 : Nat) (es : List Ev) (s : St)
    (hr : (sys v0).run es = some s) (hb : BoundedRun (init v0) es) : s.acq <+: s.order := by
  obtain ⟨h, q, hg⟩ := good_of_run hr hb
  exact ⟨_, hg.qinv.ord.symm⟩

/-- FIFO on observable events only: the sequence of threads returning from `lock` (`ret lock`
    notes) is a prefix of the sequence of threads performing `fetch_add(users)`.  This is the
    predicate the `order` monitor evaluates on implementation logs. -/
theorem fifo_trace (v0 : Nat) (es : List Ev) (s : St)
    (hr : (sys v0).run es = some s) (hb : BoundedRun (init v0) es) :
    es.filterMap retLockTid <+: es.filterMap faddTid := by
  obtain ⟨⟨h, q, hg⟩, ho⟩ := good_of_runFrom (good_init v0) hb hr
  have ho : s.order = es.filterMap faddTid := ho
  exact ho ▸ List.IsPrefix.trans ⟨_, hg.ret.symm⟩ ⟨_, hg.lock.ord.symm⟩

/-- **trylock succeeds only on an idle lock.**  If the CAS of `trylock` succeeds then at that
    instant nobody holds the lock and nobody is queued (`gTicket = gUsers`, no holder, no
    spinning thread). -/
theorem try_only_idle (v0 : Nat) (es : List Ev) (s s' : St) (t ftk fus etk eus dtk dus : Nat)
    (hr : (sys v0).run es = some s)
    (hb : BoundedRun (init v0) (es ++ [.casBlob t ftk fus etk eus dtk dus true]))
    (hs : step s (.casBlob t ftk fus etk eus dtk dus true) = some s') :
    s.gTicket = s.gUsers ∧ (∀ t', holder (s.pc t') = false) ∧
      (∀ t' my g, s.pc t' ≠ .spinning my g) := by
  obtain ⟨hb1, hb2⟩ := boundedRun_append hr hb
  obtain ⟨h, q, hg⟩ := good_of_run hr hb1
  cases Step.of_step hs with
  | pc hp hpc' => cases hpc'
  | tryAcq hp hi =>
    have hidle := hg.idle hb2.1 hi
    obtain ⟨rfl, rfl, -⟩ := hg.lock.tryAcq (t := t) hidle
    exact ⟨hidle, hg.free, fun t' my g hp' => by simpa [hp', role] using hg.lock.mem t' g⟩

/-- Contrapositive reading of `try_only_idle`: while some thread holds the lock or is queued,
    a `trylock` CAS the model accepts has `ok = false`. -/
theorem try_fails_when_busy (v0 : Nat) (es : List Ev) (s s' : St)
    (t ftk fus etk eus dtk dus : Nat) (ok : Bool)
    (hr : (sys v0).run es = some s)
    (hb : BoundedRun (init v0) (es ++ [.casBlob t ftk fus etk eus dtk dus ok]))
    (hs : step s (.casBlob t ftk fus etk eus dtk dus ok) = some s')
    (hbusy : (∃ t', holder (s.pc t') = true) ∨ (∃ t' my g, s.pc t' = .spinning my g)) :
    ok = false := by
  cases ok with
  | false => rfl
  | true =>
    obtain ⟨_, h1, h2⟩ := try_only_idle v0 es s s' t ftk fus etk eus dtk dus hr hb hs
    rcases hbusy with ⟨t', h⟩ | ⟨t', my, g, h⟩
    · rw [h1 t'] at h; cases h
    · exact absurd h (h2 t' my g)

/-- **trylock never waits (structure).**  After `call trylock` the events of the calling thread
    are exactly: one 8-byte load, one CAS, the return — whatever the other threads do in
    between (no loop). -/
theorem try_wait_free (v0 : Nat) (pre es : List Ev) (s s' : St) (t : Nat)
    (_hr : (sys v0).run pre = some s) (hcall : s.pc t = .tryCalled)
    (hr' : (sys v0).runFrom s es = some s') :
    TryShape t 3 (es.filter (fun e => e.tid = t)) := by
  have := tryShape_of_runFrom (v0 := v0) t es s s' (by simp [hcall, tryRank]) hr'
  simpa [hcall, tryRank] using this

/-- **trylock never waits (progress).**  In every state, a thread inside `trylock` has an
    enabled step, independently of the lock word and of every other thread. -/
theorem try_never_blocked (s : St) (t : Nat) (h : tryRank (s.pc t) ≠ 0) :
    ∃ e, e.tid = t ∧ (step s e).isSome = true := by
  cases hpc : s.pc t <;> simp [tryRank, hpc] at h
  · exact ⟨.ldBlob t s.ticket s.users, rfl, by simp [step, hpc]⟩
  · next tk us =>
    refine ⟨.casBlob t s.ticket s.users us us us ((us + 1) % M32)
      (decide (s.ticket = us ∧ s.users = us)), rfl, ?_⟩
    by_cases h : s.ticket = us ∧ s.users = us
    · simp [step, hpc, h]
    · simp [step, hpc, h]
  · next ok =>
    cases ok
    · exact ⟨.retTry t 0, rfl, by simp [step, hpc]⟩
    · exact ⟨.retTry t 1, rfl, by simp [step, hpc]⟩

/-- Unlock by a thread that does not hold the lock is a client-contract violation: the model
    does not accept it. -/
theorem unlock_only_by_holder (s s' : St) (t : Nat) (hs : step s (.callUnlock t) = some s') :
    s.pc t = .held := by
  cases Step.of_step hs with
  | pc hp hpc => cases hpc; exact hp

/-- The hypothesis is implied by a bound on the number of threads: if only threads `< n`
    with `n < 2^32` ever perform an event, fewer than 2^32 tickets are outstanding before
    every event of the run. -/
theorem bounded_of_threads (v0 n : Nat) (hn : n < M32) (es : List Ev)
    (hall : ∀ e ∈ es, e.tid < n) : BoundedRun (init v0) es :=
  boundedRun_of_threads_from n hn es (init v0) (good_init v0) (fun t h => by simp [init] at h) hall

/-- **No contender is stranded on a free lock (hand-off).**  Whenever tickets are outstanding
    (`gTicket < gUsers`: somebody drew a ticket that has not been released yet) and nobody
    holds the lock, the thread whose ticket is being served exists, is still in its spin
    loop, and its next load of `ticket` IS enabled and ends the loop — so an unlock store
    always admits exactly the next contender in ticket order, and a lock nobody holds with
    contenders queued cannot persist once that contender is scheduled. -/
theorem no_stranded_contender (v0 : Nat) (es : List Ev) (s : St)
    (hr : (sys v0).run es = some s) (hb : BoundedRun (init v0) es)
    (hout : s.gTicket < s.gUsers) (hfree : ∀ t, holder (s.pc t) = false) :
    ∃ t my s', s.pc t = .spinning my s.gTicket ∧
      step s (.ldTicket t s.ticket) = some s' ∧ s'.pc t = .lockDone ∧
      s'.acq = s.acq ++ [t] := by
  obtain ⟨h, q, hg⟩ := good_of_run hr hb
  obtain ⟨t, h | ⟨_, h⟩⟩ := hg.lock.owned (Nat.le_refl _) hout
  · obtain ⟨my, hpc⟩ := role_wait.mp h
    have hmy := hg.cpl.my t my _ hpc
    have htk := hg.cpl.tk
    refine ⟨t, my, { s with acq := s.acq ++ [t], pc := upd s.pc t .lockDone }, hpc, ?_, ?_, rfl⟩
    · simp [step, hpc, htk, hmy]
    · simp [upd]
  · rw [role_hold, hfree t] at h; cases h

/-- Every outstanding ticket has exactly one owner: the holder (ticket `gTicket`) or one
    thread in its spin loop — tickets are neither lost nor shared, across wrap-around. -/
theorem ticket_owned_once (v0 : Nat) (es : List Ev) (s : St)
    (hr : (sys v0).run es = some s) (hb : BoundedRun (init v0) es)
    (k : Nat) (h1 : s.gTicket ≤ k) (h2 : k < s.gUsers) :
    (∃ t, (∃ my, s.pc t = .spinning my k) ∨ (k = s.gTicket ∧ holder (s.pc t) = true)) ∧
    ∀ t1 t2 my1 my2, s.pc t1 = .spinning my1 k → s.pc t2 = .spinning my2 k → t1 = t2 :=
  let ⟨_, _, hg⟩ := good_of_run hr hb
  ⟨(hg.lock.owned h1 h2).imp fun _ => Or.imp role_wait.mp (And.imp_right role_hold.mp),
    fun t1 t2 my1 my2 a b => hg.inv.inj t1 t2 my1 my2 k a b⟩

/-! ### non-vacuity: concrete accepted traces -/

/-- Three threads, counters start at 2^32 − 1 and wrap: thread 0 locks, thread 1 queues and
    spins, thread 2's trylock fails (held + queued); 0 unlocks (store wraps to 0), 1 acquires
    with ticket 0 = 2^32 mod 2^32, leaves; finally 2's trylock succeeds on the idle lock. -/
def wrapTrace : List Ev := [
  .callLock 0, .faddUsers 0 4294967295, .callLock 1, .faddUsers 1 0,
  .ldTicket 1 4294967295,                       -- spins: 2^32−1 ≠ 0
  .ldTicket 0 4294967295, .retLock 0, .csEnter 0,
  .callTry 2, .ldBlob 2 4294967295 1,
  .casBlob 2 4294967295 1 1 1 1 2 false, .retTry 2 0,
  .ldTicket 1 4294967295,                       -- still spinning
  .csExit 0, .callUnlock 0, .ldTicket 0 4294967295, .stTicket 0 0, .retUnlock 0,
  .ldTicket 1 0, .retLock 1, .csEnter 1, .csExit 1,
  .callUnlock 1, .ldTicket 1 0, .stTicket 1 1, .retUnlock 1,
  .callTry 2, .ldBlob 2 1 1, .casBlob 2 1 1 1 1 1 2 true, .retTry 2 1,
  .csEnter 2 ]

example : ((sys 4294967295).run wrapTrace).map
    (fun s => (s.ticket, s.users, s.gTicket, s.gUsers, s.acq, s.order, s.pc 2)) =
    some (1, 2, 4294967297, 4294967298, [0, 1], [0, 1], .inCs) := by rfl

example : BoundedRun (init 4294967295) wrapTrace :=
  bounded_of_threads _ 3 (by decide) _ (by decide)

/-- the hypotheses of `try_only_idle` and `lock_acquires_own_ticket` are satisfiable -/
example : ∃ es s s', (sys 4294967295).run es = some s ∧
    BoundedRun (init 4294967295) (es ++ [.casBlob 2 1 1 1 1 1 2 true]) ∧
    step s (.casBlob 2 1 1 1 1 1 2 true) = some s' := by
  refine ⟨wrapTrace.take 28, _, _, rfl, bounded_of_threads _ 3 (by decide) _ (by decide), rfl⟩

example : ∃ es s s', (sys 4294967295).run es = some s ∧
    BoundedRun (init 4294967295) (es ++ [.ldTicket 1 0]) ∧ s.pc 1 = .spinning 0 4294967296 ∧
    step s (.ldTicket 1 0) = some s' ∧ s'.pc 1 = .lockDone := by
  refine ⟨wrapTrace.take 18, _, _, rfl, bounded_of_threads _ 3 (by decide) _ (by decide),
    by decide, rfl, by decide⟩

/-- the hypotheses of `no_stranded_contender` are satisfiable: after thread 0's unlock store
    (event 17 of `wrapTrace`) thread 1 is queued on a lock nobody holds -/
example : ∃ es s, (sys 4294967295).run es = some s ∧ BoundedRun (init 4294967295) es ∧
    s.gTicket < s.gUsers ∧ s.pc 1 = .spinning 0 s.gTicket ∧ s.pc 0 = .unlockDone := by
  refine ⟨wrapTrace.take 17, _, rfl, bounded_of_threads _ 3 (by decide) _ (by decide),
    by decide, by decide, by decide⟩

end LibfiberVerif.Spin
