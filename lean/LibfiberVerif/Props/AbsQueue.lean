/-
  Props/AbsQueue.lean — the abstract waiter queue of the blocking primitives IS mpsc_fifo.h
  (`Mpsc.refines_seq` of DESIGN.md §3 item 5, for Mutex / Cond / RwLock / Barrier).

  The primitives' models (Model/Mutex.lean, Cond.lean, RwLock.lean, Barrier.lean) do not keep
  the cells `head` / `tail` / `next` of their MPSC waiter queue.  They keep the ghost list
  `order` of (node, fiber) in `xchg(&tail)` order, a flag `linked i` per entry, the number `hd`
  of entries popped and the current stub `headNode`, and DERIVE the cell values from these
  (`tailNode`, `headNext`); their `step` rejects every logged access whose value differs from
  the derived one.  Model/AbsQueue.lean isolates exactly that state and these observers
  (`AbsQueue.St`, `AbsQueue.tailNode`, `AbsQueue.headNext`: `mutex_tailNode` … `barrier_headNext`
  below are `rfl` / a map over the entry record) with the operations `enq` / `link` / `popTry` /
  `popCommit`.

  WHAT IS PROVED HERE, for every run of the access-level model of include/mpsc_fifo.h — any
  number of producers, one trypop at a time, unbounded operation counts, every interleaving of
  the individual accesses, nodes handed back by trypop being pushed again: in every reachable
  state the concrete cells are the derived values (`refines_seq`); every access is the
  corresponding abstract operation on `abs c`, and `AbsQueue.step` accepts it with the values
  the access observes (`step_simulates`, `refines_trace`, `abs_reachable`); `linked i` of `abs c`
  is false exactly while the producer of entry `i` sits between its tail xchg and its link write,
  which is what the primitives' ghost flag means (`linked_is_link_written`); and the consequences
  in the words the primitives use (`pop_returns_oldest_linked` … `null_read_justified`).

  PAYLOADS.  C15's model `Mpsc.step` identifies entries by distinct non-zero payloads (guard
  `v ≠ 0 ∧ v ∉ called` of `call push`); a primitive pushes the SAME fiber again and again.  The
  refinement is therefore proved for `MpscCore` (Model/AbsQueue.lean): `Mpsc.step .mpsc` on the
  same state and events, same accesses in the same order, same client obligations (one trypop
  at a time; a pushed node belongs to its pusher), WITHOUT that guard — payloads are arbitrary
  data carried in `node->data`; the refinement speaks about node identities and positions
  (`order[i]`, `hd`) only — plus three plain recordings (`hist`, `npop`, `stub`).  The recordings
  are needed because the full `order` (popped entries included, which is what the primitives
  keep) is not a function of the current cells: popped nodes are recycled.  `mpsc_step_is_core`
  / `mpsc_run_is_core_run` show every step / run of `Mpsc.sys .mpsc` is a step / run of
  `MpscCore`, so each log C15 validates against `Mpsc.sys .mpsc` is covered
  (`mpsc_refines_seq`), and C15's invariant `Mpsc.Inv` is reused unchanged (it never mentions
  payload distinctness).

  WHAT REMAINS ASSUMED for a primitive (validated per trace, not proved):
    * that the primitive's code performs, on its waiter queue, exactly the accesses of
      mpsc_fifo.h in program order and as a legal client — i.e. that the queue-part of a
      primitive's run, with fibers as threads, is an `MpscCore` run (single consumer at a time:
      only one fiber is inside `wake_from_mpsc_queue` of one queue; a fiber pushes only the node
      it owns).  The primitive's own `step` checks this on every validated log: it accepts the
      queue accesses only in that order, and rejects any access whose value differs from the
      derived one.  Given that, this file shows the derived values are the values of the real
      cells in EVERY interleaving, so the primitives' models never reject a real behaviour of
      mpsc_fifo.h and never accept an impossible one on account of the abstraction.
    * `mutex_*` below tie `Mutex.step`'s five queue steps to the operations of
      `AbsQueue`, read off `Mutex.Step`; the analogous facts for Cond / RwLock / Barrier are only stated
      for the observers.
-/
import LibfiberVerif.Proof.AbsQueueRefine
import LibfiberVerif.Proof.MutexStep
import LibfiberVerif.Model.Cond
import LibfiberVerif.Model.RwLock
import LibfiberVerif.Model.Barrier

namespace LibfiberVerif.Props.AbsQueue

open Mpsc (Ev)
open MpscCore (abs proj sys step coreStep opsFrom)
open LibfiberVerif.AbsQueue (tailNode headNext prevNode)

/-- every step of C15's access-level model is a step of `MpscCore` on the same state -/
theorem mpsc_step_is_core {s s' : Mpsc.St} {e : Ev} (h : Mpsc.step .mpsc s e = some s') :
    coreStep s e = some s' :=
  MpscCore.coreStep_of_mpsc h

/-- … and the only steps `MpscCore` adds are `call push` notes whose payload is 0 or was used
    before (no additional access to any cell) -/
theorem core_step_is_mpsc_or_call {s s' : Mpsc.St} {e : Ev} (h : coreStep s e = some s') :
    Mpsc.step .mpsc s e = some s' ∨
      ∃ t v, e = .callPush t v ∧ s.pc t = .idle ∧ (s.cpc = .idle ∨ s.ct ≠ t) ∧
        s' = { s with pc := upd s.pc t (.called v), called := s.called ++ [v] } :=
  MpscCore.coreStep_cases h

/-- every run of `Mpsc.sys .mpsc` is a run of `MpscCore` ending in the same cells, program
    counters and ghost fields (with the recordings `hist`, `npop` added) -/
theorem mpsc_run_is_core_run {stub : Nat} {es : List Ev} {s : Mpsc.St}
    (h : (Mpsc.sys .mpsc stub).run es = some s) : ∃ c, (sys stub).run es = some c ∧ c.m = s :=
  MpscCore.lift_run h

section refinement
variable (stub : Nat) (h0 : stub ≠ 0)
include h0

/-- **refines_seq.**  In every reachable state the concrete cells of the queue are the values
    the primitives derive from `order` / `linked` / `hd` / `headNode`:
    `tail`, `head`, what a consumer reading `head->next` sees (NULL iff no entry follows or the
    next entry is not linked yet), and — for every entry `order[i]` not popped yet — the `next`
    cell of the node before it (`prevNode`: the node of `order[i-1]`, the initial stub for
    `i = 0`; for `i = hd` this is `head`), the entry's `data` cell, and `node ≠ NULL`. -/
theorem refines_seq {es : List Ev} {c : MpscCore.St} (h : (sys stub).run es = some c) :
    c.m.tail = tailNode (abs c) ∧
    c.m.head = (abs c).headNode ∧
    c.m.next c.m.head = headNext (abs c) ∧
    (abs c).headNode = prevNode (abs c) (abs c).hd ∧
    ∀ i n f, (abs c).hd ≤ i → (abs c).order[i]? = some (n, f) →
      c.m.next (prevNode (abs c) i) = (if (abs c).linked i then n else 0) ∧
        c.m.data n = f ∧ n ≠ 0 := by
  have hc := MpscCore.cinv_of_run h0 h
  refine ⟨MpscCore.tail_eq hc, rfl, MpscCore.headNext_eq hc, ?_, fun i n f hi he =>
    MpscCore.interior hc hi he⟩
  exact (MpscCore.prevNode_live (j := 0) hc hc.1.hq).symm

/-- **step_simulates.**  `abs (step c e) = applyO (abs c) (proj c e)`: the tail xchg is `enq`,
    the link write is `link i`, `head = x` is `popCommit`, the read of `head->next` is `popTry`
    (no state change), everything else stutters; and the abstract queue ACCEPTS the operation
    with the observed values (`stepO` = guard `ok` + `apply`): the `old` an xchg returns is
    `tailNode`, the value read from `head->next` is `headNext`, the node stored into `head` is
    the node of `order[hd]`, which is linked, the entry being linked exists and was not linked. -/
theorem step_simulates {es : List Ev} {c c' : MpscCore.St} {e : Ev}
    (h : (sys stub).run es = some c) (hs : step c e = some c') :
    abs c' = LibfiberVerif.AbsQueue.applyO (abs c) (proj c e) ∧
      LibfiberVerif.AbsQueue.stepO (abs c) (proj c e) = some (abs c') := by
  have hsim := MpscCore.step_simulates_core (MpscCore.cinv_of_run h0 h) hs
  exact ⟨MpscCore.stepO_apply hsim, hsim⟩

omit h0 in
/-- which operation each event is (the definition of `proj`, spelled out) -/
theorem proj_table (c : MpscCore.St) :
    (∀ t old new, proj c (.xchgTail t old new) = some (.enq new (c.m.data new) old)) ∧
    (∀ t n x v m p, c.m.pc t = .xchgd v m p →
        proj c (.wrNext t n x) = some (.link (c.npop + c.m.q.idxOf p))) ∧
    (∀ t n x v m, c.m.pc t = .haveNode v m → proj c (.wrNext t n x) = none) ∧
    (∀ t n x, proj c (.rdNext t n x) = some (.popTry x)) ∧
    (∀ t x, proj c (.wrHead t x) = some (.popCommit x (c.m.data x))) ∧
    (∀ t v, proj c (.callPush t v) = none) ∧ (∀ t n v, proj c (.wrDataClient t n v) = none) ∧
    (∀ t r, proj c (.retPush t r) = none) ∧ (∀ t, proj c (.callPop t) = none) ∧
    (∀ t x, proj c (.rdHead t x) = none) ∧ (∀ t n x, proj c (.rdDataPop t n x) = none) ∧
    (∀ t n x, proj c (.wrDataPop t n x) = none) ∧ (∀ t n x, proj c (.rdDataClient t n x) = none) ∧
    (∀ t v, proj c (.retPop t v) = none) := by
  refine ⟨fun _ _ _ => rfl, ?_, ?_, fun _ _ _ => rfl, fun _ _ => rfl, fun _ _ => rfl,
    fun _ _ _ => rfl, fun _ _ => rfl, fun _ => rfl, fun _ _ => rfl, fun _ _ _ => rfl,
    fun _ _ _ => rfl, fun _ _ _ => rfl, fun _ _ => rfl⟩
  · intro t n x v m p hpc; simp [proj, hpc]
  · intro t n x v m hpc; simp [proj, hpc]

/-- trace inclusion: the abstract operations performed along an accepted run (`opsFrom`) are
    an accepted run of the abstract queue, ending in `abs` of the final state -/
theorem refines_trace {es : List Ev} {c : MpscCore.St} (h : (sys stub).run es = some c) :
    (LibfiberVerif.AbsQueue.sys stub).run (opsFrom (MpscCore.init stub) es) = some (abs c) := by
  have := MpscCore.refines_runFrom (MpscCore.cinv_init h0) h
  rw [MpscCore.abs_init] at this
  exact this

/-- every reachable state of the access-level model abstracts to a reachable state of the
    abstract queue -/
theorem abs_reachable {c : MpscCore.St} (h : Sys.Reachable (sys stub) c) :
    Sys.Reachable (LibfiberVerif.AbsQueue.sys stub) (abs c) :=
  MpscCore.abs_reachable h0 h

/-- `linked i` (computed by `abs` from the cells: popped, or the `next` cell before the entry
    is non-NULL) is "the link write of entry `i` has happened": for an entry not popped yet it
    is false exactly while some producer sits at `xchgd _ node prev` — after its tail xchg,
    before its link write.  Popped entries are linked; indices beyond `order` are not. -/
theorem linked_is_link_written {es : List Ev} {c : MpscCore.St}
    (h : (sys stub).run es = some c) :
    (∀ i n f, (abs c).hd ≤ i → (abs c).order[i]? = some (n, f) →
      ((abs c).linked i = false ↔ ∃ t v, c.m.pc t = .xchgd v n (prevNode (abs c) i))) ∧
    (∀ i, i < (abs c).hd → (abs c).linked i = true) ∧
    (∀ i, (abs c).order.length ≤ i → (abs c).linked i = false) := by
  have hc := MpscCore.cinv_of_run h0 h
  exact ⟨fun i n f hi he => MpscCore.linked_false_iff hc hi he, (MpscCore.linked_dead_fresh c).1,
    fun i hi => MpscCore.linked_fresh hc hi⟩

/-- **pop_returns_oldest_linked.**  The node a successful trypop moves `head` to is the node of
    `order[hd]` — the OLDEST entry not popped yet —, that entry is linked, the node is what
    `head->next` held, its `data` cell holds that entry's payload (the fiber to wake), and the
    step is `popCommit`: `hd + 1`, `headNode := x`, `order` and `linked` unchanged. -/
theorem pop_returns_oldest_linked {es : List Ev} {c c' : MpscCore.St} {t x : Nat}
    (h : (sys stub).run es = some c) (hs : step c (.wrHead t x) = some c') :
    (abs c).order[(abs c).hd]? = some (x, c.m.data x) ∧ (abs c).linked (abs c).hd = true ∧
      headNext (abs c) = x ∧ x ≠ 0 ∧
      abs c' = { abs c with hd := (abs c).hd + 1, headNode := x } ∧
      LibfiberVerif.AbsQueue.popCommit (abs c) = some (c.m.data x, abs c') := by
  obtain ⟨h1, h2, h3, h4, h5⟩ := MpscCore.pop_commit (MpscCore.cinv_of_run h0 h) hs
  refine ⟨h1, h2, h3, h4, h5, ?_⟩
  rw [h5]
  simp [LibfiberVerif.AbsQueue.popCommit, h1, h2]

/-- the consumer's read of `x->data` after `head = x` returns the payload of the entry just
    popped, `order[hd - 1]`, whose node is `x` = the current stub -/
theorem pop_reads_payload {es : List Ev} {c c' : MpscCore.St} {t n d : Nat}
    (h : (sys stub).run es = some c) (hs : step c (.rdDataPop t n d) = some c') :
    ∃ k, (abs c).hd = k + 1 ∧ (abs c).order[k]? = some (n, d) ∧ (abs c).headNode = n :=
  MpscCore.pop_data (MpscCore.cinv_of_run h0 h) hs

/-- what trypop returns: on the empty path 0; otherwise the `k`-th successful trypop
    (`k` = number of payloads returned before) returns the payload of `order[k]` — by position,
    whether or not payloads repeat -/
theorem pop_returns_in_order {es : List Ev} {c c' : MpscCore.St} {t v : Nat}
    (h : (sys stub).run es = some c) (hs : step c (.retPop t v) = some c') :
    (∃ h0, c.m.cpc = .gotNext h0 0 ∧ v = 0 ∧ c'.m.popped = c.m.popped) ∨
      (∃ n, (abs c).hd = c.m.popped.length + 1 ∧
        (abs c).order[c.m.popped.length]? = some (n, v) ∧ c'.m.popped = c.m.popped ++ [v]) :=
  MpscCore.pop_return (MpscCore.cinv_of_run h0 h) hs

/-- **FIFO = `order`.**  The payloads returned so far, followed by the one a trypop in progress
    has taken out, are the payloads of `order[0 .. hd)` in that order; `order`'s payloads are
    `pushed` (C15's publication order); `hd` counts them. -/
theorem fifo_is_order {es : List Ev} {c : MpscCore.St} (h : (sys stub).run es = some c) :
    c.m.popped ++ Mpsc.inflight c.m = ((abs c).order.take (abs c).hd).map Prod.snd ∧
      (abs c).order.map Prod.snd = c.m.pushed ∧
      (abs c).hd = c.m.popped.length + (Mpsc.inflight c.m).length ∧
      (abs c).hd ≤ (abs c).order.length := by
  have hc := MpscCore.cinv_of_run h0 h
  have hf := MpscCore.fifo hc
  have hle : (abs c).hd ≤ (abs c).order.length := MpscCore.npop_le hc
  refine ⟨hf, hc.2.pushed, ?_, hle⟩
  have := congrArg List.length hf
  simp only [List.length_append, List.length_map, List.length_take] at this
  omega

/-- **empty_means_unlinked_or_none.**  `headNext = 0` (what makes trypop fail and the wake loop
    retry) iff `order[hd]` does not exist or is not linked yet -/
theorem empty_means_unlinked_or_none {es : List Ev} {c : MpscCore.St}
    (h : (sys stub).run es = some c) :
    headNext (abs c) = 0 ↔
      ((abs c).order[(abs c).hd]? = none ∨ (abs c).linked (abs c).hd = false) :=
  MpscCore.headNext_zero_iff (MpscCore.cinv_of_run h0 h)

/-- the consumer's NULL read of `head->next`, as an access: it reads the current stub's cell,
    the abstract queue predicts NULL, and either nothing follows the stub or the next entry's
    producer sits between its tail xchg and its link write to the stub -/
theorem null_read_justified {es : List Ev} {c c' : MpscCore.St} {t n : Nat}
    (h : (sys stub).run es = some c) (hs : step c (.rdNext t n 0) = some c') :
    n = (abs c).headNode ∧ headNext (abs c) = 0 ∧
      ((abs c).order[(abs c).hd]? = none ∨
        ∃ m f p v, (abs c).order[(abs c).hd]? = some (m, f) ∧ (abs c).linked (abs c).hd = false ∧
          c.m.pc p = .xchgd v m (abs c).headNode) :=
  MpscCore.empty_read (MpscCore.cinv_of_run h0 h) hs

/-- `refines_seq` for C15's model itself: a log validated against `Mpsc.sys .mpsc` is covered -/
theorem mpsc_refines_seq {es : List Ev} {s : Mpsc.St}
    (h : (Mpsc.sys .mpsc stub).run es = some s) :
    ∃ c, (sys stub).run es = some c ∧ c.m = s ∧
      s.tail = tailNode (abs c) ∧ s.head = (abs c).headNode ∧
      s.next s.head = headNext (abs c) ∧
      (LibfiberVerif.AbsQueue.sys stub).run (opsFrom (MpscCore.init stub) es) = some (abs c) ∧
      (abs c).order.map Prod.snd = s.pushed ∧
      ∀ i n f, (abs c).hd ≤ i → (abs c).order[i]? = some (n, f) →
        s.next (prevNode (abs c) i) = (if (abs c).linked i then n else 0) ∧ s.data n = f := by
  obtain ⟨c, hr, hm⟩ := MpscCore.lift_run h
  obtain ⟨h1, h2, h3, _, h5⟩ := refines_seq stub h0 hr
  subst hm
  exact ⟨c, hr, rfl, h1, h2, h3, refines_trace stub h0 hr, (fifo_is_order stub h0 hr).2.1,
    fun i n f hi he => ⟨(h5 i n f hi he).1, (h5 i n f hi he).2.1⟩⟩

end refinement

/-- shape of the reachable abstract states: `hd ≤ |order|`; indices at and beyond `|order|` are
    not linked (so `enq` need not reset `linked`, exactly as the primitives' xchg step does not);
    popped entries are linked; `headNode` is the node of the entry popped last -/
theorem abs_queue_wf {stub : Nat} {a : LibfiberVerif.AbsQueue.St}
    (h : Sys.Reachable (LibfiberVerif.AbsQueue.sys stub) a) :
    a.hd ≤ a.order.length ∧ (∀ i, a.order.length ≤ i → a.linked i = false) ∧
      (∀ i, i < a.hd → a.linked i = true) ∧ a.headNode = prevNode a a.hd :=
  let w := LibfiberVerif.AbsQueue.wf_of_reachable h
  ⟨w.hdLe, w.fresh, w.dead, w.head⟩

/-! ## the primitives use exactly this state, these observers and these operations -/

/-- the waiter-queue part of the mutex model's state -/
def ofMutex (s : Mutex.St) : LibfiberVerif.AbsQueue.St :=
  { stub := s.stub, order := s.order, linked := s.linked, hd := s.hd, headNode := s.headNode }

theorem mutex_tailNode (s : Mutex.St) : Mutex.tailNode s = tailNode (ofMutex s) := rfl
theorem mutex_headNext (s : Mutex.St) : Mutex.headNext s = headNext (ofMutex s) := rfl

/-- the mutex's tail xchg is `enq`, accepted with the observed old tail -/
theorem mutex_xchg_is_enq {s s' : Mutex.St} {f old new : Nat}
    (h : Mutex.step s (.xchgTail f old new) = some s') :
    LibfiberVerif.AbsQueue.step (ofMutex s) (.enq new f old) = some (ofMutex s') ∧
      ∃ m, s.pc f = .pushCleared m ∧ s'.pc f = .pushXchgd new old s.order.length := by
  cases Mutex.Step.of_step h with
  | xchgTail hpc ht =>
    subst ht
    refine ⟨?_, _, hpc, by simp⟩
    have ht : Mutex.tailNode s = tailNode (ofMutex s) := rfl
    simp only [LibfiberVerif.AbsQueue.step, LibfiberVerif.AbsQueue.ok, ht, beq_self_eq_true,
      if_true]
    rfl

/-- the mutex's link write (the `wNext` of a fiber at `pushXchgd m p i`) is `link i` -/
theorem mutex_link_is_link {s s' : Mutex.St} {f n x m p i : Nat}
    (hpc : s.pc f = .pushXchgd m p i) (h : Mutex.step s (.wNext f n x) = some s') :
    ofMutex s' = LibfiberVerif.AbsQueue.link (ofMutex s) i ∧ n = p ∧ x = m := by
  cases Mutex.Step.of_step h with
  | wNextClear h0 => rw [hpc] at h0; cases h0
  | wNextLink h0 => rw [hpc] at h0; cases h0; exact ⟨rfl, rfl, rfl⟩

/-- the mutex's read of `head->next` is `popTry`: it must read `headNext`, state unchanged -/
theorem mutex_rNext_is_popTry {s s' : Mutex.St} {f n x : Nat}
    (h : Mutex.step s (.rNext f n x) = some s') :
    LibfiberVerif.AbsQueue.step (ofMutex s) (.popTry x) = some (ofMutex s') := by
  cases Mutex.Step.of_step h with
  | rNextNone _ hx | rNextSome _ hx =>
    have hx : x = headNext (ofMutex s) := hx
    simp only [LibfiberVerif.AbsQueue.step, LibfiberVerif.AbsQueue.ok, ← hx, beq_self_eq_true,
      if_true]
    rfl

/-- the mutex's `head = x` is the state change of `popCommit` (`hd + 1`, `headNode := x`); the
    fiber it hands the mutex to is the payload of `order[hd]` -/
theorem mutex_wHead_is_popCommit {s s' : Mutex.St} {f n : Nat}
    (h : Mutex.step s (.wHead f n) = some s') :
    ∃ nd g, (ofMutex s).order[(ofMutex s).hd]? = some (nd, g) ∧ s'.owner = some g ∧
      ofMutex s' = LibfiberVerif.AbsQueue.apply (ofMutex s) (.popCommit n g) := by
  cases Mutex.Step.of_step h with
  | wHead _ ho => exact ⟨_, _, ho, rfl, rfl⟩

/-- every other step of the mutex leaves its abstract queue alone -/
theorem mutex_other_steps_frame {s s' : Mutex.St} {e : Mutex.Ev}
    (h : Mutex.step s e = some s')
    (h1 : ∀ f o n, e ≠ .xchgTail f o n) (h2 : ∀ f n x, e ≠ .wNext f n x)
    (h3 : ∀ f n, e ≠ .wHead f n) : ofMutex s' = ofMutex s := by
  cases Mutex.Step.of_step h with
  | xchgTail => exact absurd rfl (h1 _ _ _)
  | wNextLink => exact absurd rfl (h2 _ _ _)
  | wHead => exact absurd rfl (h3 _ _)
  | _ => rfl

/-- the condition variable's waiter queue -/
def ofCond (s : Cond.St) : LibfiberVerif.AbsQueue.St :=
  { stub := s.stub, order := s.order, linked := s.linked, hd := s.hd, headNode := s.headNode }

theorem cond_tailNode (s : Cond.St) : Cond.tailNode s = tailNode (ofCond s) := rfl
theorem cond_headNext (s : Cond.St) : Cond.headNext s = headNext (ofCond s) := rfl

/-- the rwlock's two waiter queues -/
def ofRwLock (s : RwLock.St) (q : Bool) : LibfiberVerif.AbsQueue.St :=
  { stub := s.stub q, order := s.order q, linked := s.linked q, hd := s.hd q,
    headNode := s.headNode q }

theorem rwlock_tailNode (s : RwLock.St) (q : Bool) :
    RwLock.tailNode s q = tailNode (ofRwLock s q) := rfl
theorem rwlock_headNext (s : RwLock.St) (q : Bool) :
    RwLock.headNext s q = headNext (ofRwLock s q) := rfl

/-- a barrier queue (its entries carry the arrival round besides node and fiber) -/
def ofBarrierQ (a : Barrier.Q) : LibfiberVerif.AbsQueue.St :=
  { stub := a.stub, order := a.order.map (fun e => (e.node, e.fiber)), linked := a.linked,
    hd := a.hd, headNode := a.headNode }

theorem barrier_tailNode (a : Barrier.Q) : a.tailNode = tailNode (ofBarrierQ a) := by
  simp only [Barrier.Q.tailNode, tailNode, ofBarrierQ, List.getLast?_map]
  cases a.order.getLast? <;> rfl

theorem barrier_headNext (a : Barrier.Q) : a.headNext = headNext (ofBarrierQ a) := by
  simp only [Barrier.Q.headNext, headNext, ofBarrierQ, List.getElem?_map]
  cases a.order[a.hd]? <;> rfl

/-! ## non-vacuity -/

/-- Two producers (threads 1 and 2, fibers 16 and 17 as payloads), consumer thread 0, nodes
    1 (stub) 2 3.  The OLDER producer exchanges node 2 into `tail` and stalls before its link
    write; the YOUNGER one runs a whole push of node 3 behind it (exchanged and linked); the
    consumer's trypop reads `head->next = NULL` — the window the mutex's wake loop retries on;
    the older producer links; the consumer pops 16; the stub it got back (node 1) is pushed
    again WITH THE SAME PAYLOAD 16 (the same fiber waits again — `Mpsc.step` would reject this
    `call push`); the consumer pops 17. -/
def trace : List Ev := [
  .callPush 1 16, .wrDataClient 1 2 16, .wrNext 1 2 0, .xchgTail 1 1 2,
  .callPush 2 17, .wrDataClient 2 3 17, .wrNext 2 3 0, .xchgTail 2 2 3, .wrNext 2 2 3, .retPush 2 1,
  .callPop 0, .rdHead 0 1, .rdNext 0 1 0, .retPop 0 0,
  .wrNext 1 1 2, .retPush 1 1,
  .callPop 0, .rdHead 0 1, .rdNext 0 1 2, .wrHead 0 2, .rdDataPop 0 2 16, .wrDataPop 0 1 16,
  .rdDataClient 0 1 16, .retPop 0 16,
  .callPush 1 16, .wrDataClient 1 1 16, .wrNext 1 1 0, .xchgTail 1 3 1, .wrNext 1 3 1, .retPush 1 1,
  .callPop 0, .rdHead 0 2, .rdNext 0 2 3, .wrHead 0 3, .rdDataPop 0 3 17, .wrDataPop 0 2 17,
  .rdDataClient 0 2 17, .retPop 0 17]

/-- the window: after 12 events entry 0 = (node 2, fiber 16) is exchanged but NOT linked, entry
    1 = (node 3, fiber 17) is linked, nothing is popped; the abstract queue predicts
    `headNext = 0` although `order[hd]` exists, `tailNode = 3`; and the 13th event, the
    consumer's read `head->next = NULL`, is accepted -/
example :
    ((sys 1).run (trace.take 12)).map (fun c => ((abs c).order, (abs c).hd, (abs c).headNode)) =
      some ([(2, 16), (3, 17)], 0, 1) ∧
    ((sys 1).run (trace.take 12)).map
        (fun c => ((abs c).linked 0, (abs c).linked 1, (abs c).linked 2)) =
      some (false, true, false) ∧
    ((sys 1).run (trace.take 12)).map (fun c => (headNext (abs c), tailNode (abs c), c.m.pc 1)) =
      some (0, 3, .xchgd 16 2 1) ∧
    trace[12]? = some (.rdNext 0 1 0) ∧ ((sys 1).run (trace.take 13)).isSome = true := by
  decide

/-- the whole trace is accepted by `MpscCore`; at the end `order` holds all three entries (the
    recycled node 1 with the repeated payload 16 last), two are popped, the stub is node 3 -/
example :
    ((sys 1).run trace).map (fun c => ((abs c).order, (abs c).hd, (abs c).headNode)) =
      some ([(2, 16), (3, 17), (1, 16)], 2, 3) ∧
    ((sys 1).run trace).map
        (fun c => (headNext (abs c), tailNode (abs c), c.m.popped, c.m.next 3)) =
      some (1, 1, [16, 17], 1) := by
  decide

/-- the abstract operations of that run, and the abstract queue accepts them -/
example : opsFrom (MpscCore.init 1) trace =
    [.enq 2 16 1, .enq 3 17 2, .link 1, .popTry 0, .link 0, .popTry 2, .popCommit 2 16,
     .enq 1 16 3, .link 2, .popTry 3, .popCommit 3 17] ∧
    ((LibfiberVerif.AbsQueue.sys 1).run (opsFrom (MpscCore.init 1) trace)).map
        (fun a => (a.order, a.hd, a.headNode)) = some ([(2, 16), (3, 17), (1, 16)], 2, 3) := by
  decide

/-- C15's model accepts the trace up to the repeated payload and rejects the 25th event
    (`call push 16` again): the payload-agnostic core is really needed for the primitives -/
example : ((Mpsc.sys .mpsc 1).run (trace.take 24)).isSome = true ∧
    ((Mpsc.sys .mpsc 1).run (trace.take 25)).isSome = false ∧
    trace[24]? = some (.callPush 1 16) := by
  decide

/-- the hypotheses of `pop_returns_oldest_linked` / `null_read_justified` are satisfiable: the
    20th event is `head = 2`, the 13th is the NULL read -/
example : trace[19]? = some (.wrHead 0 2) ∧ ((sys 1).run (trace.take 20)).isSome = true ∧
    trace[12]? = some (.rdNext 0 1 0) := by
  decide

end LibfiberVerif.Props.AbsQueue
