/-
  Props/QueueHist.lean — the API-level container monitor `QueueHist.check` raises NO FALSE ALARM.

  Statement.  Let `ops` be a history of completed operations that is `WellFormed` (call < ret,
  distinct positions, distinct pushed values — guaranteed by the harnesses and by `opsOf`) and
  `Linearizable cfg ops`: some total order of the operations respects real time and is a legal
  sequential history of the container selected by `cfg` (`seqStep` in
  Proof/QueueHistSound.lean; ends with an empty container when `cfg.drained`).  Then
  `check cfg ops = none`.  The theorem is proved for EVERY `cfg` (`check_sound`) and restated
  for each configuration a driver uses.

  Sequential container selected by `cfg` (state = list of present values, oldest first):
    push, ok      needs room (`capacity = 0`: unbounded), appends the value
    push, failed  container full                         | or `failOnlyAlone` and some other
                                                         | operation overlapped the call
    pop → v       v present and takeable: `fifo` oldest value (`perProducerFifo`: oldest value
                  of its producer thread), `lifo` newest value, `bag` any value
    pop → EMPTY   container empty | or `checkEmpty = false` (no promise about EMPTY)
                                  | or `failOnlyAlone` and some other operation overlapped it
                                  | or `emptyOkInFlight` and some push call overlapped it

  All clauses of `check` — invented / duplicate / phantom / order (FIFO, per-producer FIFO, LIFO) /
  lost / emptyLie / overfull / fullLie — are sound for all `cfg` as they stand.
-/
import LibfiberVerif.Proof.QueueHistSound

namespace LibfiberVerif.QueueHist

/-- No false alarm, any configuration. -/
theorem check_sound (cfg : Cfg) (ops : List Op) (hW : WellFormed ops)
    (hL : Linearizable cfg ops) : check cfg ops = none := by
  obtain ⟨lin, fin, hlin, hfin⟩ := hL
  exact check_sound_lin cfg ops lin fin hW hlin hfin

/-- The same with the linearization and its final content spelled out. -/
theorem check_sound' (cfg : Cfg) (ops lin fin : List Op) (hW : WellFormed ops)
    (hperm : lin.Perm ops)
    (hrealTime : lin.Pairwise (fun x y => ¬ y.ret < x.call))
    (hlegal : run cfg ops [] lin = some fin)
    (hdrained : cfg.drained = true → fin = []) : check cfg ops = none :=
  check_sound_lin cfg ops lin fin hW ⟨hperm, hrealTime, hlegal⟩ hdrained

/-- Contrapositive: an alarm on a well-formed history PROVES it is not linearizable. -/
theorem not_linearizable_of_alarm (cfg : Cfg) (ops : List Op) (hW : WellFormed ops)
    (h : (check cfg ops).isSome = true) : ¬ Linearizable cfg ops := by
  intro hL
  rw [check_sound cfg ops hW hL] at h
  cases h

/-- End to end for the drivers that use `opsOf` (`queueMonitor`, `Chan.fiberQueueMonitor`, Wsd):
    the history reconstructed from ANY sequence of call/return notes is positionally well-formed
    (`opsOf_wellFormed`), so only "the scripts push distinct values" remains as a hypothesis. -/
theorem monitor_sound (cfg : Cfg) (notes : List Note)
    (hvals : ∀ a ∈ opsOf notes, ∀ b ∈ opsOf notes, a.isPush = true → b.isPush = true →
      a.val = b.val → a = b)
    (hL : Linearizable cfg (opsOf notes)) : check cfg (opsOf notes) = none :=
  check_sound cfg (opsOf notes) (opsOf_wellFormed notes hvals) hL

/-- The real-time clause of `Linearization` in textbook form: `a` returned before `b` was called
    ⇒ `a` is listed before `b` (`Before lin a b := ∃ l1 l2 l3, lin = l1 ++ a :: l2 ++ b :: l3`). -/
theorem realTime_iff (ops lin : List Op) (hW : WellFormed ops) (hperm : lin.Perm ops) :
    lin.Pairwise (fun x y => ¬ y.ret < x.call) ↔
      ∀ a ∈ lin, ∀ b ∈ lin, a.ret < b.call → Before lin a b :=
  realTime_iff_before (hW.perm hperm).2.2.2.1 (hW.perm hperm).1

/-! ### The configurations in use (`grep queueMonitor\|QueueHist.check Model/*.lean`) -/

/-- Model/Lifo.lean (C20) -/
abbrev cfgLifo : Cfg := { disc := .lifo, capacity := 0, drained := true }
/-- Model/Spsc.lean (C15) and Model/Stack.lean (flush items as pops sharing positions) -/
abbrev cfgSpsc : Cfg := { disc := .fifo, capacity := 0, drained := true }
/-- Model/Mpsc.lean (C15) -/
abbrev cfgMpsc : Cfg := { disc := .fifo, capacity := 0, drained := true, failOnlyAlone := true }
/-- Model/Mpscr.lean (C15, relaxed MPSC) -/
abbrev cfgMpscr : Cfg := { disc := .fifo, capacity := 0, drained := true, perProducerFifo := true }
/-- Model/DistFifo.lean -/
abbrev cfgDistFifo : Cfg := { disc := .fifo, capacity := 0, drained := true, checkEmpty := false }
/-- Model/Ring.lean (C16) -/
abbrev cfgRing (size : Nat) : Cfg :=
  { disc := .fifo, capacity := size, drained := true, failOnlyAlone := true }
/-- Model/Wsd.lean (C02 deque) -/
abbrev cfgWsd : Cfg := { disc := .bag, drained := true, checkEmpty := true, failOnlyAlone := true }
/-- Model/Mpmc.lean (C13) -/
abbrev cfgMpmc : Cfg := { disc := .fifo, capacity := 0, drained := true, emptyOkInFlight := true }
/-- Model/Chan.lean (C11) -/
abbrev cfgChan (cap : Nat) (complete : Bool) : Cfg :=
  { disc := .fifo, capacity := cap, drained := complete, checkEmpty := true, emptyOkInFlight := true,
    perProducerFifo := true }
/-- Model/MultiChan.lean (C11) -/
abbrev cfgMultiChan (cap : Nat) (complete : Bool) : Cfg :=
  { disc := .fifo, capacity := cap, drained := complete, checkEmpty := false }

theorem check_sound_lifo (ops : List Op) (hW : WellFormed ops) (hL : Linearizable cfgLifo ops) :
    check { disc := .lifo, capacity := 0, drained := true } ops = none :=
  check_sound cfgLifo ops hW hL

theorem check_sound_spsc (ops : List Op) (hW : WellFormed ops) (hL : Linearizable cfgSpsc ops) :
    check { disc := .fifo, capacity := 0, drained := true } ops = none :=
  check_sound cfgSpsc ops hW hL

theorem check_sound_mpsc (ops : List Op) (hW : WellFormed ops) (hL : Linearizable cfgMpsc ops) :
    check { disc := .fifo, capacity := 0, drained := true, failOnlyAlone := true } ops = none :=
  check_sound cfgMpsc ops hW hL

theorem check_sound_mpscr (ops : List Op) (hW : WellFormed ops) (hL : Linearizable cfgMpscr ops) :
    check { disc := .fifo, capacity := 0, drained := true, perProducerFifo := true } ops = none :=
  check_sound cfgMpscr ops hW hL

theorem check_sound_distFifo (ops : List Op) (hW : WellFormed ops)
    (hL : Linearizable cfgDistFifo ops) :
    check { disc := .fifo, capacity := 0, drained := true, checkEmpty := false } ops = none :=
  check_sound cfgDistFifo ops hW hL

theorem check_sound_ring (size : Nat) (ops : List Op) (hW : WellFormed ops)
    (hL : Linearizable (cfgRing size) ops) :
    check { disc := .fifo, capacity := size, drained := true, failOnlyAlone := true } ops = none :=
  check_sound (cfgRing size) ops hW hL

theorem check_sound_wsd (ops : List Op) (hW : WellFormed ops) (hL : Linearizable cfgWsd ops) :
    check { disc := .bag, drained := true, checkEmpty := true, failOnlyAlone := true } ops = none :=
  check_sound cfgWsd ops hW hL

theorem check_sound_mpmc (ops : List Op) (hW : WellFormed ops) (hL : Linearizable cfgMpmc ops) :
    check { disc := .fifo, capacity := 0, drained := true, emptyOkInFlight := true } ops = none :=
  check_sound cfgMpmc ops hW hL

theorem check_sound_chan (cap : Nat) (complete : Bool) (ops : List Op) (hW : WellFormed ops)
    (hL : Linearizable (cfgChan cap complete) ops) :
    check { disc := .fifo, capacity := cap, drained := complete, checkEmpty := true,
            emptyOkInFlight := true, perProducerFifo := true } ops = none :=
  check_sound (cfgChan cap complete) ops hW hL

theorem check_sound_multiChan (cap : Nat) (complete : Bool) (ops : List Op) (hW : WellFormed ops)
    (hL : Linearizable (cfgMultiChan cap complete) ops) :
    check { disc := .fifo, capacity := cap, drained := complete, checkEmpty := false } ops = none :=
  check_sound (cfgMultiChan cap complete) ops hW hL

/-! ## What the clauses look for (sanity: the list programs say what the comments say) -/

/-- `check` is silent iff every clause is silent (`cInvented` … are the clauses of `check`, named;
    that `check` is their cascade holds by unfolding). -/
theorem check_silent_iff (cfg : Cfg) (ops : List Op) :
    check cfg ops = none ↔
      cInvented ops = none ∧ cDuplicate ops = none ∧ cPhantom ops = none ∧ cOrder cfg ops = none ∧
      cLost cfg ops = none ∧ cEmptyLie cfg ops = none ∧
      (0 < cfg.capacity → cOverfull cfg ops = none ∧ cFullLie cfg ops = none) :=
  check_eq_none_iff cfg ops

/-- `invented` is silent iff every successfully popped value has a push call that started before
    the pop returned -/
theorem invented_silent_iff (ops : List Op) :
    cInvented ops = none ↔
      ∀ p ∈ ops, okPop p = true → ∃ q ∈ ops, q.isPush = true ∧ q.val = p.val ∧ q.call < p.ret :=
  cInvented_eq_none_iff ops

/-- `duplicate` fires iff two different successful pop calls returned the same value -/
theorem duplicate_silent_iff (ops : List Op) :
    cDuplicate ops = none ↔
      ∀ p ∈ ops, ∀ q ∈ ops, okPop p = true → okPop q = true → q.val = p.val → q.call = p.call :=
  cDuplicate_eq_none_iff ops

/-- `phantom` is silent iff no successfully popped value is the value of a failed push -/
theorem phantom_silent_iff (ops : List Op) :
    cPhantom ops = none ↔
      ∀ p ∈ ops, ∀ q ∈ ops, okPop p = true → q.isPush = true → q.val = p.val → q.ok = true :=
  cPhantom_eq_none_iff ops

/-- `lost` is silent iff (when the harness drained) every successfully pushed value was popped -/
theorem lost_silent_iff (cfg : Cfg) (ops : List Op) :
    cLost cfg ops = none ↔
      (cfg.drained = true →
        ∀ a ∈ ops, okPush a = true → ∃ p ∈ ops, okPop p = true ∧ p.val = a.val) :=
  cLost_eq_none_iff cfg ops

/-! ## Non-vacuity: linearizable histories WITH overlap on which `check` is silent

`psh t v c r` = thread `t` pushed `v` successfully, called at position `c`, returned at `r`;
`pshF` = push that reported failure; `pp t v c r` = pop that returned `v`; `ppE` = pop that
reported EMPTY. -/

def psh (t v c r : Nat) : Op :=
  { thread := t, isPush := true, val := v, ok := true, call := c, ret := r }
def pshF (t v c r : Nat) : Op :=
  { thread := t, isPush := true, val := v, ok := false, call := c, ret := r }
def pp (t v c r : Nat) : Op :=
  { thread := t, isPush := false, val := v, ok := true, call := c, ret := r }
def ppE (t c r : Nat) : Op :=
  { thread := t, isPush := false, val := 0, ok := false, call := c, ret := r }

/-- the sequential specifications are what they should be -/
example : run cfgSpsc [] [] [psh 1 1 1 2, psh 1 2 3 4, pp 2 1 5 6, pp 2 2 7 8] = some [] := rfl
example : run cfgSpsc [] [] [psh 1 1 1 2, psh 1 2 3 4, pp 2 2 5 6] = none := rfl
example : run cfgLifo [] [] [psh 1 1 1 2, psh 1 2 3 4, pp 2 2 5 6, pp 2 1 7 8] = some [] := rfl
example : run cfgLifo [] [] [psh 1 1 1 2, psh 1 2 3 4, pp 2 1 5 6] = none := rfl
example : run cfgWsd [] [] [psh 1 1 1 2, psh 1 2 3 4, pp 2 1 5 6, pp 2 2 7 8] = some [] := rfl
example : run cfgWsd [] [] [psh 1 1 1 2, psh 1 2 3 4, pp 2 2 5 6, pp 2 1 7 8] = some [] := rfl
example : run cfgSpsc [] [] [ppE 1 1 2] = some [] := rfl
example : run cfgSpsc [] [] [psh 1 1 1 2, ppE 2 3 4] = none := rfl
example : run cfgSpsc [] [] [pp 1 7 1 2] = none := rfl
example : run (cfgRing 1) [] [] [psh 1 1 1 2, psh 1 2 3 4] = none := rfl
example : run (cfgRing 1) [psh 1 1 1 2, pshF 1 2 3 4] [] [psh 1 1 1 2, pshF 1 2 3 4]
    = some [psh 1 1 1 2] := rfl
example : run (cfgRing 2) [psh 1 1 1 2, pshF 1 2 3 4] [] [psh 1 1 1 2, pshF 1 2 3 4] = none := rfl

/-- two overlapping pushes, two overlapping pops; the linearization reorders both pairs -/
def hOverlap : List Op := [psh 2 2 2 3, psh 1 1 1 4, pp 1 1 6 7, pp 3 2 5 8]
example : WellFormed hOverlap := by decide
example : Linearization cfgSpsc hOverlap [psh 2 2 2 3, psh 1 1 1 4, pp 3 2 5 8, pp 1 1 6 7] [] := by
  decide
example : check cfgSpsc hOverlap = none := rfl

/-- an EMPTY pop during an in-flight push, STRICT queue: linearized before the push -/
def hEmptyInFlight : List Op := [ppE 2 2 3, psh 1 1 1 4, pp 2 1 5 6]
example : WellFormed hEmptyInFlight := by decide
example : Linearization cfgSpsc hEmptyInFlight [ppE 2 2 3, psh 1 1 1 4, pp 2 1 5 6] [] := by decide
example : check cfgSpsc hEmptyInFlight = none := rfl

/-- a try-push that FAILS although there is room (capacity 2, one item) because a pop overlaps
    it — legal for the ring buffer (`failOnlyAlone`) -/
def hSpuriousFail : List Op :=
  [psh 1 1 1 2, pp 3 1 4 5, pshF 2 2 3 6, psh 2 3 7 8, pp 3 3 9 10]
example : WellFormed hSpuriousFail := by decide
example : Linearization (cfgRing 2) hSpuriousFail
    [psh 1 1 1 2, pshF 2 2 3 6, pp 3 1 4 5, psh 2 3 7 8, pp 3 3 9 10] [] := by decide
example : check (cfgRing 2) hSpuriousFail = none := rfl

/-- a try-pop that reports EMPTY although value 1 is present throughout, because a push overlaps
    it: legal for the MPSC queue (`failOnlyAlone`) and for the optimistic MPMC queue
    (`emptyOkInFlight`) — and NOT for a strict queue (below) -/
def hSpuriousEmpty : List Op := [psh 1 1 1 2, psh 3 2 4 5, ppE 2 3 6, pp 2 1 7 8, pp 2 2 9 10]
example : WellFormed hSpuriousEmpty := by decide
example : Linearization cfgMpsc hSpuriousEmpty
    [psh 1 1 1 2, ppE 2 3 6, psh 3 2 4 5, pp 2 1 7 8, pp 2 2 9 10] [] := by decide
example : check cfgMpsc hSpuriousEmpty = none := rfl
example : Linearization cfgMpmc hSpuriousEmpty
    [psh 1 1 1 2, ppE 2 3 6, psh 3 2 4 5, pp 2 1 7 8, pp 2 2 9 10] [] := by decide
example : check cfgMpmc hSpuriousEmpty = none := rfl
example : check cfgSpsc hSpuriousEmpty = some
    "emptyLie: thread 2 pop at 3 reported empty while a value was present throughout" := rfl
example : ¬ Linearizable cfgSpsc hSpuriousEmpty :=
  not_linearizable_of_alarm _ _ (by decide) rfl

/-- stack: pop→1 overlaps push 3 and is linearized before it -/
def hLifo : List Op :=
  [psh 1 1 1 2, psh 1 2 3 4, pp 2 2 5 6, pp 2 1 8 9, psh 1 3 7 10, pp 2 3 11 12]
example : WellFormed hLifo := by decide
example : Linearization cfgLifo hLifo
    [psh 1 1 1 2, psh 1 2 3 4, pp 2 2 5 6, pp 2 1 8 9, psh 1 3 7 10, pp 2 3 11 12] [] := by decide
example : check cfgLifo hLifo = none := rfl

/-- relaxed MPSC: values of DIFFERENT producers may overtake each other -/
def hRelaxed : List Op := [psh 1 1 1 2, psh 2 2 3 4, pp 3 2 5 6, pp 3 1 7 8]
example : WellFormed hRelaxed := by decide
example : Linearization cfgMpscr hRelaxed hRelaxed [] := by decide
example : check cfgMpscr hRelaxed = none := rfl
example : check cfgSpsc hRelaxed = some "order: 1 pushed before 2 but popped after it" := rfl

/-- work-stealing deque as a bag: owner pop and thief steal overlap -/
def hBag : List Op := [psh 1 1 1 2, psh 1 2 3 4, pp 1 2 6 7, pp 2 1 5 8, ppE 2 9 10]
example : WellFormed hBag := by decide
example : Linearization cfgWsd hBag [psh 1 1 1 2, psh 1 2 3 4, pp 2 1 5 8, pp 1 2 6 7, ppE 2 9 10] [] := by
  decide
example : check cfgWsd hBag = none := rfl

/-- bounded channel of capacity 1: the second send blocks until the receive -/
def hChan : List Op := [psh 1 1 1 2, pp 2 1 4 5, psh 1 2 3 6, pp 2 2 7 8]
example : WellFormed hChan := by decide
example : Linearization (cfgChan 1 true) hChan hChan [] := by decide
example : check (cfgChan 1 true) hChan = none := rfl
example : check (cfgMultiChan 1 true) hChan = none := rfl
/-- an incomplete run (`drained = false`) may leave values behind -/
example : Linearization (cfgChan 1 false) [psh 1 1 1 2] [psh 1 1 1 2] [psh 1 1 1 2] := by decide
example : check (cfgChan 1 false) [psh 1 1 1 2] = none := rfl

/-- Model/Stack.lean: a flush `[5,6]` that handed out 2 then 1 (LIFO flush) is encoded as two pops
    sharing the flush's positions; listing them in container order linearizes them -/
def hFlush : List Op := [psh 1 1 1 2, psh 1 2 3 4, pp 2 2 5 6, pp 2 1 5 6, ppE 2 7 8]
example : WellFormed hFlush := by decide
example : Linearization cfgSpsc hFlush [psh 1 1 1 2, psh 1 2 3 4, pp 2 1 5 6, pp 2 2 5 6, ppE 2 7 8] [] := by
  decide
example : check cfgSpsc hFlush = none := rfl

/-- `opsOf` end to end: the notes of `hEmptyInFlight` -/
example : opsOf [.callPush 1 1, .callPop 2, .retPop 2 0, .retPush 1 1, .callPop 2, .retPop 2 1]
    = hEmptyInFlight := rfl

/-! ### Caveat: INCOMPLETE runs are outside the theorem

`opsOf` drops calls that never returned.  If a run stops while a push is still pending and its
value has already been popped, `invented` fires although the (incomplete) history is fine.
tools/check.py runs the monitor only next to the run status, and a run that stopped early has a
failing status (HANG/BUDGET) for every queue part, so this cannot turn a passing input into a
failing one; it can only add a misleading second message to an already failing run. -/
example : check cfgSpsc (opsOf [.callPush 1 5, .callPop 2, .retPop 2 5])
    = some "invented: pop returned 5 which was not pushed before" := rfl

/-! ## Contrast: one non-linearizable history per clause, on which that clause fires -/

def hInvented : List Op := [pp 1 9 1 2, psh 2 9 3 4]
example : check cfgSpsc hInvented = some "invented: pop returned 9 which was not pushed before" := rfl
example : ¬ Linearizable cfgSpsc hInvented := not_linearizable_of_alarm _ _ (by decide) rfl

def hDuplicate : List Op := [psh 1 1 1 2, pp 2 1 3 4, pp 3 1 5 6]
example : check cfgSpsc hDuplicate = some "duplicate: value 1 popped twice" := rfl
example : ¬ Linearizable cfgSpsc hDuplicate := not_linearizable_of_alarm _ _ (by decide) rfl

def hPhantom : List Op := [pshF 1 1 1 2, pp 2 1 3 4]
example : check (cfgRing 2) hPhantom
    = some "phantom: value 1 popped although its push reported failure" := rfl
example : ¬ Linearizable (cfgRing 2) hPhantom := not_linearizable_of_alarm _ _ (by decide) rfl

def hOrder : List Op := [psh 1 1 1 2, psh 1 2 3 4, pp 2 2 5 6, pp 2 1 7 8]
example : check cfgSpsc hOrder = some "order: 1 pushed before 2 but popped after it" := rfl
example : ¬ Linearizable cfgSpsc hOrder := not_linearizable_of_alarm _ _ (by decide) rfl
/-- same producer: also a per-producer-FIFO violation -/
example : check cfgMpscr hOrder = some "order: 1 pushed before 2 but popped after it" := rfl
example : ¬ Linearizable cfgMpscr hOrder := not_linearizable_of_alarm _ _ (by decide) rfl

def hOrderLifo : List Op := [psh 1 1 1 2, psh 1 2 3 4, pp 2 1 5 6, pp 2 2 7 8]
example : check cfgLifo hOrderLifo
    = some "order: 2 was pushed on top of 1 but 1 was popped from under it" := rfl
example : ¬ Linearizable cfgLifo hOrderLifo := not_linearizable_of_alarm _ _ (by decide) rfl

def hLost : List Op := [psh 1 1 1 2, psh 1 2 3 4, pp 2 1 5 6]
example : check cfgSpsc hLost = some "lost: value 2 was pushed successfully but never popped" := rfl
example : ¬ Linearizable cfgSpsc hLost := not_linearizable_of_alarm _ _ (by decide) rfl

def hEmptyLie : List Op := [psh 1 1 1 2, ppE 2 3 4, pp 2 1 5 6]
example : check cfgSpsc hEmptyLie = some
    "emptyLie: thread 2 pop at 3 reported empty while a value was present throughout" := rfl
example : ¬ Linearizable cfgSpsc hEmptyLie := not_linearizable_of_alarm _ _ (by decide) rfl
/-- the pop overlapped nothing, so the excuses of the weaker containers do not apply either -/
example : ¬ Linearizable cfgMpsc hEmptyLie := not_linearizable_of_alarm _ _ (by decide) rfl
example : ¬ Linearizable cfgMpmc hEmptyLie := not_linearizable_of_alarm _ _ (by decide) rfl
example : ¬ Linearizable cfgWsd hEmptyLie := not_linearizable_of_alarm _ _ (by decide) rfl

def hOverfull : List Op := [psh 1 1 1 2, psh 1 2 3 4, pp 2 1 5 6, pp 2 2 7 8]
example : check (cfgChan 1 true) hOverfull
    = some "overfull: after push of 2 more than 1 items are present" := rfl
example : ¬ Linearizable (cfgChan 1 true) hOverfull :=
  not_linearizable_of_alarm _ _ (by decide) rfl

def hFullLie : List Op := [psh 1 1 1 2, pshF 1 2 3 4, pp 2 1 5 6]
example : check (cfgRing 2) hFullLie
    = some "fullLie: push of 2 failed alone although the buffer had room" := rfl
example : ¬ Linearizable (cfgRing 2) hFullLie := not_linearizable_of_alarm _ _ (by decide) rfl

end LibfiberVerif.QueueHist
