/-
  Props/C10.lean — fiber_yield is fair on a kernel thread.

  "fiber_yield lets the other ready fibers of the thread run: a ready fiber is bypassed at most
   a bounded number of times - bounded by the number of ready fibers, independent of how long
   the others keep yielding - before it runs again."

  Model: `Sched.sys tgt` (Model/Sched.lean), validated against the real scheduler on one
  kernel thread (exact run order).  `Target.storeTo` is what src/fiber_scheduler_wsd.c does
  now; `Target.scheduleFrom` is what it did before the fix commit.

  Vocabulary (Proof/Sched.lean):
    Queued f s   := f ∈ s.frm ∨ f ∈ s.to                     (f is ready, not running)
    pos f l      := index of the first occurrence of f in l
    rank f s     := if f ∈ s.frm then pos f s.frm else 2 * s.frm.length + pos f s.to
    switches es  := number of `switch _` events in es         (context switches)
    scheds es    := number of `sched _` events in es          (newly created fibers)
    isSched e    := e is a `sched _` event
    Wf s         := (s.frm ++ s.to).Nodup ∧ s.cur ∉ s.frm ∧ s.cur ∉ s.to

  All theorems quantify over every accepted event list: any number of fibers, any pattern of
  yield / finish / create, any length.
-/
import LibfiberVerif.Proof.Sched
import LibfiberVerif.Proof.SchedN

namespace LibfiberVerif.C10
open LibfiberVerif.Sched

/-! ## 0. well-formedness of every reachable state (both variants) -/

/-- No fiber is queued twice and the running fiber is not queued. -/
theorem reachable_wf (tgt : Target) : ∀ es s, (sys tgt).run es = some s →
    (s.frm ++ s.to).Nodup ∧ s.cur ∉ s.frm ∧ s.cur ∉ s.to := by
  intro es s h
  have hw := wf_of_run tgt h
  exact ⟨hw.nodup, hw.cur⟩

/-! ## 1. bounded bypass (the code as it is: `storeTo`) -/

/-- The measure is bounded by the number of ready fibers. -/
theorem rank_bounded : ∀ es s, (sys .storeTo).run es = some s → ∀ f, Queued f s →
    rank f s < 2 * s.frm.length + s.to.length ∧
    rank f s ≤ 2 * (s.frm.length + s.to.length) + 1 := by
  intro es s _ f hq
  have := rank_lt hq
  omega

/-- Every context switch to another fiber strictly decreases the rank of a queued fiber
    (and leaves it queued). -/
theorem switch_decreases_rank : ∀ es s, (sys .storeTo).run es = some s → ∀ f, Queued f s →
    ∀ g s', g ≠ f → (sys .storeTo).step s (.switch g) = some s' →
    Queued f s' ∧ rank f s' < rank f s := by
  intro es s _ f hq g s' hgf hst
  have hst' : step .storeTo s (.switch g) = some s' := hst
  have h := rank_step hq hst' (by intro h; injection h with h; exact hgf h)
  simp [isSwitch, isSched] at h
  exact ⟨h.1, by omega⟩

/-- `yield`, `finish`, `resumed` never increase it - however often the others yield. -/
theorem other_events_keep_rank : ∀ es s, (sys .storeTo).run es = some s → ∀ f, Queued f s →
    ∀ e s', isSwitch e = false → isSched e = false → (sys .storeTo).step s e = some s' →
    Queued f s' ∧ rank f s' ≤ rank f s := by
  intro es s _ f hq e s' h1 h2 hst
  have hst' : step .storeTo s e = some s' := hst
  have h := rank_step hq hst' (by intro h; subst h; simp [isSwitch] at h1)
  simpa [h1, h2] using h

/-- Creating a new fiber costs a waiting fiber at most one more bypass. -/
theorem sched_adds_at_most_one : ∀ es s, (sys .storeTo).run es = some s → ∀ f, Queued f s →
    ∀ g s', (sys .storeTo).step s (.sched g) = some s' →
    Queued f s' ∧ rank f s' ≤ rank f s + 1 := by
  intro es s _ f hq g s' hst
  have hst' : step .storeTo s (.sched g) = some s' := hst
  have h := rank_step hq hst' (by intro h; cases h)
  simpa [isSwitch, isSched] using h

/-- General form: from any reachable state in which `f` is ready, along ANY accepted
    continuation in which `f` is not switched to, the number of context switches is smaller
    than `2·|schedule_from| + |store_to|` (taken when `f` started waiting) plus the number of
    fibers created meanwhile - no matter how many `yield`s the continuation contains. -/
theorem bounded_bypass_with_creation : ∀ es s, (sys .storeTo).run es = some s →
    ∀ f, Queued f s →
    ∀ es' s', (sys .storeTo).runFrom s es' = some s' →
    (∀ e ∈ es', e ≠ .switch f) →
    Queued f s' ∧ switches es' < 2 * s.frm.length + s.to.length + scheds es' := by
  intro es s _ f hq es' s' hr hne
  have h := rank_run es' s s' hq hr hne
  have := rank_lt hq
  exact ⟨h.1, by omega⟩

/-- Bounded bypass: a ready fiber `f` is bypassed at most `2·n + 1` times
    (`n` = number of ready fibers when it starts waiting) before it runs again, independent of
    how often the others yield.  (No fiber creation in the continuation; see
    `bounded_bypass_with_creation` for the general form.) -/
theorem bounded_bypass : ∀ es s, (sys .storeTo).run es = some s →
    ∀ f, Queued f s →
    ∀ es' s', (sys .storeTo).runFrom s es' = some s' →
    (∀ e ∈ es', isSched e = false) →
    (∀ e ∈ es', e ≠ .switch f) →
    switches es' ≤ 2 * (s.frm.length + s.to.length) + 1 := by
  intro es s hs f hq es' s' hr hns hne
  have h := (bounded_bypass_with_creation es s hs f hq es' s' hr hne).2
  have h0 : scheds es' = 0 := List.countP_eq_zero.mpr fun e he => by simp [hns e he]
  omega

/-! ## 2. while `f` waits, every other fiber runs at most twice -/

/-- From any reachable state in which `f` is ready: before `f` is switched to, any other
    fiber `g` is switched to at most twice (absent fiber creation). -/
theorem batch_runs_all : ∀ es s, (sys .storeTo).run es = some s →
    ∀ f g, g ≠ f → Queued f s →
    ∀ es' s', (sys .storeTo).runFrom s es' = some s' →
    (∀ e ∈ es', isSched e = false) →
    (∀ e ∈ es', e ≠ .switch f) →
    es'.count (.switch g) ≤ 2 := by
  intro es s hs f g hgf hq es' s' hr hns hne
  have hw := wf_of_run _ hs
  have h := credit_run hgf es' s s' hw hr (Or.inl (queued_run _ es' s s' hq hr hne)) hne hns
  have := credit_le_two (g := g) (f := f) hw
  omega

/-- Between two consecutive runs of `f` every other fiber is switched to at most twice
    (absent fiber creation in between): one batch of the two-queue scheme, plus the tail of
    the batch that was in progress when `f` yielded. -/
theorem between_consecutive_runs : ∀ es f es' s',
    (sys .storeTo).run (es ++ [.switch f] ++ es' ++ [.switch f]) = some s' →
    (∀ e ∈ es', isSched e = false) →
    (∀ e ∈ es', e ≠ .switch f) →
    ∀ g, g ≠ f → es'.count (.switch g) ≤ 2 := by
  intro es f es' s' hrun hns hne g hgf
  obtain ⟨s2, h12, hlast⟩ := Sys.runFrom_append_some hrun
  obtain ⟨s1, h1, hmid⟩ := Sys.runFrom_append_some h12
  -- right before the second `switch f`, `f` is queued
  have ha2 : Alive f s2 := Or.inl (switch_queued (Sys.runFrom_singleton_some.mp hlast))
  have h := credit_run hgf es' s1 s2 (wf_of_run _ h1) hmid ha2 hne hns
  have := credit_le_two (g := g) (f := f) (wf_of_run _ h1)
  omega

/-! ## 3. the old variant (`scheduleFrom`) starves -/

/-- Main fiber 0 creates fibers 3, 2, 1 and then 0 and 1 yield to each other: for every `k`
    there is an accepted continuation with `2·k` context switches during which fiber 3 is
    ready all the time and never runs. -/
theorem unfair_witness (k : Nat) : ∃ (s0 : St) (es' : List Ev),
    (sys .scheduleFrom).run [.sched 3, .sched 2, .sched 1] = some s0 ∧
    Queued 3 s0 ∧ s0.frm.length + s0.to.length = 3 ∧
    (∃ s', (sys .scheduleFrom).runFrom s0 es' = some s') ∧
    (∀ e ∈ es', isSched e = false) ∧
    (∀ e ∈ es', e ≠ .switch 3) ∧
    switches es' = 2 * k ∧
    (∀ es1 es2, es' = es1 ++ es2 →
      ∃ s1, (sys .scheduleFrom).runFrom s0 es1 = some s1 ∧ Queued 3 s1) := by
  refine ⟨ppState, pingpong k, ppStart_run, by decide, by decide, ⟨ppState, pingpong_run k⟩,
    ?_, ?_, ?_, ?_⟩
  · intro e he
    exact (ppCycle_props e (mem_rep he)).1
  · intro e he
    exact (ppCycle_props e (mem_rep he)).2
  · have : switches ppCycle = 2 := by decide
    rw [switches, pingpong, countP_rep, ← switches, this, Nat.mul_comm]
  · intro es1 es2 heq
    have hr := pingpong_run k
    rw [heq, Sys.runFrom_append] at hr
    cases h1 : (sys .scheduleFrom).runFrom ppState es1 with
    | none => simp [h1] at hr
    | some s1 =>
      refine ⟨s1, rfl, queued_run _ es1 ppState s1 (by decide) h1 ?_⟩
      intro e he
      have : e ∈ pingpong k := by rw [heq]; simp [he]
      exact (ppCycle_props e (mem_rep this)).2

/-- Consequently no bound that depends only on the state in which the fiber started waiting
    holds for the `scheduleFrom` variant: the statement of `bounded_bypass` is false for it,
    for every candidate bound `B`. -/
theorem scheduleFrom_unbounded (B : St → Nat) :
    ¬ ∀ es s, (sys .scheduleFrom).run es = some s →
      ∀ f, Queued f s →
      ∀ es' s', (sys .scheduleFrom).runFrom s es' = some s' →
      (∀ e ∈ es', isSched e = false) →
      (∀ e ∈ es', e ≠ .switch f) →
      switches es' ≤ B s := by
  intro hall
  obtain ⟨s0, es', h0, hq, _, ⟨s', hr⟩, hns, hne, hsw, _⟩ := unfair_witness (B ppState + 1)
  have hs0 : s0 = ppState := by
    have := ppStart_run
    simp only [ppStart] at this
    rw [this] at h0
    exact (Option.some.inj h0).symm
  subst hs0
  have := hall _ _ h0 3 hq es' s' hr hns hne
  omega

/-! ## 4. non-vacuity -/

/-- Four fibers on the real (`storeTo`) scheduler, everybody yields: the run order is
    3, 2, 1, 2, 3, 0 - all four fibers run. -/
example : (sys .storeTo).run
    [.sched 1, .sched 2, .sched 3,
     .yield 0, .switch 3, .resumed 3, .yield 3, .switch 2, .resumed 2, .yield 2, .switch 1,
     .resumed 1, .yield 1, .switch 2, .resumed 2, .yield 2, .switch 3, .resumed 3, .yield 3,
     .switch 0, .resumed 0]
    = some { frm := [], to := [3, 2, 1], cur := 0, phase := .running } := by decide

/-- The hypotheses of `bounded_bypass` / `batch_runs_all` are satisfiable and the sharp bound
    of `bounded_bypass_with_creation` is attained: fiber 0 starts waiting with
    `schedule_from = [2, 1]`, `store_to = [0]` and is bypassed `2·2 + 1 − 1 = 4` times
    (fiber 2 twice), then it is at the head of the queue. -/
example : ∃ es s es' s', (sys .storeTo).run es = some s ∧ Queued 0 s ∧
    (sys .storeTo).runFrom s es' = some s' ∧
    (∀ e ∈ es', isSched e = false) ∧ (∀ e ∈ es', e ≠ .switch 0) ∧
    switches es' + 1 = 2 * s.frm.length + s.to.length ∧
    es'.count (.switch 2) = 2 ∧
    (sys .storeTo).step s' (.switch 0) ≠ none :=
  ⟨[.sched 1, .sched 2, .sched 3, .yield 0, .switch 3],
   { frm := [2, 1], to := [0], cur := 3, phase := .running },
   [.resumed 3, .yield 3, .switch 2, .resumed 2, .yield 2, .switch 1,
    .resumed 1, .yield 1, .switch 2, .resumed 2, .yield 2, .switch 3, .resumed 3, .yield 3],
   { frm := [0], to := [2, 1], cur := 3, phase := .yielding },
   by decide⟩

/-- The hypotheses of `between_consecutive_runs` are satisfiable and its bound 2 is attained:
    between the two runs of fiber 3, fiber 2 runs twice and fiber 1 once. -/
example : ∃ s', (sys .storeTo).run
    ([.sched 1, .sched 2, .sched 3, .yield 0] ++ [.switch 3] ++
     [.resumed 3, .yield 3, .switch 2, .resumed 2, .yield 2, .switch 1,
      .resumed 1, .yield 1, .switch 2, .resumed 2, .yield 2] ++ [.switch 3]) = some s' ∧
    List.count (Ev.switch 2)
      ([.resumed 3, .yield 3, .switch 2, .resumed 2, .yield 2, .switch 1,
        .resumed 1, .yield 1, .switch 2, .resumed 2, .yield 2] : List Ev) = 2 :=
  ⟨{ frm := [0], to := [2, 1], cur := 3, phase := .running }, by decide⟩

/-- The same program on the `scheduleFrom` variant: after `sched 3, 2, 1` fibers 0 and 1
    alternate; eight context switches (more than the `2·3 + 1` that `bounded_bypass` allows)
    and fiber 3 has not run. -/
example : ∃ s', (sys .scheduleFrom).run
    ([.sched 3, .sched 2, .sched 1] ++ pingpong 4) = some s' ∧ Queued 3 s' ∧
    switches (pingpong 4) = 8 ∧ (∀ e ∈ pingpong 4, e ≠ .switch 3) :=
  ⟨{ frm := [1, 2, 3], to := [], cur := 0, phase := .running }, by decide⟩

end LibfiberVerif.C10

/-! # C10 on N kernel threads with work stealing (model `SchedN`)

  The multi-thread corollary of §1–§2: model `SchedN.sys maxSteal` (Model/SchedN.lean) has
  kernel threads `k : Nat` (unbounded), each with `frm k` / `to k` / `cur k` and the events of
  `Sched` per thread at the granularity of the run-queue log (`pop` / `skip` / `switch` /
  `pushed` for fiber_scheduler_next and the pushes that follow it, `finish k sv` + `saved` for
  a fiber that parks in state SAVING_STATE_TO_WAIT, `idle` for the way into the maintenance
  loop), plus `steal k j w f`: thread `k`, inside a `fiber_scheduler_load_balance` call, takes
  the TOP (last list element) of thread `j`'s deque `w` and pushes it onto the BOTTOM of its own
  `schedule_from`.  Facts about load_balance in the model (source lines in Model/SchedN.lean):
  steal from the top (fiber_scheduler_wsd.c:136-137), push onto the thief's own `schedule_from`
  bottom (:142), at most `max_steal = 50` per call (:120,:135,:145), called only by a thread in
  scheduler code whose `schedule_from` is empty (fiber_manager.c:108-128 and :163-171) — its
  `store_to` may hold fibers (skipped ones, SAVING_STATE_TO_WAIT).  The guard
  `remote_count > local_count` (:135) is deliberately NOT assumed (the theorems hold without
  it); `steal_pingpong` shows that it does not prevent ping-pong either.

  Vocabulary (Proof/SchedN.lean):
    QueuedOn k f s     := f ∈ s.frm k ∨ f ∈ s.to k
    rankOn k f s       := Sched.rank f ⟨s.frm k, s.to k, _, _⟩   (the one-thread rank, on thread k)
    s.loc f            ghost: the thread holding f (queued or running); exact by `one_place`
    s.busy             ghost: the fibers that are somewhere; exact by `one_place`
    s.lb k             ghost: steals made by k in its load_balance call in progress (0 = none)
    s.sav f            f's state word is SAVING_STATE_TO_WAIT (its context is being saved)
    holderSwitches M f s es := number of `switch k _` events in the run of `es` from `s` with
                          `k` = the thread holding `f` at that moment
    stealsOf f es      := number of `steal _ _ _ f` events in es
    scheds es          := number of `sched _ _` events in es
    isRunOf f e        := e is `switch _ f`;   isSched e := e is `sched _ _`;
    isSchedOf f e      := e is `sched _ f`
    actor e            := the thread performing e

  Tie to the code: `SchedN.drive` replays the run-queue events (`rqpush` / `rqpop` / `rqsteal`),
  the context switches and the fiber-state accesses of fiber_manager_yield /
  fiber_scheduler_next of every N-thread log of harness/yield.c through `SchedN.step`, one
  model event per log line; the one-thread model is validated exactly (run order) by
  `Sched.drive`.
-/
namespace LibfiberVerif.SchedN

/-! ## N.0 a fiber is in at most one place -/

/-- In every reachable state: `loc f = some k` iff `f` is queued on `k` or is `k`'s current
    fiber; no deque pair holds a fiber twice; the current fiber is not queued; `busy` lists
    exactly the fibers that are somewhere, once each.  Hence a fiber is in at most one place. -/
theorem one_place (M : Nat) : ∀ es s, (sys M).run es = some s →
    (∀ f k, s.loc f = some k ↔ (f ∈ s.frm k ∨ f ∈ s.to k ∨ s.cur k = some f)) ∧
    (∀ k, (s.frm k ++ s.to k).Nodup) ∧
    (∀ k f, s.cur k = some f → f ∉ s.frm k ∧ f ∉ s.to k) ∧
    (∀ f, f ∈ s.busy ↔ s.loc f ≠ none) ∧ s.busy.Nodup ∧
    (∀ f k j, (f ∈ s.frm k ∨ f ∈ s.to k ∨ s.cur k = some f) →
      (f ∈ s.frm j ∨ f ∈ s.to j ∨ s.cur j = some f) → k = j) := by
  intro es s h
  have hI := inv_of_run h
  refine ⟨fun f k => hI.loc_iff f k, hI.nodup, hI.curNot, hI.busyIff, hI.busyNodup, ?_⟩
  intro f k j hk hj
  exact Option.some.inj (((hI.loc_iff f k).mpr hk).symm.trans ((hI.loc_iff f j).mpr hj))

/-! ## N.1 the rank of a queued fiber on the thread that holds it -/

/-- (a) A context switch on the holder to another fiber strictly decreases the rank, exactly as
    on one kernel thread. -/
theorem switch_on_holder_decreases_rank (M : Nat) : ∀ es s, (sys M).run es = some s →
    ∀ k f, QueuedOn k f s → ∀ g s', g ≠ f → (sys M).step s (.switch k g) = some s' →
    QueuedOn k f s' ∧ rankOn k f s' < rankOn k f s := by
  intro es s h k f hq g s' hgf hst
  exact rank_switch (M := M) hq hst hgf

/-- (a') fiber_scheduler_next on the holder skips another fiber whose context is still being
    saved (fiber_scheduler_wsd.c:108-109): no context switch, and the rank strictly decreases. -/
theorem skip_on_holder_decreases_rank (M : Nat) : ∀ es s, (sys M).run es = some s →
    ∀ k f, QueuedOn k f s → ∀ g s', g ≠ f → (sys M).step s (.skip k g) = some s' →
    QueuedOn k f s' ∧ rankOn k f s' < rankOn k f s := by
  intro es s _ k f hq g s' hgf hst
  exact rank_skip (M := M) hq hst hgf

/-- (b) Events of OTHER threads never increase the rank of `f` on its holder `k` and leave it
    queued there — except a steal that moves `f` itself. -/
theorem other_threads_keep_rank (M : Nat) : ∀ es s, (sys M).run es = some s →
    ∀ k f, QueuedOn k f s → ∀ e s', actor e ≠ k → isStealOf f e = false →
    (sys M).step s e = some s' →
    QueuedOn k f s' ∧ rankOn k f s' ≤ rankOn k f s := by
  intro es s h k f hq e s' ha hnf hst
  exact rank_other_thread (inv_of_run h) hq hst ha hnf

/-- (d) Stealing takes from the TOP, i.e. the entry the holder would have run LAST: a steal of
    another fiber `h ≠ f` from the holder leaves `f`'s rank unchanged, or lowers it by exactly 2
    when `f` waits in `store_to` and the loot comes out of `schedule_from`. -/
theorem steal_from_top_exact (M : Nat) : ∀ es s, (sys M).run es = some s →
    ∀ k f, QueuedOn k f s → ∀ j w h s', h ≠ f → (sys M).step s (.steal j k w h) = some s' →
    QueuedOn k f s' ∧
      rankOn k f s' = rankOn k f s - (if w = .frm ∧ f ∈ s.to k then 2 else 0) := by
  intro es s hr k f hq j w h s' hhf hst
  exact rank_steal_other (inv_of_run hr) hq hst hhf

/-- The holder's own events other than `skip`, `switch` and `steal` (`yield`, `pop`, `pushed`,
    `resumed`, `idle`, `finish`, `saved`) do not move `f`. -/
theorem holder_other_events_keep_rank (M : Nat) : ∀ es s, (sys M).run es = some s →
    ∀ k f, QueuedOn k f s → ∀ e s', actor e = k → isSched e = false →
    (∀ g, e ≠ .skip k g) → (∀ g, e ≠ .switch k g) → (∀ j w g, e ≠ .steal k j w g) →
    (sys M).step s e = some s' →
    QueuedOn k f s' ∧ rankOn k f s' = rankOn k f s := by
  intro es s _ k f hq e s' ha hns hsk hsw hst hstep
  exact rank_own_other hq hstep ha hns hsk hsw hst

/-- (c) A steal of `f` moves it from its holder `j` to the BOTTOM of the thief's
    `schedule_from`: rank 0 on the new holder, and the thief's next context switch is to `f`. -/
theorem stolen_fiber_is_next (M : Nat) : ∀ es s, (sys M).run es = some s →
    ∀ k j w f s', (sys M).step s (.steal k j w f) = some s' →
    s.loc f = some j ∧ s'.loc f = some k ∧ QueuedOn k f s' ∧ rankOn k f s' = 0 ∧
    ∀ g s'', (sys M).step s' (.switch k g) = some s'' → g = f := by
  intro es s h k j w f s' hst
  obtain ⟨h2, h3, h4, h5⟩ := rank_stolen (M := M) hst
  exact ⟨steal_loc (inv_of_run h) hst, h2, h4, h5, fun g s'' hsw => switch_bottom (M := M) h3 hsw⟩

/-- (c, continued) ... unless the thief pushes more loot on top first.  When the holder `k` of a
    queued `f` steals, then EITHER `f` is loot of the load_balance call in progress (`f` is in
    `schedule_from k`, fewer than `maxSteal` steals so far) and the steal adds exactly 1 to its
    rank, OR `f` waits in `store_to k` and the steal adds exactly 2 (the loot is popped before
    the deques are swapped, and re-queued in front of `f` if it yields).
    The second case is what the real scheduler does when fiber_scheduler_next has returned NULL
    with skipped (SAVING_STATE_TO_WAIT) fibers in `store_to`: load_balance is called with only
    `schedule_from` empty.  How often it can happen is bounded by the number of fibers, see
    `holder_bypass_bounded`. -/
theorem holder_steal_adds_one_or_two (M : Nat) : ∀ es s, (sys M).run es = some s →
    ∀ k f, QueuedOn k f s → ∀ j w h s', (sys M).step s (.steal k j w h) = some s' →
    QueuedOn k f s' ∧
    ((f ∈ s.frm k ∧ 0 < s.lb k ∧ s.lb k < M ∧ s'.lb k = s.lb k + 1 ∧
        rankOn k f s' = rankOn k f s + 1) ∨
     (f ∈ s.to k ∧ rankOn k f s' = rankOn k f s + 2)) := by
  intro es s hr k f hq j w h s' hst
  exact rank_holder_steals (inv_of_run hr) hq hst

/-- A load_balance call starts with an empty `schedule_from`: a thread that steals while its
    `schedule_from` is non-empty is inside a call (`0 < lb < maxSteal`). -/
theorem steal_needs_empty_schedule_from (M : Nat) : ∀ es s, (sys M).run es = some s →
    ∀ k j w h s', (sys M).step s (.steal k j w h) = some s' →
    s.phase k ≠ .running ∧ (s.frm k = [] ∨ (0 < s.lb k ∧ s.lb k < M)) := by
  intro es s _ k j w h s' hst
  have hst : step M s (.steal k j w h) = some s' := hst
  cases Step.of_step hst with
  | steal _ hp _ hn => exact ⟨hp, hn.imp And.left fun h => ⟨h.2.1, h.2.2.1⟩⟩

/-- (c, bound) Inside a load_balance call the rank of any fiber in the thief's `schedule_from`
    is below the number of steals of the call, which is at most `maxSteal` (50 in the code). -/
theorem loot_rank_lt_max_steal (M : Nat) (hM : 0 < M) : ∀ es s, (sys M).run es = some s →
    ∀ k f, 0 < s.lb k → f ∈ s.frm k → rankOn k f s < s.lb k ∧ s.lb k ≤ M := by
  intro es s h k f hl hf
  have := rank_lt_lb (inv_of_run h) hl hf
  have hmax : max M 1 = M := by rw [Nat.max_def]; split <;> omega
  exact ⟨this.1, hmax ▸ this.2⟩

/-! ## N.2 bounded bypass across holders -/

/-- A fiber whose context is saved keeps that property as long as it is not woken (a fiber
    becomes SAVING_STATE_TO_WAIT only at the end of its own run, and is nowhere then), and
    fiber_scheduler_next never skips it. -/
theorem ready_fiber_not_skipped (M : Nat) : ∀ es s, (sys M).run es = some s →
    ∀ f, s.sav f = false ∨ s.loc f = none → ∀ es' s1 k s2, (sys M).runFrom s es' = some s1 →
    (∀ e ∈ es', isSchedOf f e = false) → (sys M).step s1 (.skip k f) = some s2 → False := by
  intro es s h f hr es' s1 k s2 h1 hns hsk
  have := Sys.runFrom_inv (fun s => Inv M s ∧ Ready f s) (isSchedOf f · = false)
    (fun s e s' hi hp hs => ⟨inv_step hi.1 hs, ready_step hi.1 hs hp hi.2⟩) es' s s1
    ⟨inv_of_run h, hr⟩ h1 hns
  exact not_skip_of_ready this.1 this.2 hsk

/-- General form.  From any reachable state in which `f`'s context is saved, along ANY accepted
    continuation without `sched` in which `f` is not switched to: the context switches on the
    thread holding `f` at that time, summed over all holders `f` passes through, number at most
    `2·(number of fibers) + (maxSteal − 1)·(1 + number of times f itself is stolen)` —
    however often the others yield, whatever the other threads do (including load_balance calls
    of the holder while `f` waits in its `store_to`).
    The hypothesis `s.sav f = false` is there because of the SAVING_STATE_TO_WAIT states:
    a fiber that was woken while its context is still being saved sits in a run queue but
    cannot run; fiber_scheduler_next skips it for as long as the thread it parked on takes
    to finish the context switch, which no number of switches of the holder bounds. -/
theorem holder_bypass_bounded (M : Nat) : ∀ es s, (sys M).run es = some s →
    ∀ f, s.sav f = false → ∀ es' s', (sys M).runFrom s es' = some s' →
    (∀ e ∈ es', isSched e = false) → (∀ e ∈ es', isRunOf f e = false) →
    holderSwitches M f s es' ≤ 2 * s.busy.length + (M - 1) * (1 + stealsOf f es') := by
  intro es s h f hsv es' s' hr hns hnr
  have hI := inv_of_run h
  have h1 := pot_run es' s s' hI (Or.inl hsv) hr
    (fun e he => isSchedOf_of_isSched (hns e he)) hnr
  have h2 := pot_le hI f
  rw [scheds_eq_zero hns] at h1
  rw [Nat.mul_add]
  omega

/-- The hypothesis `s.sav f = false` of `holder_bypass_bounded` cannot be dropped: a fiber that
    sits in a run queue in state SAVING_STATE_TO_WAIT is bypassed for as long as the thread it
    parked on takes to complete the context switch.  Thread 1 steals fiber 1 and runs it, fiber 1
    parks (SAVING), fiber 0 on thread 0 wakes it at once, and thread 1 makes no further step.
    Fibers 0 and 2 then yield to each other on thread 0: for every `n` an accepted continuation
    without `sched`, without a steal and without a run of fiber 1, with `2·n` context switches on
    the thread that holds fiber 1 — 3 fibers exist.  (fiber_scheduler_next skips fiber 1 `2·n`
    times; the moment thread 1 performs `saved 1 1` the fiber is ready and the bound applies.) -/
theorem saving_fiber_bypassed_unboundedly (M : Nat) (n : Nat) : ∃ s0 s',
    (sys M).run [.sched 0 1, .sched 0 2, .steal 1 0 .to 1, .pushed 1 .frm 1, .pop 1 1,
      .switch 1 1, .finish 1 true, .sched 0 1] = some s0 ∧
    (sys M).runFrom s0 (savingSkipped n) = some s' ∧
    s0.sav 1 = true ∧ QueuedOn 0 1 s0 ∧ QueuedOn 0 1 s' ∧ s0.busy.length = 3 ∧
    (∀ e ∈ savingSkipped n, isSched e = false) ∧ (∀ e ∈ savingSkipped n, isRunOf 1 e = false) ∧
    stealsOf 1 (savingSkipped n) = 0 ∧
    holderSwitches M 1 s0 (savingSkipped n) = 2 * n := by
  obtain ⟨s0, h0, hp0, hb0⟩ := sv_setup M
  obtain ⟨s', h1, hp1, hc⟩ := saving_run M n hp0
  obtain ⟨c1, c2⟩ := saving_props n
  exact ⟨s0, s', h0, h1, hp0.sav1, Or.inr (by simp [hp0.to0]), Or.inr (by simp [hp1.to0]), hb0,
    fun e he => (c1 e he).1, fun e he => (c1 e he).2, c2, hc⟩

/-- The same with fibers being created / woken meanwhile (`f` itself is not: it is ready, not
    parked): every `sched` costs `f` at most 2 more bypasses. -/
theorem holder_bypass_bounded_with_wakeups (M : Nat) : ∀ es s, (sys M).run es = some s →
    ∀ f, s.sav f = false → ∀ es' s', (sys M).runFrom s es' = some s' →
    (∀ e ∈ es', isSchedOf f e = false) → (∀ e ∈ es', isRunOf f e = false) →
    holderSwitches M f s es' ≤
      2 * s.busy.length + (M - 1) * (1 + stealsOf f es') + 2 * scheds es' := by
  intro es s h f hsv es' s' hr hns hnr
  have hI := inv_of_run h
  have h1 := pot_run es' s s' hI (Or.inl hsv) hr hns hnr
  have h2 := pot_le hI f
  rw [Nat.mul_add]
  omega

/-- The bound the N-thread monitor of `SchedN.drive` applies: from the moment `f` is put into
    `store_to` of a thread (re-queued after a run, woken, or skipped) and for as long as it is
    neither woken again, skipped nor switched to, the context switches on its holders number at
    most `2·(number of fibers at that moment) + (maxSteal − 1)·(times f is stolen) +
    2·(fibers created or woken meanwhile)`. -/
theorem bypass_bound_from_store_to (M : Nat) : ∀ es s, (sys M).run es = some s →
    ∀ k f, f ∈ s.to k → s.sav f = false → ∀ es' s', (sys M).runFrom s es' = some s' →
    (∀ e ∈ es', isSchedOf f e = false) → (∀ e ∈ es', isRunOf f e = false) →
    holderSwitches M f s es' ≤ 2 * s.busy.length + (M - 1) * stealsOf f es' + 2 * scheds es' := by
  intro es s h k f hf hsv es' s' hr hns hnr
  have hI := inv_of_run h
  have h1 := pot_run es' s s' hI (Or.inl hsv) hr hns hnr
  have h2 := pot_le_of_to (M := M) hI hf
  omega

/-- Between two consecutive runs of `f` (absent fiber creation in between): at most
    `2·n + (maxSteal − 1)·(times f was stolen)` context switches on the threads holding `f`,
    `n` = number of fibers alive when `f` was switched to the first time. -/
theorem between_consecutive_runs_N (M : Nat) : ∀ es k f es' k' s_end,
    (sys M).run (es ++ [.switch k f] ++ es' ++ [.switch k' f]) = some s_end →
    (∀ e ∈ es', isSched e = false) → (∀ e ∈ es', isRunOf f e = false) →
    ∃ s1, (sys M).run (es ++ [.switch k f]) = some s1 ∧ s1.loc f = some k ∧
      holderSwitches M f s1 es' ≤ 2 * s1.busy.length + (M - 1) * stealsOf f es' := by
  intro es k f es' k' s_end hrun hns hnr
  obtain ⟨s2, h12, _⟩ := Sys.runFrom_append_some hrun
  obtain ⟨s1, hr1, hmid⟩ := Sys.runFrom_append_some h12
  obtain ⟨s0, _, hst⟩ := Sys.runFrom_append_some hr1
  have hI := inv_of_run hr1
  -- `f` has just been switched to: it runs on `k`, its context is saved, its potential is `2·n`
  have hst : step M s0 (.switch k f) = some s1 := Sys.runFrom_singleton_some.mp hst
  obtain ⟨hc, hsv1⟩ : s1.cur k = some f ∧ s1.sav f = false := by
    cases Step.of_step hst with | switch _ hsv _ => exact ⟨by simp, hsv⟩
  have hl := hI.curLoc k f hc
  have hp := pot_run es' s1 s2 hI (Or.inl hsv1) hmid
    (fun e he => isSchedOf_of_isSched (hns e he)) hnr
  rw [pot_cur hl hc, scheds_eq_zero hns] at hp
  exact ⟨s1, hr1, hl, by omega⟩

/-- The code's constant: `max_steal = 50`, so every steal of `f` costs it at most 49 more
    bypasses. -/
theorem between_consecutive_runs_code : ∀ es k f es' k' s_end,
    (sys codeMaxSteal).run (es ++ [.switch k f] ++ es' ++ [.switch k' f]) = some s_end →
    (∀ e ∈ es', isSched e = false) → (∀ e ∈ es', isRunOf f e = false) →
    ∃ s1, (sys codeMaxSteal).run (es ++ [.switch k f]) = some s1 ∧
      holderSwitches codeMaxSteal f s1 es' ≤ 2 * s1.busy.length + 49 * stealsOf f es' := by
  intro es k f es' k' s_end hrun hns hnr
  obtain ⟨s1, h1, _, h2⟩ := between_consecutive_runs_N codeMaxSteal es k f es' k' s_end hrun hns hnr
  exact ⟨s1, h1, h2⟩

/-- Under the hypothesis that rules out steal ping-pong — a stolen fiber is run by its thief
    before it is stolen again, i.e. `f` is stolen at most once between two of its runs — the
    bound depends on the number of fibers only: `2·n + 49`. -/
theorem between_consecutive_runs_no_resteal : ∀ es k f es' k' s_end,
    (sys codeMaxSteal).run (es ++ [.switch k f] ++ es' ++ [.switch k' f]) = some s_end →
    (∀ e ∈ es', isSched e = false) → (∀ e ∈ es', isRunOf f e = false) →
    stealsOf f es' ≤ 1 →
    ∃ s1, (sys codeMaxSteal).run (es ++ [.switch k f]) = some s1 ∧
      holderSwitches codeMaxSteal f s1 es' ≤ 2 * s1.busy.length + 49 := by
  intro es k f es' k' s_end hrun hns hnr h1
  obtain ⟨s1, hr, h2⟩ := between_consecutive_runs_code es k f es' k' s_end hrun hns hnr
  exact ⟨s1, hr, by omega⟩

/-- With one kernel thread's worth of events (nobody steals `f`) the bound is the one-thread
    bound `2·n`. -/
theorem between_consecutive_runs_not_stolen (M : Nat) : ∀ es k f es' k' s_end,
    (sys M).run (es ++ [.switch k f] ++ es' ++ [.switch k' f]) = some s_end →
    (∀ e ∈ es', isSched e = false) → (∀ e ∈ es', isRunOf f e = false) →
    stealsOf f es' = 0 →
    ∃ s1, (sys M).run (es ++ [.switch k f]) = some s1 ∧
      holderSwitches M f s1 es' ≤ 2 * s1.busy.length := by
  intro es k f es' k' s_end hrun hns hnr h0
  obtain ⟨s1, hr, _, h2⟩ := between_consecutive_runs_N M es k f es' k' s_end hrun hns hnr
  exact ⟨s1, hr, by simpa [h0] using h2⟩

/-! ## N.3 steal ping-pong -/

/-- STEAL PING-PONG.  The bounds above count context switches; they do not say that `f` runs.
    Two idle thieves can pass a ready fiber back and forth for ever: fiber 0 on thread 0 wakes
    fiber 5 (`sched 0 5`), the idle thread 2 steals it, then — each time before the holder's
    `fiber_scheduler_next` has popped it — thread 1 steals it from thread 2 and thread 2 steals
    it back (each `steal` followed by its `pushed`: the push_bottom onto the thief's
    `schedule_from`), while fiber 0 polls with `fiber_yield` (which finds nothing on thread 0 and
    returns).  For every `n` this is an accepted event list with `2·n` steals of fiber 5,
    `2·n` yields of the poller, no `sched`, no context switch at all — fiber 5 is ready all the
    time and never runs —, and `remote_count > local_count` holds at every steal (the victim
    deque has 1 entry, the thief's `schedule_from` 0), so the guard of load_balance does not
    prevent it.  It takes a kernel-thread schedule in which each thief is overtaken between
    its `push_bottom` (fiber_scheduler_wsd.c:142) and its pop (:106) every single time. -/
theorem steal_pingpong (M : Nat) (n : Nat) : ∃ s0 s',
    (sys M).run [.sched 0 5, .steal 2 0 .to 5, .pushed 2 .frm 5, .steal 1 2 .frm 5,
      .pushed 1 .frm 5] = some s0 ∧
    (sys M).runFrom s0 (stealPingpong n) = some s' ∧
    CountGuard M init [.sched 0 5, .steal 2 0 .to 5, .pushed 2 .frm 5, .steal 1 2 .frm 5,
      .pushed 1 .frm 5] ∧
    CountGuard M s0 (stealPingpong n) ∧
    (∀ e ∈ stealPingpong n, isSched e = false ∧ isSwitch e = false) ∧
    stealsOf 5 (stealPingpong n) = 2 * n ∧
    (stealPingpong n).count (.yield 0) = 2 * n ∧
    QueuedOn 1 5 s0 ∧ QueuedOn 1 5 s' ∧ s0.sav 5 = false := by
  obtain ⟨s0, h0, hp0, hg0⟩ := pp_setup M
  obtain ⟨s', h1, hp1, hg1⟩ := pingpong_run M n hp0
  obtain ⟨c1, c2, c3⟩ := pingpong_props n
  refine ⟨s0, s', h0, h1, hg0, hg1, c1, c2, c3, Or.inl (by simp [hp0.frm1]),
    Or.inl (by simp [hp1.frm1]), ?_⟩
  have : (sys M).run ppSetup = some s0 := h0
  simp [Sys.run, Sys.runFrom, sys, ppSetup, step, init, src, popTop, lbNext, setSrc, upd] at this
  rw [← this]

/-- Consequently the number of steals of a ready fiber before it runs is not bounded by
    anything: the term `stealsOf f es'` in the theorems above cannot be replaced by a constant
    without a hypothesis such as the one of `between_consecutive_runs_no_resteal`. -/
theorem steals_unbounded (M : Nat) (B : Nat) : ∃ s0 es' s',
    (sys M).run [.sched 0 5, .steal 2 0 .to 5, .pushed 2 .frm 5, .steal 1 2 .frm 5,
      .pushed 1 .frm 5] = some s0 ∧
    (sys M).runFrom s0 es' = some s' ∧
    (∀ e ∈ es', isSched e = false) ∧ (∀ e ∈ es', isRunOf 5 e = false) ∧
    B < stealsOf 5 es' := by
  obtain ⟨s0, s', h0, h1, _, _, c1, c2, _, _, _, _⟩ := steal_pingpong M (B + 1)
  refine ⟨s0, stealPingpong (B + 1), s', h0, h1, fun e he => (c1 e he).1, ?_, by omega⟩
  intro e he
  have := (c1 e he).2
  cases e <;> simp_all [isSwitch, isRunOf]

/-! ## N.4 non-vacuity (2 kernel threads, a steal in the middle of a batch) -/

/-- main fiber 0 creates 1, 2, 3 on thread 0; 3 and 2 run and yield; 1 has been popped and is
    about to run -/
def exPre : List Ev :=
  [.sched 0 1, .sched 0 2, .sched 0 3,
   .yield 0, .pop 0 3, .switch 0 3, .pushed 0 .to 0, .resumed 0,
   .yield 0, .pop 0 2, .switch 0 2, .pushed 0 .to 3, .resumed 0,
   .yield 0, .pop 0 1]

/-- Between two runs of fiber 1: it yields on thread 0 and is bypassed there by 2 and 3; then,
    in the middle of the batch, the idle thread 1 steals it from the top of `store_to 0`, steals
    fiber 0 from `schedule_from 0` on top of it in the same load_balance call, runs fiber 0
    first, and finally fiber 1. -/
def exMid : List Ev :=
  [.pushed 0 .to 2, .resumed 0, .yield 0, .pop 0 2, .switch 0 2,
   .pushed 0 .to 1, .resumed 0, .yield 0, .pop 0 3, .switch 0 3, .pushed 0 .to 2,
   .steal 1 0 .to 1, .pushed 1 .frm 1, .steal 1 0 .frm 0, .pushed 1 .frm 0,
   .pop 1 0, .switch 1 0, .resumed 1, .yield 1, .pop 1 1]

/-- The hypotheses of `between_consecutive_runs_N/_code/_no_resteal` are satisfiable by a
    two-thread run with a steal in the middle of a batch: 4 fibers, fiber 1 is stolen once,
    and is bypassed 3 times on its holders (twice on thread 0, once on the thief by the loot
    pushed on top of it) before it runs again, on thread 1. -/
example : ∃ s1 s_end,
    (sys codeMaxSteal).run (exPre ++ [.switch 0 1]) = some s1 ∧
    (sys codeMaxSteal).run (exPre ++ [.switch 0 1] ++ exMid ++ [.switch 1 1]) = some s_end ∧
    (∀ e ∈ exMid, isSched e = false) ∧ (∀ e ∈ exMid, isRunOf 1 e = false) ∧
    stealsOf 1 exMid = 1 ∧ s1.busy.length = 4 ∧ s1.loc 1 = some 0 ∧
    holderSwitches codeMaxSteal 1 s1 exMid = 3 ∧
    s_end.loc 1 = some 1 ∧ s_end.cur 1 = some 1 ∧ s_end.cur 0 = some 3 ∧ s_end.to 0 = [2] :=
  ⟨_, _, rfl, rfl, by decide, by decide, by decide, rfl, rfl, by decide, rfl, rfl, rfl, rfl⟩

/-- Clauses (c) and (d) on the same run.  Right before the steals thread 0 holds
    `schedule_from = [0]`, `store_to = [2, 1]`: fiber 1 has rank `2·1 + 1 = 3` there and fiber 2
    rank `2`.  Stealing fiber 1 (the TOP of `store_to`) puts it at rank 0 on thread 1 and leaves
    fiber 2 at rank 2; the next steal (fiber 0, out of `schedule_from 0`) raises the stolen
    fiber 1 to rank 1 on the thief and LOWERS fiber 2 on thread 0 by 2, to rank 0. -/
example :
    ((sys codeMaxSteal).run (exPre ++ [.switch 0 1] ++ exMid.take 11)).map
        (fun s => (s.frm 0, s.to 0, rankOn 0 1 s, rankOn 0 2 s)) = some ([0], [2, 1], 3, 2) ∧
    ((sys codeMaxSteal).run (exPre ++ [.switch 0 1] ++ exMid.take 12)).map
        (fun s => (s.frm 1, s.to 0, rankOn 1 1 s, rankOn 0 2 s, s.lb 1)) =
      some ([1], [2], 0, 2, 1) ∧
    ((sys codeMaxSteal).run (exPre ++ [.switch 0 1] ++ exMid.take 14)).map
        (fun s => (s.frm 1, s.frm 0, rankOn 1 1 s, rankOn 0 2 s, s.lb 1)) =
      some ([0, 1], [], 1, 0, 2) := by decide

/-- The first cycles of the steal ping-pong, concretely: after 5 + 16 events fiber 5 has been
    stolen 6 times, nothing has run, and it sits on thread 1 again. -/
example : ((sys codeMaxSteal).run
      ([.sched 0 5, .steal 2 0 .to 5, .pushed 2 .frm 5, .steal 1 2 .frm 5, .pushed 1 .frm 5] ++
        stealPingpong 2)).map
      (fun s => (s.frm 1, s.frm 2, s.loc 5, s.cur 0, s.cur 1, s.cur 2)) =
    some ([5], [], some 1, some 0, none, none) := rfl

/-- A fiber that parks in state SAVING_STATE_TO_WAIT, is woken at once and reaches a run queue
    while its context is still being saved (2 kernel threads).  Thread 1 steals fiber 1 and runs
    it; fiber 1 parks (`finish 1 true`); fiber 0 on thread 0 wakes it (`sched 0 1`) before
    thread 1 has left it; thread 0's fiber_scheduler_next pops fiber 1, finds it SAVING and skips
    it into `store_to 0` — fiber 2 moves from rank 1 to rank 0 without a context switch — and
    switches to fiber 2.  Then thread 1 goes into its maintenance loop (`idle`), marks fiber 1
    WAITING (`saved`), calls load_balance — its `schedule_from` is empty —, steals fiber 1 back
    and runs it.  Every event kind of the model occurs in this run. -/
def exSaving : List Ev :=
  [.sched 0 1, .sched 0 2, .steal 1 0 .to 1, .pushed 1 .frm 1, .pop 1 1, .switch 1 1,
   .finish 1 true, .sched 0 1, .yield 0, .pop 0 1, .skip 0 1, .pushed 0 .to 1,
   .pop 0 2, .switch 0 2, .pushed 0 .to 0, .idle 1, .saved 1 1,
   .steal 1 0 .to 1, .pushed 1 .frm 1, .pop 1 1, .switch 1 1, .resumed 1]

example :
    ((sys codeMaxSteal).run (exSaving.take 10)).map
        (fun s => (s.frm 0, s.to 0, s.sav 1, s.loc 1, rankOn 0 2 s)) =
      some ([], [1, 2], true, some 0, 1) ∧
    ((sys codeMaxSteal).run (exSaving.take 11)).map
        (fun s => (s.frm 0, s.to 0, s.sav 1, rankOn 0 2 s, s.cur 0)) =
      some ([2], [1], true, 0, some 0) ∧
    ((sys codeMaxSteal).run (exSaving.take 17)).map
        (fun s => (s.frm 0, s.to 0, s.sav 1, s.cur 0, s.cur 1)) =
      some ([], [0, 1], false, some 2, none) ∧
    ((sys codeMaxSteal).run exSaving).map
        (fun s => (s.frm 0, s.to 0, s.cur 0, s.cur 1, s.loc 1, s.busy)) =
      some ([], [0], some 2, some 1, some 1, [1, 2, 0]) := ⟨rfl, rfl, rfl, rfl⟩

/-- `holder_steal_adds_one_or_two`, second case, concretely: thread 1 holds the skipped fiber 1 in
    its `store_to` (rank 0) when its fiber_scheduler_next has returned NULL, goes into its
    maintenance loop and steals fiber 2 from thread 0: fiber 1 now has rank 2 on thread 1 and is
    run after the loot.  (Fiber 1 parked on thread 0 this time and was woken by fiber 3 on
    thread 1.) -/
def exStoreTo : List Ev :=
  [.sched 0 1, .sched 0 2, .sched 0 3, .steal 1 0 .to 1, .pushed 1 .frm 1,
   .steal 1 0 .to 2, .pushed 1 .frm 2, .pop 1 2, .switch 1 2,        -- thread 1 runs fiber 2
   .yield 0, .pop 0 3, .switch 0 3, .pushed 0 .to 0,                  -- thread 0 runs fiber 3
   .finish 0 true,                                                   -- fiber 3 parks, SAVING
   .sched 1 3,                                                       -- fiber 2 wakes it: to 1 = [3]
   .finish 1 false,                                                  -- fiber 2 is done
   .pop 1 1, .switch 1 1, .finish 1 false,                           -- thread 1 runs fiber 1: done
   .pop 1 3, .skip 1 3, .pushed 1 .to 3, .idle 1,                    -- fiber 3 still SAVING: skipped
   .steal 1 0 .to 0, .pushed 1 .frm 0]                               -- load_balance, store_to = [3]

example :
    ((sys codeMaxSteal).run (exStoreTo.take 23)).map
        (fun s => (s.frm 1, s.to 1, s.sav 3, rankOn 1 3 s, s.lb 1)) = some ([], [3], true, 0, 0) ∧
    ((sys codeMaxSteal).run exStoreTo).map
        (fun s => (s.frm 1, s.to 1, rankOn 1 3 s, s.lb 1, s.frm 0, s.to 0)) =
      some ([0], [3], 2, 1, [], []) := ⟨rfl, rfl⟩

end LibfiberVerif.SchedN
