/-
  Props/C09.lean — sleeping fibers wake exactly once and never early.

  "A fiber calling sleep/usleep/nanosleep/fiber_sleep is suspended for at least the requested
   duration and is then resumed exactly once, however many fibers sleep concurrently, share a
   wake-up tick or are stolen by another thread at the moment they are woken.  Other fibers on
   the same kernel thread keep running while it sleeps."

  Model: `Sleep.sys v` (Model/Sleep.lean).  `v : Variant` are the three decisions in which the
  code as found and the candidate fixes differ, plus the timer period:

    v.nextFirst  fiber_event_wake_sleepers reads `to_wake->next` before it makes the fiber
                 runnable                       (as found: after — F-C09a)
    v.drains     the timer is read under sleep_spinlock, by the poller and by fiber_sleep
                                                (as found: before the lock, poller only — F-C09b)
    v.widen      64-bit `seconds * 1000`, nanosleep splits tv_sec > UINT32_MAX
                                                (as found: 32-bit, truncated — F-C09c)

  `asFound` = (false, false, false), `fixed` = (true, true, true); the variant the working tree
  implements is `Gen.SleepDecisions.tree`, regenerated from the source on every check, and it
  is THAT variant every implementation trace is validated against.

  Every theorem quantifies over every accepted event list: any number of fibers sleeping and
  polling on any number of kernel threads, any durations (0, sub-tick, non-multiples,
  seconds + microseconds), equal or different deadlines, any phase of the timer (virtual time
  has microsecond resolution, `tick d k` advances it by any `d`), any interleaving.

  Vocabulary (Proof/Sleep.lean):
    toList t          in-order (id, wake_time) pairs of the sleepers tree, chains included
    Ordered t         binary-search-tree order on wake times
    drainAll t now    everything the wake loop removes from `t` at time `now`, in wake order,
                      and the tree that is left
    s.start f, s.req f         virtual time of `call sleep` and requested µs of fiber f's call
    s.stale f         ghost: a `ttc` read by fiber_sleep during this call was smaller than the
                      number of expirations at the start of that fiber_sleep call
    s.ovf f           ghost: the fiber_sleep calls made for this request guarantee less than
                      was requested (32-bit wrap of `sleep_ms` / truncated tv_sec)
    s.nPark/nWake/nRes f       number of times f parked in fiber_sleep / was made READY by a
                      wake pass / resumed from fiber_sleep
    s.badRead         ghost: the wake pass read a node although the node's fiber was not parked
    Quiet s           the lock is free or its owner is not in the middle of a wake pass
-/
import LibfiberVerif.Proof.Sleep
import LibfiberVerif.Gen.SleepDecisions

namespace LibfiberVerif.C09
open LibfiberVerif LibfiberVerif.Sleep LibfiberVerif.Sleep.Tree

def asFound : Variant := { nextFirst := false, drains := false, widen := false, period := 5000 }
def fixed : Variant := { nextFirst := true, drains := true, widen := true, period := 5000 }

/-- run `es` and evaluate `p` on the final state (false if the model rejects the trace) -/
def check (v : Variant) (es : List Ev) (p : St → Bool) : Bool :=
  match (sys v).run es with
  | some s => p s
  | none => false

theorem check_elim {v : Variant} {es : List Ev} {p : St → Bool} (h : check v es p = true) :
    ∃ s, (sys v).run es = some s ∧ p s = true := by
  unfold check at h
  split at h
  · rename_i s hs; exact ⟨s, hs, h⟩
  · simp at h

/-! ## 1. the pure tree functions (waiter_insert, waiter_remove_less_than, the wake loop) -/

/-- waiter_insert adds exactly the new element: the multiset of (id, wake_time) grows by it. -/
theorem insert_multiset (t : Tree) (id wt : Nat) :
    (insert t id wt).toList.Perm ((id, wt) :: t.toList) :=
  insert_toList_perm t id wt

theorem insert_keeps_order (t : Tree) (id wt : Nat) (h : Ordered t) : Ordered (insert t id wt) :=
  insert_ordered id wt h

/-- waiter_remove_less_than returns the first group of the in-order traversal, only if it is
    due, and NULL only if nothing in the tree is due. -/
theorem remove_returns_first_due (t : Tree) (now : Nat) (ho : Ordered t) :
    (∀ i w c t', removeLt t now = some ((i, w, c), t') →
        t.toList = group i w c ++ t'.toList ∧ w < now ∧ Ordered t') ∧
    (removeLt t now = none → ∀ x ∈ t.toList, now ≤ x.2) :=
  ⟨fun _ _ _ _ h => have hs := removeLt_spec h; ⟨hs.1, hs.2.1, hs.2.2.2 ho⟩, removeLt_none ho⟩

/-- The wake loop returns every element with `wake_time < now` exactly once, and no other:
    the tree's traversal splits into what was woken (in this order) and what is left. -/
theorem remove_all_due_once (t : Tree) (now : Nat) (ho : Ordered t) :
    t.toList = (drainAll t now).1 ++ (drainAll t now).2.toList ∧
    (drainAll t now).1 = t.toList.filter (fun x => decide (x.2 < now)) ∧
    (drainAll t now).2.toList = t.toList.filter (fun x => !decide (x.2 < now)) ∧
    removeLt (drainAll t now).2 now = none := by
  obtain ⟨h1, h2, h3, _, h5⟩ := drainN_spec (size t) t now ho (Nat.le_refl _)
  have hs := filter_append_split (fun x : Nat × Nat => decide (x.2 < now)) (drainAll t now).1
    (drainAll t now).2.toList (by intro x hx; simpa using h2 x hx)
    (by intro x hx; have := h3 x hx; simp; omega)
  refine ⟨h1, ?_, ?_, h5⟩
  · conv => rhs; rw [h1]
    exact hs.1.symm
  · conv => rhs; rw [h1]
    exact hs.2.symm

/-- non-vacuity: three sleepers, two with the same deadline; the loop at time 4 wakes exactly
    the two that are due, chain order included -/
example : drainAll (insert (insert (insert .nil 1 5) 2 3) 3 3) 4 = ([(2, 3), (3, 3)], .node 1 5 [] .nil .nil) := by
  decide

/-! ## 2. resumed exactly once -/

/-- Between two parks of a fiber there is exactly one wake-up and exactly one resume:
    `nRes ≤ nWake ≤ nPark ≤ nRes + 1` in every reachable state, with equality whenever the
    fiber is not inside fiber_sleep's park/wake/resume window.  (The model accepts a READY
    write only for a parked fiber and a `resumed` note only from a woken one; that the
    implementation never does anything else is what trace validation checks.) -/
theorem wake_exactly_once (v : Variant) (hP : 0 < v.period) : ∀ es s, (sys v).run es = some s →
    ∀ f, s.nRes f ≤ s.nWake f ∧ s.nWake f ≤ s.nPark f ∧ s.nPark f ≤ s.nRes f + 1 ∧
      (s.pc f = .woken ↔ s.nWake f = s.nRes f + 1) ∧
      (s.pc f ≠ .woken → s.pc f ≠ .parkedL → s.pc f ≠ .parked → s.nPark f = s.nRes f) := by
  intro es s h f
  have hc := (allInv_of_run v hP h).C f
  by_cases h1 : s.pc f = .woken <;> by_cases h2 : s.pc f = .parkedL <;> by_cases h3 : s.pc f = .parked <;>
    simp_all <;> omega

/-- the same on the events themselves: in every accepted trace, for every fiber, the number of
    `resumed` notes, of READY writes by wake passes and of parks differ by at most one, in this
    order — a fiber is never made READY twice for one park, never resumed twice for one wake. -/
theorem wake_exactly_once_events (v : Variant) (hP : 0 < v.period) : ∀ es s, (sys v).run es = some s →
    ∀ f, es.countP (isResume f) ≤ es.countP (isWake f) ∧ es.countP (isWake f) ≤ es.countP (isPark f) ∧
      es.countP (isPark f) ≤ es.countP (isResume f) + 1 := by
  intro es s h f
  have hc := counters_count_events v h f
  have := wake_exactly_once v hP es s h f
  omega

/-- An API call returns only after every fiber_sleep call it makes has been resumed. -/
theorem returns_after_all_segments (v : Variant) (hP : 0 < v.period) : ∀ es s, (sys v).run es = some s →
    ∀ f, s.pc f = .done → s.segs f = [] ∧ s.credit f = s.guar f := by
  intro es s h f hd
  have := ((allInv_of_run v hP h).S f).done hd
  exact ⟨this.1, this.2.1⟩

/-- Every node the wake pass removes from the tree or follows through `next` belongs to a
    fiber that is parked in fiber_sleep at that moment (so the READY write it is about to do
    is that fiber's one and only wake-up). -/
theorem wake_targets_are_parked (v : Variant) (hP : 0 < v.period) : ∀ es s, (sys v).run es = some s →
    (s.tree.toList.map (·.1) ++ s.cur).Nodup ∧ (∀ m ∈ s.cur, s.pc m = .parked ∧ s.wake m < s.ttc) := by
  intro es s h
  have hm := (allInv_of_run v hP h).M
  refine ⟨hm.1, ?_⟩
  intro m hmem
  have h1 := hm.2.2.1 m hmem
  have h2 := hm.2.2.2.1 (by intro h0; rw [h0] at hmem; simp at hmem)
  exact ⟨h1.2.1, by rw [h1.1]; exact h2.1⟩

/-! ## 3. the waker never reads a node whose fiber may already run (F-C09a) -/

/-- With `next` read before the fiber is made runnable, every read of a node by the wake pass
    happens while the node's fiber is parked; no fiber is ever dropped from a wake chain. -/
theorem node_read_valid (v : Variant) (hP : 0 < v.period) (hn : v.nextFirst = true) :
    ∀ es s, (sys v).run es = some s → s.badRead = false ∧ s.lost = [] := by
  intro es s h
  have := (allInv_of_run v hP h).N.clean hn
  exact ⟨this.2.1, this.1⟩

/-- … and nothing that is due stays behind: whenever the lock is free (or its owner is not in
    the middle of a wake pass) every parked fiber's deadline is still ahead of
    timer_trigger_count, and every parked fiber is in the tree. -/
theorem no_lost_sleeper (v : Variant) (hP : 0 < v.period) (hn : v.nextFirst = true) :
    ∀ es s, (sys v).run es = some s → Quiet s →
    ∀ f, s.pc f = .parked → s.ttc ≤ s.wake f ∧ (f, s.wake f) ∈ s.tree.toList := by
  intro es s h hq f hf
  have hI := allInv_of_run v hP h
  have hlost := (hI.N.clean hn).1
  have hcur : s.cur = [] := by
    apply Classical.byContradiction
    intro hc
    obtain ⟨_, g, h2, h3⟩ := hI.M.2.2.2.1 hc
    have := hq g h2
    revert h3 this; cases s.pc g <;> simp [Pc.walking, Pc.inPass]
  rcases hI.N.known f (by simp [hf, Pc.inTree]) with h1 | h1 | h1
  · simp only [ids, List.mem_map] at h1
    obtain ⟨x, hx, rfl⟩ := h1
    have hw := (hI.M.2.1 x hx).1
    refine ⟨by rw [hw]; exact hI.N.due hq x hx, ?_⟩
    rw [hw]; exact hx
  · rw [hcur] at h1; simp at h1
  · rw [hlost] at h1; simp at h1

/-- in particular when the lock is free -/
theorem no_lost_sleeper_lock_free (v : Variant) (hP : 0 < v.period) (hn : v.nextFirst = true) :
    ∀ es s, (sys v).run es = some s → s.holder = none → ∀ f, s.pc f = .parked → s.ttc ≤ s.wake f :=
  fun es s h hh f hf =>
    (no_lost_sleeper v hP hn es s h (by intro g hg; rw [hh] at hg; simp at hg) f hf).1

/-- AS FOUND (F-C09a): two fibers sleep with the same deadline; the wake pass makes the first
    one READY, another kernel thread runs it (`resumed 16`), and only then the waker reads
    `to_wake->next` from 16's dead stack frame and finds NULL: fiber 17 is never woken although
    its deadline has passed and the lock is free again. -/
def lostTrace : List Ev := [
  .callSleep 16 .fs 0 1000 0, .lockFadd 16 0, .lockLd 16 0, .rTtc 16 0 true, .rRoot 16 0, .wRoot 16 16,
  .nodeNote 16 2, .wWaiter 16 16 16, .wState 16 16 3, .unlockLd 1 0, .unlockSt 1 1,
  .callSleep 17 .fs 0 1000 0, .lockFadd 17 1, .lockLd 17 1, .rTtc 17 0 true, .rRoot 17 16, .rWt 17 16 2,
  .rNext 17 16 0, .wNext 17 16 17, .nodeNote 17 2, .wWaiter 17 17 17, .wState 17 17 3,
  .unlockLd 1 1, .unlockSt 1 2,
  .tick 15000 3, .timerRead 1 3, .lockFadd 1 2, .lockLd 1 2, .rTtc 1 0 false, .wTtc 1 3, .rTtc 1 3 false,
  .rRoot 1 16, .rLeft 1 16 0, .rWt 1 16 2, .rRight 1 16 0, .wRoot 1 0, .rWaiter 1 16 16, .wState 1 16 2,
  .resumed 16, .staleNext 1 0,
  .rTtc 1 3 false, .rRoot 1 0, .unlockLd 1 2, .unlockSt 1 3]

theorem lost_sleeper_as_found :
    ∃ es s f, (sys asFound).run es = some s ∧ s.holder = none ∧ s.pc f = .parked ∧ s.wake f < s.ttc ∧
      f ∈ s.lost ∧ s.badRead = true := by
  have h : check asFound lostTrace (fun s => decide (s.holder = none) && decide (s.pc 17 = .parked) &&
      decide (s.wake 17 < s.ttc) && decide (17 ∈ s.lost) && s.badRead) = true := by rfl
  obtain ⟨s, hs, hp⟩ := check_elim h
  simp only [Bool.and_eq_true, decide_eq_true_eq] at hp
  exact ⟨lostTrace, s, 17, hs, hp.1.1.1.1, hp.1.1.1.2, hp.1.1.2, hp.1.2, hp.2⟩

/-- so the two clauses of §3 are FALSE for the code as found -/
theorem node_read_valid_false_as_found :
    ¬ (∀ es s, (sys asFound).run es = some s → s.badRead = false ∧ s.lost = []) := by
  intro hall
  obtain ⟨es, s, f, hs, _, _, _, hl, _⟩ := lost_sleeper_as_found
  have := (hall es s hs).2
  rw [this] at hl; simp at hl

theorem no_lost_sleeper_false_as_found :
    ¬ (∀ es s, (sys asFound).run es = some s → s.holder = none → ∀ f, s.pc f = .parked → s.ttc ≤ s.wake f) := by
  intro hall
  obtain ⟨es, s, f, hs, hh, hp, hw, _, _⟩ := lost_sleeper_as_found
  have := hall es s hs hh f hp
  omega

/-! ## 4. never early -/

/-- PARTIAL (every variant): a fiber about to return from its sleep call has been suspended for
    at least the requested time, PROVIDED no fiber_sleep call of this request read a `ttc` that
    was behind the timer (`stale`) and the 32-bit arithmetic did not lose part of the request
    (`ovf`).  `s.now` is the virtual time of the state in which `ret sleep` is the fiber's next
    event, `s.start f` the virtual time of its `call sleep`. -/
theorem never_early_partial (v : Variant) (hP : 0 < v.period) : ∀ es s, (sys v).run es = some s →
    ∀ f, s.pc f = .done → s.stale f = false → s.ovf f = false → s.start f + s.req f ≤ s.now := by
  intro es s h f hd hst hov
  have hI := allInv_of_run v hP h
  have := ((hI.S f).done hd).2.2 hst
  have := hI.R.req_le (f := f) (by simp [hd, Pc.inCall]) hov
  omega

/-- the first hypothesis holds whenever fiber_sleep reads `ttc` while no expiration is unread
    or in flight ("no unread expirations at call time") -/
theorem clean_read_not_stale (v : Variant) (hP : 0 < v.period) : ∀ es s, (sys v).run es = some s →
    ∀ f x s', s.pending = 0 → s.fl = [] → s.stale f = false →
    step v s (.rTtc f x true) = some s' → s'.stale f = false := by
  intro es s h f x s' hp hfl hst hstep
  have hI := allInv_of_run v hP h
  have hacct := hI.T.1
  rw [hp, hfl] at hacct; simp [flSum] at hacct
  rcases step_sound hstep with hs | ⟨_, _, _, he, _⟩
  · cases hs with
    | rTtcSleep _ k hd hpc | rTtcDone _ hpc hnone =>
      have := Nat.div_le_div_right (c := v.period) ((hI.S f).1 (by simp [hpc, Pc.inCall])).2.1
      simp [upd, hst]; omega
    | _ => simp_all [Ev.silent]
  · cases he

/-- … and the second one for every request whose `seconds * 1000 + useconds / 1000 + 1` fits in
    32 bits (every request below 4 290 672 s; usleep: always) -/
theorem small_request_no_ovf (v : Variant) (hp : 1000 ≤ v.period) (s s' : St) (f : Nat) (kind : Kind)
    (a b t : Nat) (hno : noOvf kind a b) (h : step v s (.callSleep f kind a b t) = some s') :
    s'.ovf f = false := by
  rcases step_sound h with hs | ⟨_, _, _, he, _⟩
  · cases hs with
    | call _ _ _ _ hpc hok =>
      have := guaranteed_ge_req v hp kind a b hok (.inr hno)
      simp [upd]; omega
    | _ => simp_all [Ev.silent]
  · cases he

/-- with 64-bit arithmetic (F-C09c fixed) no request the C types allow is cut short -/
theorem widen_no_ovf (v : Variant) (hw : v.widen = true) (hp : 1000 ≤ v.period) :
    ∀ es s, (sys v).run es = some s → ∀ f, (s.pc f).inCall = true → s.ovf f = false := by
  intro es s h f hc
  obtain ⟨kind, a, b, hok, h1, h2, h3⟩ := (allInv_of_run v (by omega) h).R f hc
  have := guaranteed_ge_req v hp kind a b hok (.inl hw)
  rw [h3, h1, h2]; simp; omega

/-- FULL (F-C09b and F-C09c fixed): with the timer read under the lock and 64-bit arithmetic a
    fiber is never resumed early — for every duration the C types allow, any number of
    sleepers, any phase of the tick, any interleaving. -/
theorem never_early (v : Variant) (hd : v.drains = true) (hw : v.widen = true) (hp : 1000 ≤ v.period) :
    ∀ es s, (sys v).run es = some s → ∀ f, s.pc f = .done → s.start f + s.req f ≤ s.now := by
  intro es s h f hdone
  have hP : 0 < v.period := by omega
  have hc : (s.pc f).inCall = true := by simp [hdone, Pc.inCall]
  exact never_early_partial v hP es s h f hdone (((allInv_of_run v hP h).D hd).2.2.2 f hc)
    (widen_no_ovf v hw hp es s h f hc)

/-- AS FOUND (F-C09b): four expirations accumulate unread while nobody polls (virtual time
    20 000 µs), fiber 16 calls usleep(2000): wake_time = 0 + 3; the next poll reads 4 and makes
    it READY at once: it returns after 0 µs. -/
def earlyTrace : List Ev := [
  .tick 20000 4, .callSleep 16 .us 2000 0 20000, .lockFadd 16 0, .lockLd 16 0, .rTtc 16 0 true,
  .rRoot 16 0, .wRoot 16 16, .nodeNote 16 3, .wWaiter 16 16 16, .wState 16 16 3, .unlockLd 1 0, .unlockSt 1 1,
  .timerRead 1 4, .lockFadd 1 1, .lockLd 1 1, .rTtc 1 0 false, .wTtc 1 4, .rTtc 1 4 false,
  .rRoot 1 16, .rLeft 1 16 0, .rWt 1 16 3, .rRight 1 16 0, .wRoot 1 0, .rWaiter 1 16 16, .wState 1 16 2,
  .rNext 1 16 0, .rTtc 1 4 false, .rRoot 1 0, .unlockLd 1 1, .unlockSt 1 2, .resumed 16]

theorem early_wake_as_found :
    ∃ es s f, (sys asFound).run es = some s ∧ s.pc f = .done ∧ s.ovf f = false ∧
      s.now < s.start f + s.req f := by
  have h : check asFound earlyTrace (fun s => decide (s.pc 16 = .done) && !s.ovf 16 &&
      decide (s.now < s.start 16 + s.req 16)) = true := by decide
  obtain ⟨s, hs, hp⟩ := check_elim h
  simp only [Bool.and_eq_true, decide_eq_true_eq, Bool.not_eq_true'] at hp
  exact ⟨earlyTrace, s, 16, hs, hp.1.1, hp.1.2, hp.2⟩

/-- AS FOUND (F-C09c): fiber_sleep(4294968, 0): `4294968 * 1000` wraps to 704, the fiber is
    woken after 706 ticks = 3.53 s instead of 4 294 968 s — with an up-to-date `ttc`. -/
def overflowTrace : List Ev := [
  .callSleep 16 .fs 4294968 0 0, .lockFadd 16 0, .lockLd 16 0, .rTtc 16 0 true,
  .rRoot 16 0, .wRoot 16 16, .nodeNote 16 705, .wWaiter 16 16 16, .wState 16 16 3, .unlockLd 1 0, .unlockSt 1 1,
  .tick 3530000 706, .timerRead 1 706, .lockFadd 1 1, .lockLd 1 1, .rTtc 1 0 false, .wTtc 1 706, .rTtc 1 706 false,
  .rRoot 1 16, .rLeft 1 16 0, .rWt 1 16 705, .rRight 1 16 0, .wRoot 1 0, .rWaiter 1 16 16, .wState 1 16 2,
  .rNext 1 16 0, .rTtc 1 706 false, .rRoot 1 0, .unlockLd 1 1, .unlockSt 1 2, .resumed 16]

theorem overflow_short_sleep_as_found :
    ∃ es s f, (sys asFound).run es = some s ∧ s.pc f = .done ∧ s.stale f = false ∧
      s.now < s.start f + s.req f := by
  have h : check asFound overflowTrace (fun s => decide (s.pc 16 = .done) && !s.stale 16 &&
      decide (s.now < s.start 16 + s.req 16)) = true := by decide
  obtain ⟨s, hs, hp⟩ := check_elim h
  simp only [Bool.and_eq_true, decide_eq_true_eq, Bool.not_eq_true'] at hp
  exact ⟨overflowTrace, s, 16, hs, hp.1.1, hp.1.2, hp.2⟩

/-- so the full statement is FALSE for the code as found, for either reason -/
theorem never_early_false_as_found :
    ¬ (∀ es s, (sys asFound).run es = some s → ∀ f, s.pc f = .done → s.start f + s.req f ≤ s.now) := by
  intro hall
  obtain ⟨es, s, f, hs, hd, _, hlt⟩ := early_wake_as_found
  have := hall es s hs f hd
  omega

/-- non-vacuity of `never_early`: the same two scenarios on the fixed variant — fiber_sleep
    drains the four unread expirations first, the fiber sleeps until tick 8 (20 000 µs);
    `fiber_sleep(4294968, 0)` gets wake_time 4 294 968 001 -/
example : check fixed [
    .tick 20000 4, .callSleep 16 .us 2000 0 20000, .lockFadd 16 0, .lockLd 16 0, .timerRead 16 4,
    .rTtc 16 0 false, .wTtc 16 4, .rTtc 16 4 false, .rRoot 16 0, .rTtc 16 4 true,
    .rRoot 16 0, .wRoot 16 16, .nodeNote 16 7, .wWaiter 16 16 16, .wState 16 16 3, .unlockLd 1 0, .unlockSt 1 1,
    .tick 20000 4, .lockFadd 1 1, .lockLd 1 1, .timerRead 1 4, .rTtc 1 4 false, .wTtc 1 8, .rTtc 1 8 false,
    .rRoot 1 16, .rLeft 1 16 0, .rWt 1 16 7, .rRight 1 16 0, .wRoot 1 0, .rWaiter 1 16 16, .rNext 1 16 0,
    .wState 1 16 2, .rTtc 1 8 false, .rRoot 1 0, .unlockLd 1 1, .unlockSt 1 2, .resumed 16]
    (fun s => decide (s.pc 16 = .done) && decide (s.start 16 + s.req 16 ≤ s.now) && !s.badRead) = true := by decide

example : check fixed [
    .callSleep 16 .fs 4294968 0 0, .lockFadd 16 0, .lockLd 16 0, .timerRead 16 0,
    .rTtc 16 0 false, .wTtc 16 0, .rTtc 16 0 false, .rRoot 16 0, .rTtc 16 0 true,
    .rRoot 16 0, .wRoot 16 16, .nodeNote 16 4294968001]
    (fun s => decide (s.pc 16 = .inserted) && !s.ovf 16) = true := by decide

/-! ## 5. others keep running -/

/-- A sleeping fiber holds nothing: once its successor has released sleep_spinlock on its
    behalf (`parked`), the fiber owns no lock, so every other fiber's steps (sleeping, polling,
    anything else) are enabled exactly as if it did not exist.  That the kernel thread really
    runs them is the scheduler's property (C01/C02/C10) and is exercised by the harness's
    `w<i>` clock op (status STARVED otherwise). -/
theorem sleeper_holds_nothing (v : Variant) (hP : 0 < v.period) : ∀ es s, (sys v).run es = some s →
    ∀ f, s.pc f = .parked ∨ s.pc f = .woken → s.holder ≠ some f := by
  intro es s h f hf hh
  have := ((allInv_of_run v hP h).L f).2 hh
  rcases hf with hf | hf <;> simp [hf, Pc.holds] at this

/-- timer accounting, every variant: every expiration is in exactly one place, and
    timer_trigger_count never runs ahead of the timer -/
theorem ttc_never_ahead (v : Variant) (hP : 0 < v.period) : ∀ es s, (sys v).run es = some s →
    s.ttc + s.pending + flSum s.fl = s.now / v.period ∧ s.ttc ≤ s.now / v.period := by
  intro es s h
  have := (allInv_of_run v hP h).T.1
  exact ⟨this, by omega⟩

/-! ## 6. the working tree -/

/-- the period the source configures is at least one millisecond (what the arithmetic needs) -/
theorem tree_period_ok : 1000 ≤ Gen.SleepDecisions.tree.period := by decide

/-- what the theorems above say about the variant extracted from the working tree: each clause
    under exactly the decision it depends on (all three hold for `fixed`, none for `asFound`) -/
theorem tree_spec :
    (Gen.SleepDecisions.tree.nextFirst = true →
      ∀ es s, (sys Gen.SleepDecisions.tree).run es = some s → s.badRead = false ∧ s.lost = [] ∧
        (s.holder = none → ∀ f, s.pc f = .parked → s.ttc ≤ s.wake f)) ∧
    (Gen.SleepDecisions.tree.drains = true → Gen.SleepDecisions.tree.widen = true →
      ∀ es s, (sys Gen.SleepDecisions.tree).run es = some s → ∀ f, s.pc f = .done →
        s.start f + s.req f ≤ s.now) ∧
    (∀ es s, (sys Gen.SleepDecisions.tree).run es = some s → ∀ f, s.pc f = .done → s.stale f = false →
        s.ovf f = false → s.start f + s.req f ≤ s.now) := by
  have hp := tree_period_ok
  have hP : 0 < Gen.SleepDecisions.tree.period := by omega
  refine ⟨fun hn es s h => ?_, fun hd hw => never_early _ hd hw hp, never_early_partial _ hP⟩
  have := node_read_valid _ hP hn es s h
  exact ⟨this.1, this.2, no_lost_sleeper_lock_free _ hP hn es s h⟩

end LibfiberVerif.C09
