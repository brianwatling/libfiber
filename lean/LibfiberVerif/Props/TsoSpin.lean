/-
  Props/TsoSpin.lean — the ticket spinlock of src/fiber_spinlock.c on x86-TSO.

  `fiber_spinlock_unlock` releases the lock with a plain store (`mov`, C11 release) and no
  fence: on x86-64 the store sits in the releasing core's FIFO store buffer for an unbounded
  time, invisible to every other core.  `Props/C18.lean` proves the lock correct over
  sequentially consistent interleavings; this file proves, over the store-buffer machine
  `Model/SpinTso.lean`, that the delay is harmless:

    * mutual exclusion holds (`excl_tso`), tickets are served in order (`fifo_tso`), trylock
      succeeds only on a lock that is idle in memory AND in every buffer (`try_only_idle_tso`);
    * at most one store buffer is non-empty at any time, it is the pending release
      `[data stores …, ticket store]` of the last holder or the data stores of the current
      holder (`one_pending_release`, `holder_others_drained`);
    * the next holder sees every write of every previous critical section although nobody
      ever fences (`holder_sees_all_previous_writes`): the ticket store is the LAST entry of the
      releasing buffer, FIFO draining puts the data into memory before the ticket.

  All theorems are over EVERY event list the model `SpinTso.sys true v0` accepts: every
  interleaving, arbitrary `flush` events, every initial counter value, any number of threads,
  unbounded runs.  The counters are unbounded naturals here (no wrap-around; that is
  `Props/C18.lean`), hence no `BoundedRun` hypothesis.  With `fifoBuf = false` (stores may
  drain out of order, PSO-like) a concrete accepted trace reads stale data under the lock.

  Trusted: that x86-TSO is this store-buffer machine, and that `lock xadd` / `lock cmpxchg`
  wait for the store buffer to drain.
-/
import LibfiberVerif.Proof.SpinTso

namespace LibfiberVerif.SpinTso

/-- **Mutual exclusion on TSO.**  At most one thread holds the lock (from the load that saw
    its ticket / its successful CAS until its unlock store is ISSUED). -/
theorem excl_tso (v0 : Nat) (es : List Ev) (s : St) (hr : (sys true v0).run es = some s)
    (t1 t2 : Nat) (h1 : holder (s.pc t1) = true) (h2 : holder (s.pc t2) = true) : t1 = t2 :=
  (inv_of_run hr).excl t1 t2 h1 h2

/-- Mutual exclusion as the client sees it: two threads are never both inside the critical
    section. -/
theorem excl_cs_tso (v0 : Nat) (es : List Ev) (s : St) (hr : (sys true v0).run es = some s)
    (t1 t2 : Nat) (h1 : s.pc t1 = .inCs) (h2 : s.pc t2 = .inCs) : t1 = t2 :=
  excl_tso v0 es s hr t1 t2 (by simp [h1, holder]) (by simp [h2, holder])

/-- The memory cell `ticket` lags behind the issued unlock stores by at most ONE store:
    `ticket ≤ gIssued ≤ ticket + 1`, and `gIssued ≤ users`. -/
theorem counters_tso (v0 : Nat) (es : List Ev) (s : St) (hr : (sys true v0).run es = some s) :
    s.ticket ≤ s.gIssued ∧ s.gIssued ≤ s.ticket + 1 ∧ s.gIssued ≤ s.users :=
  let hi := inv_of_run hr
  ⟨hi.le1, hi.le3, hi.le2⟩

/-- **At most one pending release.**
    (1) At most one thread has a non-empty store buffer.
    (2) If `t`'s buffer contains an unlock store then the buffer is exactly
        `[data stores …, tk gIssued]` (the ticket store is its LAST entry), memory lags by that
        one store (`gIssued = ticket + 1`), and NOBODY holds the lock while it is pending.
    (3) Conversely, if memory lags (`gIssued ≠ ticket`) the buffer of `owner` (the thread of the
        most recent plain store) is that pending release. -/
theorem one_pending_release (v0 : Nat) (es : List Ev) (s : St)
    (hr : (sys true v0).run es = some s) :
    (∀ t1 t2, s.buf t1 ≠ [] → s.buf t2 ≠ [] → t1 = t2) ∧
    (∀ t, hasTk (s.buf t) = true →
      (∃ ds : List Int, s.buf t = ds.map Entry.dat ++ [.tk s.gIssued]) ∧
      s.gIssued = s.ticket + 1 ∧ ∀ t', holder (s.pc t') = false) ∧
    (s.gIssued ≠ s.ticket → hasTk (s.buf s.owner) = true) := by
  obtain ⟨h, q, ds, p, g⟩ := good_of_run hr
  have hi := g.inv
  refine ⟨fun t1 t2 h1 h2 => by rw [hi.own t1 h1, hi.own t2 h2], fun t ht => ?_,
    fun hne => rel_hasTk (hi.pend hne)⟩
  have hb := g.view.buf t
  split at hb
  · rw [hb, hasTk_pending] at ht
    subst ht
    obtain rfl := g.view.pend rfl
    exact ⟨⟨ds, hb⟩, by simpa using g.view.tk, g.free⟩
  · rw [hb] at ht; cases ht

/-- **While `t` holds the lock every OTHER thread's store buffer is empty**, `t`'s own buffer
    holds data stores only (no unlock store), and every unlock store issued so far has reached
    memory (`gIssued = ticket`). -/
theorem holder_others_drained (v0 : Nat) (es : List Ev) (s : St)
    (hr : (sys true v0).run es = some s) (t : Nat) (ht : holder (s.pc t) = true) :
    (∀ t', t' ≠ t → s.buf t' = []) ∧ allDat (s.buf t) = true ∧ s.gIssued = s.ticket :=
  let ⟨_, _, _, _, g⟩ := good_of_run hr
  ⟨(g.view.of_holder ((g.lock.hold t).mp (role_hold.mpr ht))).2.2, (g.inv.hold t ht).2.2,
    (g.inv.hold t ht).2.1⟩

/-- A non-holder's non-empty buffer is the pending release: `[data stores …, tk gIssued]`. -/
theorem non_holder_buffer_shape (v0 : Nat) (es : List Ev) (s : St)
    (hr : (sys true v0).run es = some s) (t : Nat) (ht : holder (s.pc t) = false)
    (hne : s.buf t ≠ []) :
    ∃ ds : List Int, s.buf t = ds.map Entry.dat ++ [.tk s.gIssued] :=
  (rel_iff _ _).1 ((inv_of_run hr).nh t ht hne).1

/-- **The lock protects data on TSO without any fence in unlock.**  If `t` holds the lock, what
    `t` sees in the data cell (its own newest buffered store, else memory) is `lastWrite`: the
    most recent `csWrite` issued by ANY thread, in issue order.  Reason: every other thread's
    buffer is empty, so memory plus `t`'s own buffer contain all data writes of all previous
    critical sections. -/
theorem holder_view_is_last_write (v0 : Nat) (es : List Ev) (s : St)
    (hr : (sys true v0).run es = some s) (t : Nat) (ht : holder (s.pc t) = true) :
    rdD (s.buf t) s.data = s.lastWrite ∧ ∀ t', t' ≠ t → s.buf t' = [] :=
  let ⟨_, _, _, _, g⟩ := good_of_run hr
  let ⟨_, hb, he⟩ := g.view.of_holder ((g.lock.hold t).mp (role_hold.mpr ht))
  ⟨hb ▸ g.view.lw, he⟩

/-- The same on events: a `csRead t v` the model accepts in a reachable state returns the value
    of the most recent `csWrite` by anybody (or the initial content if there was none). -/
theorem holder_sees_all_previous_writes (v0 : Nat) (es : List Ev) (s s' : St) (t : Nat) (v : Int)
    (hr : (sys true v0).run es = some s) (hs : step s (.csRead t v) = some s') :
    v = s.lastWrite ∧ ∀ t', t' ≠ t → s.buf t' = [] := by
  simp only [step] at hs
  split at hs
  · next h =>
    have ht : holder (s.pc t) = true := by simp [h.1, holder]
    obtain ⟨h1, h2⟩ := holder_view_is_last_write v0 es s hr t ht
    exact ⟨by rw [h.2, h1], h2⟩
  · simp at hs

/-- Once every buffer has drained, memory itself holds the last value written. -/
theorem memory_current_when_drained (v0 : Nat) (es : List Ev) (s : St)
    (hr : (sys true v0).run es = some s) (h : ∀ t, s.buf t = []) : s.data = s.lastWrite := by
  have := (inv_of_run hr).lw
  rw [h] at this
  exact this

/-- **FIFO on TSO.**  The threads whose `lock` spin loop has exited, in that order, are a prefix
    of the threads in the order of their `fetch_add(users)`. -/
theorem fifo_tso (v0 : Nat) (es : List Ev) (s : St) (hr : (sys true v0).run es = some s) :
    s.acq <+: s.order := by
  obtain ⟨h, q, ds, p, g⟩ := good_of_run hr
  exact ⟨_, g.qinv.ord.symm⟩

/-- **A thread acquires only when its ticket has reached MEMORY.**  If the spin loop of `lock`
    exits then at that instant the value was read from memory, it is the thread's own ticket,
    every unlock store issued so far has drained, nobody holds the lock, and EVERY store
    buffer is empty — in particular all data stores of the previous holder are in memory. -/
theorem lock_acquires_drained (v0 : Nat) (es : List Ev) (s s' : St) (t x my : Nat)
    (hr : (sys true v0).run es = some s) (hpc : s.pc t = .spinning my)
    (hs : step s (.ldTicket t x) = some s') (hacq : s'.pc t = .lockDone) :
    x = my ∧ s.ticket = my ∧ s.gIssued = my ∧ (∀ t', holder (s.pc t') = false) ∧
      ∀ t', s.buf t' = [] := by
  obtain ⟨h, q, ds, p, g⟩ := good_of_run hr
  simp only [step, hpc] at hs
  split at hs
  · next hx =>
    split at hs
    · next hmy =>
      obtain ⟨rfl, rfl, rfl, rfl⟩ := g.served hpc (hx ▸ hmy)
      exact ⟨hmy, by simpa using g.view.tk.symm, rfl, g.free, g.drained⟩
    · cases hs; rw [hpc] at hacq; cases hacq
  · cases hs

/-- **trylock succeeds only on an idle lock.**  If the CAS of `trylock` succeeds then at that
    instant memory says idle (`ticket = users`), no unlock store is pending anywhere
    (`gIssued = ticket`; in fact EVERY store buffer is empty), nobody holds the lock and nobody
    is queued. -/
theorem try_only_idle_tso (v0 : Nat) (es : List Ev) (s s' : St) (t ftk fus etk eus dtk dus : Nat)
    (hr : (sys true v0).run es = some s)
    (hs : step s (.casBlob t ftk fus etk eus dtk dus true) = some s') :
    s.ticket = s.users ∧ s.gIssued = s.ticket ∧ (∀ t', holder (s.pc t') = false) ∧
      (∀ t' my, s.pc t' ≠ .spinning my) ∧ ∀ t', s.buf t' = [] := by
  obtain ⟨h, q, ds, p, g⟩ := good_of_run hr
  simp only [step] at hs
  split at hs <;> simp at hs
  obtain ⟨hi, rfl, rfl, rfl, rfl⟩ := g.idle (by omega)
  exact ⟨by omega, by have := g.view.tk; simp at this; omega, g.free,
    fun t' my hp' => by simpa [hp', role] using g.lock.mem t' my, g.drained⟩

/-- **The stale ticket half is harmless.**  `trylock`'s 8-byte load may return a ticket half
    forwarded from the thread's own store buffer that memory does not hold yet (see
    `forwardTrace` below); `old.ticket = old.users` discards it.  In the model: the CAS step
    is the same function of the state whatever ticket half `ldBlob` recorded in the pc. -/
theorem stale_ticket_half_harmless (s : St) (t tk tk' us ftk fus etk eus dtk dus : Nat)
    (ok : Bool) :
    step { s with pc := upd s.pc t (.tryRead tk us) } (.casBlob t ftk fus etk eus dtk dus ok) =
    step { s with pc := upd s.pc t (.tryRead tk' us) } (.casBlob t ftk fus etk eus dtk dus ok) := by
  simp only [step, upd_same, upd_upd]

/-- Locked operations wait for the own buffer: `fetch_add(users)` and the CAS are accepted only
    with an empty buffer. -/
theorem locked_ops_drained (s s' : St) (e : Ev)
    (he : (∃ t old, e = .faddUsers t old) ∨ (∃ t a b c d f g ok, e = .casBlob t a b c d f g ok))
    (hs : step s e = some s') : s.buf e.tid = [] := by
  rcases he with ⟨t, old, rfl⟩ | ⟨t, a, b, c, d, f, g, ok, rfl⟩
  · simp only [step] at hs
    split at hs <;> simp at hs
    exact hs.1.1
  · simp only [step] at hs
    split at hs <;> simp at hs
    exact hs.1.1

/-- A pending store can always drain: `flush t` is enabled whenever `t`'s buffer is non-empty
    (so a locked operation waiting for its own buffer, and a spinner waiting for the pending
    release of the previous holder, wait only for environment steps that are enabled). -/
theorem flush_enabled (s : St) (t : Nat) (h : s.buf t ≠ []) : (step s (.flush t)).isSome = true := by
  simp only [step]
  split
  · next h0 => exact absurd h0 h
  · rfl
  · rfl

/-! ### non-vacuity: concrete accepted traces -/

/-- Thread 0 locks, thread 1 queues.  0 writes 7 under the lock, unlocks: data store and
    ticket store sit in 0's buffer.  0 calls trylock: its 8-byte load sees the FORWARDED ticket
    1 while memory still holds 0, and thread 1 spins on the old memory value.  Two flushes
    (data first, then ticket); 0's CAS fails (1 is queued); 1 acquires and reads 7. -/
def forwardTrace : List Ev := [
  .callLock 0, .faddUsers 0 0, .ldTicket 0 0, .retLock 0, .csEnter 0,
  .callLock 1, .faddUsers 1 1, .ldTicket 1 0,
  .csWrite 0 7, .csRead 0 7, .csExit 0,
  .callUnlock 0, .ldTicket 0 0, .stTicket 0 1, .retUnlock 0,
  .callTry 0, .ldBlob 0 1 2,                    -- ticket half 1 forwarded; memory has 0
  .ldTicket 1 0,                                -- thread 1 still sees the old ticket
  .flush 0, .flush 0,                           -- data, then ticket
  .casBlob 0 1 2 2 2 2 3 false, .retTry 0 0,
  .ldTicket 1 1, .retLock 1, .csEnter 1, .csRead 1 7 ]

/-- after `ldBlob`: memory still has ticket 0 and data 0, both stores are buffered, the load
    returned the forwarded ticket half 1 -/
example : ((sys true 0).run (forwardTrace.take 17)).map
    (fun s => (s.ticket, s.users, s.data, s.buf 0, s.pc 0, s.pc 1, s.gIssued, s.lastWrite)) =
    some (0, 2, 0, [.dat 7, .tk 1], .tryRead 1 2, .spinning 1, 1, 7) := by rfl

/-- the whole trace is accepted; thread 1 is in the critical section and has read 7 -/
example : ((sys true 0).run forwardTrace).map
    (fun s => (s.ticket, s.users, s.data, s.buf 0, s.buf 1, s.pc 0, s.pc 1, s.acq, s.order)) =
    some (1, 2, 7, [], [], .idle, .inCs, [0, 1], [0, 1]) := by rfl

/-- a stale read is NOT accepted on TSO: same trace with `csRead 1 0` at the end -/
example : (sys true 0).run (forwardTrace.take 25 ++ [.csRead 1 0]) = none := by rfl

/-- the hypotheses of `holder_sees_all_previous_writes` are satisfiable -/
example : ∃ es s s', (sys true 0).run es = some s ∧ step s (.csRead 1 7) = some s' :=
  ⟨forwardTrace.take 25, _, _, rfl, rfl⟩

/-- the hypotheses of `lock_acquires_drained` are satisfiable -/
example : ∃ es s s', (sys true 0).run es = some s ∧ s.pc 1 = .spinning 1 ∧
    step s (.ldTicket 1 1) = some s' ∧ s'.pc 1 = .lockDone :=
  ⟨forwardTrace.take 22, _, _, rfl, by decide, rfl, by decide⟩

/-- A trylock on an idle lock succeeds once the releasing buffer has drained. -/
def tryTrace : List Ev := [
  .callTry 0, .ldBlob 0 0 0, .casBlob 0 0 0 0 0 0 1 true, .retTry 0 1, .csEnter 0,
  .csWrite 0 5, .csExit 0, .callUnlock 0, .ldTicket 0 0, .stTicket 0 1, .retUnlock 0,
  .callTry 0, .ldBlob 0 1 1,                    -- forwarded ticket half
  .flush 0, .flush 0,                           -- the CAS waits for the drain
  .casBlob 0 1 1 1 1 1 2 true, .retTry 0 1 ]

example : ((sys true 0).run tryTrace).map (fun s => (s.ticket, s.users, s.data, s.pc 0)) =
    some (1, 2, 5, .held) := by rfl

/-- the CAS is not enabled before the drain -/
example : (sys true 0).run (tryTrace.take 13 ++ [.casBlob 0 0 1 1 1 1 2 false]) = none := by rfl

/-- the hypotheses of `try_only_idle_tso` are satisfiable -/
example : ∃ es s s', (sys true 0).run es = some s ∧
    step s (.casBlob 0 1 1 1 1 1 2 true) = some s' :=
  ⟨tryTrace.take 15, _, _, rfl, rfl⟩

/-- **Counter-trace without FIFO buffers** (`fifoBuf = false`, PSO-like): thread 0's ticket
    store drains BEFORE its data store; thread 1 acquires the lock and reads the stale 0
    although the last write under the lock was 7. -/
def psoTrace : List Ev := [
  .callLock 0, .faddUsers 0 0, .ldTicket 0 0, .retLock 0, .csEnter 0,
  .callLock 1, .faddUsers 1 1,
  .csWrite 0 7, .csExit 0, .callUnlock 0, .ldTicket 0 0, .stTicket 0 1,
  .flushAny 0 1,                                -- the ticket store overtakes the data store
  .ldTicket 1 1, .retLock 1, .csEnter 1, .csRead 1 0 ]

example : ((sys false 0).run psoTrace).map
    (fun s => (s.ticket, s.data, s.lastWrite, s.buf 0, s.pc 1)) =
    some (1, 0, 7, [.dat 7], .inCs) := by rfl

/-- x86-TSO does not accept that trace -/
example : (sys true 0).run psoTrace = none := by rfl

end LibfiberVerif.SpinTso
