/-
  Props/C04Fix.lean — property C04 for the CANDIDATE FIX docs/fix-C04.diff (NOT the code in
  /repo; Props/C04.lean is about that).  Model: `JoinCas.sys isTarget` (Model/JoinCas.lean),
  validated event by event against a scratch copy of the tree with the patch applied
  (VERIF_REPO=<copy> VERIF_C04_MODEL=JoinCas python3 tools/check.py C04).

  With every transition of detach_state a compare-and-swap, every clause of the property
  holds at FULL STRENGTH: no `untainted` hypothesis, all reachable states, any number of
  fibers, targets, overlapping calls and steps.  The witnesses of Props/C04.lean are not
  traces of this model (each of them needs an unconditional exchange); the three histories at
  the end show what the patched code does in those situations instead.
-/
import LibfiberVerif.Proof.JoinCas

namespace LibfiberVerif.C04Fix
open LibfiberVerif.JoinCas
open LibfiberVerif.Join (WFJ WTJ DET)

/-- a successful join / tryjoin delivers exactly the value the fiber's function returned (so it
    comes after the return) -/
theorem success_after_return (isTarget : Nat → Bool) : ∀ es s, (sys isTarget).run es = some s →
    ∀ g v, v ∈ s.succ g → s.retval g = some v := by
  intro es s h g v hv
  exact (inv_of_run h).i2.sv g v hv

/-- … and so does every call that is about to return SUCCESS -/
theorem pending_success_has_value (isTarget : Nat → Bool) : ∀ es s, (sys isTarget).run es = some s →
    ∀ g a op v, s.pc a = .retn op g true v → op ≠ .detach → s.retval g = some v := by
  intro es s h g a op v hp hop
  exact (inv_of_run h).i2.cv3 g a op v hp hop

/-- at most one joiner succeeds; at any time at most one fiber is on a path that can still end
    in SUCCESS, none once a SUCCESS has been returned -/
theorem at_most_one_success (isTarget : Nat → Bool) : ∀ es s, (sys isTarget).run es = some s →
    ∀ g, (s.succ g).length ≤ 1 ∧
      (∀ a a', claimPath (s.pc a) g = true → claimPath (s.pc a') g = true → a = a') ∧
      (s.succ g ≠ [] → ∀ a, claimPath (s.pc a) g = false) := by
  intro es s h g
  have I := (inv_of_run h).i2
  exact ⟨I.sl g, fun a a' => I.uq g a a', fun hs a => I.sq g a hs⟩

/-- joining a detached fiber fails: a detached fiber stays DETACHED, has never been joined
    successfully, and the only clients still acting on it are detach calls waking the finished
    fiber -/
theorem detached_fails (isTarget : Nat → Bool) : ∀ es s, (sys isTarget).run es = some s →
    ∀ g, s.detX g = true →
      s.det g = DET ∧ s.succ g = [] ∧ ∀ a, claimPath (s.pc a) g = true → detTake (s.pc a) g = true := by
  intro es s h g hd
  have I := (inv_of_run h).i2
  exact ⟨I.t4 g hd, I.dx1 g hd, fun a => I.dx2 g a hd⟩

/-- a destroyed fiber had written DONE, its function had returned, and it had been claimed by a
    join/tryjoin, taken its own joiner, or been detached; nothing touches it afterwards -/
theorem destroy_once_after (isTarget : Nat → Bool) : ∀ es s, (sys isTarget).run es = some s →
    ∀ g, (s.destroyed g = true →
      s.pc g = .fDone ∧ (∃ v, s.retval g = some v) ∧ (s.claimed g = true ∨ s.detX g = true)) ∧
      s.late g = 0 := by
  intro es s h g
  have I := inv_of_run h
  refine ⟨fun hd => ?_, I.i3 g⟩
  have hp := I.i0.dst g hd
  exact ⟨hp, ⟨s.res g, I.i1.st g (by simp [hp])⟩, I.i1.dj g (Or.inr (Or.inr hp))⟩

/-- destroyed at most once, never by itself -/
theorem destroy_at_most_once (isTarget : Nat → Bool) : ∀ (s : St) a g s',
    (sys isTarget).step s (.destroy a g) = some s' →
      s.pc g = .fDone ∧ s.destroyed g = false ∧ a ≠ g ∧ s'.destroyed g = true := by
  intro s a g s' hst
  obtain ⟨s1, hc, rfl⟩ := step_some hst
  rcases stepCore_trans hc with ht | ⟨hs, _⟩
  · cases ht <;> simp_all
  · cases hs

/-- every waiting party has a live counterpart (see Props/C04.lean `no_stranded`), and the
    state WAIT_FOR_JOINER / WAIT_TO_JOIN always means what it says: the finished fiber /
    a joiner is parked or about to park, and nobody has claimed it yet -/
theorem no_stranded (isTarget : Nat → Bool) : ∀ es s, (sys isTarget).run es = some s →
    ∀ g,
      (∀ b, takePh (s.pc b) g = true → parkF (s.pc g) = true) ∧
      (s.pc g = .fTake → ∃ p, s.first g = some p ∧ joinerPark (s.pc p) g = true) ∧
      (∀ p, joinerPark (s.pc p) g = true → finX (s.pc g) = true → delivering (s.pc g) p = true) ∧
      (parkF (s.pc g) = true → s.det g ≠ WFJ → ∃ b, s.taker g = some b ∧ takePh (s.pc b) g = true) ∧
      (s.det g = WFJ → parkF (s.pc g) = true) ∧
      (s.det g = WTJ → finX (s.pc g) = false ∧ ∃ p, s.first g = some p ∧ joinerPark (s.pc p) g = true) := by
  intro es s h g
  have I0 := (inv_of_run h).i0
  have I := (inv_of_run h).i2
  have ex1 : ∀ {α} (o : Option α) (P : α → Prop), o ≠ none → (∀ x, o = some x → P x) → ∃ x, o = some x ∧ P x := by
    intro α o P hne hall
    cases ho : o with
    | none => exact absurd ho hne
    | some x => exact ⟨x, rfl, hall x ho⟩
  refine ⟨fun b => I.c1 g b, ?_, fun p => I.iii g p, ?_, I0.wfj g, ?_⟩
  · intro hp
    obtain ⟨hne, hall⟩ := I.ii g hp
    exact ex1 _ _ hne hall
  · intro hp hd
    obtain ⟨hne, hall⟩ := I.iv g hp hd
    exact ex1 _ _ hne hall
  · intro hd
    obtain ⟨hne, hall⟩ := I.c9 g hd
    exact ⟨I.wtj g hd, ex1 _ _ hne hall⟩

/-! ## what the patched code does in the situations of findings F-C04, F-C04c and F-C04d -/

def isT : Nat → Bool := fun f => f == 16

/-- F-C04's situation: 17 joins and parks, 18 detaches while 16 runs → the detach FAILS, the
    joiner stays parked and gets 1000 when 16 finishes -/
def fDetach : List Ev :=
  [.call 17 .join 16, .casDet 17 16 0 0 2 true, .wState 17 17 3, .wJi 16 16 17,
   .call 18 .detach 16, .casDet 18 16 2 0 3 false, .ret 18 .detach 16 false 0,
   .fnRet 16 1000, .stRes 16 16 1000, .casDet 16 16 2 0 1 false, .casDet 16 16 2 2 3 true,
   .xchgJi 16 16 17, .ldRes 16 16 1000, .stRes 16 17 1000, .wState 16 17 2, .wState 16 16 4, .destroy 17 16,
   .ldRes 17 17 1000, .stRes 17 17 0, .ret 17 .join 16 true 1000]

/-- F-C04c's situation: 17 parked, 16 claims it (2 → 3); 18's join now finds DETACHED → ERROR -/
def fThird : List Ev :=
  [.call 17 .join 16, .casDet 17 16 0 0 2 true, .wState 17 17 3, .wJi 16 16 17,
   .fnRet 16 1000, .stRes 16 16 1000, .casDet 16 16 2 0 1 false, .casDet 16 16 2 2 3 true,
   .call 18 .join 16, .casDet 18 16 3 0 2 false, .ret 18 .join 16 false 0,
   .xchgJi 16 16 17, .ldRes 16 16 1000, .stRes 16 17 1000, .wState 16 17 2, .wState 16 16 4,
   .ldRes 17 17 1000, .stRes 17 17 0, .ret 17 .join 16 true 1000]

/-- F-C04d's situation: a detach slips in before 17's swap → 17's CAS fails on DETACHED (nothing
    is overwritten) and 16 later sees DETACHED and just finishes -/
def fOver : List Ev :=
  [.call 17 .join 16, .call 18 .detach 16, .casDet 18 16 0 0 3 true, .ret 18 .detach 16 true 0,
   .casDet 17 16 3 0 2 false, .ret 17 .join 16 false 0,
   .fnRet 16 1000, .stRes 16 16 1000, .casDet 16 16 3 0 1 false, .wState 16 16 4, .destroy 17 16]

def obs (s : St) : List Nat × Option Nat × Bool × Nat × Bool :=
  (s.succ 16, s.retval 16, s.destroyed 16, s.late 16, s.detX 16)

theorem fDetach_obs : ((sys isT).run fDetach).map obs = some ([1000], some 1000, true, 0, false) := by decide
theorem fThird_obs : ((sys isT).run fThird).map obs = some ([1000], some 1000, false, 0, false) := by decide
theorem fOver_obs : ((sys isT).run fOver).map obs = some ([], some 1000, true, 0, true) := by decide

/-- non-vacuity: the theorems above are about histories like these -/
example : ∃ s, (sys isT).run fDetach = some s ∧ s.succ 16 = [1000] ∧ s.retval 16 = some 1000 ∧
    s.destroyed 16 = true ∧ s.late 16 = 0 := by
  obtain ⟨s, hr, ho⟩ := Option.map_eq_some_iff.1 fDetach_obs
  simp [obs] at ho
  exact ⟨s, hr, by simp [ho]⟩

end LibfiberVerif.C04Fix
