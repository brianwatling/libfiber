/-
  Props/C14.lean — property C14: hazard pointers (include/hazard_pointer.h, src/hazard_pointer.c).

  "A node retired through the hazard-pointer API is not handed to its reclamation callback while
   any thread holds a hazard pointer to it that was published and validated before the
   retirement, and no structure built on it dereferences a reclaimed node.  Once unprotected,
   every retired node is reclaimed after a bounded number of further retirements by the same
   thread, for any number of participating threads joining at any time."

  All theorems are about `Hp.sys K` (Model/Hp.lean): ANY number of threads/records (`Nat`-indexed),
  any `K ≥ 1`, any interleaving of the modelled shared accesses (records joining concurrently with
  scans included), any pattern of node addresses, unbounded runs.  `run es = some s` = "the event
  list `es` is accepted by the model"; the correspondence runs (tools/specs_c14.py) check that the
  event logs of the real code are such lists.

  Reading guide
  * `s.prot u j = n ≠ 0`  — thread `u` holds a VALIDATED protection of node `n` in slot `j`: it
    stored `n` in the slot, executed the fence, and re-read the global cell and found `n` again;
    `protection_only_of_unretired` says this can only be established while `n` is still in a global
    cell (hence before its retirement), `protection_held_until_overwrite` that it lasts until `u`
    itself overwrites the slot.
  * `.reclaim t n`        — `gc_function(n)` is called by the scan of thread `t`.
  Nothing in C14 was found to be false of the code: there is no `_partial` theorem here.
-/
import LibfiberVerif.Proof.HpBound

namespace LibfiberVerif.Hp

/-! ### binary search over sorted pointers -/

/-- `binary_search` on a sorted array — any length including 0, any address pattern, duplicates
    allowed — answers exactly membership. -/
theorem binary_search_correct (hay : List Nat) (needle : Nat) (hs : hay.Pairwise (· ≤ ·)) :
    binarySearch hay needle = true ↔ needle ∈ hay :=
  binarySearch_iff hs needle

/-- the iteration bound that makes the model's loop structurally recursive never bites: with any
    two bounds larger than the window the loop gives the same answer, sorted haystack or not -/
theorem binary_search_fuel_irrelevant (hay : List Nat) (needle f f' : Nat) (start end_ : Int)
    (h : (end_ - start + 1).toNat < f) (h' : (end_ - start + 1).toNat < f') :
    bsLoop hay needle f start end_ = bsLoop hay needle f' start end_ :=
  bsLoop_fuel hay needle f f' start end_ h h'

/-- what the model assumes of `qsort`: a sorted list with the same members and the same length -/
theorem sort_spec (pl : List Nat) :
    (isort pl).Pairwise (· ≤ ·) ∧ (∀ n, n ∈ isort pl ↔ n ∈ pl) ∧ (isort pl).length = pl.length :=
  ⟨sorted_isort pl, fun _ => mem_isort, length_isort pl⟩

/-! ### the scan covers every registered record and never overflows `plist` -/

/-- The `head` a scan reads gives access to EVERY record registered so far. -/
theorem scan_reads_whole_list {k : Nat} {es : List Ev} {s s' : St} {t v : Nat} {c : Bool}
    (hrun : (sys k).run es = some s) (hpc : s.pc t = .scanStart c)
    (hs : step s (.ldHead t v) = some s') :
    v ≠ 0 ∧ s'.pc t = .scanHead c v ∧ chain s v = s.recs := by
  have h1 := (inv12_of_run hrun).1
  simp only [step, stepLdHead, hpc] at hs
  split at hs
  · next hv =>
    simp only [Option.some.injEq] at hs; subst hs
    obtain ⟨rfl, h0⟩ := hv
    exact ⟨h0, by simp [setPc], h1.hd.symm⟩
  · cases hs

/-- The list reachable from a record pointer never changes afterwards (records are only pushed in
    front of the head and `next` of a pushed record is never written), and records are never
    removed — whatever the other threads, joiners included, do. -/
theorem reachable_list_immutable {k : Nat} {es : List Ev} {s s' : St} {e : Ev} {q : Nat}
    (hrun : (sys k).run es = some s) (hs : step s e = some s') (hq : ptrOk s q) :
    chain s' q = chain s q ∧ ptrOk s' q ∧ ∀ w ∈ s.recs, w ∈ s'.recs := by
  obtain ⟨h1, h2⟩ := inv12_of_run hrun
  have f := (frame_step h1 h2 (step_sound hs)).toFrame3
  exact ⟨f.chain q hq, f.ptrOk hq, f.recs⟩

/-- **scan_covers.**  While a scan walks (`h` = the head it read, `cur` = its cursor, `i` = next
    slot, `pl` = plist so far, `walked` = records completely read):
    * the records already read followed by those still ahead are exactly the list reachable from
      `h` — so when the walk ends (`cur = 0`) every record registered before the head read has
      been traversed, however many records joined meanwhile;
    * `index = pl.length ≤ max_pointers = cap`: `plist` never overflows, although the capacity
      was computed from ONE read of `head->retire_threshold` and records keep joining;
    * every validated protection of a node retired by the scanner is already in `pl` or belongs
      to a slot the walk has not reached yet. -/
theorem scan_covers {k : Nat} (hk : 0 < k) {es : List Ev} {s : St} {t h cap cur i : Nat} {c : Bool}
    {pl walked : List Nat} (hrun : (sys k).run es = some s)
    (hpc : s.pc t = .scanWalk c h cap cur i pl walked) :
    walked.reverse ++ chain s cur = chain s h ∧
    (cur = 0 → walked.reverse = chain s h) ∧
    pl.length ≤ cap ∧
    (∀ u j n, s.prot u j = n → n ≠ 0 → n ∈ s.rlist t →
      n ∈ pl ∨ (cur ≠ 0 ∧ (u ∈ s.older (cur - 1) ∨ (u = cur - 1 ∧ i ≤ j)))) := by
  obtain ⟨_, h2, h3⟩ := inv_of_run hk hrun
  have hl := h3.loc t
  rw [hpc] at hl
  have w := scanOk_walk.mp hl.scan
  obtain ⟨_, hik, hcov⟩ := h2.pcok_at hpc
  refine ⟨w.split, ?_, ?_, hcov⟩
  · intro e; subst e; simpa [chain] using w.split
  · have hlen : (chain s h).length = walked.length + (chain s cur).length := by
      rw [← w.split]; simp
    have hcap := w.hcap
    have hpl := w.len
    by_cases e : cur = 0
    · have := w.i0 e
      have h0 : (chain s cur).length = 0 := by simp [chain, e]
      rw [hlen, h0, Nat.add_zero] at hcap
      omega
    · have h1' : 1 ≤ (chain s cur).length := by simp [chain, e]
      have : s.k * (walked.length + 1) ≤ s.k * (chain s h).length :=
        Nat.mul_le_mul_left _ (by omega)
      rw [Nat.mul_add, Nat.mul_one] at this
      omega

/-! ### nothing is reclaimed while protected -/

/-- A validated protection is established only by the validating re-read, on a slot that holds the
    node, and only while the node is still in a global cell — i.e. BEFORE its retirement. -/
theorem protection_only_of_unretired {k : Nat} {es : List Ev} {s s' : St} {e : Ev} {u j n : Nat}
    (hrun : (sys k).run es = some s) (hs : step s e = some s')
    (hnew : s'.prot u j = n) (hn : n ≠ 0) (hold : s.prot u j ≠ n) :
    (∃ g, e = .ldG u g n ∧ s.g g = n) ∧ s.ns n = .inG ∧ s.hp u j = n := by
  have h2 := (inv12_of_run hrun).2
  rcases prot_step hs u j with h | ⟨v, _, h⟩ | ⟨g, he, hg, g', hpc⟩
  · rw [hnew] at h; exact absurd h.symm hold
  · rw [hnew] at h; exact absurd h hn
  · rw [hnew] at he hg hpc
    refine ⟨⟨g, he, hg⟩, ?_, (h2.pcok_at hpc).2.2.1⟩
    rw [← hg]; exact h2.g_in g (by rw [hg]; exact hn)

/-- … and it is held until the owner itself overwrites that slot (`done_using` / `using`):
    no step of another thread, no scan and no join ends it. -/
theorem protection_held_until_overwrite {k : Nat} {es : List Ev} {s s' : St} {e : Ev} {u j n : Nat}
    (hrun : (sys k).run es = some s) (hs : step s e = some s') (hp : s.prot u j = n) (hn : n ≠ 0) :
    s'.prot u j = n ∨ ∃ v, e = .wrHp u u j v := by
  have h2 := (inv12_of_run hrun).2
  rcases prot_step hs u j with h | ⟨v, he, _⟩ | ⟨g, he, hg, g', hpc⟩
  · left; rw [h, hp]
  · exact Or.inr ⟨v, he⟩
  · -- a validating load on this slot happens only after the slot was overwritten (ghost cleared)
    have := (h2.pcok_at hpc).2.2.2
    rw [hp] at this; exact absurd this hn

/-- **no_reclaim_protected.**  When the scan of thread `t` hands node `n` to its reclamation
    callback, NO thread holds a validated protection of `n` — for any number of records, records
    joining during the scan, any `K`, any interleaving. -/
theorem no_reclaim_protected {k : Nat} {es : List Ev} {s s' : St} {t n : Nat}
    (hrun : (sys k).run es = some s) (hs : step s (.reclaim t n) = some s') :
    n ≠ 0 ∧ s.ns n = .retired t ∧ ∀ u j, s.prot u j ≠ n := by
  obtain ⟨h1, h2⟩ := inv12_of_run hrun
  have h2' := inv2_step h1 h2 hs
  cases step_sound hs with
  | move _ _ _ _ _ hm => cases hm
  | reclaim _ c sp _ todo hpc hbs =>
  obtain ⟨hn0, hnr⟩ := (h2.loc_at hpc).rl n (by simp [Pc.todo])
  refine ⟨hn0, hnr, fun u j hp => ?_⟩
  -- a protected node is live (`Loc.prot_ok`), also after this step, where `n` is free
  have := ((h2'.loc u).prot_ok j n hp hn0).2.2.2
  simp [upd, NSt.live] at this

/-- The client never touches a reclaimed node: every `use` (the harness's stand-in for a
    dereference by a structure built on hazard pointers) is of a node that is not free — it is
    still in a global cell, or unlinked, or retired and not yet reclaimed. -/
theorem use_not_reclaimed {k : Nat} {es : List Ev} {s s' : St} {t sl n : Nat}
    (hrun : (sys k).run es = some s) (hs : step s (.use t sl n) = some s') :
    n ≠ 0 ∧ s.prot t sl = n ∧ s.ns n ≠ .free := by
  have h2 := (inv12_of_run hrun).2
  have key : ∀ p, p ≠ 0 → s.prot t sl = p → s.ns p ≠ .free := by
    intro p h0 hp hf
    have := ((h2.loc t).prot_ok sl p hp h0).2.2.2
    rw [hf] at this; cases this
  cases step_sound hs with
  | move _ _ _ _ hpc hm =>
    cases hm with
    | use sl p =>
      obtain ⟨a, b⟩ := h2.pcok_at hpc
      exact ⟨a, b, key n a b⟩
  | use_idle _ _ hpc hn => exact ⟨hn, rfl, key _ hn rfl⟩

/-! ### garbage stays bounded -/

/-- `hazard_pointer_free` scans as soon as `retired_count` has reached the threshold it loads. -/
theorem free_scans_at_threshold {s s' : St} {t r v : Nat} (hpc : s.pc t = .freeInc)
    (hs : step s (.ldThr t r v) = some s') :
    v = s.thr t ∧ (s.thr t ≤ s.rc t → s'.pc t = .scanStart true) ∧
    (s.rc t < s.thr t → s'.pc t = .freeDone) := by
  simp only [step, stepLdThr, hpc] at hs
  split at hs
  · next hv =>
    obtain ⟨rfl, rfl⟩ := hv
    simp only [Option.some.injEq] at hs; subst hs
    refine ⟨rfl, ?_, ?_⟩ <;> intro h <;> simp [setPc] <;> omega
  · cases hs

/-- What the decide phase of a scan does with the next retired node `n`: it is kept only if it
    was found in a hazard slot during THIS scan's walk (`sp` = the sorted snapshot), otherwise it
    is reclaimed right now — these are the only two steps the scanning thread can take. -/
theorem scan_decision {k : Nat} (hk : 0 < k) {es : List Ev} {s s' : St} {t n : Nat} {c : Bool}
    {sp todo : List Nat} {e : Ev} (hrun : (sys k).run es = some s)
    (hpc : s.pc t = .scanDecide c sp (n :: todo)) (hs : step s e = some s') (ht : t = e.tid) :
    (e = .reclaim t n ∧ n ∉ sp) ∨ (∃ v, e = .rdRc t t v ∧ n ∈ sp) := by
  obtain ⟨_, _, h3⟩ := inv_of_run hk hrun
  subst ht
  have hsorted : Sorted sp := (h3.loc_at hpc).scan.1
  cases step_sound hs with
  | move t p p' e hq hm =>
    rw [hm.tid, hq] at hpc
    subst hpc
    cases hm with
    | rdRc_keep c sp n todo hbs => exact Or.inr ⟨_, rfl, (binarySearch_iff hsorted n).mp hbs⟩
  | reclaim t c' sp' n' todo' hq hbs =>
    rw [show s.pc t = _ from hpc] at hq
    cases hq
    refine Or.inl ⟨rfl, fun hm => ?_⟩
    rw [(binarySearch_iff hsorted _).mpr hm] at hbs; cases hbs
  -- no other step is enabled at `scanDecide` with a non-empty todo list
  | _ => simp_all [Ev.tid]

/-- the snapshot a scan collects grows only by the non-NULL value of the slot being read -/
theorem plist_only_slot_values {s s' : St} {t r i v h cap cur j : Nat} {c : Bool} {pl walked : List Nat}
    (hpc : s.pc t = .scanWalk c h cap cur j pl walked) (hs : step s (.rdHp t r i v) = some s') :
    r = cur - 1 ∧ i = j ∧ v = s.hp r i ∧
    s'.pc t = .scanWalk c h cap cur (j + 1) (if v = 0 then pl else pl ++ [v]) walked := by
  simp only [step, stepRdHp, hpc] at hs
  split at hs
  · next hv =>
    simp only [Option.some.injEq] at hs; subst hs
    exact ⟨hv.2.2.1, hv.2.2.2.1, hv.2.2.2.2, by simp [setPc]⟩
  · cases hs

/-- thresholds versus participating records, at every moment: `2·K·|L| ≤ retire_threshold(t)` for
    every duplicate-free list `L` of records that have completed `create_and_push` (so a record
    is accounted for before it can publish a hazard pointer), `retire_threshold(t) ≤ 2·K·N` for
    the `N` records in the list, and equality when no join is in progress. -/
theorem threshold_bounds {k : Nat} {es : List Ev} {s : St} {t : Nat} (hrun : (sys k).run es = some s)
    (ht : t ∈ s.recs) :
    (∀ L : List Nat, L.Nodup → (∀ j ∈ L, j ∈ s.recs ∧ (s.pc j).joined = true) →
        2 * L.length * s.k ≤ s.thr t) ∧
    s.thr t ≤ 2 * s.recs.length * s.k ∧
    ((∀ j ∈ s.recs, (s.pc j).joined = true) → s.thr t = 2 * s.recs.length * s.k) := by
  have h1 := (inv12_of_run hrun).1
  exact ⟨fun L hL hj => h1.thr_ge ht hL hj, h1.thr_le ht, fun hall => h1.thr_exact hall ht⟩

/-- **garbage_bounded.**  For every thread `t` that has joined:
    * `retired_count` is the length of its retired list (outside the three instructions that
      update both), the retired nodes are distinct, non-NULL and in state "retired by `t`";
    * outside `hazard_pointer_free`'s counting and outside a scan's decide phase
      `retired_count < retire_threshold ≤ 2·K·N` — so the next scan of `t` happens within
      `retire_threshold − retired_count ≤ 2·K·N` further retirements by `t`
      (`free_scans_at_threshold`), and that scan reclaims every retired node it does not find in
      a slot (`scan_decision`). -/
theorem garbage_bounded {k : Nat} (hk : 0 < k) {es : List Ev} {s : St} {t : Nat}
    (hrun : (sys k).run es = some s) (hj : (s.pc t).joined = true) :
    ((s.pc t).plain = true → s.rc t = (s.rlist t).length) ∧
    (s.rlist t).Nodup ∧ (∀ n ∈ s.rlist t, n ≠ 0 ∧ s.ns n = .retired t) ∧
    ((s.pc t).quiet = true → s.rc t < s.thr t) ∧
    s.thr t ≤ 2 * s.recs.length * s.k := by
  obtain ⟨h1, h2, h3⟩ := inv_of_run hk hrun
  have hl := h3.loc t
  have hl2 := h2.loc t
  refine ⟨?_, (List.nodup_append.mp hl2.rl_nd).1, fun n hn => hl2.rl n (by simp [hn]), ?_,
    h1.thr_le (joined_recs h1 hj)⟩
  · intro hp; have := hl.rcok; rw [RcOk_plain hp] at this; exact this
  · intro hq; exact hl.bound hq hj

/-- After a scan (all retired nodes decided): `retired_count ≤ index` — the number of non-NULL
    slots collected — and `2·index ≤ retire_threshold`; hence at least half of a full retired
    list is reclaimed by every scan that `hazard_pointer_free` triggers. -/
theorem scan_result_bounded {k : Nat} (hk : 0 < k) {es : List Ev} {s : St} {t : Nat} {c : Bool}
    {sp : List Nat} (hrun : (sys k).run es = some s) (hpc : s.pc t = .scanDecide c sp []) :
    s.rc t = (s.rlist t).length ∧ s.rc t ≤ sp.length ∧ 2 * sp.length ≤ s.thr t ∧ s.rc t < s.thr t := by
  obtain ⟨h1, h2, h3⟩ := inv_of_run hk hrun
  have hl := h3.loc t
  rw [hpc] at hl
  obtain ⟨a, b, c'⟩ := scan_end_bound h1 h2 h3 hpc
  exact ⟨hl.rcok, a, b, c'⟩

/-! ### non-vacuity: a concrete trace of the real code (the hypotheses above are satisfiable)

  `exTrace` is the event log of `harness/hazard.c` (K = 1, arena 4, one global cell, script
  `x0f,x0n,p5,s,p20,s|j,a00,p40,r0|p30,j`, VR_SEED=391, random schedule), cut after thread 0's second
  scan.  Thread 1 validates a protection of node 4 (event 27); thread 0 unlinks and retires node 4
  (34) and scans (45–58): the scan reads head = record 1, walks records 1 and 0, finds node 4 in
  thread 1's slot and KEEPS it, while thread 2 pushes its record in the middle of that scan (53) and
  only later bumps the older thresholds (60, 62); thread 1 releases (65–67); thread 0's next scan
  (68–80) starts from the new head — record 2, the late joiner — and reclaims node 4 (78). -/
def exTrace : List Ev := [
  .callJoin 0,
  .ldHead 0 0,
  .wrNext 0 0 0,
  .callJoin 1,
  .callJoin 2,
  .stThr 0 0 2,
  .casHead 0 0 0 1 true,
  .rdNext 0 0 0,
  .retJoin 0,
  .callX 0 0,
  .alloc 0 4,
  .ldHead 1 1,
  .wrNext 1 1 1,
  .rdNext 1 0 0,
  .stThr 1 1 4,
  .casHead 1 1 1 2 true,
  .rdNext 1 1 1,
  .faddThr 1 0 2 2,
  .xchgG 0 0 0 4,
  .rdNext 1 0 0,
  .retJoin 1,
  .callAcq 1 0 0,
  .ldG 1 0 4,
  .wrHp 1 1 0 4,
  .fence 1,
  .ldG 1 0 4,
  .validated 1 0 4,
  .use 1 0 4,
  .retAcq 1 4,
  .retX 0,
  .callX 0 0,
  .alloc 0 0,
  .xchgG 0 0 4 0,
  .callRetire 0 4,
  .rdRc 0 0 0,
  .wrRc 0 0 1,
  .ldThr 0 0 4,
  .retRetire 0,
  .rcNote 0 0 1,
  .retX 0,
  .ldHead 2 2,
  .wrNext 2 2 2,
  .rdNext 2 1 1,
  .rdNext 2 0 0,
  .callScan 0,
  .ldHead 0 2,
  .ldThr 0 1 4,
  .rdHp 0 1 0 4,
  .rdNext 0 1 1,
  .rdHp 0 0 0 0,
  .rdNext 0 0 0,
  .stThr 2 2 6,
  .casHead 2 2 2 3 true,
  .wrRc 0 0 0,
  .rdRc 0 0 0,
  .wrRc 0 0 1,
  .retScan 0,
  .rcNote 0 0 1,
  .rdNext 2 2 2,
  .faddThr 2 1 4 2,
  .rdNext 2 1 1,
  .faddThr 2 0 4 2,
  .rdNext 2 0 0,
  .retJoin 2,
  .callRel 1 0,
  .wrHp 1 1 0 0,
  .retRel 1,
  .callScan 0,
  .ldHead 0 3,
  .ldThr 0 2 6,
  .rdHp 0 2 0 0,
  .rdNext 0 2 2,
  .rdHp 0 1 0 0,
  .rdNext 0 1 1,
  .rdHp 0 0 0 0,
  .rdNext 0 0 0,
  .wrRc 0 0 0,
  .reclaim 0 4,
  .retScan 0,
  .rcNote 0 0 0
]

/-- the model accepts the whole trace -/
example : ((sys 1).run exTrace).isSome = true := by decide

/-- a scan in progress (hypothesis of `scan_covers`): thread 0 has read head = record 1, capacity 2,
    has completely read record 1 (collecting node 4) and is about to read record 0 -/
example : ((sys 1).run (exTrace.take 49)).map (fun s => s.pc 0)
    = some (.scanWalk false 2 2 1 0 [4] [1]) := by decide

/-- the protection survives the scan, and a record joined while the scan ran: after event 58 thread
    1 still holds its validated protection of node 4, node 4 is retired by thread 0 and still in its
    retired list (`retired_count = 1`), the list of records is 2,1,0, and record 0's threshold has
    not yet been bumped by the joiner (4 = 2·2·1) whereas the joiner's own is 6 = 2·3·1 -/
example : ((sys 1).run (exTrace.take 58)).map
    (fun s => (s.prot 1 0, decide (s.ns 4 = .retired 0), s.rlist 0, s.rc 0, s.recs, s.thr 0, s.thr 2,
               (s.pc 2).joined))
    = some (4, true, [4], 1, [2, 1, 0], 4, 6, false) := by rfl

/-- hypothesis of `no_reclaim_protected` / `scan_decision`: event 78 is the reclamation of node 4,
    accepted after the 77 events before it -/
example : exTrace.take 78 = exTrace.take 77 ++ [.reclaim 0 4] ∧
    ((sys 1).run (exTrace.take 78)).isSome = true := by decide

/-- at the end: node 4 is free again, no garbage is left, all three records have joined and every
    threshold is exactly 2·N·K = 6 (`threshold_bounds`) -/
example : ((sys 1).run exTrace).map
    (fun s => (decide (s.ns 4 = .free), s.rc 0, s.rlist 0, s.thr 0, s.thr 1, s.thr 2,
               (s.pc 0).joined && (s.pc 1).joined && (s.pc 2).joined))
    = some (true, 0, [], 6, 6, 6, true) := by rfl

/-- `binary_search` itself on a few address patterns (duplicates, ends, empty, absent) -/
example : binarySearch [1, 3, 3, 7] 3 = true ∧ binarySearch [1, 3, 3, 7] 7 = true ∧
    binarySearch [1, 3, 3, 7] 1 = true ∧ binarySearch [1, 3, 3, 7] 5 = false ∧
    binarySearch [] 5 = false ∧ binarySearch [2] 2 = true ∧ binarySearch [2] 9 = false := by decide

end LibfiberVerif.Hp
