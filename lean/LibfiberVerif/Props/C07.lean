/-
  Props/C07.lean — property C07 (src/fiber_rwlock.c, include/fiber_rwlock.h), theorems only.

  "A writer holds the lock alone - never with another writer or any reader - while any number
   of readers may share it.  Every unlock that leaves waiters admits either exactly one waiting
   writer or all currently waiting readers, so no fiber stays blocked on a lock nobody holds;
   the try variants never block and succeed only when immediate acquisition is legal."

  Every theorem is for every event list `es` accepted by the model (`run es = some s`):
  unbounded fibers, operations and steps, every interleaving of the individual accesses of
  rdlock / wrlock / tryrdlock / trywrlock / rdunlock / wrunlock (read of the state word, CAS,
  every access of the enqueue and of the pop-and-wake), any mix of readers and writers,
  including waiters that are counted in the word but not yet enqueued at hand-off time
  (those are just states with a pc between `counted` and `pushXchgd`).  The kernel thread a
  fiber runs on does not occur in the model: the result is for any number of kernel threads.

  Explicit hypothesis (see Model/RwLock.lean): fewer than 2^21 simultaneous holders / waiters,
  i.e. a CAS whose new word would overflow a 21-bit field is not a model step.

  Vocabulary (Proof/RwLock.lean):
    `Holds s f b`   f holds in mode b (true = write): from its acquiring CAS — or, for a waiter,
                    from the releaser's pop that hands the lock to it, resumed or not — until
                    its releasing CAS (`holds_iff` spells this out on the pcs);
    `s.tok b`       grants issued to queue b by a releasing CAS and not yet consumed by a pop:
                    the lock is already owned by "the next `tok b` fibers popped from queue b".
                    Holders are therefore counted as identified holders + pending grants
                    (occupancy, not identity: which waiter consumes a grant is decided by the
                    queue order, a later registrant may overtake one that is still enqueueing);
    `Waits s f b`   f is counted in waiting_readers / waiting_writers (or covered by a grant)
                    and not yet popped (`waits_iff`);
    `Popping s p q` p is inside fiber_manager_wake_from_mpsc_queue on queue q (`popping_iff`).
-/
import LibfiberVerif.Proof.RwLock

namespace LibfiberVerif.RwLock

/-- A writer holds the lock alone: if `f` holds for writing, any holder `g` (any mode) is `f`
    itself; in counts (identified holders + pending grants): at most one writer, and then no
    reader at all.  Readers may share (nothing bounds `holders false`). -/
theorem writer_exclusive (stub : Bool → Nat) (nodeOf : Nat → Nat) (es : List Ev) (s : St)
    (h : (sys stub nodeOf).run es = some s) :
    (∀ f g b, Holds s f true → Holds s g b → g = f ∧ b = true) ∧
    (s.holders true).length + s.tok true ≤ 1 ∧
    ((s.holders true).length + s.tok true = 1 → s.holders false = [] ∧ s.tok false = 0) := by
  have hI := inv_of_run h
  exact ⟨fun f g b hf hg => hI.writer_alone hf hg, hI.excl_lists.1, hI.excl_lists.2⟩

/-- Critical-section form: a writer inside the critical section is alone in it. -/
theorem cs_exclusive (stub : Bool → Nat) (nodeOf : Nat → Nat) (es : List Ev) (s : St)
    (h : (sys stub nodeOf).run es = some s) (f g : Nat) (b : Bool)
    (hf : s.pc f = .inCs true) (hg : s.pc g = .inCs b) : g = f := by
  have hI := inv_of_run h
  exact (hI.writer_alone (Holds.of_pc hf rfl) (Holds.of_pc hg rfl)).1

/-- The state word matches the holders: `write_locked` = number of write holders (0 or 1),
    `reader_count` = number of read holders, both counting handed-off-not-yet-resumed fibers
    and pending grants; the ghost lists are exactly the fibers that hold (no duplicates). -/
theorem word_matches (stub : Bool → Nat) (nodeOf : Nat → Nat) (es : List Ev) (s : St)
    (h : (sys stub nodeOf).run es = some s) :
    s.w.wl = (s.holders true).length + s.tok true ∧
    s.w.rc = (s.holders false).length + s.tok false ∧
    (∀ f b, f ∈ s.holders b ↔ Holds s f b) ∧ (∀ b, (s.holders b).Nodup) ∧
    (s.w.wl = 1 ↔ ((∃ f, Holds s f true) ∨ s.tok true = 1)) ∧
    (s.w.wl < 2 ∧ s.w.rc < 2 ^ 21 ∧ s.w.wr < 2 ^ 21 ∧ s.w.ww < 2 ^ 21) := by
  have hI := inv_of_run h
  refine ⟨hI.a.cnt_w, hI.a.cnt_r, fun f b => hI.holds_mem.symm, hI.b.hnd, ?_, hI.a.fits⟩
  have h1 := hI.a.cnt_w
  have h2 := hI.a.fits.1
  constructor
  · intro hw
    by_cases ht : s.tok true = 1
    · exact Or.inr ht
    · exact Or.inl (hI.exists_holds (by omega))
  · rintro (⟨f, hf⟩ | ht)
    · have := List.length_pos_of_mem (hI.holds_mem.1 hf); omega
    · omega

/-- The waiting counters match the waiters: `waiting_readers` / `waiting_writers` + pending
    grants = number of fibers counted and not yet popped (enqueued or still enqueueing). -/
theorem waiting_matches (stub : Bool → Nat) (nodeOf : Nat → Nat) (es : List Ev) (s : St)
    (h : (sys stub nodeOf).run es = some s) :
    (s.waiters false).length = s.w.wr + s.tok false ∧
    (s.waiters true).length = s.w.ww + s.tok true ∧
    (∀ f b, f ∈ s.waiters b ↔ Waits s f b) ∧ (∀ b, (s.waiters b).Nodup) := by
  have hI := inv_of_run h
  exact ⟨hI.a.wait_r, hI.a.wait_w, fun f b => hI.waits_mem.symm, hI.b.wnd⟩

/-- A try variant succeeds only when immediate acquisition is legal: the successful CAS of
    tryrdlock happens in a state with no writer (holding or granted) and nobody waiting; the
    successful CAS of trywrlock in a state where the lock is completely free; and the caller
    holds from that CAS on. -/
theorem try_legal_only (stub : Bool → Nat) (nodeOf : Nat → Nat) (es : List Ev) (s s' : St)
    (h : (sys stub nodeOf).run es = some s) (f found expected desired : Nat) (b : Bool) (snap : Nat)
    (hpc : s.pc f = .tryRead b snap)
    (hst : (sys stub nodeOf).step s (.cas f found expected desired true) = some s') :
    (b = false → s.w.wl = 0 ∧ s.w.ww = 0 ∧ s.w.wr = 0 ∧ (∀ g, ¬ Holds s g true) ∧ s.tok true = 0) ∧
    (b = true → s.w = ⟨0, 0, 0, 0⟩ ∧ (∀ g c, ¬ Holds s g c) ∧ s.tok true = 0 ∧ s.tok false = 0) ∧
    Holds s' f b := by
  have hI := inv_of_run h
  obtain ⟨rfl, hs'⟩ : snap = encode s.w ∧ Holds s' f b := by
    have h : step s (.cas f found expected desired true) = some s' := hst
    generalize hk : true = ok at h
    simp only [step, hpc] at h
    obtain ⟨-, hs, -, h⟩ | ⟨hf, -⟩ := cas_cases h
    · cases h
      exact ⟨hs, by simp [Holds, view, holdMode]⟩
    · cases hk.trans hf
  have hleg : tryLegal b (encode s.w) = true := by
    have := hI.e f; rw [hpc] at this; simpa [view] using this
  rw [tryLegal_enc s.w hI.a.fits b] at hleg
  have h1 := hI.a.cnt_w
  have h2 := hI.a.cnt_r
  have hpos : ∀ g c, Holds s g c → 0 < (s.holders c).length := fun g c hg =>
    List.length_pos_of_mem (hI.holds_mem.1 hg)
  refine ⟨?_, ?_, hs'⟩
  · rintro rfl
    simp only [Bool.false_eq_true, if_false] at hleg
    exact ⟨hleg.2.1, hleg.1, hleg.2.2, fun g hg => by have := hpos g true hg; omega, by omega⟩
  · rintro rfl
    simp only [if_true] at hleg
    refine ⟨?_, fun g c hg => ?_, by omega, by omega⟩
    · cases hw : s.w; simp_all
    · have := hpos g c hg
      cases c <;> omega

/-- The try variants never block: a fiber inside tryrdlock / trywrlock stays in the read – CAS
    – retry loop until it returns (success: it holds; failure: idle); no step takes it into
    the wait path. -/
theorem try_never_blocks (stub : Bool → Nat) (nodeOf : Nat → Nat) (s s' : St) (e : Ev)
    (hst : (sys stub nodeOf).step s e = some s') (f : Nat) (b : Bool)
    (hf : s.pc f = .tryCalled b ∨ (∃ snap, s.pc f = .tryRead b snap) ∨ ∃ r, s.pc f = .tryDone b r) :
    s'.pc f = .tryCalled b ∨ (∃ snap, s'.pc f = .tryRead b snap) ∨ (∃ r, s'.pc f = .tryDone b r) ∨
      s'.pc f = .held b ∨ s'.pc f = .idle := by
  have h : step s e = some s' := hst
  by_cases hfa : f = actor e
  · subst hfa
    -- from a try pc only `rBlob`, `cas` and `retTry` are accepted
    rcases hf with h1 | ⟨snap, h1⟩ | ⟨r, h1⟩ <;> cases e <;> simp only [actor] at h1 ⊢ <;>
      simp only [step, h1, reduceCtorEq, ↓reduceIte] at h <;> (repeat' split at h) <;> cases h <;>
      simp [*]
  · rw [step_frame h f hfa]
    rcases hf with h1 | h1 | h1
    · exact Or.inl h1
    · exact Or.inr (Or.inl h1)
    · exact Or.inr (Or.inr (Or.inl h1))

/-- Every unlock that leaves waiters admits exactly one waiting writer or all currently
    waiting readers: a releasing CAS by the last holder (the word says one holder) with
    waiters counted transfers ownership IN THAT SAME CAS — to one writer (`write_locked`
    stays/becomes 1, one grant on the write queue, `waiting_writers` − 1), or, if no writer
    waits, to all counted readers (`reader_count := waiting_readers`, that many grants on
    the read queue, `waiting_readers := 0`) — and the releaser goes on to pop exactly those. -/
theorem release_admits (stub : Bool → Nat) (nodeOf : Nat → Nat) (es : List Ev) (s s' : St)
    (h : (sys stub nodeOf).run es = some s) (f found expected desired : Nat) (b : Bool) (snap : Nat)
    (hpc : s.pc f = .unlockRead b snap)
    (hst : (sys stub nodeOf).step s (.cas f found expected desired true) = some s')
    (hlast : s.w.wl + s.w.rc = 1) (hw : 0 < s.w.wr ∨ 0 < s.w.ww) :
    (0 < s.w.ww ∧ s'.w = ⟨1, 0, s.w.wr, s.w.ww - 1⟩ ∧ s'.tok true = 1 ∧ s'.tok false = 0 ∧
      s'.pc f = .wakeLoop true 1) ∨
    (s.w.ww = 0 ∧ s'.w = ⟨0, s.w.wr, 0, 0⟩ ∧ s'.tok false = s.w.wr ∧ s'.tok true = 0 ∧
      s'.pc f = .wakeLoop false s.w.wr) := by
  have hI := inv_of_run h
  obtain ⟨hnew, ht, -⟩ := hI.a.unlock_eq (hI.holds_mem.1 (Holds.of_pc hpc rfl))
  obtain ⟨ht1, ht2⟩ := ht hlast
  obtain ⟨rfl, hw', hrest⟩ := step_cas_unlock hst rfl hpc
  rw [hnew, if_pos hlast] at hw' hrest
  by_cases hww : s.w.ww ≠ 0
  · simp only [if_pos hww] at hw' hrest
    exact Or.inl ⟨by omega, hw', by rw [hrest.1, updB_same, ht1], by rw [hrest.1]; exact ht2, hrest.2⟩
  · have hwr : s.w.wr ≠ 0 := by omega
    simp only [if_neg hww, if_pos hwr] at hw' hrest
    exact Or.inr ⟨by omega, hw', by rw [hrest.1, updB_same, ht2, Nat.zero_add], by rw [hrest.1]; exact ht1, hrest.2⟩

/-- …and an unlock by the last holder with nobody counted as waiting frees the lock. -/
theorem release_frees (stub : Bool → Nat) (nodeOf : Nat → Nat) (es : List Ev) (s s' : St)
    (h : (sys stub nodeOf).run es = some s) (f found expected desired : Nat) (b : Bool) (snap : Nat)
    (hpc : s.pc f = .unlockRead b snap)
    (hst : (sys stub nodeOf).step s (.cas f found expected desired true) = some s')
    (hlast : s.w.wl + s.w.rc = 1) (hw : s.w.wr = 0 ∧ s.w.ww = 0) :
    s'.w = ⟨0, 0, 0, 0⟩ ∧ s'.pc f = .unlockDone := by
  have hI := inv_of_run h
  obtain ⟨hnew, -⟩ := hI.a.unlock_eq (hI.holds_mem.1 (Holds.of_pc hpc rfl))
  obtain ⟨rfl, hw', hrest⟩ := step_cas_unlock hst rfl hpc
  have hww : ¬s.w.ww ≠ 0 := by omega
  have hwr : ¬s.w.wr ≠ 0 := by omega
  rw [hnew, if_pos hlast] at hw' hrest
  simp only [if_neg hww, if_neg hwr] at hw' hrest
  exact ⟨hw', hrest.2⟩

/-- No fiber stays blocked on a lock nobody holds.  Word level (the inductive form):
    waiting readers imply a writer holds or waits; waiting writers imply somebody holds.
    Fiber level: whenever some fiber is counted as waiting, either some fiber holds the lock,
    or a grant is pending and a releaser is inside its pop loop on that queue. -/
theorem no_stranded (stub : Bool → Nat) (nodeOf : Nat → Nat) (es : List Ev) (s : St)
    (h : (sys stub nodeOf).run es = some s) :
    (0 < s.w.wr → s.w.wl = 1 ∨ 0 < s.w.ww) ∧
    (0 < s.w.ww → s.w.wl = 1 ∨ 0 < s.w.rc) ∧
    (0 < s.w.wr ∨ 0 < s.w.ww → s.w.wl = 1 ∨ 0 < s.w.rc) ∧
    (∀ f b, Waits s f b → (∃ g c, Holds s g c) ∨ (∃ q p, 0 < s.tok q ∧ Popping s p q)) := by
  have hI := inv_of_run h
  obtain ⟨h1, h2, h3, h4, h5, h6, h7, h8⟩ := hI.a
  have hword : 0 < s.w.wr ∨ 0 < s.w.ww → s.w.wl = 1 ∨ 0 < s.w.rc := by omega
  refine ⟨h7, h8, hword, ?_⟩
  intro f b hf
  have hpos := List.length_pos_of_mem (hI.waits_mem.1 hf)
  have key : ∀ c, 0 < (s.holders c).length + s.tok c →
      (∃ g c, Holds s g c) ∨ (∃ q p, 0 < s.tok q ∧ Popping s p q) := by
    intro c hc
    by_cases ht : 0 < s.tok c
    · obtain ⟨p, hp⟩ := hI.d.p4 c ht
      exact Or.inr ⟨c, p, ht, hp⟩
    · obtain ⟨g, hg⟩ := hI.exists_holds (b := c) (by omega)
      exact Or.inl ⟨g, c, hg⟩
  by_cases ht : 0 < s.tok b
  · exact key b (by omega)
  · have : 0 < s.w.wr ∨ 0 < s.w.ww := by cases b <;> omega
    rcases hword this with hl | hr
    · exact key true (by omega)
    · exact key false (by omega)

/-- The mpsc client obligation: each waiter queue has at most one consumer at a time. -/
theorem single_consumer (stub : Bool → Nat) (nodeOf : Nat → Nat) (es : List Ev) (s : St)
    (h : (sys stub nodeOf).run es = some s) (p p' : Nat) (q : Bool)
    (hp : Popping s p q) (hp' : Popping s p' q) : p = p' :=
  (inv_of_run h).d.p3 p p' q hp hp'

/-- …because the next hand-off to a queue needs the whole previous batch to be done: a
    releasing CAS that hands off to queue `q` happens only when no grant is pending on `q`
    and no fiber is popping `q` (not even finishing the wake-up of its last popped fiber). -/
theorem handoff_after_batch (stub : Bool → Nat) (nodeOf : Nat → Nat) (es : List Ev) (s s' : St)
    (h : (sys stub nodeOf).run es = some s) (f found expected desired : Nat) (b : Bool) (snap : Nat)
    (hpc : s.pc f = .unlockRead b snap)
    (hst : (sys stub nodeOf).step s (.cas f found expected desired true) = some s')
    (q : Bool) (n : Nat) (hh : (unlockNew b snap).2 = some (q, n)) :
    s.tok q = 0 ∧ 0 < n ∧ (∀ p, ¬ Popping s p q) ∧ s'.tok q = n ∧ s'.pc f = .wakeLoop q n := by
  have hI := inv_of_run h
  obtain ⟨rfl, -, hs'⟩ := step_cas_unlock hst rfl hpc
  have hA := hI.a.unlock b f (hI.holds_mem.1 (Holds.of_pc hpc rfl))
  rw [hh] at hA hs'
  obtain ⟨-, ht0, hn, hall⟩ := hA
  exact ⟨ht0, hn, no_popper hI q f ht0 hall (by simp [St.prk, hpc, view]),
    by rw [hs'.1, updB_same, ht0, Nat.zero_add], hs'.2⟩

/-- The pop loop's counter is the number of grants still pending on its queue. -/
theorem pop_count (stub : Bool → Nat) (nodeOf : Nat → Nat) (es : List Ev) (s : St)
    (h : (sys stub nodeOf).run es = some s) (p : Nat) (q : Bool) (k : Nat)
    (hp : s.pc p = .wakeLoop q k) : s.tok q = k ∧ 0 < k :=
  (inv_of_run h).d.p1 p q k (by simp [St.pre, hp, view])

/-- The rdunlock branch "last reader hands off to waiting readers" is dead code: whenever a
    read holder could release, the hand-off (if any) goes to one writer.  (So deleting
    `waiting_readers = 0` from that branch is an equivalent mutant.) -/
theorem rdunlock_reader_branch_dead (stub : Bool → Nat) (nodeOf : Nat → Nat) (es : List Ev) (s : St)
    (h : (sys stub nodeOf).run es = some s) (f : Nat) (hf : Holds s f false) :
    (unlockNew false (encode s.w)).2 = none ∨ (unlockNew false (encode s.w)).2 = some (true, 1) := by
  have hI := inv_of_run h
  obtain ⟨h1, -, h3⟩ := hI.a.unlock_eq (hI.holds_mem.1 hf)
  rw [h1]
  split
  · split
    · exact Or.inr rfl
    · rw [if_neg (by have := h3 rfl; omega)]; exact Or.inl rfl
  · exact Or.inl rfl

/-- The occupancy monitor that `verifdrv` evaluates on every implementation history (a writer
    in the critical section with anybody else; a try variant reporting success while the
    critical section is occupied incompatibly) never fires on a trace the model accepts. -/
theorem monitor_silent (stub : Bool → Nat) (nodeOf : Nat → Nat) (es : List Ev) (s : St)
    (h : (sys stub nodeOf).run es = some s) : monitor es = none := by
  have := Sys.hist_inv_of_run (sys stub nodeOf)
    (fun s es => Inv s ∧ MonInv s (es.foldl monStep monInit))
    ⟨inv_init stub nodeOf, ⟨rfl, by simp [monInit]⟩⟩
    (fun s es e s' hI hs => by
      refine ⟨inv_step hI.1 hs, ?_⟩
      rw [List.foldl_append]
      exact mon_step hI.1 hI.2 hs) h
  exact this.2.ok

/-! ### non-vacuity: a concrete trace (a run of the real implementation, 5 fibers on 2 kernel
    threads, script `w,u|r,u|w,u|r,u,W,u|R,u`, as logged by harness/rwlock.c) -/

def demo : List Ev :=
  [.callLock 16 true, .rBlob 16 0, .cas 16 0 0 1 true, .retLock 16 true,
   .csEnter 16 true, .csExit 16, .callUnlock 16 true, .rBlob 16 1,
   .cas 16 1 1 0 true, .retUnlock 16, .callTry 20 false, .rBlob 20 0,
   .cas 20 0 0 2 true, .callLock 18 true, .rBlob 18 2, .retTry 20 false true,
   .csEnter 20 false, .cas 18 2 2 8796093022210 true, .wState 18 18 5, .rNode 18 18 21,
   .wData 18 21 18, .wNode 18 18 0, .wNext 18 21 0, .callLock 19 false,
   .xchgTail 18 true 2 21, .rBlob 19 8796093022210, .wNext 18 2 21, .cas 19 8796093022210 8796093022210 8796097216514 true,
   .wState 19 19 5, .rNode 19 19 22, .wData 19 22 19, .wNode 19 19 0,
   .wNext 19 22 0, .xchgTail 19 false 1 22, .wNext 19 1 22, .callLock 17 false,
   .csExit 20, .callUnlock 20 false, .rBlob 20 8796097216514, .rBlob 17 8796097216514,
   .cas 17 8796097216514 8796097216514 8796101410818 true, .wState 17 17 5, .cas 20 8796101410818 8796097216514 4194305 false, .rNode 17 17 20,
   .wData 17 20 17, .rBlob 20 8796101410818, .cas 20 8796101410818 8796101410818 8388609 true, .rHead 20 true 2,
   .wNode 17 17 0, .wNext 17 20 0, .xchgTail 17 false 22 20, .wNext 17 22 20,
   .rNext 20 2 21, .wHead 20 true 21, .rData 20 21 18, .wData 20 2 18,
   .rData 20 2 18, .wNode 20 18 2, .rState 20 18 3, .wState 20 18 2,
   .retUnlock 20, .retLock 18 true, .csEnter 18 true, .csExit 18,
   .callUnlock 18 true, .rBlob 18 8388609, .cas 18 8388609 8388609 4 true, .rHead 18 false 1,
   .rNext 18 1 22, .wHead 18 false 22, .rData 18 22 19, .wData 18 1 19,
   .rData 18 1 19, .wNode 18 19 1, .rState 18 19 3, .wState 18 19 2,
   .rHead 18 false 22, .rNext 18 22 20, .wHead 18 false 20, .rData 18 20 17,
   .wData 18 22 17, .rData 18 22 17, .wNode 18 17 22, .rState 18 17 3,
   .wState 18 17 2, .retUnlock 18, .retLock 19 false, .csEnter 19 false,
   .retLock 17 false, .csEnter 17 false, .csExit 19, .callUnlock 19 false,
   .rBlob 19 4, .cas 19 4 4 2 true, .retUnlock 19, .callTry 19 true,
   .rBlob 19 2, .retTry 19 true false, .csExit 17, .callUnlock 17 false,
   .rBlob 17 2, .cas 17 2 2 0 true, .retUnlock 17]

def dsys : Sys St Ev := sys (fun b => if b then 2 else 1) (fun k => k + 3)

/-- the whole trace is accepted and ends with the lock free -/
example : (dsys.run demo).map (fun s => (s.w, s.holders true, s.holders false, s.tok true, s.tok false)) =
    some (⟨0, 0, 0, 0⟩, [], [], 0, 0) := by decide

/-- `try_legal_only`: event 12 is a successful tryrdlock CAS from pc `tryRead` -/
example : (dsys.run (demo.take 12)).map (fun s => s.pc 20) = some (.tryRead false 0) ∧
    ((dsys.run (demo.take 12)).bind (fun s => dsys.step s (.cas 20 0 0 2 true))).isSome = true := by
  decide

/-- `release_admits`, first alternative: event 46 is the rdunlock CAS of the last reader (20)
    with one writer (18) and two readers (19 enqueued, 17 counted but NOT yet enqueued)
    waiting; it hands to the writer in that CAS; the readers keep waiting behind `wl = 1` -/
example : (dsys.run (demo.take 46)).map
      (fun s => (s.w, s.pc 20, s.pc 17, s.waiters true, s.waiters false)) =
    some (⟨0, 1, 2, 1⟩, .unlockRead false 8796101410818, .waitWroteData false 20, [18], [17, 19]) ∧
    (dsys.run (demo.take 47)).map (fun s => (s.w, s.pc 20, s.tok true, s.tok false)) =
    some (⟨1, 0, 2, 0⟩, .wakeLoop true 1, 1, 0) := by decide

/-- `release_admits`, second alternative: event 66 is the wrunlock CAS of writer 18 with two
    readers waiting and no writer: both are admitted in that CAS -/
example : (dsys.run (demo.take 66)).map (fun s => (s.w, s.pc 18, s.holders true)) =
    some (⟨1, 0, 2, 0⟩, .unlockRead true 8388609, [18]) ∧
    (dsys.run (demo.take 67)).map (fun s => (s.w, s.pc 18, s.tok true, s.tok false)) =
    some (⟨0, 2, 0, 0⟩, .wakeLoop false 2, 0, 2) := by decide

/-- a handed-off reader (19) holds before it is resumed, while the other grant is pending -/
example : (dsys.run (demo.take 70)).map (fun s => (s.pc 18, s.pc 19, s.woken 19)) =
      some (.popMoved false 1 1 22 19, .parked false 0, false) ∧
    (dsys.run (demo.take 70)).map (fun s => (s.holders false, s.waiters false, s.tok false)) =
      some ([19], [17], 1) := by decide

/-- a failed CAS loops back to the read (event 42), and a failing trywrlock returns without
    a CAS (event 97) -/
example : (dsys.run (demo.take 43)).map (fun s => s.pc 20) = some (.unlockCalled false) ∧
    (dsys.run (demo.take 97)).map (fun s => s.pc 19) = some (.tryDone true false) := by decide

end LibfiberVerif.RwLock
