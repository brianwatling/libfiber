/-
  Props/C06.lean — property C06 (fiber semaphore, src/fiber_semaphore.c with
  fiber_manager_wait_in_mpmc_queue / fiber_manager_wake_from_mpmc_queue / the deferred
  `mpmc_to_push` of fiber_manager_do_maintenance):

  "At every instant the number of fiber_semaphore_wait/trywait calls that have succeeded is at
   most the initial value plus the number of posts begun (no over-admission), and no fiber
   remains blocked in wait while units are available and no post is in progress (no lost
   post).  trywait never blocks and never succeeds without a unit; once activity ceases the
   value equals initial + posts - successful waits."

  All theorems are over EVERY event list the model `Sem.sys v node0` accepts, for EVERY initial
  value `v ≥ 0` (a `Nat`), an unbounded number of fibers (`pc : Nat → Pc`) on an unbounded
  number of kernel threads (`slot`, `pp : Nat → _`), unbounded operation counts — including
  posts that find an announced waiter that its successor has not enqueued yet (the post's
  trypop gives up and the post re-reads the counter: `ldCounter` from `popH2`).

  Vocabulary (Model/Sem.lean, Proof/Sem.lean).  `admitted` = waits that saw a unit at their
  fetch_sub + trywaits whose CAS succeeded + waiters dequeued by a post; `retOk` = waits
  returned + trywaits returned success; `isBlocked (pc f)` = f decremented the counter without
  getting a unit and no post has dequeued it yet (announced, parked or enqueued); `mid` = the
  posts that dequeued a waiter and have not done their fetch_add yet; `pre` = posts begun that
  have had no effect yet.
-/
import LibfiberVerif.Proof.Sem

namespace LibfiberVerif.Sem

/-- **No over-admission**, in every reachable state: the wait/trywait calls that have been
    admitted (and a fortiori those that have returned successfully) number at most the initial
    value plus the posts begun. -/
theorem no_over_admit (v node0 : Nat) (es : List Ev) (s : St)
    (h : (sys v node0).run es = some s) :
    s.retOk ≤ s.admitted ∧ s.admitted ≤ v + s.postsBegun := by
  have hi := inv_of_run h
  have h1 := hi.cnt; have h2 := hi.blocked; have h3 := hi.enq; have h4 := hi.popd
  have h5 := hi.posts; have h6 := hi.admd; have h7 := hi.neg; have h8 := hi.nonneg
  simp only [St.admitted]
  omega

/-- No over-admission on observable events only, at every instant: in every prefix of an
    accepted trace, #(`ret wait`) + #(`ret trywait 1`) ≤ initial + #(`call post`).  This is the
    predicate the monitor evaluates on implementation logs. -/
theorem no_over_admit_trace (v node0 : Nat) (es fs : List Ev) (s : St)
    (h : (sys v node0).run (es ++ fs) = some s) :
    es.countP isSuccRet ≤ v + es.countP isCallPost := by
  obtain ⟨s0, h0, -⟩ := Sys.runFrom_append_some h
  have := no_over_admit v node0 es s0 h0
  have hc := trace_counts h0
  omega

/-- **Counter identity.**  Every change of the counter is one of six kinds of step:
    counter = initial + (post CAS successes + post fetch_adds) − (wait fetch_subs that saw a
    unit + trywait CAS successes + wait fetch_subs that saw none). -/
theorem counter_eq (v node0 : Nat) (es : List Ev) (s : St)
    (h : (sys v node0).run es = some s) :
    s.counter = (v : Int) + s.nCasPost + s.nFadd - s.nFast - s.nTryOk - s.nBlocked :=
  (inv_of_run h).cnt

/-- **What the counter means.**  With `W` = blocked waiters (announced or enqueued, not
    dequeued) and `P` = posts that dequeued a waiter and have not incremented yet:
    if `W + P > 0` the counter is `−(W + P)` and every unit ever made available has been
    consumed; otherwise the counter is the number of free units
    `initial + completed increments − admitted`. -/
theorem counter_meaning (v node0 : Nat) (es : List Ev) (s : St)
    (h : (sys v node0).run es = some s) :
    (0 < s.pend.length + s.queue.length + s.mid.length →
      s.counter = -((s.pend.length + s.queue.length + s.mid.length : Nat) : Int) ∧
      v + s.nCasPost = s.nFast + s.nTryOk) ∧
    (s.pend.length + s.queue.length + s.mid.length = 0 →
      0 ≤ s.counter ∧ s.counter = (v : Int) + s.nCasPost + s.nFadd - s.admitted) := by
  have hi := inv_of_run h
  have h1 := hi.cnt; have h2 := hi.blocked; have h3 := hi.enq; have h4 := hi.popd
  have h7 := hi.neg; have h8 := hi.nonneg
  simp only [St.admitted]
  constructor <;> intro h0 <;> constructor <;> omega

/-- the ghost lists are exactly the fibers in the corresponding program-counter classes -/
theorem lists_exact (v node0 : Nat) (es : List Ev) (s : St)
    (h : (sys v node0).run es = some s) (f : Nat) :
    (f ∈ s.pend ++ s.queue ↔ isBlocked (s.pc f) = true) ∧ (f ∈ s.mid ↔ isMid (s.pc f) = true) ∧
    (f ∈ s.pre ↔ isPre (s.pc f) = true) ∧ (s.pend ++ s.queue).Nodup ∧ s.mid.Nodup := by
  have hi := inv_of_run h
  refine ⟨?_, ⟨hi.tMid.cls_of_mem, hi.tMid.mem⟩, ⟨hi.tPre.cls_of_mem, hi.tPre.mem⟩, ?_, ?_⟩
  · simp only [List.mem_append, isBlocked, Bool.or_eq_true]
    constructor
    · rintro (h1 | h1)
      · exact Or.inl (hi.tPend.cls_of_mem h1)
      · exact Or.inr (hi.tQueue.cls_of_mem h1)
    · rintro (h1 | h1)
      · exact Or.inl (hi.tPend.mem h1)
      · exact Or.inr (hi.tQueue.mem h1)
  · rw [List.nodup_iff_count]
    intro a
    have c1 := hi.tPend a; have c2 := hi.tQueue a
    rw [List.count_append, c1, c2]
    cases hp : s.pc a <;> simp [isPend, isQueued]
  · rw [List.nodup_iff_count]
    intro a
    have c1 := hi.tMid a
    rw [c1]; split <;> omega

/-- **No lost post.**  (1) Whenever the counter is non-negative (units available, or exactly
    none) NO fiber is blocked in wait and no post is between its dequeue and its increment —
    whether or not other posts are in progress.  (2) Whenever the counter is negative, the
    blocked waiters plus the posts that already dequeued a waiter and are about to increment
    number exactly −counter; in particular with no post in progress exactly −counter fibers are
    blocked, each waiting for a post that has not begun.  (`lists_exact`: `pend ++ queue` lists
    the blocked fibers without repetition, `mid` those posts.) -/
theorem no_lost_post (v node0 : Nat) (es : List Ev) (s : St)
    (h : (sys v node0).run es = some s) :
    (0 ≤ s.counter → (∀ f, isBlocked (s.pc f) = false) ∧ (∀ f, isMid (s.pc f) = false)) ∧
    (s.counter < 0 → -s.counter = (((s.pend ++ s.queue).length + s.mid.length : Nat) : Int)) ∧
    (s.counter < 0 → (∀ f, isMid (s.pc f) = false) →
      -s.counter = (((s.pend ++ s.queue).length : Nat) : Int)) := by
  have hi := inv_of_run h
  have h7 := hi.neg; have h8 := hi.nonneg
  refine ⟨?_, ?_, ?_⟩
  · intro h0
    have := h8 h0
    have e1 : s.pend = [] := List.eq_nil_of_length_eq_zero (by omega)
    have e2 : s.queue = [] := List.eq_nil_of_length_eq_zero (by omega)
    have e3 : s.mid = [] := List.eq_nil_of_length_eq_zero (by omega)
    constructor
    · intro f
      cases hb : isBlocked (s.pc f) with
      | false => rfl
      | true =>
        have := ((lists_exact v node0 es s h f).1).mpr hb
        simp [e1, e2] at this
    · intro f
      cases hb : isMid (s.pc f) with
      | false => rfl
      | true =>
        have := hi.tMid.mem hb
        simp [e3] at this
  · intro h0
    have := h7 h0
    simp only [List.length_append]
    omega
  · intro h0 hm
    have := h7 h0
    have e3 : s.mid = [] := hi.tMid.nil_of_none hm
    simp only [List.length_append]
    simp [e3] at this
    omega

/-- A waiter that a post has dequeued but not yet made READY always has that post right
    behind it (about to write its state and pass it to the scheduler): a dequeued waiter is
    never forgotten. -/
theorem dequeued_has_post (v node0 : Nat) (es : List Ev) (s : St)
    (h : (sys v node0).run es = some s) (g : Nat) (hg : s.pc g = .waitHanded) :
    ∃ f, s.pc f = .popped g :=
  (inv_of_run h).handed g hg

/-- A waiter is enqueued only by the kernel thread in whose deferred-push slot it announced
    itself, and only while it is parked (its state word is WAITING, it has switched away or is
    about to): slots hold parked fibers only, and no fiber is in two slots. -/
theorem deferred_push_slots (v node0 : Nat) (es : List Ev) (s : St)
    (h : (sys v node0).run es = some s) :
    (∀ k w, s.slot k = some w → s.pc w = .waitParked) ∧
    (∀ k k' w, s.slot k = some w → s.slot k' = some w → k = k') :=
  ⟨(inv_of_run h).slotP, (inv_of_run h).slotI⟩

/-- **trywait is honest**: its CAS is attempted only with an expected value c > 0 it loaded
    from the counter, and succeeds only if the counter still is c — so a successful trywait
    takes one of `counter > 0` free units, and nothing else makes a trywait succeed
    (`retTry f true` is accepted only from `tryDone true`, which only this step produces). -/
theorem trywait_honest (v node0 : Nat) (es : List Ev) (s s' : St) (f : Nat) (a b c : Int)
    (h : (sys v node0).run es = some s) (ht : isTry (s.pc f) = true)
    (hs : step s (.casCounter f a b c true) = some s') :
    0 < s.counter ∧ s'.counter = s.counter - 1 ∧ s'.pc f = .tryDone true ∧
    (∀ f, isBlocked (s.pc f) = false) := by
  have hi := inv_of_run h
  cases Step.of_step hs with
  | move _ m => cases m
  | casPostOk hpc => rw [hpc] at ht; cases ht
  | casTryOk hpc =>
    have hc := hi.tryC f _ hpc
    exact ⟨hc, rfl, upd_same .., ((no_lost_post v node0 es s h).1 (by omega)).1⟩

/-- a successful return of trywait is always preceded by such a CAS: the fiber is in the list
    of admitted-not-yet-returned calls -/
theorem trywait_success_admitted (v node0 : Nat) (es : List Ev) (s : St) (f : Nat)
    (h : (sys v node0).run es = some s) (hp : s.pc f = .tryDone true) : f ∈ s.adm :=
  (inv_of_run h).tAdm.mem (by simp [hp, isAdm])

/-- **trywait never blocks** (1): a fiber inside trywait can always take its next step by
    itself, whatever the other fibers are doing (load the counter, CAS, or return). -/
theorem trywait_enabled (s : St) (f : Nat) (ht : isTry (s.pc f) = true) :
    ∃ e, e.fiber = some f ∧ (step s e).isSome = true := by
  cases hp : s.pc f <;> simp [hp, isTry] at ht
  · refine ⟨.ldCounter f s.counter, rfl, ?_⟩
    simp only [step, hp]; (repeat' split) <;> simp_all
  · rename_i c
    refine ⟨.casCounter f s.counter c (c - 1) (decide (s.counter = c)), rfl, ?_⟩
    simp only [step, hp]; (repeat' split) <;> simp_all
  · rename_i r
    refine ⟨.retTry f r, rfl, ?_⟩
    simp only [step, hp]; (repeat' split) <;> simp_all

/-- **trywait never blocks** (2): structurally there is no parking step — whatever event the
    model accepts, a fiber inside trywait stays inside trywait or returns; it is never
    announced, parked or enqueued, and it never writes a fiber state word. -/
theorem trywait_no_parking (v node0 : Nat) (es : List Ev) (s s' : St) (e : Ev) (f : Nat)
    (h : (sys v node0).run es = some s) (ht : isTry (s.pc f) = true)
    (hs : step s e = some s') :
    (isTry (s'.pc f) = true ∨ s'.pc f = .idle) ∧
    (∀ k g, e ≠ .wWaiting k f g) ∧ (∀ g, e ≠ .wReady f g) := by
  have hS := Step.of_step hs
  refine ⟨hS.try_stays (inv_of_run h) ht, ?_, ?_⟩
  · rintro k g rfl
    cases hS with
    | move _ m => cases m
    | wWaiting hpc => rw [hpc] at ht; cases ht
  · rintro g rfl
    cases hS with
    | move _ m => cases m
    | wReady hpc => rw [hpc] at ht; cases ht

/-- trywait fails only after loading a counter value ≤ 0 (no unit at that instant) -/
theorem trywait_fails_only_without_unit (s s' : St) (f : Nat) (c : Int)
    (hp : s.pc f = .tryCalled) (hs : step s (.ldCounter f c) = some s')
    (hf : s'.pc f = .tryDone false) : s.counter ≤ 0 := by
  simp only [step, hp] at hs
  split at hs
  · rename_i hc
    split at hs <;> simp at hs <;> subst hs <;> simp at hf
    omega
  · simp at hs

/-- **trywait never blocks and never succeeds without a unit** (the three facts above in one
    statement): in every reachable state, a fiber inside trywait (a) can take its next step by
    itself, (b) after any accepted event is still inside trywait or has returned and has not
    written a fiber state word (no parking), and (c) if its CAS succeeds, the counter was
    positive and is decremented by exactly one. -/
theorem trywait_nonblocking_and_honest (v node0 : Nat) (es : List Ev) (s : St) (f : Nat)
    (h : (sys v node0).run es = some s) (ht : isTry (s.pc f) = true) :
    (∃ e, e.fiber = some f ∧ (step s e).isSome = true) ∧
    (∀ e s', step s e = some s' →
      (isTry (s'.pc f) = true ∨ s'.pc f = .idle) ∧ (∀ k g, e ≠ .wWaiting k f g)) ∧
    (∀ a b c s', step s (.casCounter f a b c true) = some s' →
      0 < s.counter ∧ s'.counter = s.counter - 1) := by
  refine ⟨trywait_enabled s f ht, ?_, ?_⟩
  · intro e s' hs
    have := trywait_no_parking v node0 es s s' e f h ht hs
    exact ⟨this.1, this.2.1⟩
  · intro a b c s' hs
    have := trywait_honest v node0 es s s' f a b c h ht hs
    exact ⟨this.1, this.2.1⟩

/-- **Quiescent value.**  Once activity has ceased (no fiber is inside wait, trywait or post)
    the counter equals initial + posts − successful waits/trywaits, it is non-negative, the
    waiter queue is empty and no kernel thread has a deferred push pending. -/
theorem quiescent_value (v node0 : Nat) (es : List Ev) (s : St)
    (h : (sys v node0).run es = some s) (hq : ∀ f, s.pc f = .idle) :
    s.counter = (v : Int) + s.postsBegun - s.retOk ∧ 0 ≤ s.counter ∧
    s.queue = [] ∧ (∀ k, s.slot k = none) := by
  have hi := inv_of_run h
  have e1 : s.pend = [] := hi.tPend.nil_of_none (by intro f; simp [hq f, isPend])
  have e2 : s.queue = [] := hi.tQueue.nil_of_none (by intro f; simp [hq f, isQueued])
  have e3 : s.pre = [] := hi.tPre.nil_of_none (by intro f; simp [hq f, isPre])
  have e4 : s.mid = [] := hi.tMid.nil_of_none (by intro f; simp [hq f, isMid])
  have e5 : s.adm = [] := hi.tAdm.nil_of_none (by intro f; simp [hq f, isAdm])
  have h1 := hi.cnt; have h2 := hi.blocked; have h3 := hi.enq; have h4 := hi.popd
  have h5 := hi.posts; have h6 := hi.admd; have h7 := hi.neg; have h8 := hi.nonneg
  simp only [e1, e2, e3, e4, e5, List.length_nil] at *
  refine ⟨by omega, by omega, trivial, ?_⟩
  intro k
  cases hk : s.slot k with
  | none => rfl
  | some w =>
    have := hi.slotP k w hk
    rw [hq w] at this
    cases this

/-- Quiescent value on observable events only (what the monitor checks at `final v`): if the
    harness's `final v` note is accepted at the end of a trace, then
    v = initial + #(`call post`) − #(successful `ret wait` / `ret trywait 1`). -/
theorem quiescent_value_trace (v node0 : Nat) (es : List Ev) (s s' : St) (x : Int)
    (h : (sys v node0).run es = some s) (hs : step s (.final x) = some s') :
    x = (v : Int) + es.countP isCallPost - es.countP isSuccRet := by
  have hi := inv_of_run h
  have hc := trace_counts h
  simp only [step] at hs
  split at hs
  · rename_i hg
    obtain ⟨g0, g1, g2, g3, g4, g5⟩ := hg
    have h1 := hi.cnt; have h2 := hi.blocked; have h3 := hi.enq; have h4 := hi.popd
    have h5 := hi.posts; have h6 := hi.admd
    simp only [g1, g2, g3, g4, g5, List.length_nil] at *
    omega
  · simp at hs

/-! ### non-vacuity: concrete accepted traces

`demoLate` (initial value 0, fibers 16 = waiter and 17 = poster, kernel thread 0): the post
finds a waiter that is announced (counter = −1) but not enqueued — first before the waiter has
even written its state, then while it is parked and its successor has not run the deferred
push yet; both times the post's trypop gives up and the post re-reads the counter; after the
successor's tail CAS the post dequeues the waiter, makes it READY and increments.  So the
hypotheses `run es = some s`, `counter < 0`, `isBlocked`, `isMid`, `pc g = waitHanded`,
`slot k = some w`, `step s (final x) = some _` of the theorems above are all satisfiable. -/

def demoLate : List Ev := [
  .callWait 16, .fsub 16 0,
  .callPost 17, .ldCounter 17 (-1), .ldHead 17 100, .ldHead 17 100, .ldCounter 17 (-1),
  .wWaiting 0 16 16,
  .ldHead 17 100, .ldHead 17 100, .ldCounter 17 (-1),
  .ldTail 0 100, .ldTail 0 100, .casTail 0 100 100 101 true,
  .ldHead 17 100, .ldHead 17 100, .ldHead 17 100, .casHead 17 100 100 101 true,
  .wReady 17 16, .fadd 17 (-1), .retPost 17, .retWait 16, .getValue 0, .final 0]

example : ((sys 0 100).run demoLate).isSome = true := by decide

/-- announced, not enqueued: the post's trypop has just given up -/
example : ((sys 0 100).run (demoLate.take 7)).map
    (fun s => (s.counter, s.pc 16, s.pc 17, s.pend, s.queue)) =
    some (-1, .waitAnnounced, .popStart, [16], []) := by decide

/-- parked in kernel thread 0's deferred-push slot, still not enqueued -/
example : ((sys 0 100).run (demoLate.take 11)).map
    (fun s => (s.counter, s.pc 16, s.slot 0, s.pend, s.queue)) =
    some (-1, .waitParked, some 16, [16], []) := by decide

/-- dequeued, not READY yet; the post is between its dequeue and its increment -/
example : ((sys 0 100).run (demoLate.take 18)).map
    (fun s => (s.counter, s.pc 16, s.pc 17, s.pend ++ s.queue, s.mid)) =
    some (-1, .waitHanded, .popped 16, [], [17]) := by decide
example : ((sys 0 100).run (demoLate.take 18)).map (fun s => (s.admitted, s.postsBegun, s.retOk)) =
    some (1, 1, 0) := by decide

example : ((sys 0 100).run demoLate).map
    (fun s => (s.counter, s.retOk, s.postsBegun, s.pc 16, s.pc 17)) =
    some (0, 1, 1, .idle, .idle) := by decide

/-- `demoTry` (initial value 1): a trywait loses its CAS against a wait that takes the only
    unit and then fails honestly (counter 0); two posts race on the counter CAS; a later
    trywait succeeds from counter = 2.  Final value 1 = 1 + 2 posts − 2 successes. -/
def demoTry : List Ev := [
  .callTry 16, .ldCounter 16 1, .callWait 17, .fsub 17 1, .casCounter 16 0 1 0 false,
  .ldCounter 16 0, .retTry 16 false, .retWait 17,
  .callPost 17, .ldCounter 17 0, .callPost 18, .ldCounter 18 0, .casCounter 18 0 0 1 true,
  .casCounter 17 1 0 1 false, .ldCounter 17 1, .casCounter 17 1 1 2 true, .retPost 17,
  .retPost 18,
  .callTry 16, .ldCounter 16 2, .casCounter 16 2 2 1 true, .retTry 16 true, .final 1]

example : ((sys 1 100).run demoTry).map (fun s => (s.counter, s.retOk, s.postsBegun, s.tryFail)) =
    some (1, 2, 2, 1) := by decide

/-- a successful trywait CAS is an accepted step from a reachable state with counter > 0 -/
example : (((sys 1 100).run (demoTry.take 20)).bind
    (fun s => step s (.casCounter 16 2 2 1 true))).isSome = true := by decide

/-- the model REJECTS what the property forbids: a trywait CAS from 0, a wait admitted
    without a unit, a post that takes the CAS path while the counter is negative, and a post
    that returns after a wake without its increment -/
example : (((sys 0 100).run [.callTry 16, .ldCounter 16 0]).bind
    (fun s => step s (.casCounter 16 0 0 (-1) true))).isSome = false := by decide
example : ((sys 0 100).run [.callWait 16, .fsub 16 0, .retWait 16]).isSome = false := by decide
example : (((sys 0 100).run (demoLate.take 4)).bind
    (fun s => step s (.casCounter 17 (-1) (-1) 0 true))).isSome = false := by decide
example : (((sys 0 100).run (demoLate.take 19)).bind
    (fun s => step s (.retPost 17))).isSome = false := by decide

end LibfiberVerif.Sem
