/-
  Props/C20.lean — property C20:

  "The lock-free LIFO, the single-pusher/multi-popper FIFO, the flushable stack and the
   multi-waiter signal hand every pushed node (or waiting fiber) to exactly one taker, in
   LIFO respectively FIFO order, even when a node is popped, reused and pushed again while
   another thread still holds a stale snapshot.  A multi-signal raise either releases
   exactly one waiter or leaves the signal raised for the next wait (pending raises
   coalesce); it never releases two waiters and is never dropped while a fiber is waiting."

  This file has one namespace per structure:
    `C20.Lifo`      include/mpmc_lifo.h    (model Model/Lifo.lean,     invariant Proof/Lifo.lean)
    `C20.DistFifo`  include/dist_fifo.h    (model Model/DistFifo.lean, invariant Proof/DistFifo.lean)
    `C20.Stack`     include/mpmc_stack.h   (model Model/Stack.lean,    invariant Proof/Stack.lean)
    `C20.MultiSignal`  include/fiber_signal.h, fiber_multi_signal_t (model Model/MultiSignal.lean,
                    invariant Proof/MultiSignal*.lean; harness on the real fiber runtime)

  Every theorem quantifies over ALL event lists the model accepts (`run es = some s`): any
  number of threads, any number of nodes, any amount of node reuse, every interleaving of the
  two snapshot loads, the plain `next`/`data` accesses and the double-word CAS.  The models
  are tied to the C code by trace validation (tools/check.py C20).

  Client obligations are part of the models' `step` (a trace that breaks one is not accepted):
  a pushed node is non-NULL and owned by the pushing thread; dist_fifo has ONE pusher.
-/
import LibfiberVerif.Proof.Lifo
import LibfiberVerif.Proof.DistFifo
import LibfiberVerif.Proof.Stack
import LibfiberVerif.Proof.MultiSignal

namespace LibfiberVerif.Props.C20

/-! ################################################################################
    ## Part 1 — mpmc_lifo.h
    ################################################################################ -/
namespace Lifo
open LibfiberVerif LibfiberVerif.Lifo LibfiberVerif.NodeList

/-- `counter_counts_updates`: the counter word equals the number of successful CAS2s. -/
theorem counter_counts_updates (own0 : Nat → Nat) (es : List Ev) (s : St)
    (h : (sys own0).run es = some s) : s.counter = (es.filter casOk).length := by
  simpa [sys, init] using runFrom_count (sys own0) St.counter casOk (fun _ _ _ => counter_step) h

/-- `cas2_success_means_unchanged`: if thread `t`'s CAS2 succeeds, then since `t`'s last
    counter load (`post` contains no later one) NO successful CAS2 happened, the counter is
    the loaded one and the head is the expected one. -/
theorem cas2_success_means_unchanged (own0 : Nat → Nat) (pre post : List Ev) (t c el eh nl nh : Nat)
    (s s' : St)
    (hrun : (sys own0).run (pre ++ [Ev.ldCounter t c] ++ post) = some s)
    (hlast : ∀ e ∈ post, ∀ c', e ≠ Ev.ldCounter t c')
    (hcas : step s (.cas2 t el eh nl nh true) = some s') :
    el = c ∧ s.counter = c ∧ s.head = eh ∧ ∀ e ∈ post, casOk e = false := by
  -- the CAS compares against the snapshot `t` holds, and finds it current
  have key : snapC (s.pc t) = some el ∧ s.counter = el ∧ s.head = eh := by
    simp only [step] at hcas
    (repeat' split at hcas) <;> simp_all [snapC]
  -- the load reads the real counter
  have hld : ∀ s c s', step s (.ldCounter t c) = some s' →
      c = s.counter ∧ snapC (s'.pc t) = some c ∧ casOk (.ldCounter t c) = false := by
    intro s c s' h
    simp only [step] at h
    (repeat' split at h) <;> simp at h <;> subst h <;> simp_all [snapC, casOk]
  obtain ⟨h1, h2⟩ := snapshot_valid (sys own0) St.counter casOk (fun s => snapC (s.pc t))
    (Ev.ldCounter t) (fun _ _ _ => counter_step) hld (fun _ _ _ hs hne => snapC_step hs hne)
    hrun hlast key.1 key.2.1
  exact ⟨h1, h1 ▸ key.2.1, key.2.2, h2⟩

/-- The abstract stack IS the list of nodes reachable from `head` by following `next` (and
    is the only such list), has no duplicates, and contains exactly the un-owned nodes:
    nothing is lost, nothing is in twice, nothing a thread holds is still reachable. -/
theorem stack_is_reachable (own0 : Nat → Nat) (es : List Ev) (s : St)
    (h : (sys own0).run es = some s) :
    Chain s.next s.head s.stk ∧ (∀ l, Chain s.next s.head l → l = s.stk) ∧ s.stk.Nodup ∧
      ∀ n, n ∈ s.stk ↔ s.owner n = none :=
  have hI := inv_of_run h
  ⟨hI.chain, fun _ hl => chain_unique hl hI.chain, hI.nodup, hI.own⟩

/-- `Lifo.lifo_order`, step form: a successful pop CAS2 — however stale the popper's view
    of the node was in between — removes exactly the TOP of the abstract stack at the CAS
    instant, installs the SECOND element as head (the `next` it read is still right, despite
    reuse), and hands the node to the popping thread alone. -/
theorem pop_takes_top (own0 : Nat → Nat) (es : List Ev) (s s' : St) (t c h x el eh nl nh : Nat)
    (hrun : (sys own0).run es = some s) (hpc : s.pc t = .popGotNext c h x)
    (hcas : step s (.cas2 t el eh nl nh true) = some s') :
    s.counter = c ∧ s.head = h ∧ s.next h = x ∧ s.stk = h :: s'.stk ∧ Chain s'.next x s'.stk ∧
      s'.head = x ∧ s'.owner h = some t ∧ s'.lin = s.lin ++ [.pop h (s.data h)] := by
  have hI := inv_of_run hrun
  simp only [step, hpc] at hcas
  split at hcas
  · rename_i hc; obtain ⟨rfl, rfl, rfl, rfl, hok⟩ := hc
    simp at hok hcas; subst hcas
    obtain ⟨h1, h3⟩ := hI.loc hpc
    have h4 := (h1.2 hok.1).2
    obtain ⟨hl, hL⟩ := hI.linked.pop (hok.2 ▸ h3) t
    rw [hok.2, h4] at hL
    exact ⟨hok.1, hok.2, h4, hok.2 ▸ hl, hL.chain, rfl, upd_same _ _ _, rfl⟩
  · simp at hcas

/-- a successful push CAS2 conses the (owned) node onto the stack as it is at the CAS instant -/
theorem push_puts_on_top (own0 : Nat → Nat) (es : List Ev) (s s' : St) (t n c h el eh nl nh : Nat)
    (hrun : (sys own0).run es = some s) (hpc : s.pc t = .pushWroteNext n c h)
    (hcas : step s (.cas2 t el eh nl nh true) = some s') :
    s.counter = c ∧ s.head = h ∧ s.next n = h ∧ s'.stk = n :: s.stk ∧ s'.head = n ∧
      s.owner n = some t ∧ s'.owner n = none ∧ s'.lin = s.lin ++ [.push n (s.data n)] := by
  have hI := inv_of_run hrun
  simp only [step, hpc] at hcas
  split at hcas
  · rename_i hc; obtain ⟨rfl, rfl, rfl, rfl, hok⟩ := hc
    simp at hok hcas; subst hcas
    obtain ⟨h1, _, h4⟩ := hI.loc hpc
    exact ⟨hok.1, hok.2, h4, rfl, rfl, h1.2, upd_same _ _ _, rfl⟩
  · simp at hcas

/-- `Lifo.lifo_order`, history form: the linearisation (one entry per successful CAS2, and one
    per pop that loaded a NULL head) is a legal SEQUENTIAL stack history — every pop returns the
    most recently pushed node not yet popped, with the value it was pushed with, and "empty"
    is only answered when the stack is empty — and it ends in the current stack. -/
theorem lifo_order (own0 : Nat → Nat) (es : List Ev) (s : St) (h : (sys own0).run es = some s) :
    stackReplay s.lin = some (s.stk.map (fun n => (n, s.data n))) :=
  (inv_of_run h).lin

/-- `Lifo.exactly_once`: every node has been handed out exactly as often as it was pushed,
    not counting the copy that is in the stack right now (at most one: `stack_is_reachable`). -/
theorem exactly_once (own0 : Nat → Nat) (es : List Ev) (s : St) (h : (sys own0).run es = some s)
    (n : Nat) : pushCount n s.lin = takeCount n s.lin + (if n ∈ s.stk then 1 else 0) :=
  count_balance (inv_of_run h).lin (inv_of_run h).nodup n

/-- … so once the stack is drained (head = NULL) every push has been matched by exactly one pop. -/
theorem drained_all_taken (own0 : Nat → Nat) (es : List Ev) (s : St) (h : (sys own0).run es = some s)
    (hd : s.head = 0) (n : Nat) : pushCount n s.lin = takeCount n s.lin := by
  have hI := inv_of_run h
  have : s.stk = [] := chain_zero (hd ▸ hI.chain)
  simpa [this] using count_balance hI.lin hI.nodup n

/-- a node a thread is working with (about to push, or just popped) is owned by that thread
    only, and is not reachable from `head` -/
theorem held_node_is_private (own0 : Nat → Nat) (es : List Ev) (s : St) (h : (sys own0).run es = some s)
    (t n : Nat) (hc : claim (s.pc t) = some n) : s.owner n = some t ∧ n ∉ s.stk :=
  have hI := inv_of_run h
  ⟨(hI.claimOk t n hc).2, hI.linked.not_mem (hI.claimOk t n hc).2⟩

/-! ### non-vacuity: node reuse under a stale snapshot — the ABA case

  Thread 1 snapshots (counter 2, head n2, n2->next = n1) and stalls.  Thread 0 pops n2, pops
  n1 and pushes n2 AGAIN: the head pointer is n2 again, but n2->next is NULL now and n1
  belongs to thread 0.  Thread 1's CAS2 FAILS — same pointer, counter 5 ≠ 2 — (had it
  succeeded, head would have become the privately owned n1); it retries and pops n2. -/

def abaTrace : List Ev := [
  .callPush 0 11, .wrData 0 1 11, .ldCounter 0 0, .ldHead 0 0, .wrNext 0 1 0, .cas2 0 0 0 1 1 true, .retPush 0,
  .callPush 0 22, .wrData 0 2 22, .ldCounter 0 1, .ldHead 0 1, .wrNext 0 2 1, .cas2 0 1 1 2 2 true, .retPush 0,
  .callPop 1, .ldCounter 1 2, .ldHead 1 2, .rdNext 1 2 1,
  .callPop 0, .ldCounter 0 2, .ldHead 0 2, .rdNext 0 2 1, .cas2 0 2 2 3 1 true, .rdData 0 2 22, .retPop 0 22,
  .callPop 0, .ldCounter 0 3, .ldHead 0 1, .rdNext 0 1 0, .cas2 0 3 1 4 0 true, .rdData 0 1 11, .retPop 0 11,
  .callPush 0 33, .wrData 0 2 33, .ldCounter 0 4, .ldHead 0 0, .wrNext 0 2 0, .cas2 0 4 0 5 2 true, .retPush 0,
  .cas2 1 2 2 3 1 false,
  .ldCounter 1 5, .ldHead 1 2, .rdNext 1 2 0, .cas2 1 5 2 6 0 true, .rdData 1 2 33, .retPop 1 33]

/-- the whole trace is accepted; at the end the stack is empty, n1 is thread 0's, n2 thread 1's -/
example : ((sys (fun _ => 0)).run abaTrace).map (fun s => (s.counter, s.head, s.stk, s.owner 1, s.owner 2))
    = some (6, 0, [], some 0, some 1) := by decide

/-- right before thread 1's failing CAS2 the head POINTER equals the expected pointer (n2)
    and only the counter differs (5 vs 2): the ABA situation, averted by the counter -/
example : ((sys (fun _ => 0)).run (abaTrace.take 39)).map
      (fun s => (s.counter, s.head, s.next 2, s.pc 1, (step s (.cas2 1 2 2 3 1 false)).isSome,
                 (step s (.cas2 1 2 2 3 1 true)).isSome))
    = some (5, 2, 0, .popGotNext 2 2 1, true, false) := by decide

end Lifo

/-! ################################################################################
    ## Part 2 — dist_fifo.h
    ################################################################################ -/
namespace DistFifo
open LibfiberVerif LibfiberVerif.DistFifo LibfiberVerif.NodeList

/-- `counter_counts_updates` -/
theorem counter_counts_updates (pusher stub : Nat) (own0 : Nat → Nat) (es : List Ev) (s : St)
    (h : (sys pusher stub own0).run es = some s) : s.counter = (es.filter casOk).length := by
  simpa [sys, init] using
    runFrom_count (sys pusher stub own0) St.counter casOk (fun _ _ _ => counter_step) h

/-- `cas2_success_means_unchanged`: a popper's CAS2 succeeds only if no successful CAS2
    happened since its last (plain) read of the counter word. -/
theorem cas2_success_means_unchanged (pusher stub : Nat) (own0 : Nat → Nat) (pre post : List Ev)
    (t c el eh nl nh : Nat) (s s' : St)
    (hrun : (sys pusher stub own0).run (pre ++ [Ev.rdCounter t c] ++ post) = some s)
    (hlast : ∀ e ∈ post, ∀ c', e ≠ Ev.rdCounter t c')
    (hcas : step s (.cas2 t el eh nl nh true) = some s') :
    el = c ∧ s.counter = c ∧ s.head = eh ∧ ∀ e ∈ post, casOk e = false := by
  -- the CAS compares against the snapshot `t` holds, and finds it current
  have key : snapC (s.pc t) = some el ∧ s.counter = el ∧ s.head = eh := by
    simp only [step] at hcas
    (repeat' split at hcas) <;> simp_all [snapC]
  -- the read sees the real counter
  have hld : ∀ s c s', step s (.rdCounter t c) = some s' →
      c = s.counter ∧ snapC (s'.pc t) = some c ∧ casOk (.rdCounter t c) = false := by
    intro s c s' h
    simp only [step] at h
    (repeat' split at h) <;> simp at h <;> subst h <;> simp_all [snapC, casOk]
  obtain ⟨h1, h2⟩ := snapshot_valid (sys pusher stub own0) St.counter casOk
    (fun s => snapC (s.pc t)) (Ev.rdCounter t) (fun _ _ _ => counter_step) hld
    (fun _ _ _ hs hne => snapC_step hs hne) hrun hlast key.1 key.2.1
  exact ⟨h1, h1 ▸ key.2.1, key.2.2, h2⟩

/-- the abstract node list (stub first) IS what `next` spells from `head`, non-empty, without
    duplicates, and consists exactly of the un-owned nodes -/
theorem chain_is_reachable (pusher stub : Nat) (own0 : Nat → Nat) (hstub : stub ≠ 0) (es : List Ev) (s : St)
    (h : (sys pusher stub own0).run es = some s) :
    Chain s.next s.head s.chain ∧ (∀ l, Chain s.next s.head l → l = s.chain) ∧ s.chain ≠ [] ∧
      s.chain.Nodup ∧ ∀ n, n ∈ s.chain ↔ s.owner n = none :=
  have hI := inv_of_run hstub h
  ⟨hI.chain, fun _ hl => chain_unique hl hI.chain, hI.ne, hI.nodup, hI.own⟩

/-- client obligation carried through: only the distinguished thread is ever inside push -/
theorem single_pusher (pusher stub : Nat) (own0 : Nat → Nat) (hstub : stub ≠ 0) (es : List Ev) (s : St)
    (h : (sys pusher stub own0).run es = some s) (t : Nat) (hp : isPush (s.pc t) = true) :
    t = s.pusher :=
  (inv_of_run hstub h).pusherOnly t hp

/-- `DistFifo.exactly_once`, step form: a successful CAS2 — whatever the popper read from
    recycled nodes before — unlinks exactly the CURRENT stub, the data it read is the FIRST
    queued value, the successor becomes the stub, the old stub goes to the popping thread
    alone, and exactly that value is recorded as dequeued. -/
theorem pop_takes_first (pusher stub : Nat) (own0 : Nat → Nat) (hstub : stub ≠ 0) (es : List Ev)
    (s s' : St) (t c h x d el eh nl nh : Nat)
    (hrun : (sys pusher stub own0).run es = some s) (hpc : s.pc t = .popGotData c h x d)
    (hcas : step s (.cas2 t el eh nl nh true) = some s') :
    s.counter = c ∧ s.head = h ∧ s.next h = x ∧ s.data x = d ∧ s.chain = h :: s'.chain ∧
      s'.chain.head? = some x ∧ s'.head = x ∧ s'.owner h = some t ∧ s'.lin = s.lin ++ [.deq d] := by
  have hI := inv_of_run hstub hrun
  simp only [step, hpc] at hcas
  split at hcas
  · rename_i hc; obtain ⟨rfl, rfl, rfl, rfl, hok⟩ := hc
    simp at hok hcas; subst hcas
    obtain ⟨h1, hx0⟩ := hI.loc hpc
    obtain ⟨-, hx, hd⟩ := h1.2 hok.1
    obtain ⟨l, hl⟩ := succ_mem hI (by rw [hok.2, hx]; exact hx0)
    rw [hok.2, hx] at hl
    refine ⟨hok.1, hok.2, hx, hd, ?_, ?_, rfl, upd_same _ _ _, by simp [hd]⟩
    · show s.chain = eh :: s.chain.tail
      rw [hl]; rfl
    · show s.chain.tail.head? = some nh
      rw [hl]; rfl
  · simp at hcas

/-- `DistFifo.fifo`, history form: the linearisation (`enq` at the pusher's link store, `deq`
    at each successful CAS2) is a legal SEQUENTIAL FIFO history ending in the current content -/
theorem fifo (pusher stub : Nat) (own0 : Nat → Nat) (hstub : stub ≠ 0) (es : List Ev) (s : St)
    (h : (sys pusher stub own0).run es = some s) :
    fifoReplay s.lin = some (s.chain.tail.map s.data) :=
  (inv_of_run hstub h).lin

/-- `DistFifo.exactly_once` + `fifo`: the values popped so far, in pop order, followed by the
    values still queued, are EXACTLY the values pushed, in push order: every pushed value is
    popped at most once, in order, none is skipped or invented, none is lost. -/
theorem exactly_once (pusher stub : Nat) (own0 : Nat → Nat) (hstub : stub ≠ 0) (es : List Ev) (s : St)
    (h : (sys pusher stub own0).run es = some s) :
    enqs s.lin = deqs s.lin ++ s.chain.tail.map s.data := by
  simpa using fifoReplayFrom_prefix (inv_of_run hstub h).lin

/-- a node a thread is working with (the pusher's new node, a popper's unlinked stub) is
    owned by that thread only and is not linked -/
theorem held_node_is_private (pusher stub : Nat) (own0 : Nat → Nat) (hstub : stub ≠ 0) (es : List Ev)
    (s : St) (h : (sys pusher stub own0).run es = some s)
    (t n : Nat) (hc : claim (s.pc t) = some n) : s.owner n = some t ∧ n ∉ s.chain :=
  have hI := inv_of_run hstub h
  ⟨(hI.claimOk t n hc).2, hI.linked.not_mem (hI.claimOk t n hc).2⟩

/-- EMPTY, partial: a trypop that reads `next = NULL` WHILE THE COUNTER IS STILL THE ONE IT READ
    has seen the current stub without successor: the fifo holds no value at that instant. -/
theorem empty_justified_partial (pusher stub : Nat) (own0 : Nat → Nat) (hstub : stub ≠ 0) (es : List Ev)
    (s s' : St) (t c h : Nat) (hrun : (sys pusher stub own0).run es = some s)
    (hpc : s.pc t = .popGotNode c h) (hrd : step s (.rdNext t h 0) = some s')
    (hcnt : s.counter = c) : s.chain = [h] ∧ s.chain.tail.map s.data = [] := by
  have := empty_justified (inv_of_run hstub hrun) hpc hrd hcnt
  simp [this]

/-! ### negative witness: EMPTY is NOT validated against the counter

  (Not one of C20's clauses — no node is lost, duplicated or reordered — but worth knowing.)
  `dist_fifo_trypop` returns EMPTY as soon as it reads `prev_head->next == NULL`, without a
  CAS2.  If the node it read as head has meanwhile been popped, handed back and is being
  pushed again (the pusher's `new_node->next = NULL`), the popper answers EMPTY although
  the fifo held a value during its whole call.  Reproduced on the unchanged C code:
  `distfifo 0,0,0 'p1,p2,p3,o,p4,o|o,o|o'`, VR_SCHED=freeze VR_SEED=380211206
  VR_FREEZE_DEN=6 VR_FREEZE_LEN=25 (thread 2 answers 0 while value 3 is queued). -/

def spuriousEmptyTrace : List Ev := [
  .callPush 0 11, .wrData 0 2 11, .rdTail 0 1, .wrNext 0 2 0, .fence 0 2, .wrNext 0 1 2, .wrTail 0 2, .retPush 0,
  .callPush 0 22, .wrData 0 3 22, .rdTail 0 2, .wrNext 0 3 0, .fence 0 2, .wrNext 0 2 3, .wrTail 0 3, .retPush 0,
  -- thread 1 starts a trypop and reads (counter 0, node n1)
  .callPop 1, .rdCounter 1 0, .fence 1 3, .rdNode 1 1,
  -- thread 0 pops 11 (gets the old stub n1) ...
  .callPop 0, .rdCounter 0 0, .fence 0 3, .rdNode 0 1, .rdNext 0 1 2, .rdData 0 2 11, .cas2 0 0 1 1 2 true,
  .wrData 0 1 11, .rdData 0 1 11, .retPop 0 11,
  -- ... and starts pushing n1 again: new_node->next = NULL
  .callPush 0 33, .wrData 0 1 33, .rdTail 0 3, .wrNext 0 1 0,
  -- thread 1 reads n1->next = NULL and answers EMPTY; 22 has been queued all the time
  .rdNext 1 1 0, .retPop 1 0]

/-- number of queued values after each prefix of a trace (`none` = prefix not accepted) -/
def queuedAfter (es : List Ev) : List (Option Nat) :=
  (List.range (es.length + 1)).map (fun k =>
    ((sys 0 1 (fun _ => 0)).run (es.take k)).map (fun s => s.chain.tail.length))

/-- The model (hence, by the replay above, the code) accepts a trace in which thread 1's
    trypop — events 17 … 36 — returns EMPTY although at every instant of that call at least
    one value was queued. -/
theorem empty_can_be_spurious :
    ((sys 0 1 (fun _ => 0)).run spuriousEmptyTrace).isSome = true ∧
    spuriousEmptyTrace[16]? = some (.callPop 1) ∧ spuriousEmptyTrace[35]? = some (.retPop 1 0) ∧
    ((queuedAfter spuriousEmptyTrace).drop 16).all (fun q => decide (q.getD 0 ≥ 1)) = true := by
  decide

/-! ### non-vacuity: node reuse under a stale snapshot — the ABA case

  Thread 1 reads (counter 0, node n1), n1->next = n2, n2->data = 11 and stalls.  Thread 0 pops
  (unlinks n1), pushes n1 again and pops twice more: the head pointer is n1 AGAIN (counter 3).
  Thread 1's CAS2 FAILS although the pointer matches (had it succeeded, head would have become
  n2, which thread 0 owns) and trypop returns RETRY. -/

def abaTrace : List Ev := [
  .callPush 0 11, .wrData 0 2 11, .rdTail 0 1, .wrNext 0 2 0, .fence 0 2, .wrNext 0 1 2, .wrTail 0 2, .retPush 0,
  .callPop 1, .rdCounter 1 0, .fence 1 3, .rdNode 1 1, .rdNext 1 1 2, .rdData 1 2 11,
  .callPop 0, .rdCounter 0 0, .fence 0 3, .rdNode 0 1, .rdNext 0 1 2, .rdData 0 2 11, .cas2 0 0 1 1 2 true,
  .wrData 0 1 11, .rdData 0 1 11, .retPop 0 11,
  .callPush 0 22, .wrData 0 1 22, .rdTail 0 2, .wrNext 0 1 0, .fence 0 2, .wrNext 0 2 1, .wrTail 0 1, .retPush 0,
  .callPop 0, .rdCounter 0 1, .fence 0 3, .rdNode 0 2, .rdNext 0 2 1, .rdData 0 1 22, .cas2 0 1 2 2 1 true,
  .wrData 0 2 22, .rdData 0 2 22, .retPop 0 22,
  .callPush 0 33, .wrData 0 2 33, .rdTail 0 1, .wrNext 0 2 0, .fence 0 2, .wrNext 0 1 2, .wrTail 0 2, .retPush 0,
  .cas2 1 0 1 1 2 false, .retRetry 1]

example : ((sys 0 1 (fun _ => 0)).run abaTrace).map
      (fun s => (s.counter, s.head, s.chain, enqs s.lin, deqs s.lin))
    = some (2, 1, [1, 2], [11, 22, 33], [11, 22]) := by decide

/-- right before thread 1's failing CAS2: pointer equal (n1), counter 2 ≠ 0 -/
example : ((sys 0 1 (fun _ => 0)).run (abaTrace.take 50)).map
      (fun s => (s.counter, s.head, s.pc 1, (step s (.cas2 1 0 1 1 2 false)).isSome,
                 (step s (.cas2 1 0 1 1 2 true)).isSome))
    = some (2, 1, .popGotData 0 1 2 11, true, false) := by decide

end DistFifo

/-! ################################################################################
    ## Part 3 — mpmc_stack.h
    ################################################################################ -/
namespace Stack
open LibfiberVerif LibfiberVerif.Stack LibfiberVerif.NodeList

/-- the abstract stack IS what `next` spells from `head`, without duplicates, and consists
    exactly of the un-owned nodes -/
theorem stack_is_reachable (own0 : Nat → Nat) (es : List Ev) (s : St)
    (h : (sys own0).run es = some s) :
    Chain s.next s.head s.stk ∧ (∀ l, Chain s.next s.head l → l = s.stk) ∧ s.stk.Nodup ∧
      ∀ n, n ∈ s.stk ↔ s.owner n = none :=
  have hI := inv_of_run h
  ⟨hI.chain, fun _ hl => chain_unique hl hI.chain, hI.nodup, hI.own⟩

/-- the classic single-word CAS push is ABA-safe HERE: whatever happened to the node `h` the
    pusher loaded (flushed, walked, pushed again), a successful CAS means `h` is the top right
    now and the pusher's node — whose `next` is `h` — is consed onto the current stack -/
theorem push_is_aba_safe (own0 : Nat → Nat) (es : List Ev) (s s' : St) (t n h found exp des : Nat)
    (hrun : (sys own0).run es = some s) (hpc : s.pc t = .pushWroteNext n h)
    (hcas : step s (.cas t found exp des true) = some s') :
    s.head = h ∧ s.next n = h ∧ s'.stk = n :: s.stk ∧ s'.head = n ∧ s.owner n = some t ∧
      s'.owner n = none ∧ s'.lin = s.lin ++ [.push n (s.data n)] := by
  have hI := inv_of_run hrun
  have h1 := hI.locAt hpc
  simp only [step, hpc] at hcas
  split at hcas
  · rename_i hc; obtain ⟨rfl, rfl, rfl, hok⟩ := hc
    simp at hok hcas; subst hcas
    exact ⟨hok, h1.2.2, rfl, rfl, h1.2.1, by simp [upd], rfl⟩
  · simp at hcas

/-- `Stack.flush_all_once`, step form: the exchange returns the pointer that heads exactly the
    abstract stack, empties the container, makes the flusher the sole owner of every taken
    node, and fixes the list to hand out: the content (newest first), reversed for fifo_flush. -/
theorem flush_takes_everything (own0 : Nat → Nat) (es : List Ev) (s s' : St) (t old : Nat) (fifo : Bool)
    (hrun : (sys own0).run es = some s) (hpc : s.pc t = .flushCalled fifo)
    (hx : step s (.xchg t old) = some s') :
    Chain s.next old s.stk ∧ s'.stk = [] ∧ s'.head = 0 ∧
      s'.res t = (if fifo then s.stk.reverse else s.stk) ∧
      (∀ n ∈ s.stk, s.owner n = none ∧ s'.owner n = some t) ∧
      s'.lin = s.lin ++ [.flush (s.stk.map (fun n => (n, s.data n)))] := by
  have hI := inv_of_run hrun
  simp only [step, hpc] at hx
  split at hx
  · rename_i hc; subst hc
    simp at hx; subst hx
    refine ⟨hI.chain, rfl, rfl, by simp [upd], ?_, rfl⟩
    intro n hn
    exact ⟨(hI.own n).1 hn, by simp [hn]⟩
  · simp at hx

/-- … and what the flusher then walks (after `mpmc_stack_reverse` for a fifo flush) is exactly
    that list: the pointer it holds heads the not-yet-visited suffix; for `k = 0` this says the
    in-place reversal produced precisely the reversed content.  All nodes are its own. -/
theorem flush_hands_out_result (own0 : Nat → Nat) (es : List Ev) (s : St) (t p k : Nat) (rest : List Nat)
    (hrun : (sys own0).run es = some s) (hpc : s.pc t = .walk p k rest) :
    Chain s.next p rest ∧ rest = (s.res t).drop k ∧ ∀ n ∈ rest, s.owner n = some t := by
  have hI := inv_of_run hrun
  have h1 := hI.locAt hpc
  exact ⟨h1.crest, h1.res, h1.orest⟩

/-- history form: the linearisation (push at a successful CAS, flush at the exchange) is a
    legal sequential push / take-everything history ending in the current content -/
theorem lin_legal (own0 : Nat → Nat) (es : List Ev) (s : St) (h : (sys own0).run es = some s) :
    stackReplay s.lin = some (s.stk.map (fun n => (n, s.data n))) :=
  (inv_of_run h).lin

/-- `Stack.flush_all_once`, history form: a flush returns exactly the (node, value) pairs
    pushed since the previous flush (or since the start), each once, newest first (so
    `fifo_flush`, which reverses, hands them out in push order). -/
theorem flush_all_once (own0 : Nat → Nat) (es : List Ev) (s : St) (h : (sys own0).run es = some s)
    (pre mid post : List StackOp) (l : List (Nat × Nat))
    (hlin : s.lin = pre ++ mid ++ [.flush l] ++ post)
    (hpre : pre = [] ∨ ∃ pre' l0, pre = pre' ++ [.flush l0])
    (hmid : ∀ o ∈ mid, ∀ l', o ≠ .flush l') :
    l = (pushesOf mid).reverse := by
  have hops := lin_ops h
  rw [hlin] at hops
  exact flush_since (hlin ▸ (inv_of_run h).lin) hpre fun o ho =>
    (hops o (by simp [ho])).resolve_right fun ⟨l', hl'⟩ => hmid o ho l' hl'

/-- exactly-once bookkeeping: every node has been handed out by flushes exactly as often as it
    was pushed, not counting the copy that is in the container right now (at most one) -/
theorem exactly_once (own0 : Nat → Nat) (es : List Ev) (s : St) (h : (sys own0).run es = some s)
    (n : Nat) : pushCount n s.lin = takeCount n s.lin + (if n ∈ s.stk then 1 else 0) :=
  count_balance (inv_of_run h).lin (inv_of_run h).nodup n

/-! ### non-vacuity: a node is flushed, walked and pushed again while a pusher holds a stale head

  Thread 1 loads head = n1 and writes n2->next = n1, then stalls.  Thread 0 flushes (takes n1),
  walks it and pushes n1 AGAIN.  Thread 1's CAS succeeds — the pointer is n1 again — and that
  is correct: n1 is the top right now.  A fifo flush then hands out 12 (n1) before 21 (n2). -/

def reuseTrace : List Ev := [
  .callPush 0 11, .wrData 0 1 11, .ldHead 0 0, .wrNext 0 1 0, .cas 0 0 0 1 true, .retPush 0,
  .callPush 1 21, .wrData 1 2 21, .ldHead 1 1, .wrNext 1 2 1,
  .callFlush 0 false, .xchg 0 1, .rdData 0 1 11, .item 0 11, .rdNext 0 1 0, .retFlush 0 1,
  .callPush 0 12, .wrData 0 1 12, .ldHead 0 0, .wrNext 0 1 0, .cas 0 0 0 1 true, .retPush 0,
  .cas 1 1 1 2 true, .retPush 1,
  .callFlush 0 true, .xchg 0 2, .rdNext 0 2 1, .wrNext 0 2 0, .rdNext 0 1 0, .wrNext 0 1 2,
  .rdData 0 1 12, .item 0 12, .rdNext 0 1 2, .rdData 0 2 21, .item 0 21, .rdNext 0 2 0, .retFlush 0 2]

example : ((sys (fun n => if n = 2 then 1 else 0)).run reuseTrace).map
      (fun s => (s.head, s.stk, s.res 0, s.owner 1, s.owner 2))
    = some (0, [], [1, 2], some 0, some 0) := by decide

example : ((sys (fun n => if n = 2 then 1 else 0)).run reuseTrace).map (fun s => s.lin)
    = some [.push 1 11, .flush [(1, 11)], .push 1 12, .push 2 21, .flush [(2, 21), (1, 12)]] := by
  decide


/-! ### mpmc_stack_push_timeout (bounded number of CAS attempts)

  The model accepts histories that mix `mpmc_stack_push` and `mpmc_stack_push_timeout` in any
  way; every theorem above (`stack_is_reachable`, `lin_legal`, `flush_all_once`,
  `exactly_once`, …) quantifies over all of them.  What is specific to the bounded push:

  (a) an operation that reports MPMC_RETRY left the container alone and still owns its node;
  (b) an operation that reports MPMC_SUCCESS made exactly the step `mpmc_stack_push` makes;
  (c) an operation called with `tries = b ≥ 1` performs at most `b` CAS attempts (exactly `b`,
      all failed, if it gives up).
  Client obligation in the model: `tries ≥ 1` (`tries` is a size_t that is decremented before
  it is tested, so `tries = 0` wraps around to SIZE_MAX tries). -/

/-- (a), step form: only a successful CAS and the exchange change `head`, the abstract stack,
    the ownership or the linearisation; every other step of every thread — in particular every
    step of a push_timeout that ends up giving up — leaves all four alone -/
theorem only_publishing_steps_change_container (own0 : Nat → Nat) (es : List Ev) (s s' : St) (e : Ev)
    (_hrun : (sys own0).run es = some s) (hstep : step s e = some s') (hq : publishes e = false) :
    s'.head = s.head ∧ s'.stk = s.stk ∧ s'.owner = s.owner ∧ s'.lin = s.lin := by
  cases e <;> simp only [step] at hstep <;> simp only [publishes] at hq
  case xchg => simp at hq
  case cas t f e d ok =>
    subst hq
    (repeat' split at hstep) <;> simp at hstep <;> (try obtain ⟨_, hstep⟩ := hstep) <;> (try subst hstep) <;>
      first | exact ⟨rfl, rfl, rfl, rfl⟩ | simp_all
  all_goals
    (repeat' split at hstep) <;> simp at hstep <;> (try obtain ⟨_, hstep⟩ := hstep) <;> (try subst hstep) <;> exact ⟨rfl, rfl, rfl, rfl⟩

/-- (a), the failed CAS itself: it found a head different from the expected one and changes no
    cell and no container ghost; the thread retries with the head it found while tries remain
    and gives up after the last one -/
theorem pushto_failed_cas_changes_nothing (own0 : Nat → Nat) (es : List Ev) (s s' : St)
    (t n h b found exp des : Nat)
    (_hrun : (sys own0).run es = some s) (hpc : s.pc t = .toWroteNext n h b)
    (hcas : step s (.cas t found exp des false) = some s') :
    found = s.head ∧ found ≠ h ∧ s'.head = s.head ∧ s'.next = s.next ∧ s'.data = s.data ∧
      s'.owner = s.owner ∧ s'.stk = s.stk ∧ s'.res = s.res ∧ s'.lin = s.lin ∧
      s'.pc t = (if b - 1 = 0 then .toGaveUp n else .toGotHead n found (b - 1)) := by
  simp only [step, hpc] at hcas
  split at hcas
  · rename_i hc; obtain ⟨rfl, rfl, rfl, hok⟩ := hc
    simp at hok hcas; subst hcas
    exact ⟨rfl, hok, rfl, rfl, rfl, rfl, rfl, rfl, rfl, by simp⟩
  · simp at hcas

/-- (a), at the return: `ret pushto 0` is only possible after giving up; the node is non-NULL,
    still owned by the caller and not in the container, and the return changes nothing -/
theorem pushto_failed_node_still_owned (own0 : Nat → Nat) (es : List Ev) (s s' : St) (t : Nat)
    (hrun : (sys own0).run es = some s) (hret : step s (.retPushTo t 0) = some s') :
    ∃ n, s.pc t = .toGaveUp n ∧ n ≠ 0 ∧ s'.owner n = some t ∧ n ∉ s'.stk ∧
      s'.head = s.head ∧ s'.next = s.next ∧ s'.data = s.data ∧ s'.owner = s.owner ∧
      s'.stk = s.stk ∧ s'.lin = s.lin ∧ s'.pc t = .idle := by
  have hI := inv_of_run hrun
  simp only [step] at hret
  split at hret <;> simp at hret
  rename_i n hpc
  subst hret
  have h1 := hI.locAt hpc
  exact ⟨n, hpc, h1.1, h1.2, hI.linked.not_mem h1.2, rfl, rfl, rfl, rfl, rfl, rfl, by simp⟩

/-- (a) and (c), operation form: in a history in which thread `t`'s push_timeout returns 0,
    NONE of `t`'s events since the call changed the container (no successful CAS, no
    exchange), and `t` made exactly as many CAS attempts as the `tries` it was called with -/
theorem pushto_failed_never_published (own0 : Nat → Nat) (es : List Ev) (s' : St) (t : Nat)
    (hrun : (sys own0).run (es ++ [.retPushTo t 0]) = some s') :
    (∀ e ∈ curOp t es, tidOf e = t → publishes e = false) ∧
      ∃ v b, callOf t es = some (.callPushTo t v b) ∧ 1 ≤ b ∧ casCount t (curOp t es) = b := by
  simp only [Sys.run, Sys.runFrom_append] at hrun
  cases hs : (sys own0).runFrom (sys own0).init es with
  | none => simp [hs] at hrun
  | some s =>
    have hrun0 : (sys own0).run es = some s := hs
    simp only [hs, Option.bind_some, Sys.runFrom] at hrun
    have hret : step s (.retPushTo t 0) = some s' := by
      cases h1 : (sys own0).step s (.retPushTo t 0) with
      | none => simp [h1] at hrun
      | some s1 => simp [h1] at hrun; subst hrun; exact h1
    obtain ⟨n, hpc, _⟩ := pushto_failed_node_still_owned own0 es s s' t hrun0 hret
    have hT := toOk_of_run hrun0 t
    have hB := hT.bud
    rw [hpc] at hB; simp only [BudOk] at hB
    refine ⟨hT.quiet (by rw [hpc]; rfl), ?_⟩
    obtain ⟨v, hv, hpos⟩ := hT.call (by rw [hpc]; rfl)
    exact ⟨v, s.tries0 t, hv, hpos, by rw [← hT.count (by rw [hpc]; rfl), hB]⟩

/-- (b) a successful CAS of push_timeout is ABA-safe in exactly the sense of `push_is_aba_safe` -/
theorem pushto_is_aba_safe (own0 : Nat → Nat) (es : List Ev) (s s' : St) (t n h b found exp des : Nat)
    (hrun : (sys own0).run es = some s) (hpc : s.pc t = .toWroteNext n h b)
    (hcas : step s (.cas t found exp des true) = some s') :
    s.head = h ∧ s.next n = h ∧ s'.stk = n :: s.stk ∧ s'.head = n ∧ s.owner n = some t ∧
      s'.owner n = none ∧ s'.lin = s.lin ++ [.push n (s.data n)] ∧ s'.pc t = .toDone := by
  have hI := inv_of_run hrun
  have h1 := hI.locAt hpc
  simp only [step, hpc] at hcas
  split at hcas
  · rename_i hc; obtain ⟨rfl, rfl, rfl, hok⟩ := hc
    simp at hok hcas; subst hcas
    exact ⟨hok, h1.2.2, rfl, rfl, h1.2.1, by simp [upd], rfl, by simp⟩
  · simp at hcas

/-- (b) … and it IS the step of `mpmc_stack_push`: with the thread put at the corresponding pc
    of the unbounded push, the same CAS event is accepted and produces the same cells and the
    same container ghosts (so a successful push_timeout is an ordinary push for every clause) -/
theorem pushto_success_is_ordinary_push (own0 : Nat → Nat) (es : List Ev) (s s' : St)
    (t n h b found exp des : Nat)
    (_hrun : (sys own0).run es = some s) (hpc : s.pc t = .toWroteNext n h b)
    (hcas : step s (.cas t found exp des true) = some s') :
    ∃ s0', step { s with pc := upd s.pc t (.pushWroteNext n h) } (.cas t found exp des true) = some s0' ∧
      s'.head = s0'.head ∧ s'.next = s0'.next ∧ s'.data = s0'.data ∧ s'.owner = s0'.owner ∧
      s'.stk = s0'.stk ∧ s'.res = s0'.res ∧ s'.lin = s0'.lin := by
  simp only [step, hpc] at hcas
  split at hcas
  · rename_i hc
    simp at hcas; subst hcas
    simp only [step, upd_same]
    rw [if_pos hc]
    exact ⟨_, rfl, rfl, rfl, rfl, rfl, rfl, rfl, rfl⟩
  · simp at hcas

/-- (b) `ret pushto 1` is only possible after the successful CAS -/
theorem pushto_success_only_after_cas (own0 : Nat → Nat) (es : List Ev) (s s' : St) (t : Nat)
    (_hrun : (sys own0).run es = some s) (hret : step s (.retPushTo t 1) = some s') :
    s.pc t = .toDone := by
  simp only [step] at hret
  split at hret <;> simp at hret
  assumption

/-- (c) budget: while thread `t` is inside a push_timeout called with `tries = b`, it has made
    at most `b` CAS attempts (the CAS events of `t` since its call note); once it gives up it
    has made exactly `b` -/
theorem pushto_attempts_le_budget (own0 : Nat → Nat) (es : List Ev) (s : St) (t : Nat)
    (hrun : (sys own0).run es = some s) (hin : inTo (s.pc t) = true) :
    ∃ v b, callOf t es = some (.callPushTo t v b) ∧ 1 ≤ b ∧ casCount t (curOp t es) ≤ b ∧
      (∀ n, s.pc t = .toGaveUp n → casCount t (curOp t es) = b) := by
  have hT := toOk_of_run hrun t
  obtain ⟨v, hv, hpos⟩ := hT.call hin
  have hc := hT.count hin
  have hB := hT.bud
  refine ⟨v, s.tries0 t, hv, hpos, by rw [← hc]; exact hB.le, ?_⟩
  intro n hpc
  rw [hpc] at hB; simp only [BudOk] at hB
  rw [← hc, hB]

/-- (c) ghost form, every reachable state, every thread -/
theorem pushto_ghost_attempts_le_budget (own0 : Nat → Nat) (es : List Ev) (s : St) (t : Nat)
    (hrun : (sys own0).run es = some s) : s.att t ≤ s.tries0 t :=
  (toOk_of_run hrun t).bud.le

/-! ### non-vacuity: a push_timeout with budget 1 fails because another push intervenes between
    its load and its CAS; the SAME node is then pushed again (new value, budget 2) and flushed

  Thread 0: push_timeout(n1, 11, tries = 1) loads head = NULL, writes n1->next = NULL, stalls.
  Thread 1 pushes n2 (21).  Thread 0's CAS finds n2, not NULL: fails, budget used up, returns
  0 — the container is [n2], n1 is still thread 0's.  Thread 0 calls push_timeout(n1, 12, 2):
  succeeds on the first try.  Thread 1's fifo flush hands out 21 then 12; 11 never appears. -/

def timeoutTrace : List Ev := [
  .callPushTo 0 11 1, .wrData 0 1 11, .ldHead 0 0, .wrNext 0 1 0,
  .callPush 1 21, .wrData 1 2 21, .ldHead 1 0, .wrNext 1 2 0, .cas 1 0 0 2 true, .retPush 1,
  .cas 0 2 0 1 false, .retPushTo 0 0]

def timeoutTrace2 : List Ev := timeoutTrace ++ [
  .callPushTo 0 12 2, .wrData 0 1 12, .ldHead 0 2, .wrNext 0 1 2, .cas 0 2 2 1 true, .retPushTo 0 1,
  .callFlush 1 true, .xchg 1 1, .rdNext 1 1 2, .wrNext 1 1 0, .rdNext 1 2 0, .wrNext 1 2 1,
  .rdData 1 2 21, .item 1 21, .rdNext 1 2 1, .rdData 1 1 12, .item 1 12, .rdNext 1 1 0, .retFlush 1 2]

/-- after the failed push_timeout: the container holds only n2, n1 is still thread 0's, the
    linearisation has no trace of value 11, one attempt was made out of a budget of one -/
example : ((sys (fun n => if n = 2 then 1 else 0)).run timeoutTrace).map
      (fun s => (s.head, s.stk, s.owner 1, s.owner 2, s.att 0, s.tries0 0))
    = some (2, [2], some 0, none, 1, 1) := by decide
example : ((sys (fun n => if n = 2 then 1 else 0)).run timeoutTrace).map (fun s => (s.lin, s.pc 0))
    = some ([.push 2 21], .idle) := by decide

/-- the hypotheses of `pushto_failed_never_published` are satisfiable … -/
example : (curOp 0 (timeoutTrace.dropLast), callOf 0 (timeoutTrace.dropLast),
           casCount 0 (curOp 0 timeoutTrace.dropLast))
    = ([.wrData 0 1 11, .ldHead 0 0, .wrNext 0 1 0,
        .callPush 1 21, .wrData 1 2 21, .ldHead 1 0, .wrNext 1 2 0, .cas 1 0 0 2 true, .retPush 1,
        .cas 0 2 0 1 false], some (.callPushTo 0 11 1), 1) := by decide

/-- … and the node is re-pushed and flushed in push order -/
example : ((sys (fun n => if n = 2 then 1 else 0)).run timeoutTrace2).map
      (fun s => (s.head, s.stk, s.res 1, s.owner 1, s.owner 2))
    = some (0, [], [2, 1], some 1, some 1) := by decide
example : ((sys (fun n => if n = 2 then 1 else 0)).run timeoutTrace2).map (fun s => s.lin)
    = some [.push 2 21, .push 1 12, .flush [(1, 12), (2, 21)]] := by decide

/-- budget 2: the first CAS fails (another push intervened), the retry uses the refreshed head
    and succeeds; two attempts out of two -/
def retryTrace : List Ev := [
  .callPushTo 0 11 2, .wrData 0 1 11, .ldHead 0 0, .wrNext 0 1 0,
  .callPush 1 21, .wrData 1 2 21, .ldHead 1 0, .wrNext 1 2 0, .cas 1 0 0 2 true, .retPush 1,
  .cas 0 2 0 1 false, .wrNext 0 1 2, .cas 0 2 2 1 true, .retPushTo 0 1]

example : ((sys (fun n => if n = 2 then 1 else 0)).run retryTrace).map
      (fun s => (s.head, s.stk, s.next 1, s.owner 1, s.att 0, s.tries0 0))
    = some (1, [1, 2], 2, none, 2, 2) := by decide
example : ((sys (fun n => if n = 2 then 1 else 0)).run retryTrace).map (fun s => s.lin)
    = some [.push 2 21, .push 1 11] := by decide

/-- the model rejects a success report after giving up, a failure report after the successful
    CAS, a third attempt on a budget of … one, and a call with `tries = 0` -/
example : ((sys (fun n => if n = 2 then 1 else 0)).run (timeoutTrace.dropLast ++ [.retPushTo 0 1])) = none := by
  decide
example : ((sys (fun n => if n = 2 then 1 else 0)).run (timeoutTrace.dropLast ++ [.wrNext 0 1 2])) = none := by
  decide
example : ((sys (fun _ => 0)).run [.callPushTo 0 11 1, .wrData 0 1 11, .ldHead 0 0, .wrNext 0 1 0,
      .cas 0 0 0 1 true, .retPushTo 0 0]) = none := by decide
example : ((sys (fun _ => 0)).run [.callPushTo 0 11 0]) = none := by decide

/-- the API-level oracle of `stackMonitor`: a value whose push_timeout gave up must not be
    handed out -/
example : gaveUpBad [] [(true, [11])] [11]
    = some "invented: a flush handed out 11 although its push_timeout gave up (returned MPMC_RETRY)" := by
  decide
example : gaveUpBad [] [(true, [21, 12])] [11] = none := by decide

end Stack

/-! ################################################################################
    ## Part 4 — fiber_signal.h, fiber_multi_signal_t (multi-waiter signal)
    (model Model/MultiSignal.lean, invariant Proof/MultiSignal*.lean; harness
    harness/multisignal.c on the real fiber runtime)

    "A multi-signal raise either releases exactly one waiter or leaves the signal raised
     for the next wait (pending raises coalesce); it never releases two waiters and is
     never dropped while a fiber is waiting."

    Actors are fibers (any number), on any number of kernel threads.  One model step per
    shared access: the two snapshot loads (counter FIRST, then head — torn snapshots are in
    the model), the plain read of `head->next` of a possibly stale head, the CAS2, the
    sleeper's hand-shake (`scratch`, the deferred READY_TO_WAKE write by its successor) and
    the raiser's spin on it.  `stack` is the ghost list of listed fibers, `waker f = some g`
    means raiser g popped f and has not woken it yet.
    ################################################################################ -/
namespace MultiSignal
open LibfiberVerif LibfiberVerif.MultiSignal

/-- the model as the driver instantiates it: fiber F<k> owns list node N<k> -/
abbrev msys := sys (fun k => k)

/-- `counter_counts_updates`: the counter word equals the number of successful CAS2s (every
    branch of wait / raise / raise_strict increments it), so a CAS2 that succeeds from a
    snapshot proves that nothing happened since the counter was read. -/
theorem counter_counts_updates (es : List Ev) (s : St) (h : msys.run es = some s) :
    s.counter = (es.filter casOkEv).length := by
  rw [(inv_of_run h).cnt]; exact updates_of_run h

/-- RAISED ⇒ no waiter is listed (and NULL ⇒ none either; a node ⇒ it is the top of the list
    and the `next` pointers spell out the rest). -/
theorem raised_no_waiter (es : List Ev) (s : St) (h : msys.run es = some s) :
    (s.head = .raised → s.stack = []) ∧ (s.head = .nil → s.stack = []) ∧
    (∀ n, s.head = .node n → ∃ rest, s.stack = n :: rest ∧ s.next n = headOf rest) := by
  obtain ⟨a, b, c⟩ := stack_of_head (inv_of_run h)
  exact ⟨a, b, fun n hn => by obtain ⟨rest, h1, h2, _⟩ := c n hn; exact ⟨rest, h1, h2⟩⟩

/-- `raise_one_or_latch`: the successful CAS2 of a raise (plain or strict, from ANY snapshot,
    however stale the `next` it read) either
    * pops EXACTLY the top listed fiber n — the list loses n and nothing else, this raiser (and
      only it: `waker n = some f`) goes on to wake n — or
    * finds NO fiber listed and leaves RAISED (latching it, or coalescing with a pending
      raise when it already was RAISED), waking nobody.
    In particular a raise is never dropped while a fiber is listed: with `s.stack ≠ []` only
    the first alternative is possible. -/
theorem raise_one_or_latch (es : List Ev) (s s' : St) (f ec : Nat) (eh : H) (nc : Nat) (nh : H)
    (h : msys.run es = some s) (hr : (s.pc f).raiseCas)
    (hs : step s (.cas2 f ec eh nc nh true) = some s') :
    (∃ n rest, s.stack = n :: rest ∧ eh = .node n ∧ s'.stack = rest ∧ s'.head = headOf rest ∧
        s'.pc f = .rPopped n ∧ s'.waker n = some f ∧ s'.released = s.released + 1) ∨
    (s.stack = [] ∧ (eh = .nil ∨ eh = .raised) ∧ s'.stack = [] ∧ s'.head = .raised ∧
        s'.pc f = .rDone false ∧ s'.released = s.released ∧ s'.waker = s.waker ∧ s'.wakes = s.wakes) :=
  raise_cas_ok (inv_of_run h) f ec eh nc nh hr hs

/-- never dropped while a fiber is waiting: if some fiber is listed, a raise's successful CAS2
    releases one -/
theorem raise_never_dropped (es : List Ev) (s s' : St) (f ec : Nat) (eh : H) (nc : Nat) (nh : H)
    (h : msys.run es = some s) (hr : (s.pc f).raiseCas) (hne : s.stack ≠ [])
    (hs : step s (.cas2 f ec eh nc nh true) = some s') :
    ∃ n rest, s.stack = n :: rest ∧ s'.stack = rest ∧ s'.waker n = some f := by
  rcases raise_one_or_latch es s s' f ec eh nc nh h hr hs with ⟨n, rest, h1, _, h3, _, _, h6, _⟩ | ⟨h1, _⟩
  · exact ⟨n, rest, h1, h3, h6⟩
  · exact absurd h1 hne

/-- a wait's successful CAS2 either CONSUMES a latched RAISED — the signal is reset to NULL and
    the wait returns without sleeping (`parks` unchanged) — or lists the fiber on top -/
theorem wait_consumes_or_lists (es : List Ev) (s s' : St) (f ec : Nat) (eh : H) (nc : Nat) (nh : H)
    (h : msys.run es = some s) (hw : (s.pc f).waitCas)
    (hs : step s (.cas2 f ec eh nc nh true) = some s') :
    (eh = .raised ∧ s.head = .raised ∧ s.stack = [] ∧ s'.head = .nil ∧ s'.stack = [] ∧
        s'.pc f = .waitDone ∧ s'.parks = s.parks ∧ s'.consumed = s.consumed + 1) ∨
    (eh ≠ .raised ∧ s'.head = .node f ∧ s'.stack = f :: s.stack ∧ s'.pc f = .wListed ∧
        s'.parks f = s.parks f + 1) :=
  wait_cas_ok (inv_of_run h) f ec eh nc nh hw hs

/-- a fiber that sleeps on the signal and has not been woken is either still listed (and then
    no raiser holds it) or held by a raiser that popped it (and then it is not listed): its
    wake-up is never lost and never duplicated -/
theorem sleeper_listed_or_held (es : List Ev) (s : St) (f : Nat) (h : msys.run es = some s)
    (hsl : (s.pc f).sleepy) (hun : s.wakes f + 1 = s.parks f) :
    (f ∈ s.stack ∧ ∀ g, ¬ (s.pc g).targets f) ∨ (f ∉ s.stack ∧ ∃ g, (s.pc g).targets f) :=
  asleep_accounted (inv_of_run h) f hsl hun

/-- never two: every sleep is ended by at most one wake-up (`wakes ≤ parks ≤ wakes + 1`), at
    most one raiser is on its way to wake a given fiber, and the list has no duplicates -/
theorem single_wake (es : List Ev) (s : St) (f : Nat) (h : msys.run es = some s) :
    s.wakes f ≤ s.parks f ∧ s.parks f ≤ s.wakes f + 1 ∧
    (∀ g g', (s.pc g).targets f → (s.pc g').targets f → g = g') ∧ s.stack.Nodup := by
  obtain ⟨a, b, c⟩ := single_wake_of_inv (inv_of_run h) f
  exact ⟨a, b, c, (inv_of_run h).nodup⟩

/-- the wake-up itself (`g->state = READY`, then schedule) happens only after the sleeper's
    context switch completed (its successor wrote the READY_TO_WAKE marker), the sleeper was
    owed exactly this wake-up, and afterwards it is owed none -/
theorem wake_after_marker (es : List Ev) (s s' : St) (g f : Nat) (h : msys.run es = some s)
    (hs : step s (.wStateReady g f) = some s') :
    s.pc f = .parked ∧ s.scratch f = true ∧ s.wakes f + 1 = s.parks f ∧ f ∉ s.stack ∧
    s'.wakes f = s'.parks f :=
  wake_after_marker_of_inv (inv_of_run h) g f hs

/-! ### non-vacuity: a trace of the real implementation (harness/multisignal.c, script
    `t|t|p,R,p`, 3 kernel threads, VR_SCHED=rand VR_SWITCH=2 VR_SEED=159) projected to model
    events.  It contains, in this order: a latch (NULL→RAISED), a CAS2 of waiter 16 that FAILS
    on its stale snapshot (0, NULL), a coalescing raise (RAISED→RAISED), waiter 16 consuming
    the latch (RAISED→NULL), waiter 16 listing itself, and a raise releasing it. -/
def witness : List Ev :=
  [.callTake 16, .ldTokens 16 0, .callWait 16, .clrScratch 16, .rNode 16 16 16, .callPublish 18,
   .faddTokens 18 0, .callRaise 18 false, .wData 16 16 16, .ldC 16 0, .ldC 18 0, .ldH 18 .nil,
   .ldH 16 .nil, .wNext 16 16 .nil, .cas2 18 0 .nil 1 .raised true, .retRaise 18 false false,
   .callRaise 18 false, .cas2 16 0 .nil 1 (.node 16) false, .ldC 18 1, .ldH 18 .raised,
   .cas2 18 1 .raised 2 .raised true, .retRaise 18 false false, .callPublish 18, .callTake 17,
   .ldTokens 17 1, .casTokens 17 1 1 0 true, .took 17, .ldTokens 17 0, .retTake 17, .ldC 16 2,
   .ldH 16 .raised, .cas2 16 2 .raised 3 .nil true, .retWait 16, .ldTokens 16 0, .callWait 16,
   .clrScratch 16, .rNode 16 16 16, .wData 16 16 16, .ldC 16 3, .ldH 16 .nil, .wNext 16 16 .nil,
   .faddTokens 18 0, .callRaise 18 false, .cas2 16 3 .nil 4 (.node 16) true, .ldC 18 4,
   .ldH 18 (.node 16), .wStateWaiting 16, .rNext 18 16 .nil, .setWait 1 16,
   .cas2 18 4 (.node 16) 5 .nil true, .rData 18 16 16, .wNode 18 16 16, .rScratch 18 16 true,
   .wStateReady 18 16, .retRaise 18 false true, .clrScratch 16, .retWait 16, .ldTokens 16 1,
   .casTokens 16 1 1 0 true, .took 16, .ldTokens 16 0, .retTake 16]

example : (msys.run witness).map (fun s => (s.counter, s.head, s.stack, s.tokens))
    = some (5, .nil, [], 0) := by decide

example : (msys.run witness).map (fun s => (s.latched, s.coalesced, s.consumed, s.released))
    = some (1, 1, 1, 1) := by decide

example : (msys.run witness).map (fun s => (s.parks 16, s.wakes 16, s.parks 17, s.wakes 17))
    = some (1, 1, 0, 0) := by decide

/-- the hypotheses of `raise_one_or_latch` are met inside that trace (first alternative): after
    49 events raiser 18 holds the snapshot (4, N16) and `next` = NULL, fiber 16 is listed … -/
example : (msys.run (witness.take 49)).map (fun s => (s.pc 18, s.stack, s.counter))
    = some (.rNext 4 16 .nil, [16], 4) := by decide

/-- … and its CAS2 succeeds, unlisting 16 and making 18 its waker -/
example : ((msys.run (witness.take 49)).bind (fun s => step s (.cas2 18 4 (.node 16) 5 .nil true))).map
      (fun s => (s.stack, s.waker 16, s.pc 18, s.released))
    = some ([], some 18, .rPopped 16, 1) := by decide

/-- the stale CAS2 of waiter 16 (snapshot (0, NULL) taken before the latch) is in the trace and
    fails: event 18 -/
example : witness[17]? = some (.cas2 16 0 .nil 1 (.node 16) false) := by decide

end MultiSignal

end LibfiberVerif.Props.C20
