/-
  Props/TsoGrow.lean — exactly-once for the Chase–Lev deque of src/work_stealing_deque.c on
  x86-TSO, INCLUDING ARRAY GROWTH (obligation of property C02; closes the gap left by
  `Props/Tso.lean` (a), whose store-buffer model has a fixed array).

  Model: `Model/WsdTsoGrow.lean` on top of the store-buffer layer `Model/Tso.lean`.
  Invariant: `Proof/WsdTsoGrow.lean`.

  ## What is proved  (machine `tso k0 = sys (fenced := true) (ordered := true) k0`, every
  accepted trace: any interleaving, arbitrary `flush` events, any number of thieves, unbounded
  runs, any number of growth steps, any initial size `2^k0`)

    * `exactly_once_tso_grow`, `returned_le_pushed_tso_grow`, `no_double_take_tso_grow` —
      the statement of `Wsd.exactly_once` / `WsdTso.exactly_once_fenced`.
    * `stale_generation_read_harmless`, `stale_generation_slot_valid` — a thief that holds a
      STALE array pointer (any older generation) reads, for an index its CAS can still win, the
      value of that index; the slot it is going to read is already right in memory and stays
      right in every later state of memory.
    * `superseded_generation_never_written`, `buffered_stores_target_visible_or_newer` — once
      the owner has issued the pointer store for generation `g + 1`, no store to generation `g`
      is ever issued again; and in memory order (every partial drain of the buffer) no store to a
      generation older than the currently VISIBLE pointer is pending: old generations are
      read-only from the moment any thief can know that they are old.
    * `pointer_store_behind_copy_stores` — the role of FIFO order: whatever pointer a drain of
      the buffer makes visible, the slots of that generation already hold every index that ANY
      earlier drain showed below `bottom`, and nothing still buffered will touch them.  "New
      pointer, but the copy of the slot still in the store buffer" is impossible.
    * `visible_pointer_monotone`, `pop_decides_on_drained_buffer_grow`, `thieves_never_buffer_grow`.
    * `copy_overtaken_unordered` — the SAME model with `ordered := false` (the pointer store may
      overtake buffered stores to other cells, as on a PSO machine) accepts a trace in which a
      thief reads the new pointer and an uninitialised slot: 7 is lost, 0 is returned though
      never pushed.  So the theorems above are not vacuous about store order.
    * non-vacuity: `growTrace` (growth while a thief holds the stale pointer, four stores
      buffered, the stale generation read after the new pointer is visible).

  ## What is assumed

    * x86-TSO is the store-buffer machine of `Model/Tso.lean`: one FIFO buffer per thread,
      loads forwarded from the own buffer, locked RMW (`cmpxchg` on `top`) only with a drained
      buffer and acting on memory.
    * a compiled seq_cst store (`xchg`, or `mov; mfence`) drains the buffer before the next
      load: pop_bottom's `store(bottom, b)` ; `load(top)` — as in `Props/Tso.lean` (a).
    * NOTHING ELSE for growth.  In particular the pointer store `d->underlying_array = a` is
      modelled as an ordinary buffered store.  In the C source the field is `_Atomic` and the
      plain assignment is a seq_cst store (every log shows `st underlying_array … mo5`); the
      proof does not use that strength — it uses only that x86 does not reorder two stores
      (TSO's FIFO buffer).  That is a property of the MACHINE: a `memory_order_relaxed` pointer
      store would be just as correct on x86 but not under the C11 model (no release edge from
      the copy loop to the thief's slot read); as written (seq_cst store, seq_cst load) the
      code is also correct C11.  The array header (`size_minus_one`) is written before the copy
      loop by `wsd_circular_array_create`, i.e. it is in front of the pointer store in the same
      FIFO buffer; it is not a registered cell (neither here nor in `Model/Wsd.lean`).

  ## How this is tied to the code

  The store-buffer model is not driven by logs (the scheduler of `rt/` is sequentially
  consistent).  Every log of the real code IS replayed through `Model/Wsd.lean`, which is the
  same program at the same granularity: the events of `WsdTsoGrow.step` are those of
  `Wsd.step` (`ldBottom stBottom ldTop casTop ldArr stArr rdSlot wrSlot` + call/ret) in the same
  program order per operation, minus the memory-order argument, plus `flush`; TSO only adds
  buffering.  This is a theorem, not a reading of two files: `every_sc_trace_is_a_tso_trace` (simulation
  `Proof/WsdTsoGrowSim.lean`) maps every trace accepted by `Wsd.sys k0` — hence every replayed
  log — event for event (`embed`: same access, a store followed by its `flush`) to a trace
  accepted by the TSO model, with equal `pushed` / `returned`, equal program counters and
  memory equal to the SC cells; `sc_returned_le_pushed_via_tso` re-derives the SC bound from the
  TSO theorem through it.
  What the TSO theorems rely on, and what `Wsd.step` demands of every log:
    * pop_bottom: `stBottom … mo = 5` at `popGotArr`, `ldTop … mo = 5` at `popStored`
      (`Props/Tso.lean`: `Wsd.popStored_only_by_seq_cst_store`, `…_left_only_by_seq_cst_load`);
    * growth: the PROGRAM ORDER copy stores → pointer store → element store → `bottom` store.
      `Wsd.arr_changes_only_by_store_after_copy` and `Wsd.publish_only_after_last_copy` below:
      in the log-validated model `underlying_array` changes only by a `stArr` event (logged
      order at least release — more than TSO needs) issued from `pushPublish`, and
      `pushPublish` is entered only by the LAST copy write into the new generation (or directly,
      when `[t, b)` is empty).  A log in which the pointer store came before a copy store is a
      DIVERGENCE of C02's correspondence check.
-/
import LibfiberVerif.Proof.WsdTsoGrow
import LibfiberVerif.Proof.WsdTsoGrowSim
import LibfiberVerif.Model.Wsd

namespace LibfiberVerif.WsdTsoGrow
open LibfiberVerif.Tso
open LibfiberVerif.Wsd (Res)

/-- **exactly once, on TSO, with growth.**  Over every accepted trace of the store-buffer model
    (seq_cst store in pop_bottom, FIFO buffers): as multisets
    pushed = returned ⊎ owed ⊎ logical, with `logical` the values of the indices `[top, hb)`.
    Nothing is dropped, nothing is handed to two takers, nothing is invented — although thieves
    decide on a stale `bottom`, may hold a stale array pointer and read slots of a superseded
    generation, and the copy of a growth step may sit in the owner's store buffer. -/
theorem exactly_once_tso_grow {k0 : Nat} {es : List Ev} {s : St} (h : (tso k0).run es = some s) :
    s.pushed.Perm (s.returned ++ s.owed.map Prod.snd ++ logical s)
    ∧ s.owed.Nodup
    ∧ (∀ u x, (u, x) ∈ s.owed ↔ holds s u = some x) := by
  obtain ⟨hI, hA⟩ := inv_acc_of_run h
  refine ⟨?_, hA.nodup, hA.mem⟩
  exact hI.perm.trans (List.Perm.append_right _ hA.perm)

/-- per value: handed back at most as often as it was pushed -/
theorem returned_le_pushed_tso_grow {k0 : Nat} {es : List Ev} {s : St}
    (h : (tso k0).run es = some s) (x : Int) : s.returned.count x ≤ s.pushed.count x := by
  obtain ⟨hp, -, -⟩ := exactly_once_tso_grow h
  rw [hp.count_eq x, List.count_append, List.count_append]
  omega

/-- **no double take**: if the pushed values are distinct, no value is held or has been
    returned twice. -/
theorem no_double_take_tso_grow {k0 : Nat} {es : List Ev} {s : St} (h : (tso k0).run es = some s)
    (hd : s.pushed.Nodup) : (s.returned ++ s.owed.map Prod.snd).Nodup := by
  obtain ⟨hp, -, -⟩ := exactly_once_tso_grow h
  have := (hp.nodup_iff).mp hd
  exact (List.nodup_append.mp this).1

/-- **a stale generation is still valid where it matters.**  A thief that holds array
    generation `g` — possibly superseded long ago: `g ≤ s.gen` is all that is known — and is
    about to read index `t`: if its CAS can still succeed (`top = t`), then `t` is a live index,
    the slot of `t` in generation `g` holds the value of `t` IN MEMORY NOW, and in every later
    state of memory (every partial drain of the owner's buffer): no pending store changes it. -/
theorem stale_generation_slot_valid {k0 : Nat} {es : List Ev} {s : St}
    (h : (tso k0).run es = some s) {u : Nat} {t : Int} {g : Nat} (hu : s.pc u = .stealGotArr t g)
    (hT : s.m.mem cTop = t) :
    g ≤ s.gen ∧ t < s.hb ∧ s.m.mem (cSlot s.k0 g t) = s.vals t ∧
    ∀ pre suf, s.m.buf 0 = pre ++ suf → applyAll s.m.mem pre (cSlot s.k0 g t) = s.vals t := by
  have hI := inv_of_run h
  obtain ⟨-, hg, ht⟩ := hI.thiefAt (tid_ne_zero hI hu (by simp [ownerOk])) hu
  obtain ⟨a, b⟩ := ht hT
  exact ⟨hg, a, b.now, b⟩

/-- **stale reads are harmless**: a thief that has read `x` for index `t` from generation `g`
    (current or stale) and whose CAS can still succeed has read the head of the logical
    contents. -/
theorem stale_generation_read_harmless {k0 : Nat} {es : List Ev} {s : St}
    (h : (tso k0).run es = some s) {u : Nat} {t x : Int} {g : Nat}
    (hu : s.pc u = .stealRead t g x) (hT : s.m.mem cTop = t) :
    t < s.hb ∧ x = s.vals t ∧ ∃ rest, logical s = x :: rest := by
  have hI := inv_of_run h
  obtain ⟨a, b⟩ := (hI.thiefAt (tid_ne_zero hI hu (by simp [ownerOk])) hu).2 hT
  refine ⟨a, b, ⟨Wsd.seg s.vals (t + 1) (s.hb - (t + 1)).toNat, ?_⟩⟩
  rw [logical, hT, Wsd.seg_head _ _ _ a, ← b]

theorem gen_mono_step {s s' : St} {e : Ev} (hI : Inv s) (h : step s e = some s') :
    s.gen ≤ s'.gen := by
  cases e <;> simp only [step] at h <;> (repeat' split at h) <;> simp at h <;> subst h <;>
    (try exact Nat.le_refl _)
  · next t g _ v b tt g' hpc hc =>
    obtain rfl := tid_zero hI hpc (by simp [thiefOk])
    have ho := hI.ownerAt hpc; simp only [ownerOk] at ho
    show s.gen ≤ g; omega
  · next t g _ v b tt g' hpc hc =>
    have := hI.ord; rw [hc.1] at this; cases this

theorem gen_mono_runFrom {k0 : Nat} {s s' : St} {es : List Ev} (hI : Ok s)
    (h : (tso k0).runFrom s es = some s') : s.gen ≤ s'.gen := by
  induction es generalizing s with
  | nil => simp [Sys.runFrom] at h; subst h; exact Nat.le_refl _
  | cons e es ih =>
    simp only [Sys.runFrom] at h
    cases hst : (tso k0).step s e with
    | none => simp [hst] at h
    | some s1 =>
      simp [hst] at h
      exact Nat.le_trans (gen_mono_step hI.1 hst) (ih (ok_step hI hst) h)

/-- every slot store is issued by the owner, into the generation it works on (the element
    store) or into the next one (a copy store of a growth step in progress) -/
theorem slot_store_targets_current_or_next {k0 : Nat} {es : List Ev} {s s' : St} {t g i : Nat}
    {x : Int} (h : (tso k0).run es = some s) (hs : step s (.wrSlot t g i x) = some s') :
    t = 0 ∧ (g = s.gen ∨ g = s.gen + 1) := by
  have hI := inv_of_run h
  simp only [step] at hs
  split at hs
  next v b tt g' j y hpc =>
    obtain rfl := tid_zero hI hpc (by simp [thiefOk])
    have hg : g' = s.gen := (hI.ownerAt hpc).2.2.2.2.1
    split at hs
    · next hc => exact ⟨rfl, Or.inr (by rw [hc.1, hg])⟩
    · cases hs
  next v b g' hpc =>
    obtain rfl := tid_zero hI hpc (by simp [thiefOk])
    have hg : g' = s.gen := (hI.ownerAt hpc).2.2.2.1
    split at hs
    · next hc => exact ⟨rfl, Or.inl (by rw [hc.1, hg])⟩
    · cases hs
  next => cases hs

/-- **superseded generations are only ever read.**  Once the owner works on generation
    `s.gen`, no later step of any continuation of the run stores into a generation below it. -/
theorem superseded_generation_never_written {k0 : Nat} {es es' : List Ev} {s s1 s2 : St}
    {t g i : Nat} {x : Int} (h : (tso k0).run es = some s)
    (h1 : (tso k0).runFrom s es' = some s1) (hs : step s1 (.wrSlot t g i x) = some s2) :
    s.gen ≤ g := by
  have hrun : (tso k0).run (es ++ es') = some s1 := by
    simp only [Sys.run] at h ⊢
    rw [Sys.runFrom_append, h]; exact h1
  have := (slot_store_targets_current_or_next hrun hs).2
  have := gen_mono_runFrom (inv_acc_of_run h) h1
  omega

/-- **the same in memory order.**  Take any partial drain `μ` of the owner's buffer — a state
    of memory some thief may observe — and any store still buffered behind it: it is a `bottom`
    store, a pointer store to a NEWER generation than `μ` shows, or a slot store into a
    generation at least as new as the one `μ` shows.  A generation that memory already shows
    as superseded is never stored to again. -/
theorem buffered_stores_target_visible_or_newer {k0 : Nat} {es : List Ev} {s : St}
    (h : (tso k0).run es = some s) {pre suf : Buf} (hb : s.m.buf 0 = pre ++ suf)
    {c : Nat} {v : Int} (hc : (c, v) ∈ suf) :
    c = cBot ∨ (c = cArr ∧ applyAll s.m.mem pre cArr < v ∧ v ≤ s.gen) ∨
    ∃ g i, c = cSlot s.k0 g i ∧ applyAll s.m.mem pre cArr ≤ g :=
  ((inv_of_run h).views pre suf hb).2.2.2 c v hc

/-- the pointer memory shows is a generation the owner has published, never ahead of it, and
    the owner reads its own newest pointer -/
theorem visible_pointer_monotone {k0 : Nat} {es : List Ev} {s : St}
    (h : (tso k0).run es = some s) {pre suf : Buf} (hb : s.m.buf 0 = pre ++ suf) :
    0 ≤ applyAll s.m.mem pre cArr ∧ applyAll s.m.mem pre cArr ≤ s.gen ∧
    s.m.load 0 cArr = s.gen := by
  have hI := inv_of_run h
  have hv := hI.views pre suf hb
  exact ⟨hv.1, hv.2.1, by rw [load_eq_view]; exact hI.arrOwn⟩

/-- **the pointer store cannot overtake the copy stores.**  Split the owner's buffer into
    `pre ++ mid ++ suf`.  `μ` = memory after `pre` has drained (where some thief loaded
    `bottom`), `μ'` = memory after `pre ++ mid` (where it later loads the pointer and the slot).
    For every index `i` that `μ` shows as present (`top ≤ i < μ bottom`): the slot of `i` in
    the generation that `μ'` PUBLISHES holds the value of `i` in `μ'`, and no store still
    buffered behind `μ'` writes that slot.  If `μ'` shows a new pointer, the copy of every
    live index has drained before it. -/
theorem pointer_store_behind_copy_stores {k0 : Nat} {es : List Ev} {s : St}
    (h : (tso k0).run es = some s) {pre mid suf : Buf} (hb : s.m.buf 0 = pre ++ (mid ++ suf))
    {i : Int} (h1 : s.m.mem cTop ≤ i) (h2 : i < applyAll s.m.mem pre cBot) :
    let μ' := applyAll (applyAll s.m.mem pre) mid
    μ' (cSlot s.k0 (μ' cArr).toNat i) = s.vals i ∧
    ∀ e ∈ suf, e.1 ≠ cSlot s.k0 (μ' cArr).toNat i :=
  (inv_of_run h).slots pre mid suf hb i h1 h2

/-- the instance a thief lives by: in memory as it is NOW, the generation the visible pointer
    names holds every index `[top, bottom)` that memory shows -/
theorem visible_generation_complete {k0 : Nat} {es : List Ev} {s : St}
    (h : (tso k0).run es = some s) {i : Int} (h1 : s.m.mem cTop ≤ i) (h2 : i < s.m.mem cBot) :
    s.m.mem (cSlot s.k0 (s.m.mem cArr).toNat i) = s.vals i :=
  (pointer_store_behind_copy_stores (pre := []) (mid := []) (suf := s.m.buf 0) h (by simp) h1 h2).1

/-- what the fence buys (as in the fixed-array model): past pop_bottom's load of `top` the
    owner's buffer is empty, so memory holds the lowered `bottom`, the newest pointer and every
    copied slot -/
theorem pop_decides_on_drained_buffer_grow {k0 : Nat} {es : List Ev} {s : St}
    (h : (tso k0).run es = some s) {b t : Int} {g : Nat} (hpc : s.pc 0 = .popTake b g t) :
    s.m.buf 0 = [] ∧ s.m.mem cBot = b ∧ g = s.gen ∧ s.m.mem cArr = s.gen ∧ t ≤ s.m.mem cTop ∧
    ((t < b ∧ s.hb = b) ∨ (t = b ∧ s.hb = b + 1)) := by
  have hI := inv_of_run h
  obtain ⟨a, b', c, -, d, e⟩ := hI.ownerAt hpc
  have harr := hI.arrOwn; rw [view_of_drained a] at harr
  exact ⟨a, b', d, harr, c, e.imp (fun e => ⟨e.1, e.2.1⟩) id⟩

/-- only the owner ever has buffered stores -/
theorem thieves_never_buffer_grow {k0 : Nat} {es : List Ev} {s : St}
    (h : (tso k0).run es = some s) {u : Nat} (hu : u ≠ 0) : s.m.buf u = [] :=
  (inv_of_run h).bufs u hu

/-- on the TSO machine the overtaking pointer store is not an event -/
theorem no_early_pointer_store_on_tso {k0 : Nat} {es : List Ev} {s : St}
    (h : (tso k0).run es = some s) (t g : Nat) : step s (.stArrEarly t g) = none := by
  have hI := inv_of_run h
  cases hs : step s (.stArrEarly t g) with
  | none => rfl
  | some s' =>
    simp only [step] at hs
    split at hs
    · exact nomatch (Wsd.of_ite_some hs).1.1.symm.trans hI.ord
    · cases hs

/-! ### same program as the log-validated SC model -/

/-- **every trace of `Model/Wsd.lean` is a trace of the TSO model.**  Each SC event becomes the
    same access on the store-buffer machine (`embed`: a store is followed by the `flush` that
    drains it; the memory-order argument is dropped).  At the end all buffers are empty, memory
    holds the SC cells, every thread is at the same program counter, and the same values have
    been pushed and returned.  In particular every log of the real code that C02's check has
    replayed through `Wsd.step` is a behaviour the theorems above speak about. -/
theorem every_sc_trace_is_a_tso_trace {k0 : Nat} {es : List Wsd.Ev} {a : Wsd.St}
    (h : (Wsd.sys k0).run es = some a) :
    ∃ c, (tso k0).run (es.flatMap embed) = some c ∧
      c.pushed = a.pushed ∧ c.returned = a.returned ∧ (∀ u, c.m.buf u = []) ∧
      c.m.mem cTop = a.top ∧ c.m.mem cBot = a.bottom ∧ c.m.mem cArr = a.arr ∧
      (∀ g j, c.m.mem (cSlot a.k0 g j) = a.slot g (Wsd.idx (a.k0 + g) j)) ∧
      ∀ u, c.pc u = ofPc (a.pc u) := by
  obtain ⟨c, hc, hS⟩ := sim_runFrom (f := true) (o := true) (sim_init true true k0) h
  exact ⟨c, hc, hS.pushed, hS.returned, hS.bufs, hS.top, hS.bot, hS.arr, hS.slot, hS.pc⟩

/-- the SC bound "returned at most as often as pushed" as a corollary of the TSO theorem -/
theorem sc_returned_le_pushed_via_tso {k0 : Nat} {es : List Wsd.Ev} {a : Wsd.St}
    (h : (Wsd.sys k0).run es = some a) (x : Int) : a.returned.count x ≤ a.pushed.count x := by
  obtain ⟨c, hc, hp, hr, -⟩ := every_sc_trace_is_a_tso_trace h
  rw [← hp, ← hr]; exact returned_le_pushed_tso_grow hc x

/-- growth included: an SC trace with a growth step, embedded -/
example : ∃ c, (tso 1).run (List.flatMap embed [
    .callPush 0 7, .ldBottom 0 0 2, .ldTop 0 0 2, .ldArr 0 0 5, .wrSlot 0 0 0 7, .stBottom 0 1 3,
    .retPush 0,
    .callPush 0 8, .ldBottom 0 1 2, .ldTop 0 0 2, .ldArr 0 0 5, .rdSlot 0 0 0 7, .wrSlot 0 1 0 7,
    .stArr 0 1 5, .wrSlot 0 1 1 8, .stBottom 0 2 3, .retPush 0]) = some c ∧
    c.grown = 1 ∧ c.pushed = [7, 8] ∧ c.m.mem cArr = 1 ∧ c.m.buf 0 = [] :=
  ⟨_, rfl, by decide, by decide, by decide, by decide⟩

/-! ### the weaker machine: the pointer store overtakes a copy store -/

/-- Initial array of 2 slots (`k0 = 1`).  7 is pushed (index 0) and drained.  push_bottom(8)
    finds `b - t = 1 ≥ size - 1` and grows: it reads 7 from generation 0 and issues the copy
    store `gen1[0] := 7` — buffered.  The pointer store `underlying_array := gen1` OVERTAKES it
    (`stArrEarly`) and drains.  A thief loads `top = 0`, `bottom = 1`, the NEW pointer, reads
    slot 0 of generation 1 — still uninitialised memory, 0 — and its CAS succeeds: it returns
    0.  The rest of the trace completes the push and lets the owner pop what is left: 8, then
    EMPTY.  7 is gone. -/
def overtakeTrace : List Ev := [
  .callPush 0 7, .ldBottom 0 0, .ldTop 0 0, .ldArr 0 0, .wrSlot 0 0 0 7, .stBottom 0 1, .retPush 0,
  .flush 0, .flush 0,
  .callPush 0 8, .ldBottom 0 1, .ldTop 0 0, .ldArr 0 0,
  .rdSlot 0 0 0 7, .wrSlot 0 1 0 7,
  .stArrEarly 0 1,                              -- overtakes the buffered copy store
  .flush 0,
  .callSteal 1, .ldTop 1 0, .ldBottom 1 1, .ldArr 1 1, .rdSlot 1 1 0 0, .casTop 1 0 0 1 true,
  .retSteal 1 0,
  .wrSlot 0 1 1 8, .stBottom 0 2, .retPush 0, .flush 0, .flush 0, .flush 0,
  .callPop 0, .ldBottom 0 2, .ldArr 0 1, .stBottom 0 1, .flush 0, .ldTop 0 1, .rdSlot 0 1 1 8,
  .casTop 0 1 1 2 true, .stBottom 0 2, .retPop 0 8, .flush 0,
  .callPop 0, .ldBottom 0 2, .ldArr 0 1, .stBottom 0 1, .flush 0, .ldTop 0 2, .stBottom 0 2,
  .retPop 0 (-1), .flush 0]

/-- **if the pointer store may overtake the copy stores, exactly-once fails**: the trace above
    is accepted by the `ordered = false` model (pop_bottom still fenced); at the end every thread
    is idle, every buffer empty, 7 and 8 were pushed, 0 and 8 were returned: 7 is lost and a
    value that was never pushed has been handed out. -/
theorem copy_overtaken_unordered : ∃ s, (sys true false 1).run overtakeTrace = some s ∧
    s.pushed = [7, 8] ∧ s.returned = [0, 8] ∧ s.owed = [] ∧ logical s = [] ∧
    s.returned.count 0 = 1 ∧ s.pushed.count 0 = 0 ∧ s.returned.count 7 = 0 ∧
    s.pc 0 = .idle ∧ s.pc 1 = .idle ∧ s.m.buf 0 = [] ∧ s.grown = 1 :=
  ⟨_, rfl, by decide, by decide, by decide, by decide, by decide, by decide, by decide, by decide,
    by decide, by decide, by decide⟩

/-- the moment of the damage (after event 17): memory shows the new pointer and `bottom = 1`,
    index 0 is live with value 7, its copy is still in the buffer and the slot of generation 1
    holds 0 — `visible_generation_complete` is false here -/
example : ((sys true false 1).run (overtakeTrace.take 17)).map
    (fun s => (s.m.buf 0, s.m.mem cArr, s.m.mem cTop, s.m.mem cBot,
               s.m.mem (cSlot s.k0 (s.m.mem cArr).toNat 0), s.vals 0))
    = some ([(cSlot 1 1 0, 7)], 1, 0, 1, 0, 7) := by decide

/-- so `returned_le_pushed_tso_grow` holds only because of the store order -/
example : ¬ ∀ s, (sys true false 1).run overtakeTrace = some s →
    s.returned.count 0 ≤ s.pushed.count 0 := by
  obtain ⟨s, hs, -, -, -, -, h1, h2, -⟩ := copy_overtaken_unordered
  intro h; have := h s hs; omega

/-- the same trace is NOT a trace of the TSO machine: up to the copy store it is, the overtaking
    pointer store is refused … -/
example : (tso 1).run (overtakeTrace.take 15) ≠ none ∧
    (tso 1).run (overtakeTrace.take 16) = none := by decide

/-- … and with the pointer store in FIFO position the thief cannot see the new pointer before
    the copy: after ONE flush memory still shows generation 0 (the thief reads 7 from the old
    array), after TWO it shows generation 1 with slot 0 already copied -/
example :
    ((tso 1).run (overtakeTrace.take 15 ++ [.stArr 0 1, .flush 0])).map
      (fun s => (s.m.buf 0, s.m.mem cArr, s.m.mem (cSlot 1 0 0), s.m.mem (cSlot 1 1 0)))
      = some ([(cArr, 1)], 0, 7, 7) ∧
    ((tso 1).run (overtakeTrace.take 15 ++ [.stArr 0 1, .flush 0, .flush 0])).map
      (fun s => (s.m.buf 0, s.m.mem cArr, s.m.mem (cSlot 1 1 0)))
      = some ([], 1, 7) := by decide

/-! ### non-vacuity: growth under a thief that holds the stale pointer -/

/-- Array of 2 slots.  7 is pushed and drained.  push_bottom(8) must grow: it reads 7 from
    generation 0; meanwhile thief 1 loads `top = 0`, `bottom = 1` and the pointer to generation
    0.  The owner issues the copy store, the pointer store, the element store of 8 and
    `bottom := 2`: FOUR stores buffered.  Two flushes: memory now shows generation 1, the
    thief's pointer is stale.  The thief reads slot 0 OF GENERATION 0 — valid, 7 — and its CAS
    wins.  Thief 2 loads the stale `bottom = 1`: EMPTY.  After the last two flushes it steals 8
    from generation 1. -/
def growTrace : List Ev := [
  .callPush 0 7, .ldBottom 0 0, .ldTop 0 0, .ldArr 0 0, .wrSlot 0 0 0 7, .stBottom 0 1, .retPush 0,
  .flush 0, .flush 0,
  .callPush 0 8, .ldBottom 0 1, .ldTop 0 0, .ldArr 0 0,
  .rdSlot 0 0 0 7,
  .callSteal 1, .ldTop 1 0, .ldBottom 1 1, .ldArr 1 0,
  .wrSlot 0 1 0 7, .stArr 0 1, .wrSlot 0 1 1 8, .stBottom 0 2, .retPush 0,
  .flush 0, .flush 0,
  .rdSlot 1 0 0 7, .casTop 1 0 0 1 true, .retSteal 1 7,
  .callSteal 2, .ldTop 2 1, .ldBottom 2 1, .ldArr 2 1, .retSteal 2 (-1),
  .flush 0, .flush 0,
  .callSteal 2, .ldTop 2 1, .ldBottom 2 2, .ldArr 2 1, .rdSlot 2 1 1 8, .casTop 2 1 1 2 true,
  .retSteal 2 8]

example : ∃ s, (tso 1).run growTrace = some s ∧
    s.pushed = [7, 8] ∧ s.returned = [7, 8] ∧ s.owed = [] ∧ logical s = [] ∧ s.grown = 1 ∧
    s.gen = 1 ∧ s.m.mem cArr = 1 ∧ s.m.mem cTop = 2 ∧ s.m.mem cBot = 2 ∧ s.m.buf 0 = [] :=
  ⟨_, rfl, by decide, by decide, by decide, by decide, by decide, by decide, by decide, by decide,
    by decide, by decide⟩

/-- after event 23: four stores buffered (copy, pointer, element, `bottom`); the thieves still
    see generation 0 and `bottom = 1`, the owner sees generation 1 and `bottom = 2` -/
example : ((tso 1).run (growTrace.take 23)).map
    (fun s => (s.m.buf 0, s.m.mem cArr, s.m.load 0 cArr, s.m.mem cBot, s.m.load 0 cBot, s.pc 1))
    = some ([(cSlot 1 1 0, 7), (cArr, 1), (cSlot 1 1 1, 8), (cBot, 2)], 0, 1, 1, 2,
            .stealGotArr 0 0) := by decide

/-- after event 25 (hypotheses of `stale_generation_slot_valid`): memory shows generation 1,
    thief 1 holds generation 0 and `top` is still its `t = 0`; two stores are still buffered;
    the stale slot holds 7 -/
example : ((tso 1).run (growTrace.take 25)).map
    (fun s => (s.pc 1, s.m.mem cArr, s.gen, s.m.mem cTop, s.m.buf 0))
    = some (.stealGotArr 0 0, 1, 1, 0, [(cSlot 1 1 1, 8), (cBot, 2)]) := by rfl

example : ((tso 1).run (growTrace.take 25)).map
    (fun s => (s.m.mem (cSlot 1 0 0), s.vals 0, s.hb)) = some (7, 7, 2) := by decide

/-- after event 26 (hypotheses of `stale_generation_read_harmless`) -/
example : ((tso 1).run (growTrace.take 26)).map (fun s => (s.pc 1, s.m.mem cTop, logical s))
    = some (.stealRead 0 0 7, 0, [7, 8]) := by decide

/-- two growth steps in a row (sizes 1 → 2 → 4, `k0 = 0`) with everything buffered until the
    end: the owner's copy loop reads its own pending stores (store forwarding) -/
example : ∃ s, (tso 0).run [
    .callPush 0 5, .ldBottom 0 0, .ldTop 0 0, .ldArr 0 0, .stArr 0 1, .wrSlot 0 1 0 5,
    .stBottom 0 1, .retPush 0,
    .callPush 0 6, .ldBottom 0 1, .ldTop 0 0, .ldArr 0 1, .rdSlot 0 1 0 5, .wrSlot 0 2 0 5,
    .stArr 0 2, .wrSlot 0 2 1 6, .stBottom 0 2, .retPush 0,
    .callSteal 1, .ldTop 1 0, .ldBottom 1 0, .ldArr 1 0, .retSteal 1 (-1),
    .flush 0, .flush 0, .flush 0, .flush 0, .flush 0, .flush 0, .flush 0,
    .callSteal 1, .ldTop 1 0, .ldBottom 1 2, .ldArr 1 2, .rdSlot 1 2 0 5, .casTop 1 0 0 1 true,
    .retSteal 1 5] = some s ∧ s.grown = 2 ∧ s.returned = [5] ∧ logical s = [6] :=
  ⟨_, rfl, by decide, by decide, by decide⟩

end LibfiberVerif.WsdTsoGrow

/-! ### the log-validated SC model issues the pointer store after the copy stores -/

namespace LibfiberVerif.Wsd

/-- In `Model/Wsd.lean` — the model every C02 log is replayed through — the published array
    changes only by a store to `underlying_array` whose logged order is at least release,
    issued by a thread that has finished the copy loop (`pushPublish`), to the next
    generation. -/
theorem arr_changes_only_by_store_after_copy {s s' : St} {e : Ev}
    (h : step s e = some s') (hne : s'.arr ≠ s.arr) :
    ∃ t g mo v b tt, e = .stArr t (g + 1) mo ∧ rel mo = true ∧ s.pc t = .pushPublish v b tt g ∧
      s'.arr = g + 1 := by
  cases e <;> simp only [step] at h <;> (repeat' split at h) <;> simp at h <;> subst h <;>
    simp at hne ⊢
  rename_i t1 g1 mo1 _ v1 b1 tt1 g1' heq hc
  exact ⟨t1, g1', mo1, ⟨rfl, hc.1, rfl⟩, hc.2, ⟨v1, b1, tt1, heq⟩, hc.1⟩

/-- … and `pushPublish` is entered only by the LAST copy write into the new generation
    (`wrSlot` to generation `g + 1` with `j + 1 ≥ b`), or straight from the load of the pointer
    when there is nothing to copy.  Program order in every accepted log: all copy stores, then
    the pointer store. -/
theorem publish_only_after_last_copy {s s' : St} {e : Ev} {t : Nat} {v b tt : Int} {g : Nat}
    (h : step s e = some s') (hpc' : s'.pc t = .pushPublish v b tt g)
    (hpc : s.pc t ≠ .pushPublish v b tt g) :
    (∃ i x j, e = .wrSlot t (g + 1) i x ∧ s.pc t = .pushCopyW v b tt g j x ∧ ¬ j + 1 < b) ∨
    (∃ mo, e = .ldArr t g mo ∧ s.pc t = .pushGotT v b tt ∧ ¬ tt < b) := by
  cases e <;> simp only [step] at h <;> (repeat' split at h) <;> simp at h <;> subst h <;>
    simp only [upd] at hpc' <;> split at hpc' <;> (try exact absurd hpc' hpc) <;>
    (try (simp at hpc'; done))
  · rename_i t1 g1 mo1 _ v1 b1 tt1 heq hc h2 h3 ht
    cases hpc'; subst ht
    exact Or.inr ⟨mo1, rfl, heq, h3⟩
  · rename_i t1 g1 i1 x1 _ v1 b1 tt1 g1' j1 y1 heq hc h3 ht
    cases hpc'; subst ht
    obtain ⟨hg, hi, hx⟩ := hc; subst hg; subst hx
    exact Or.inl ⟨_, _, _, rfl, heq, h3⟩

/-- the store itself: accepted at `pushPublish` only for the next generation and only with a
    logged order of release or stronger (the code's is seq_cst, `mo5`) -/
theorem pointer_store_is_release {s s' : St} {t g mo : Nat} {v b tt : Int} {g' : Nat}
    (h : step s (.stArr t g mo) = some s') (hpc : s.pc t = .pushPublish v b tt g') :
    g = g' + 1 ∧ rel mo = true := by
  simp only [step, hpc] at h
  exact (of_ite_some h).1

end LibfiberVerif.Wsd
