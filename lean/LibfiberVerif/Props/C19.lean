/-
  Props/C19.lean — property C19 (context switch), stated over the GENERATED program.

  "Across any sequence of switches among any number of contexts, a fiber observes on
   resumption exactly the callee-saved registers, stack pointer and stack contents it had
   when it was switched out, a new context starts its function with the given argument on a
   correctly aligned private stack, and a fiber's stack is released exactly once when the
   fiber is destroyed."

  `swap`      = `Gen.CtxAsm.swapInstrs` (the x86-64 asm of `fiber_context_swap`, re-extracted
                from src/fiber_context.c on every check) run on the machine of Model/Ctx.lean.
  `freshInit` = `Gen.CtxAsm.initOps` (the stack-pointer statements of `fiber_context_init`).
  All statements are ∀ register contents, ∀ memory, ∀ addresses (modular 64-bit arithmetic).

  Not modelled (differential harness only): `swapcontext` back-end, `__splitstack_*`,
  x87/MXCSR state.
-/
import LibfiberVerif.Proof.Ctx

namespace LibfiberVerif.Ctx
open LibfiberVerif.Gen.CtxAsm

/-! ## One switch -/

/-- After `swap`, the outgoing context's `ctx_stack_pointer` holds `rsp - 56` and the seven
    cells from there hold r15, r14, r13, r12, rbx, rbp and the resume address (label `0:`),
    i.e. exactly its callee-saved registers, stack pointer and continuation. -/
theorem swap_saves_frame (lbl : Nat → W) (fromSlot toSlot : W) (m : Machine)
    (hclear : fromSlot ∉ pushCells (m.reg .rsp)) :
    (swap lbl fromSlot toSlot m).mem fromSlot = m.reg .rsp - 56 ∧
    FrameAt (swap lbl fromSlot toSlot m).mem (m.reg .rsp - 56) (savedOf m.reg (lbl 0)) :=
  swap_saves_frame' lbl fromSlot toSlot m hclear

/-- `swap` A→B where B's slot points at a valid saved frame `sv` that does not overlap A's
    push area / slot: rbx, rbp, r12–r15, rsp and rip of the machine are exactly `sv`'s. -/
theorem swap_restores (lbl : Nat → W) (fromSlot toSlot : W) (m : Machine) (sv : Saved)
    (hf : FrameAt m.mem (m.mem toSlot) sv)
    (hd : ∀ a ∈ frameCells (m.mem toSlot), a ∉ pushCells (m.reg .rsp) ∧ a ≠ fromSlot) :
    savedOf (swap lbl fromSlot toSlot m).reg sv.rip = sv ∧
    (swap lbl fromSlot toSlot m).rip = .atAddr sv.rip := by
  obtain ⟨_, hrip, _, hfr⟩ := swap_exec lbl fromSlot toSlot m
  -- the frame is still there after the save half, and a frame determines what is popped from it
  have hf' : FrameAt (swap lbl fromSlot toSlot m).mem (m.mem toSlot) sv :=
    FrameAt_congr _ _ _ _ (fun a ha => swap_writes_only' _ _ _ _ a (hd a ha).1 (hd a ha).2) hf
  exact ⟨hf'.2.2.2.2.2.2.1 ▸ FrameAt_unique hfr hf', by rw [hrip, hf.2.2.2.2.2.2.1]⟩

/-- Only A's seven stack cells below its `rsp` and A's `ctx_stack_pointer` are written. -/
theorem swap_writes_only (lbl : Nat → W) (fromSlot toSlot : W) (m : Machine) (a : W)
    (hp : a ∉ pushCells (m.reg .rsp)) (hs : a ≠ fromSlot) :
    (swap lbl fromSlot toSlot m).mem a = m.mem a :=
  swap_writes_only' lbl fromSlot toSlot m a hp hs

/-- 8-byte alignment of the stack pointer is preserved by a switch into an aligned frame
    (the cell-addressed memory model is exact under this alignment). -/
theorem swap_keeps_alignment (lbl : Nat → W) (fromSlot toSlot : W) (m : Machine)
    (h : (m.mem toSlot).toNat % 8 = 0) :
    ((swap lbl fromSlot toSlot m).reg .rsp).toNat % 8 = 0 := by
  rw [swap_rsp]; bv_omega

/-! ## Any sequence of switches, any number of contexts and kernel threads -/

/-- The ghost snapshot recorded at a switch-out IS the machine state at that instant: the
    outgoing context's callee-saved registers and `rsp`, resume address label `0:`, and the
    memory right after the save. -/
theorem switch_out_snapshot (L : Layout) (lbl : Nat → W) (w : World) (t to : Nat) :
    (next L lbl w (.swap t to)).saved (w.running t) =
      some { regs := savedOf (w.reg t) (lbl 0),
             mem := (next L lbl w (.swap t to)).mem, arg := none } := by
  simp [next, upd]

/-- **Round trip over arbitrary sequences.**  From any world satisfying the invariant
    (e.g. no context suspended yet), after ANY list of steps whose client guards hold —
    swaps by any kernel thread to any suspended context (also one suspended by a different
    thread), arbitrary computation of the running fibers on their own cells, creation and
    destruction of contexts — a context that is resumed continues on the resuming thread
    with exactly the callee-saved registers, stack pointer and instruction pointer recorded
    when it was switched out (`sn.regs`), every cell it owns (its stack) has the contents it
    had then (`sn.mem`), and a context that has not run yet receives its `param` in `rdi`. -/
theorem roundtrip_any_sequence (L : Layout) (hL : L.Ok) (lbl : Nat → W) (w0 : World)
    (h0 : WInv L w0) (steps : List Step) (hv : Valid L lbl w0 steps)
    (t to : Nat) (sn : Snap)
    (hs : (runSteps L lbl w0 steps).saved to = some sn)
    (hg : Guard L (runSteps L lbl w0 steps) (.swap t to)) :
    let w' := next L lbl (runSteps L lbl w0 steps) (.swap t to)
    w'.running t = to ∧
    savedOf (w'.reg t) sn.regs.rip = sn.regs ∧
    w'.rip t = .atAddr sn.regs.rip ∧
    (∀ a, L.owns to a → w'.mem a = sn.mem a) ∧
    (∀ p, sn.arg = some p → w'.reg t .rdi = p) := by
  have hi := inv_run L hL lbl w0 h0 steps hv
  generalize runSteps L lbl w0 steps = w at hi hs hg ⊢
  obtain ⟨ht, _, hroom⟩ := hg
  have hne : to ≠ w.running t := fun h => hi.susp to sn hs t ht h.symm
  have hfc : L.ctx (w.running t) := hi.rctx t ht
  have htc : L.ctx to := hi.sctx to sn hs
  obtain ⟨hfr, hcells, harg⟩ := hi.ok to sn hs
  have hag := hi.agree to sn hs
  have hslot : w.mem (L.slot to) = sn.mem (L.slot to) := hag _ (hL.slot_owned to htc)
  -- the cells of `to` are outside what the switch writes
  have hnp : ∀ a, L.owns to a → a ∉ pushCells (w.reg t .rsp) ∧ a ≠ L.slot (w.running t) :=
    fun a ha => ⟨fun h => hne (hL.disjoint _ _ _ htc hfc ha (hroom a h).1),
      fun h => hne (hL.disjoint _ _ _ htc hfc ha (h ▸ hL.slot_owned _ hfc))⟩
  have hres := swap_restores lbl (L.slot (w.running t)) (L.slot to) (machineOf w t) sn.regs
    (by show FrameAt w.mem (w.mem (L.slot to)) sn.regs
        rw [hslot]; exact FrameAt_congr _ _ _ _ (fun a ha => hag a (hcells a ha)) hfr)
    (by show ∀ a ∈ frameCells (w.mem (L.slot to)), _
        rw [hslot]; exact fun a ha => hnp a (hcells a ha))
  simp only [next, upd_same]
  refine ⟨trivial, hres.1, hres.2, fun a ha => ?_, fun p hp => ?_⟩
  · exact (swap_writes_only' _ _ _ _ _ (hnp a ha).1 (hnp a ha).2).trans (hag a ha)
  · obtain ⟨ho, hv⟩ := harg p hp
    rw [swap_rdi]
    show (swap lbl _ _ (machineOf w t)).mem (w.mem (L.slot to) + 64) = p
    rw [hslot, swap_writes_only' _ _ _ _ _ (hnp _ ho).1 (hnp _ ho).2]
    exact (hag _ ho).trans hv

/-- The invariant behind it is preserved by every guarded step sequence. -/
theorem invariant_any_sequence (L : Layout) (hL : L.Ok) (lbl : Nat → W) (w0 : World)
    (h0 : WInv L w0) (steps : List Step) (hv : Valid L lbl w0 steps) :
    WInv L (runSteps L lbl w0 steps) :=
  inv_run L hL lbl w0 h0 steps hv

/-! ## Fresh contexts -/

/-- The store sequence of `fiber_context_init` lays out a valid suspended frame, for every
    stack base and size (modular arithmetic; in-bounds is the separate obligation below):
    switching into it from any machine starts `run_function` (`rip = fn`) with
    `rdi = param`, all callee-saved registers zero, a NULL return address on top of the
    stack and `rsp ≡ 8 (mod 16)` — the state right after a `call`, as the psABI requires at
    function entry.  The value left in `ctx_stack_pointer` is 16-byte aligned (the
    `assert` in the source). -/
theorem fresh_frame_valid (lbl : Nat → W) (stack size fn param : W) (mem0 : W → W)
    (m : Machine) (fromSlot toSlot : W) :
    let s := freshInit stack size fn param mem0
    let cells := frameCells s.sp ++ [s.sp + 56, s.sp + 64]
    m.mem toSlot = s.sp →
    (∀ a ∈ cells, m.mem a = s.mem a) →
    (∀ a ∈ cells, a ∉ pushCells (m.reg .rsp) ∧ a ≠ fromSlot) →
    let m' := swap lbl fromSlot toSlot m
    m'.rip = .atAddr fn ∧ m'.reg .rdi = param ∧
    savedOf m'.reg fn = freshSaved s.sp fn ∧
    (m'.reg .rsp).toNat % 16 = 8 ∧ m'.mem (m'.reg .rsp) = 0 ∧
    s.sp.toNat % 16 = 0 := by
  intro s cells hslot hmem hd m'
  obtain ⟨hF, hret, hpar, hal, hal8⟩ := fresh_frame' stack size fn param mem0
  have hF' : FrameAt m.mem (m.mem toSlot) (freshSaved s.sp fn) := by
    rw [hslot]
    exact FrameAt_congr _ _ _ _ (fun a ha => hmem a (by simp [cells, ha])) hF
  have hd' : ∀ a ∈ frameCells (m.mem toSlot), a ∉ pushCells (m.reg .rsp) ∧ a ≠ fromSlot := by
    rw [hslot]; intro a ha; exact hd a (by simp [cells, ha])
  have hres := swap_restores lbl fromSlot toSlot m _ hF' hd'
  have h56 := hd (s.sp + 56) (by simp [cells])
  have h64 := hd (s.sp + 64) (by simp [cells])
  refine ⟨hres.2, ?_, hres.1, ?_, ?_, hal⟩
  · show (swap lbl fromSlot toSlot m).reg .rdi = param
    rw [swap_rdi, hslot, swap_writes_only' _ _ _ _ _ h64.1 h64.2, hmem _ (by simp [cells])]
    exact hpar
  · show ((swap lbl fromSlot toSlot m).reg .rsp).toNat % 16 = 8
    rw [swap_rsp, hslot]; exact hal8
  · show (swap lbl fromSlot toSlot m).mem ((swap lbl fromSlot toSlot m).reg .rsp) = 0
    rw [swap_rsp, hslot, swap_writes_only' _ _ _ _ _ h56.1 h56.2, hmem _ (by simp [cells])]
    exact hret

/-- Inside the multi-context world: a context created by `fiber_context_init`, then left
    alone for ANY guarded step sequence, starts — when some thread first switches to it —
    at `fn` with `rdi = param`, zeroed callee-saved registers and `rsp ≡ 8 (mod 16)`. -/
theorem fresh_context_starts (L : Layout) (hL : L.Ok) (lbl : Nat → W) (w0 : World)
    (h0 : WInv L w0) (c : Nat) (stack size fn param : W)
    (hc : Guard L w0 (.create c stack size fn param))
    (steps : List Step)
    (hv : Valid L lbl (next L lbl w0 (.create c stack size fn param)) steps)
    (hnt : ∀ e ∈ steps, ¬ e.touches c) (t : Nat)
    (hg : Guard L (runSteps L lbl (next L lbl w0 (.create c stack size fn param)) steps)
      (.swap t c)) :
    let w' := next L lbl
      (runSteps L lbl (next L lbl w0 (.create c stack size fn param)) steps) (.swap t c)
    w'.running t = c ∧ w'.rip t = .atAddr fn ∧ w'.reg t .rdi = param ∧
    (w'.reg t .rsp).toNat % 16 = 8 ∧
    w'.reg t .rbx = 0 ∧ w'.reg t .rbp = 0 ∧ w'.reg t .r12 = 0 ∧ w'.reg t .r13 = 0 ∧
    w'.reg t .r14 = 0 ∧ w'.reg t .r15 = 0 := by
  have h1 := inv_step hL lbl h0 _ hc
  have hsaved : (next L lbl w0 (.create c stack size fn param)).saved c = some
      { regs := freshSaved (freshInit stack size fn param w0.mem).sp fn,
        mem := setM (freshInit stack size fn param w0.mem).mem (L.slot c)
          (freshInit stack size fn param w0.mem).sp,
        arg := some param } := by
    simp [next, upd]
  have hst := saved_stable L lbl _ h1 c _ hsaved steps hv hL hnt
  have hr := roundtrip_any_sequence L hL lbl _ h1 steps hv t c _ hst hg
  obtain ⟨hrun, hregs, hrip, _, harg⟩ := hr
  have hal := (fresh_frame' stack size fn param w0.mem).2.2.2.2
  simp only [freshSaved, savedOf, Saved.mk.injEq] at hregs
  obtain ⟨r1, r2, r3, r4, r5, r6, r7, _⟩ := hregs
  refine ⟨hrun, hrip, harg param rfl, ?_, r1, r2, r3, r4, r5, r6⟩
  rw [r7]; exact hal

/-! ## The fresh frame lies inside the stack — provided the stack is big enough -/

/-- Every store of `fiber_context_init` lies inside `[stack, stack + size)` when
    `size ≥ minBytes = 103` (any base address), … -/
theorem fresh_frame_in_bounds (stack size fn param : W) (mem : W → W)
    (hwrap : stack.toNat + size.toNat ≤ 2 ^ 64) (hmin : minBytes ≤ size.toNat) :
    ∀ a ∈ (freshInit stack size fn param mem).writes,
      stack.toNat ≤ a.toNat ∧ a.toNat + 8 ≤ stack.toNat + size.toNat := by
  unfold minBytes at hmin
  have hA := freshTop_toNat stack size hwrap (by omega)
  rw [freshInit_eq]
  exact freshAt_in_bounds _ _ _ _ _ _ (by omega) (by omega)

/-- … or `size ≥ minBytesAligned = 88` when the base is 16-byte aligned (malloc, mmap). -/
theorem fresh_frame_in_bounds_aligned (stack size fn param : W) (mem : W → W)
    (hwrap : stack.toNat + size.toNat ≤ 2 ^ 64) (hal : stack.toNat % 16 = 0)
    (hmin : minBytesAligned ≤ size.toNat) :
    ∀ a ∈ (freshInit stack size fn param mem).writes,
      stack.toNat ≤ a.toNat ∧ a.toNat + 8 ≤ stack.toNat + size.toNat := by
  unfold minBytesAligned at hmin
  have hA := freshTop_toNat stack size hwrap (by omega)
  rw [freshInit_eq]
  exact freshAt_in_bounds _ _ _ _ _ _ (by omega) (by omega)

/-- `minBytes` is the smallest sufficient size: with 102 bytes at base 1 a store lands
    below the stack. -/
theorem min_bytes_tight :
    ∃ a ∈ (freshInit 1#64 102#64 0 0 (fun _ => 0)).writes, a.toNat < (1#64 : W).toNat := by
  simp [freshInit_eq, freshAt, freshTop]

/-- `minBytesAligned` is the smallest sufficient size for a 16-byte aligned base. -/
theorem min_bytes_aligned_tight :
    ∃ a ∈ (freshInit 4096#64 87#64 0 0 (fun _ => 0)).writes, a.toNat < (4096#64 : W).toNat := by
  simp [freshInit_eq, freshAt, freshTop]

/-- F-C19 witness: `fiber_context_init(ctx, 16, …)` on a 16-byte block at 0x1000 stores
    below the block (the first store already: `param` goes to 0x1000 - 16). -/
theorem tiny_stack_out_of_bounds :
    ∀ a ∈ (freshInit 4096#64 16#64 0 0 (fun _ => 0)).writes, a.toNat < (4096#64 : W).toNat := by
  simp [freshInit_eq, freshAt, freshTop]

/-! ## Obligations tying the size hypothesis to the code (generated decision values)

`strategies` is what the translator found in `fiber_context_alloc_stack` /
`fiber_free_stack`.  For every stack strategy the code must GUARANTEE
`ctx_stack_size ≥ minBytes` for every accepted request (`stack_size ≥ 1`).
Assumptions used by `StackMin.guaranteed`: page size ≥ 4096; libgcc split-stack segments
are ≥ one page minus its header (re-checked dynamically by the harness). -/

def strategyMin (name : String) : Option Nat :=
  (strategies.find? (fun s => s.name == name)).map (fun s => s.min.guaranteed)

theorem strategies_complete : strategies.map (·.name) = ["split", "mmap", "malloc"] := by decide

theorem init_rejects_zero_size : initRejectsZeroSize = true := by decide

theorem split_strategy_guarantees_min :
    ∃ n, strategyMin "split" = some n ∧ minBytes ≤ n := by decide

theorem mmap_strategy_guarantees_min :
    ∃ n, strategyMin "mmap" = some n ∧ minBytes ≤ n := by decide

/-- FAILS on a tree where the malloc strategy allocates exactly the requested size
    (F-C19: `FIBER_MIN_STACK_SIZE` defined but never enforced). -/
theorem malloc_strategy_guarantees_min :
    ∃ n, strategyMin "malloc" = some n ∧ minBytes ≤ n := by decide

/-- the source's own alignment `assert` agrees with what is proved -/
theorem init_assert_mask_ok : initAssertMask = 15 := by decide

/-- the asm statement is a compiler memory barrier -/
theorem asm_clobbers_memory : "memory" ∈ swapClobbers ∧ "cc" ∈ swapClobbers := by decide

/-! ## A stack is released exactly once -/

/-- every strategy allocates with exactly one call and releases with exactly the matching
    one (malloc/free, mmap/munmap, __splitstack_makecontext/__splitstack_releasecontext) -/
theorem alloc_free_paired :
    ∀ s ∈ strategies, s.allocs.length = 1 ∧ s.frees = s.allocs.map AllocKind.matching := by
  decide

/-- for both switching back-ends: `init` then `destroy` allocates one stack and releases it
    exactly once; a context made by `fiber_context_init_from_thread` owns no stack and
    `destroy` releases nothing.  (Calling destroy twice is a client error: C04.) -/
theorem stack_released_exactly_once :
    destroyShapes.map (·.backend) = ["asm", "ucontext"] ∧
    ∀ d ∈ destroyShapes,
      (Life.destroy d (Life.init d {})).allocated = 1 ∧
      (Life.destroy d (Life.init d {})).released = 1 ∧
      (Life.destroy d (Life.initFromThread {})).released = 0 := by
  decide

/-! ## Non-vacuity: a concrete world satisfying every hypothesis above -/

/-- two kernel threads, three contexts, one 64 KiB region each -/
def exL : Layout where
  thr t := t < 2
  ctx c := c < 3
  slot c := BitVec.ofNat 64 ((c + 1) * 65536)
  owns c a := a.toNat / 65536 = c + 1

theorem exL_ok : exL.Ok := by
  constructor
  · intro c hc
    simp only [exL] at *
    have : c = 0 ∨ c = 1 ∨ c = 2 := by omega
    rcases this with rfl | rfl | rfl <;> decide
  · intro c d a _ _ h1 h2
    simp only [exL] at *
    omega

/-- thread `t` runs context `t`; context 2 does not exist yet -/
def exW : World where
  reg t := fun r => if r = .rsp then BitVec.ofNat 64 ((t + 1) * 65536 + 32768)
                    else BitVec.ofNat 64 (1000 * t + 7)
  rip _ := .inAsm
  mem _ := 0xdead
  running t := t
  saved _ := none

theorem exW_inv : WInv exL exW := by
  constructor <;> simp [exW, exL]
  · intro t ht; omega

/-- create context 2; thread 0 switches c0→c2; c2 computes; thread 1 switches c1→c0 (c0 was
    suspended by thread 0: a switch "on behalf of another thread"); thread 0 switches c2→c1 -/
def exSteps : List Step :=
  [ .create 2 196864 16384 0x401000 42,
    .swap 0 2,
    .compute 0 (fun r => if r = .rsp then 205056 else 99) .inAsm [(200960, 5)],
    .swap 1 0,
    .swap 0 1 ]

/-- all client guards of the five-step scenario hold -/
theorem ex_valid (lbl : Nat → W) : Valid exL lbl exW exSteps := by
  simp [Valid, Guard, next, upd, exL, exW, exSteps, pushCells, machineOf, freshInit_eq,
    freshAt, freshTop]
  omega

theorem ex_valid3 (lbl : Nat → W) : Valid exL lbl exW (exSteps.take 3) := by
  simp [Valid, Guard, next, upd, exL, exW, exSteps, pushCells, machineOf, freshInit_eq,
    freshAt, freshTop]
  omega

/-- `roundtrip_any_sequence` instantiated: c0 resumes on thread 1 with the registers it had
    on thread 0 (rbx = 7, rsp = 0x18000) at the resume label. -/
example (lbl : Nat → W) :
    let w := next exL lbl (runSteps exL lbl exW (exSteps.take 3)) (.swap 1 0)
    w.running 1 = 0 ∧ w.reg 1 .rbx = 7 ∧ w.reg 1 .rsp = 98304 ∧ w.rip 1 = .atAddr (lbl 0) := by
  have hs : (runSteps exL lbl exW (exSteps.take 3)).saved 0 = some _ := rfl
  have hg : Guard exL (runSteps exL lbl exW (exSteps.take 3)) (.swap 1 0) := by
    simp [Guard, runSteps, next, upd, exL, exW, exSteps, pushCells, machineOf]
  have h := roundtrip_any_sequence exL exL_ok lbl exW exW_inv _ (ex_valid3 lbl) 1 0 _ hs hg
  obtain ⟨h1, h2, h3, _, _⟩ := h
  simp only [savedOf, Saved.mk.injEq] at h2
  refine ⟨h1, ?_, ?_, h3⟩
  · exact h2.1.trans (by simp [next, exW])
  · exact h2.2.2.2.2.2.2.1.trans (by simp [next, exW])

/-- `fresh_context_starts` instantiated: context 2 starts at 0x401000 with rdi = 42. -/
example (lbl : Nat → W) :
    let w := next exL lbl (next exL lbl exW (.create 2 196864 16384 0x401000 42)) (.swap 0 2)
    w.rip 0 = .atAddr 0x401000 ∧ w.reg 0 .rdi = 42 ∧ (w.reg 0 .rsp).toNat % 16 = 8 := by
  have hc : Guard exL exW (.create 2 196864 16384 0x401000 42) := (ex_valid lbl).1
  have hg : Guard exL (runSteps exL lbl (next exL lbl exW (.create 2 196864 16384 0x401000 42)) [])
      (.swap 0 2) := (ex_valid lbl).2.1
  have h := fresh_context_starts exL exL_ok lbl exW exW_inv 2 196864 16384 0x401000 42 hc []
    trivial (by simp) 0 hg
  exact ⟨h.2.1, h.2.2.1, h.2.2.2.1⟩

/-- the size hypotheses of the bounds theorems are satisfiable and the conclusion is not
    trivially true: a 16 KiB stack at 0x30100 -/
example : ∀ a ∈ (freshInit 196864 16384 0x401000 42 (fun _ => 0)).writes,
    (196864 : W).toNat ≤ a.toNat ∧ a.toNat + 8 ≤ (196864 : W).toNat + (16384 : W).toNat :=
  fresh_frame_in_bounds _ _ _ _ _ (by decide) (by decide)

end LibfiberVerif.Ctx
