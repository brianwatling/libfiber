/-
  Props/Tso.lean — the SC ⇐ TSO argument of DESIGN.md §3, machine-checked for the two places
  where an algorithm of the library relies on a STORE being visible before a LATER LOAD OF
  ANOTHER CELL (the only reordering x86-TSO allows):

    (a) `wsd_work_stealing_deque_pop_bottom`:   store(bottom, b) seq_cst ;  load(top)
    (b) `hazard_pointer_using` + its caller:    hp[i] = node ; store_load_barrier() ;  load(G)

  Models: `Model/Tso.lean` (store buffers), `Model/WsdTso.lean`, `Model/HpTso.lean`; each takes
  the strength of that one store/barrier as a parameter `fenced`.  Invariants:
  `Proof/Tso.lean`, `Proof/WsdTso.lean`, `Proof/HpTso.lean`.

  For `fenced = true` the safety property of the SC model (C02 `Wsd.exactly_once`, C14
  `Hp.no_reclaim_protected` / `Hp.use_not_reclaimed`) is proved over EVERY accepted trace of the
  store-buffer model — any interleaving, arbitrary `flush` events, any number of threads,
  unbounded runs.  For `fenced = false` a concrete accepted trace violates it (`decide`d).

  ## How `fenced = true` is tied to the code

  These two models are not driven by logs (nothing is registered in `Registry.lean`): the
  deterministic scheduler of `rt/` is sequentially consistent, a store buffer cannot be
  observed there.  What IS observed in every log, and REQUIRED by the SC models that the logs
  are replayed through, is the strength of the store / the presence of the barrier:

  * `Model/Wsd.lean`, `step`, event `.stBottom t x mo` at pc `.popGotArr b g`:
        `-- the seq_cst store`
        `if x = b ∧ mo = 5 then some { s with bottom := x, pc := upd s.pc t (.popStored b g) } else none`
    and event `.ldTop t x mo` at pc `.popStored b g`:
        `if x = s.top ∧ mo = 5 then …`
    (`mo` is the memory order argument of the `__tsan_atomic64_store/load` call the compiler
    emitted for that site, TSan numbering, 5 = seq_cst).  A log in which pop_bottom's store is
    weaker than seq_cst is a DIVERGENCE of C02's correspondence check.  Theorems
    `Wsd.popStored_only_by_seq_cst_store` and `Wsd.popStored_left_only_by_seq_cst_load` below:
    the SC model enters and leaves pop_bottom's window only through these two `mo5` events —
    exactly the pair (`stBottom` at `popGotB`, `ldTop` at `popStored`) between which
    `WsdTso.step` demands a drained buffer when `fenced = true`.  On x86-64 a seq_cst store is
    `xchg` (or `mov; mfence`): it does not complete before the store buffer has drained.

  * `Model/Hp.lean`, `ofRaw`:   `| "fence", ["1"] => some (.fence t)`
    (`rt/shim.h`: `#define store_load_barrier() (vr_fence(1), store_load_barrier())`, kind 2 is
    `write_barrier()`, a compiler-only barrier, kind 3 `load_load_barrier()`; neither decodes),
    `stepFence`:                 `| .acqPublished g sl p => some (setPc s t (.acqFenced g sl p))`
    `stepLdG`, validating load:  `| .acqFenced g' sl p => if g = g' ∧ v = s.g g then if v = p then … (.acqValidated sl p)`
    Theorems `Hp.acqFenced_only_by_fence` and `Hp.validated_only_after_fence` below: in the SC
    model a protection is validated only by a load that follows a `fence 1` event which follows
    the slot store — the event at which `HpTso.step` demands a drained buffer when
    `fenced = true`.  `store_load_barrier()` is `lock; addq $0,0(%rsp)` in
    include/machine_specific.h: a locked RMW, it drains the store buffer.

  Left in the trusted base (DESIGN.md §3): that the x86-64 code generated for a seq_cst store
  / for the body of `store_load_barrier()` really drains the store buffer, and that x86-TSO is
  the store-buffer machine of `Model/Tso.lean`.
-/
import LibfiberVerif.Proof.WsdTso
import LibfiberVerif.Proof.HpTso
import LibfiberVerif.Proof.Hp

/-! ## (a) the deque: pop_bottom's seq_cst store -/

namespace LibfiberVerif.WsdTso
open LibfiberVerif.Tso
open LibfiberVerif.Wsd (Res)

/-- **exactly once, on TSO with the seq_cst store.**  Same statement as `Wsd.exactly_once`
    (Props/C02.lean), over every accepted trace of the store-buffer model with `fenced = true`:
    as multisets  pushed = returned ⊎ owed ⊎ logical  where
    * `pushed`   values whose `push_bottom` has ISSUED `bottom := b + 1` (it may still sit in the
                 owner's store buffer, invisible to every thief),
    * `returned` values `pop_bottom` / `steal` calls have handed back,
    * `owed`     one entry per thread that has won a value and is on its way to the `return`,
    * `logical`  the values of indices `[top, hb)`; `hb` is the owner's view of `bottom`
                 except inside pop_bottom's window.
    Nothing is dropped, nothing is handed to two takers, nothing is invented — although every
    thief decides on a possibly stale `bottom` and reads possibly stale slots. -/
theorem exactly_once_fenced {n : Nat} {es : List Ev} {s : St} (h : (sys true n).run es = some s) :
    s.pushed.Perm (s.returned ++ s.owed.map Prod.snd ++ logical s)
    ∧ s.owed.Nodup
    ∧ (∀ u x, (u, x) ∈ s.owed ↔ holds s u = some x) := by
  obtain ⟨hI, hA⟩ := inv_acc_of_run h
  refine ⟨?_, hA.nodup, hA.mem⟩
  exact hI.perm.trans (List.Perm.append_right _ hA.perm)

/-- per value: handed back at most as often as it was pushed -/
theorem returned_le_pushed_fenced {n : Nat} {es : List Ev} {s : St}
    (h : (sys true n).run es = some s) (x : Int) : s.returned.count x ≤ s.pushed.count x := by
  obtain ⟨hp, -, -⟩ := exactly_once_fenced h
  rw [hp.count_eq x, List.count_append, List.count_append]
  omega

/-- **no double take**: if the pushed values are distinct, no value is held or has been
    returned twice — owner pop (with or without CAS) and thief steal never both succeed on the
    same element. -/
theorem no_double_take_fenced {n : Nat} {es : List Ev} {s : St} (h : (sys true n).run es = some s)
    (hd : s.pushed.Nodup) : (s.returned ++ s.owed.map Prod.snd).Nodup := by
  obtain ⟨hp, -, -⟩ := exactly_once_fenced h
  have := (hp.nodup_iff).mp hd
  exact (List.nodup_append.mp this).1

/-- **what the fence buys**: whenever the owner is past pop_bottom's load of `top`, its store
    buffer is EMPTY and memory `bottom` — what every thief reads — is the lowered value `b`;
    so the `top` it compared with is one no thief can move beyond `b`. -/
theorem pop_decides_on_drained_buffer {n : Nat} {es : List Ev} {s : St}
    (h : (sys true n).run es = some s) {b t : Int} (hpc : s.pc 0 = .popTake b t) :
    s.m.buf 0 = [] ∧ s.m.mem cBot = b ∧ t ≤ s.m.mem cTop ∧ s.m.mem cTop ≤ s.hb ∧
    ((t < b ∧ s.hb = b) ∨ (t = b ∧ s.hb = b + 1)) := by
  have hI := inv_of_run h
  obtain ⟨a, b', c, -, e⟩ := hI.ownerAt hpc
  exact ⟨a, b', c, hI.tle, e.imp (fun e => ⟨e.1, e.2.1⟩) id⟩

/-- **the key lemma**: once the owner has decided to take index `b` WITHOUT a CAS (`t < b`), a
    thief whose CAS on `top` can still succeed is at an index strictly below `b` — it cannot
    take the owner's element — and the value it read (from a possibly stale slot, after a
    possibly stale `bottom`) is the value of its own index. -/
theorem owner_take_excludes_thief {n : Nat} {es : List Ev} {s : St}
    (h : (sys true n).run es = some s) {b t : Int} (hpc : s.pc 0 = .popTake b t) (hlt : t < b)
    {u : Nat} {t' x : Int} (hu : s.pc u = .stealRead t' x) (hT : s.m.mem cTop = t') :
    t' < b ∧ x = s.vals t' := by
  have hI := inv_of_run h
  obtain ⟨a, b', -⟩ := (hI.thiefAt (tid_ne_zero hI hu (by simp [ownerOk])) hu).2 hT
  obtain ⟨-, -, -, -, e⟩ := pop_decides_on_drained_buffer h hpc
  rcases e with e | e
  · exact ⟨by omega, b'⟩
  · omega

/-- **stale reads are harmless**: a thief that has read `x` for index `t` and whose CAS can
    still succeed (`top = t`) has read the head of the logical contents, whatever was still
    buffered when it loaded `bottom` and the slot; and no store to that slot is pending. -/
theorem stale_reads_harmless {n : Nat} {es : List Ev} {s : St}
    (h : (sys true n).run es = some s) {u : Nat} {t x : Int} (hu : s.pc u = .stealRead t x)
    (hT : s.m.mem cTop = t) :
    t < s.hb ∧ x = s.vals t ∧ (∃ rest, logical s = x :: rest) ∧
    ∀ e ∈ s.m.buf 0, e.1 ≠ cSlot s.n t := by
  have hI := inv_of_run h
  obtain ⟨a, b, c⟩ := (hI.thiefAt (tid_ne_zero hI hu (by simp [ownerOk])) hu).2 hT
  refine ⟨a, b, ⟨Wsd.seg s.vals (t + 1) (s.hb - (t + 1)).toNat, ?_⟩, c⟩
  rw [logical, hT, Wsd.seg_head _ _ _ a, ← b]

/-- only the owner ever has buffered stores -/
theorem thieves_never_buffer {n : Nat} {es : List Ev} {s : St}
    (h : (sys true n).run es = some s) {u : Nat} (hu : u ≠ 0) : s.m.buf u = [] :=
  (inv_of_run h).bufs u hu

/-! ### the unfenced variant: a concrete double take -/

/-- Two elements (7 at index 0, 8 at index 1), both published and drained.  The owner's
    pop_bottom issues `bottom := 1` — it stays in the store buffer — and loads `top = 0`:
    `t = 0 < b = 1`, so it takes index 1 (value 8) WITHOUT a CAS.  Thief 1 loads `top = 0` and
    the STALE `bottom = 2`, steals 7.  Thief 2 loads `top = 1` and the still stale
    `bottom = 2`, reads slot 1 and its CAS `1 → 2` succeeds: it steals 8 as well.  Only then
    does the owner's store drain. -/
def doubleTakeTrace : List Ev := [
  .callPush 0 7, .ldBottom 0 0, .ldTop 0 0, .wrSlot 0 0 7, .stBottom 0 1, .retPush 0,
  .callPush 0 8, .ldBottom 0 1, .ldTop 0 0, .wrSlot 0 1 8, .stBottom 0 2, .retPush 0,
  .flush 0, .flush 0, .flush 0, .flush 0,
  .callPop 0, .ldBottom 0 2, .stBottom 0 1,
  .ldTop 0 0,                                   -- overtakes the buffered store
  .rdSlot 0 1 8,
  .callSteal 1, .ldTop 1 0, .ldBottom 1 2, .rdSlot 1 0 7, .casTop 1 0 0 1 true, .retSteal 1 7,
  .callSteal 2, .ldTop 2 1, .ldBottom 2 2, .rdSlot 2 1 8, .casTop 2 1 1 2 true, .retSteal 2 8,
  .retPop 0 8,
  .flush 0]

/-- **without the seq_cst store the deque hands one element to two takers**: the trace above is
    accepted by the `fenced = false` model and ends with every thread idle, `8` pushed once and
    returned twice (by pop_bottom and by steal). -/
theorem double_take_unfenced : ∃ s, (sys false 4).run doubleTakeTrace = some s ∧
    s.pushed = [7, 8] ∧ s.returned = [7, 8, 8] ∧ s.returned.count 8 = 2 ∧ s.pushed.count 8 = 1 ∧
    s.pc 0 = .idle ∧ s.pc 1 = .idle ∧ s.pc 2 = .idle ∧ s.m.buf 0 = [] :=
  ⟨_, rfl, by decide, by decide, by decide, by decide, by decide, by decide, by decide, by decide⟩

/-- the moment of the damage: the owner holds 8 (taken without CAS) while its `bottom := 1`
    is still buffered and memory `bottom` is 2 -/
example : ((sys false 4).run (doubleTakeTrace.take 21)).map
    (fun s => (s.pc 0, s.m.buf 0, s.m.mem cBot, s.m.load 0 cBot, s.m.mem cTop))
    = some (.popDone (.val 8), [(cBot, 1)], 2, 1, 0) := by decide

/-- the same trace is NOT a trace of the fenced model: the load of `top` is refused while the
    store is buffered … -/
example : (sys true 4).run (doubleTakeTrace.take 19) ≠ none ∧
    (sys true 4).run (doubleTakeTrace.take 20) = none := by decide

/-- … and so `returned_le_pushed_fenced` fails for it only because `fenced = false` -/
example : ¬ ∀ s, (sys false 4).run doubleTakeTrace = some s → s.returned.count 8 ≤ s.pushed.count 8 := by
  obtain ⟨s, hs, -, -, h1, h2, -⟩ := double_take_unfenced
  intro h; have := h s hs; omega

/-- why the counter-example needs TWO elements: with a single element the owner's path goes
    through the CAS on `top` (a locked RMW, it drains the buffer first), which arbitrates even
    without the fence — the thief that saw the stale `bottom = 1` wins, the owner gets ABORT -/
example : ∃ s, (sys false 4).run [
    .callPush 0 7, .ldBottom 0 0, .ldTop 0 0, .wrSlot 0 0 7, .stBottom 0 1, .retPush 0,
    .flush 0, .flush 0,
    .callPop 0, .ldBottom 0 1, .stBottom 0 0, .ldTop 0 0, .rdSlot 0 0 7,
    .callSteal 1, .ldTop 1 0, .ldBottom 1 1, .rdSlot 1 0 7, .casTop 1 0 0 1 true, .retSteal 1 7,
    .flush 0, .casTop 0 1 0 1 false, .stBottom 0 1, .retPop 0 (-2)] = some s ∧
    s.pushed = [7] ∧ s.returned = [7] :=
  ⟨_, rfl, by decide, by decide⟩

/-! ### non-vacuity of the fenced theorems: buffered stores and flushes interleaved -/

/-- push 7 with both stores buffered: a thief sees the stale `bottom = 0` and gets EMPTY;
    push 8 (the owner's own load of `bottom` is forwarded from its buffer: 1);
    two flushes make 7 stealable while 8 is still invisible; a thief commits to index 0;
    the owner's pop_bottom queues `bottom := 1` behind the rest, must wait for three flushes
    before it may load `top`, then takes 8 without a CAS while the thief's CAS takes 7. -/
def fencedTrace : List Ev := [
  .callPush 0 7, .ldBottom 0 0, .ldTop 0 0, .wrSlot 0 0 7, .stBottom 0 1,
  .callSteal 1, .ldTop 1 0, .ldBottom 1 0, .retSteal 1 (-1),
  .retPush 0,
  .callPush 0 8, .ldBottom 0 1, .ldTop 0 0, .wrSlot 0 1 8, .stBottom 0 2, .retPush 0,
  .flush 0, .flush 0,
  .callSteal 1, .ldTop 1 0, .ldBottom 1 1, .rdSlot 1 0 7,
  .callPop 0, .ldBottom 0 2, .stBottom 0 1,
  .flush 0, .flush 0, .flush 0,
  .ldTop 0 0,
  .casTop 1 0 0 1 true,
  .rdSlot 0 1 8, .retPop 0 8, .retSteal 1 7]

example : ∃ s, (sys true 4).run fencedTrace = some s ∧
    s.pushed = [7, 8] ∧ s.returned = [8, 7] ∧ s.owed = [] ∧ logical s = [] ∧
    s.m.mem cTop = 1 ∧ s.m.mem cBot = 1 ∧ s.m.buf 0 = [] :=
  ⟨_, rfl, by decide, by decide, by decide, by decide, by decide, by decide, by decide⟩

/-- after event 16: four stores buffered; the thieves' `bottom` is 0, the owner's is 2 -/
example : ((sys true 4).run (fencedTrace.take 16)).map
    (fun s => (s.m.buf 0, s.m.mem cBot, s.m.load 0 cBot, s.pushed, logical s))
    = some ([(cSlot 4 0, 7), (cBot, 1), (cSlot 4 1, 8), (cBot, 2)], 0, 2, [7, 8], [7, 8]) := by decide

/-- after event 25 the lowering store is queued behind slot 1 / `bottom := 2`; loading `top`
    now is refused, and is accepted after the three flushes (hypothesis of
    `pop_decides_on_drained_buffer` / `owner_take_excludes_thief` at event 29, with the thief
    at `stealRead 0 7` and `top = 0`) -/
example : ((sys true 4).run (fencedTrace.take 25)).map (fun s => (s.pc 0, s.m.buf 0))
      = some (.popStored 1, [(cSlot 4 1, 8), (cBot, 2), (cBot, 1)]) ∧
    (sys true 4).run (fencedTrace.take 25 ++ [.ldTop 0 0]) = none ∧
    ((sys true 4).run (fencedTrace.take 29)).map
      (fun s => (s.pc 0, s.pc 1, s.m.buf 0, s.m.mem cBot, s.m.mem cTop, s.owed))
      = some (.popTake 1 0, .stealRead 0 7, [], 1, 0, [(0, 8)]) := ⟨by rfl, by decide, by rfl⟩

end LibfiberVerif.WsdTso

/-! ### the SC model of C02 admits pop_bottom's window only through the two seq_cst accesses -/

namespace LibfiberVerif.Wsd

/-- In `Model/Wsd.lean` — the model every C02 log is replayed through — the owner reaches
    `popStored` (pop_bottom between its store to `bottom` and its load of `top`) only by a
    store to `bottom` whose logged memory order is 5 = seq_cst. -/
theorem popStored_only_by_seq_cst_store {s s' : St} {e : Ev} {t : Nat} {b : Int} {g : Nat}
    (h : step s e = some s') (hpc' : s'.pc t = .popStored b g) (hpc : s.pc t ≠ .popStored b g) :
    e = .stBottom t b 5 ∧ s.pc t = .popGotArr b g := by
  cases e <;> simp only [step] at h <;> (repeat' split at h) <;> simp at h <;> subst h <;>
    simp [upd] at hpc' <;> grind

/-- … and leaves it only by a load of `top` whose logged memory order is seq_cst. -/
theorem popStored_left_only_by_seq_cst_load {s s' : St} {e : Ev} {t : Nat} {b : Int} {g : Nat}
    (h : step s e = some s') (hpc : s.pc t = .popStored b g) (hpc' : s'.pc t ≠ .popStored b g) :
    ∃ x, e = .ldTop t x 5 ∧ x = s.top := by
  cases e <;> simp only [step] at h <;> (repeat' split at h) <;> simp at h <;> subst h <;>
    simp [upd] at hpc' <;> grind

/-- pop_bottom's store to `bottom` is accepted only with `mo = 5` (seq_cst) -/
theorem pop_bottom_store_is_seq_cst {s s' : St} {t : Nat} {x : Int} {m : Nat} {b : Int} {g : Nat}
    (h : step s (.stBottom t x m) = some s') (hpc : s.pc t = .popGotArr b g) : m = 5 ∧ x = b := by
  simp only [step, hpc] at h
  exact (of_ite_some h).1.symm

end LibfiberVerif.Wsd

/-! ## (b) hazard pointers: `store_load_barrier()` in `hazard_pointer_using` -/

namespace LibfiberVerif.HpTso
open LibfiberVerif.Tso

/-- **no reclaim of a validated node, on TSO with the barrier.**  When a scan hands node `n` to
    reclamation, no reader that validated `n` is still using it — for any number of threads,
    any interleaving, arbitrary `flush` events. -/
theorem no_reclaim_validated_fenced {N : Nat} {es : List Ev} {s s' : St} {w : Nat} {n : Int}
    (h : (sys true N).run es = some s) (hs : step s (.reclaim w n) = some s') :
    ∀ t, s.pc t ≠ .using n := by
  have hI := inv_of_run h
  intro t ht
  cases step_sound hs with
  | move _ _ _ _ _ hm => cases hm
  | reclaim _ _ hpc =>
    have hu := hI.pcs t; rw [ht] at hu
    cases hI.scan_ok t n w s.N false ht hpc hu.2.1

/-- the same as a state invariant: a node in use by a validated reader is never `free`
    (reclaimed); moreover the reader's slot store is IN MEMORY (its buffer is empty) for as long
    as it uses the node — that is what the barrier buys. -/
theorem validated_not_reclaimed_fenced {N : Nat} {es : List Ev} {s : St} {t : Nat} {p : Int}
    (h : (sys true N).run es = some s) (hu : s.pc t = .using p) :
    p ≠ 0 ∧ s.ns p ≠ .free ∧ s.m.buf t = [] ∧ s.m.mem (cSlot t) = p := by
  have := (inv_of_run h).pcs t; rw [hu] at this; simp only [pcOk] at this
  exact ⟨this.1, this.2.2.2.2, this.2.2.1, this.2.2.2.1⟩

/-- every dereference (`use`) is of a node that has not been reclaimed -/
theorem use_not_reclaimed_fenced {N : Nat} {es : List Ev} {s s' : St} {t : Nat} {p : Int}
    (h : (sys true N).run es = some s) (hs : step s (.use t p) = some s') : s.ns p ≠ .free := by
  cases step_sound hs with
  | move _ _ _ _ _ hm => cases hm
  | use _ _ hpc => exact (validated_not_reclaimed_fenced h hpc).2.1

/-- a scan that has passed the slot of a validated reader of its node has found it there -/
theorem scan_finds_validated_fenced {N : Nat} {es : List Ev} {s : St} {t w i : Nat} {p : Int}
    {f : Bool} (h : (sys true N).run es = some s) (hu : s.pc t = .using p)
    (hw : s.pc w = .wScan p i f) (hlt : t < i) : f = true :=
  (inv_of_run h).scan_ok t p w i f hu hw hlt

/-! ### the unfenced variant: a node reclaimed while in use -/

/-- Writer 1 installs node 5.  Reader 0 loads `G = 5`, issues `hp[0] = 5` — it stays in the
    store buffer —, passes the compiler-only barrier, re-loads `G = 5`: validated.  Writer 1
    unlinks 5 (`xchg G := 6`), scans: `hp[0]` in MEMORY is still 0, `hp[1] = 0`: not found,
    reclaims 5.  Reader 0 dereferences 5. -/
def reclaimInUseTrace : List Ev := [
  .xchgG 1 0 5,
  .callAcq 0, .ldG 0 5, .stSlot 0 5, .fence 0, .ldG 0 5,
  .xchgG 1 5 6, .ldSlot 1 0 0, .ldSlot 1 1 0, .reclaim 1 5,
  .use 0 5]

/-- **without a real store→load barrier a node is reclaimed while a validated reader uses it**:
    the trace above is accepted by the `fenced = false` model; at the end reader 0 is using
    node 5, node 5 has been reclaimed, and the reader's slot store is still in its buffer. -/
theorem reclaim_in_use_unfenced : ∃ s, (sys false 2).run reclaimInUseTrace = some s ∧
    s.pc 0 = .using 5 ∧ s.ns 5 = .free ∧ s.m.buf 0 = [(cSlot 0, 5)] ∧ s.m.mem (cSlot 0) = 0 :=
  ⟨_, rfl, by decide, by decide, by decide, by decide⟩

/-- the reclaim step itself happens while the reader is in `using 5` -/
example : ((sys false 2).run (reclaimInUseTrace.take 9)).map (fun s => (s.pc 0, s.pc 1))
      = some (.using 5, .wScan 5 2 false) ∧
    ((sys false 2).run (reclaimInUseTrace.take 10)).isSome = true := by decide

/-- the same trace is NOT a trace of the fenced model: the barrier is refused while the slot
    store is buffered -/
example : (sys true 2).run (reclaimInUseTrace.take 4) ≠ none ∧
    (sys true 2).run (reclaimInUseTrace.take 5) = none := by decide

/-! ### non-vacuity of the fenced theorems -/

/-- reader 0 publishes 5 (buffered); the writer unlinks 5 and scans slot 0 BEFORE the flush
    (reads 0); the flush and the barrier follow, the validating load finds 6 ≠ 5: retry — the
    writer reclaims 5, nobody validated it.  The reader then publishes 6, flush, barrier,
    validates and uses 6; the writer unlinks 6, finds it in slot 0, keeps it; the reader
    releases (buffered), the next scan still finds 6 in memory, keeps it; after the flush a third
    scan reclaims 6. -/
def fencedTrace : List Ev := [
  .xchgG 1 0 5,
  .callAcq 0, .ldG 0 5, .stSlot 0 5, .xchgG 1 5 6, .ldSlot 1 0 0, .flush 0, .fence 0, .ldG 0 6,
  .ldSlot 1 1 0, .reclaim 1 5,
  .ldG 0 6, .stSlot 0 6, .flush 0, .fence 0, .ldG 0 6, .use 0 6,
  .xchgG 1 6 0, .ldSlot 1 0 6, .ldSlot 1 1 0, .keep 1 6,
  .release 0, .ldSlot 1 0 6, .flush 0, .ldSlot 1 1 0, .keep 1 6,
  .ldSlot 1 0 0, .ldSlot 1 1 0, .reclaim 1 6]

example : ∃ s, (sys true 2).run fencedTrace = some s ∧ s.ns 5 = .free ∧ s.ns 6 = .free ∧
    s.pc 0 = .idle ∧ s.pc 1 = .idle :=
  ⟨_, rfl, by decide, by decide, by decide, by decide⟩

/-- hypotheses of `validated_not_reclaimed_fenced` / `scan_finds_validated_fenced`: after event
    19 reader 0 uses node 6 (retired by writer 1), whose scan has passed slot 0 and found it -/
example : ((sys true 2).run (fencedTrace.take 19)).map
    (fun s => (s.pc 0, s.pc 1, decide (s.ns 6 = .retired 1), s.m.buf 0, s.m.mem (cSlot 0)))
    = some (.using 6, .wScan 6 1 true, true, [], 6) := by rfl

/-- a buffered slot store with the writer racing past it (after event 6), and the fence refused
    until the flush -/
example : ((sys true 2).run (fencedTrace.take 6)).map (fun s => (s.pc 0, s.pc 1, s.m.buf 0))
      = some (.rdPublished 5, .wScan 5 1 false, [(cSlot 0, 5)]) ∧
    (sys true 2).run (fencedTrace.take 6 ++ [.fence 0]) = none := by decide

end LibfiberVerif.HpTso

/-! ### the SC model of C14 validates a protection only after a `fence 1` event -/

namespace LibfiberVerif.Hp

/-- In `Model/Hp.lean` — the model every C14 log is replayed through — a thread reaches
    `acqFenced` (between `hazard_pointer_using` and the validating re-load) only by the logged
    `fence 1` event (`store_load_barrier()`), and only right after its slot store. -/
theorem acqFenced_only_by_fence {s s' : St} {e : Ev} {t g sl p : Nat}
    (h : step s e = some s') (hpc' : s'.pc t = .acqFenced g sl p)
    (hpc : s.pc t ≠ .acqFenced g sl p) : e = .fence t ∧ s.pc t = .acqPublished g sl p :=
  (handshake_order h).1 g sl p hpc' hpc

/-- … and a protection is validated (`acqValidated`, where the ghost `prot` is set) only by a
    load of `G` issued from `acqFenced`, i.e. after that fence. -/
theorem validated_only_after_fence {s s' : St} {e : Ev} {t sl p : Nat}
    (h : step s e = some s') (hpc' : s'.pc t = .acqValidated sl p)
    (hpc : s.pc t ≠ .acqValidated sl p) : ∃ g, e = .ldG t g p ∧ s.pc t = .acqFenced g sl p :=
  (handshake_order h).2 sl p hpc' hpc

end LibfiberVerif.Hp
