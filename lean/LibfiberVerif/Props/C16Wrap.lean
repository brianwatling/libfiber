/-
  Props/C16Wrap.lean — property C16, the clause "wrap-around of the indices", for the REAL
  width of the indices: `high` and `low` are `uint64_t` and wrap modulo 2^64.  Theorems only;
  the machine is `Model/RingW.lean` (exactly the C arithmetic on 64-bit values, counters
  starting at ANY value `c`), the proofs are in `Proof/RingW.lean`.

  Result.
  * Every comparison of the header that is made on the DIFFERENCE `high - low`
    (trypush `high - low < size`, push `high - low >= size`, size `(int64_t)(high - low)`) and
    both CASes are wrap-safe: `wrap_refines` — the 64-bit machine refines the unbounded model
    `Model/Ring.lean` event by event (same operations, threads, values, CAS outcomes, slot
    indices shifted by the constant `c`), for every starting value `c`, as long as no single
    call is overlapped by 2^63 or more successful pushes or by 2^63 or more successful pops
    (`Fresh`; the binding constraint is the sign bit in `size`, the others would tolerate
    2^64 - 2^k).  All clause theorems of `Props/C16.lean` transfer (`w_bounded` …).
  * The two comparisons made on the VALUES — trypop `high > low` and pop `high <= low` — are
    NOT wrap-safe: once `high` has crossed 2^64 and `low` has not, `high > low` is false with
    items in the buffer.  Finding F-C16: `asIs_pop_fails_after_wrap` (a machine-checked witness
    trace at `c = 2^64 - 1`, identical to the log of the real code:
    `ring 1 'p1,o' 18446744073709551615`), `asIs_failure_unjustified` (the failure is not
    justified: single thread, one item in the buffer throughout) and `asIs_dead_after_wrap`
    (from then on no pop ever succeeds again, whatever any number of threads do: the items are
    lost and the ring fills up and stays full).  For the code as it is the refinement therefore
    carries the extra hypothesis `NoWrap`: `c mod 2^64 + (number of pushes) < 2^64`.
  * With the two comparisons made on the sign of the difference (`fx = true`,
    docs/fix-C16.diff) the refinement holds for every `c` under `Fresh` alone:
    `wrap_refines_fixed`; `fixed_pops_after_wrap` is the run on which the code as it is fails.
-/
import LibfiberVerif.Proof.RingW
import LibfiberVerif.Props.C16

namespace LibfiberVerif.RingW
open Ring (Ev idx)

/-! ### the refinement -/

/-- **Refinement, general form.**  Capacity `2^k` (`k ≤ 31`, as `lockfree_ring_buffer_create`
    asserts), `high = low = c mod 2^64` initially for ANY `c`.  If every state of the run `es` of
    the 64-bit machine is `Good` — `Fresh`: no call in progress has been overlapped by 2^63 or
    more pushes, nor by 2^63 or more pops; and, only for the code as it is (`fx = false`),
    `NoWrap`: `c mod 2^64 + pushes < 2^64` — then there is a run `esU` of the unbounded model
    with `es = esU.map (wrapEv c (2^k))` (event by event: same operation, thread, values, CAS
    outcome; counter value `x` of the unbounded run appears as `(c + x) mod 2^64`, slot `i` as
    slot `(c + i) mod 2^k`), the final states are related by `Rel c`, and the same holds after
    every prefix. -/
theorem wrap_refines (fx : Bool) (k c : Nat) (hk : k ≤ 31) (es : List Ev) (w : St)
    (h : (sys fx (2 ^ k) c).run es = some w) (hg : AllGood fx k c es) :
    ∃ esU u, es = esU.map (wrapEv c (2 ^ k)) ∧ (Ring.sys (2 ^ k)).run esU = some u ∧ Rel c w u ∧
      ∀ es1 es2 u1, esU = es1 ++ es2 → (Ring.sys (2 ^ k)).run es1 = some u1 →
        ∃ w1, (sys fx (2 ^ k) c).run (es1.map (wrapEv c (2 ^ k))) = some w1 ∧ Rel c w1 u1 :=
  refines hk h hg

/-- With `trypop` / `pop` comparing by the sign of the difference (`fx = true`) the only
    hypothesis is `Fresh`, at every state of the run: wrap-around of the 64-bit counters is
    harmless for every starting value and for runs of any length. -/
theorem wrap_refines_fixed (k c : Nat) (hk : k ≤ 31) (es : List Ev) (w : St)
    (h : (sys true (2 ^ k) c).run es = some w)
    (hf : ∀ es1 es2 w1, es = es1 ++ es2 → (sys true (2 ^ k) c).run es1 = some w1 → Fresh w1) :
    Refined true k c es w :=
  refines hk h (fun es1 es2 w1 h1 h2 => ⟨hf es1 es2 w1 h1 h2, fun hfx => by cases hfx⟩)

/-- Simple sufficient condition: fewer than 2^63 successful pushes (and pops) in the whole run,
    from any starting value — in particular across 2^32 and 2^63, and for `fx = true` across
    2^64; for the code as it is the run must stop before `high` crosses 2^64. -/
theorem wrap_refines_few (fx : Bool) (k c : Nat) (hk : k ≤ 31) (es : List Ev) (w : St)
    (h : (sys fx (2 ^ k) c).run es = some w)
    (h1 : w.pushed.length < H63) (h2 : w.popped.length < H63)
    (h3 : fx = false → c % M + w.pushed.length < M) : Refined fx k c es w :=
  refines hk h (allGood_of_few h h1 h2 h3)

/-- One step, from related states (what the run-level theorems are made of). -/
theorem wrap_step (fx : Bool) (k c : Nat) (hk : k ≤ 31) (w w' : St) (u : Ring.St) (e : Ev)
    (esU : List Ev) (hu : (Ring.sys (2 ^ k)).run esU = some u) (hR : Rel c w u)
    (hF : Fresh w) (hN : NoWrap fx c w) (hs : (sys fx (2 ^ k) c).step w e = some w') :
    ∃ e' u', (Ring.sys (2 ^ k)).step u e' = some u' ∧ wrapEv c (2 ^ k) e' = e ∧ Rel c w' u' :=
  sim_step hk hR (Ring.inv_of_run hu).1 hF hN hs

/-- "Same branch decisions, same returned values": `wrapEv` changes nothing but counter values
    and slot indices (`eraseEv` blanks exactly those). -/
theorem wrap_events_same (c S : Nat) (e : Ev) (t : Nat) :
    eraseEv (wrapEv c S e) = eraseEv e ∧ (wrapEv c S e).tid = e.tid ∧
    (wrapEv c S e).boundaryOf t = e.boundaryOf t :=
  ⟨eraseEv_wrapEv c S e, tid_wrapEv c S e, boundaryOf_wrapEv c S e t⟩

/-- Same slots: the slot the 64-bit machine uses for the wrapped counter value is the slot
    `(c + i) mod 2^k` — the unbounded model's slot `i mod 2^k` shifted by the constant `c`
    (capacity `2^k` divides `2^64`), and the shift is a bijection on slots. -/
theorem wrap_slots (k c i j : Nat) (hk : k ≤ 31) :
    idx (2 ^ k) (wr c i) = (c + i) % 2 ^ k ∧
    ((c + i) % 2 ^ k = (c + j) % 2 ^ k ↔ idx (2 ^ k) i = idx (2 ^ k) j) := by
  refine ⟨idx_wr (by omega) c i, ?_⟩
  rw [Ring.idx_two_pow, Ring.idx_two_pow]; exact add_mod_inj

/-! ### the clauses of C16 for the 64-bit machine

Hypotheses everywhere: a run `es` of the 64-bit machine, capacity `2^k`, `k ≤ 31`, any start
`c`, `AllGood` (see `wrap_refines`). -/

section clauses
variable (fx : Bool) (k c : Nat) (hk : k ≤ 31) (es : List Ev) (w : St)
  (h : (sys fx (2 ^ k) c).run es = some w) (hg : AllGood fx k c es)
include hk h hg

/-- Capacity: the 64-bit difference `high - low` is the number of items (pushes that took
    effect minus pops that took effect), between 0 and the capacity; `high` / `low` are the
    numbers of pushes / pops, plus `c`, modulo 2^64. -/
theorem w_bounded :
    w.size = 2 ^ k ∧ w.high = wr c w.pushed.length ∧ w.low = wr c w.popped.length ∧
    w.popped.length ≤ w.pushed.length ∧ w.pushed.length ≤ w.popped.length + 2 ^ k ∧
    wsub w.high w.low = w.pushed.length - w.popped.length ∧ wsub w.high w.low ≤ 2 ^ k := by
  obtain ⟨esU, u, -, hrunU, hR, -⟩ := refines hk h hg
  obtain ⟨b1, b2, b3, b4, b5⟩ := Ring.bounded k esU u hrunU
  have := pow_le_31 hk
  rw [b1] at b3
  have e : wsub w.high w.low = u.high - u.low := by
    rw [hR.high, hR.low]; exact wsub_wr_le b2 (by omega)
  rw [e, hR.pushed, hR.popped, b4, b5, hR.size, hR.high, hR.low]
  exact ⟨b1, rfl, rfl, b2, b3, rfl, by omega⟩

/-- Never overwrite: a pusher that has claimed the (wrapped) index `i` — CAS done, slot not
    yet written, possibly stalled for arbitrarily long — finds its slot NULL. -/
theorem w_never_overwrite (t v i : Nat) (hpc : w.pc t = .pushClaimed v i) :
    w.buf (idx w.size i) = 0 := by
  obtain ⟨esU, u, -, hrunU, hR, -⟩ := refines hk h hg
  have hsz : u.size = 2 ^ k := (Ring.bounded k esU u hrunU).1
  have hp := hR.pc t
  rw [hpc] at hp
  cases hu : u.pc t <;> rw [hu] at hp <;> simp only [wrapPc] at hp <;> try contradiction
  rename_i v' i'
  cases hp
  have := Ring.never_overwrite k esU u hrunU t v i' hu
  rw [hsz, Ring.idx_two_pow] at this
  rw [hR.size, hsz, idx_wr (by omega), ← this]
  have hb := hR.buf i'; rw [hsz] at hb; exact hb

/-- Exactly once, in the order the pushes took effect: the popped values are precisely the
    first `popped.length` pushed values; NULL is never pushed. -/
theorem w_pop_value : w.popped = w.pushed.take w.popped.length ∧ ∀ v ∈ w.pushed, v ≠ 0 := by
  obtain ⟨esU, u, -, hrunU, hR, -⟩ := refines hk h hg
  obtain ⟨p1, p2⟩ := Ring.pop_value k esU u hrunU
  obtain ⟨-, -, -, -, b5⟩ := Ring.bounded k esU u hrunU
  rw [hR.pushed, hR.popped, b5]; exact ⟨p1, p2⟩

/-- A popper that has claimed the (wrapped) index `l` holds exactly the value pushed by the
    claim with that index. -/
theorem w_pop_claim_value (t l x : Nat) (hpc : w.pc t = .popClaimed l x) :
    ∃ i, l = wr c i ∧ i < w.popped.length ∧ w.pushed[i]? = some x ∧ w.popped[i]? = some x ∧ x ≠ 0 := by
  obtain ⟨esU, u, -, hrunU, hR, -⟩ := refines hk h hg
  have hp := hR.pc t
  rw [hpc] at hp
  cases hu : u.pc t <;> rw [hu] at hp <;> simp only [wrapPc] at hp <;> try contradiction
  rename_i l' x'
  cases hp
  obtain ⟨q1, q2, q3, q4⟩ := Ring.pop_claim_value k esU u hrunU t l' x hu
  obtain ⟨-, -, -, -, b5⟩ := Ring.bounded k esU u hrunU
  exact ⟨l', rfl, by rw [hR.popped, b5]; exact q1, by rw [hR.pushed]; exact q2,
    by rw [hR.popped]; exact q3, q4⟩

/-- A `trypush` returns 0 only if at some instant of that call another thread was inside an
    operation on the buffer, or the buffer was full (by the 64-bit difference). -/
theorem w_failure_justified_push (w' : St) (t : Nat)
    (hs : (sys fx (2 ^ k) c).step w (.retPush t 0) = some w') :
    ∃ es1 es2 w1, es = es1 ++ es2 ∧ (sys fx (2 ^ k) c).run es1 = some w1 ∧
      (∀ e ∈ es2, e.boundaryOf t = false) ∧ (w1.pc t).pushing = true ∧
      ((∃ u, u ≠ t ∧ w1.pc u ≠ .idle) ∨ wsub w1.high w1.low = w1.size) := by
  obtain ⟨esU, u, u', hrunU, -, hsU, hsince⟩ := refines_last hk h hg hs (beq_self_eq_true t)
  refine hsince t _ _ (fun a s1 w1 q2 hR1 ⟨q4, q5⟩ => ⟨?_, ?_⟩)
    (Ring.failure_justified_push k esU u u' hrunU t hsU)
  · rw [hR1.pc t, wrapPc_pushing]; exact q4
  · rcases q5 with ⟨v, hv, hne⟩ | heq
    · exact Or.inl ⟨v, hv, by rw [hR1.pc v]; exact fun hh => hne (wrapPc_idle.mp hh)⟩
    · right
      obtain ⟨hsz, b2, -⟩ := Ring.bounded k a s1 q2
      have := pow_le_31 hk
      rw [hR1.high, hR1.low, hR1.size, wsub_wr_le b2 (by omega)]; omega

/-- A `trypop` returns NULL only if at some instant of that call another thread was inside an
    operation on the buffer, or the buffer was empty (`high = low`). -/
theorem w_failure_justified_pop (w' : St) (t : Nat)
    (hs : (sys fx (2 ^ k) c).step w (.retPop t 0) = some w') :
    ∃ es1 es2 w1, es = es1 ++ es2 ∧ (sys fx (2 ^ k) c).run es1 = some w1 ∧
      (∀ e ∈ es2, e.boundaryOf t = false) ∧ (w1.pc t).popping = true ∧
      ((∃ u, u ≠ t ∧ w1.pc u ≠ .idle) ∨ w1.high = w1.low) := by
  obtain ⟨esU, u, u', hrunU, -, hsU, hsince⟩ := refines_last hk h hg hs (beq_self_eq_true t)
  refine hsince t _ _ (fun a s1 w1 q2 hR1 ⟨q4, q5⟩ => ⟨?_, ?_⟩)
    (Ring.failure_justified_pop k esU u u' hrunU t hsU)
  · rw [hR1.pc t, wrapPc_popping]; exact q4
  · rcases q5 with ⟨v, hv, hne⟩ | heq
    · exact Or.inl ⟨v, hv, by rw [hR1.pc v]; exact fun hh => hne (wrapPc_idle.mp hh)⟩
    · exact Or.inr (by rw [hR1.high, hR1.low, heq])

/-- `size` never reports more than the capacity, never more than the number of items present
    at the instant it read `high` (a prefix `es1` of the trace inside this call), and never
    less than that number minus the pops that have taken effect since — although it computes
    on wrapped 64-bit values and decides by the sign bit of their difference. -/
theorem w_size_bounds (w' : St) (t n : Nat)
    (hs : (sys fx (2 ^ k) c).step w (.retSize t n) = some w') :
    n ≤ 2 ^ k ∧
    ∃ es1 es2 w1, es = es1 ++ es2 ∧ (sys fx (2 ^ k) c).run es1 = some w1 ∧
      (∀ e ∈ es2, e.boundaryOf t = false) ∧
      n ≤ w1.pushed.length - w1.popped.length ∧ w1.pushed.length - w.popped.length ≤ n := by
  obtain ⟨esU, u, u', hrunU, hR, hsU, hsince⟩ := refines_last hk h hg hs (beq_self_eq_true t)
  obtain ⟨hn, hz⟩ := Ring.size_bounds k esU u u' hrunU t n hsU
  obtain ⟨-, -, -, -, c5⟩ := Ring.bounded k esU u hrunU
  refine ⟨hn, hsince t _ _ (fun a s1 w1 q2 hR1 ⟨q4, q5⟩ => ⟨?_, ?_⟩) hz⟩
  all_goals obtain ⟨-, -, -, b4, b5⟩ := Ring.bounded k a s1 q2
  · rw [hR1.pushed, hR1.popped, b4, b5]; exact q4
  · rw [hR1.pushed, hR.popped, b4, c5]; exact q5

end clauses

/-! ### finding F-C16: `high > low` (trypop) and `high <= low` (pop) compare VALUES

`c = 2^64 - 1`, capacity 2, a single thread: trypush(1) succeeds and takes `high` from
2^64 - 1 to 0; the trypop that follows reads `high = 0`, `low = 2^64 - 1`, finds the item in
its slot — and returns NULL because `0 > 2^64 - 1` is false.  This is, value for value, the log
of the real code (`harness/ring.c`: `ring 1 'p1,o' 18446744073709551615`). -/

/-- 2^64 - 1 -/
abbrev m1 : Nat := 18446744073709551615

def wrapDemo : List Ev := [
  .callPush 0 1, .ldLow 0 m1, .ldHigh 0 m1, .rdBuf 0 1 0, .casHigh 0 m1 m1 0 true, .wrBuf 0 1 1,
  .retPush 0 1,
  .callPop 0, .ldHigh 0 0, .ldLow 0 m1, .rdBuf 0 1 1]

/-- The code as it is accepts the witness, and then `trypop` returns NULL: the buffer holds the
    item 1 (`pushed = [1]`, `popped = []`, slot 1 = 1), `high = 0`, `low = 2^64 - 1`. -/
theorem asIs_pop_fails_after_wrap :
    ((sys false (2 ^ 1) m1).run wrapDemo).map (fun w => (w.high, w.low, w.buf 1)) =
      some (0, m1, 1) ∧
    ((sys false (2 ^ 1) m1).run wrapDemo).map (fun w => (w.pushed, w.popped)) = some ([1], []) ∧
    (((sys false (2 ^ 1) m1).run wrapDemo).bind
      (fun w => ((sys false (2 ^ 1) m1).step w (.retPop 0 0)).map (fun w' => w'.pc 0))) =
      some .idle := by decide

/-- … and that failure is not justified: only thread 0 ever acts, and at every instant of the
    pop call (every prefix of the trace at which thread 0 is inside a pop) the buffer is not
    empty (`high ≠ low`, one item).  So `w_failure_justified_pop` does NOT hold for the code as
    it is beyond `NoWrap`. -/
theorem asIs_failure_unjustified :
    (∀ e ∈ wrapDemo, e.tid = 0) ∧
    ∀ n, n ≤ wrapDemo.length →
      ((sys false (2 ^ 1) m1).run (wrapDemo.take n)).any (fun w1 =>
        !(w1.pc 0).popping ||
          (decide (w1.high ≠ w1.low) && decide (w1.pushed.length - w1.popped.length = 1))) = true := by
  decide

/-- The unbounded model and the repaired comparison both refuse that return: they pop the item. -/
theorem fixed_pops_after_wrap :
    (((sys true (2 ^ 1) m1).run wrapDemo).bind
      (fun w => (sys true (2 ^ 1) m1).step w (.retPop 0 0))).isSome = false ∧
    ((sys true (2 ^ 1) m1).run (wrapDemo ++ [.casLow 0 m1 m1 0 true, .wrBuf 0 1 0, .retPop 0 1])).map
      (fun w => (w.high, w.low, w.pushed, w.popped)) = some (0, 0, [1], [1]) := by decide

/-- **The ring is dead after the wrap.**  The code as it is, capacity `2^k`, any start `c`:
    from a reachable quiescent state in which `high` has crossed 2^64 (`high < 2^k`) and `low`
    has not (`low ≥ 2^64 - 2^k`), no pop ever takes effect again — `low` and `popped` never
    change, whatever any number of threads do, for ever.  The items in the buffer are lost,
    pushes fill the remaining slots and then fail too, a blocking pop spins for ever. -/
theorem asIs_dead_after_wrap (k c : Nat) (hk : k ≤ 31) (w0 : St)
    (hsz : w0.size = 2 ^ k) (hq : ∀ t, w0.pc t = .idle)
    (hh : w0.high < 2 ^ k) (hl : M - 2 ^ k ≤ w0.low) (hl2 : w0.low < M)
    (es : List Ev) (w : St) (h : (sys false (2 ^ k) c).runFrom w0 es = some w) :
    w.popped = w0.popped ∧ w.low = w0.low := by
  have hD : Dead (2 ^ k) w0 := ⟨hsz, hh, hl, hl2, fun t => by rw [hq t]; trivial⟩
  obtain ⟨-, h1, h2⟩ := dead_runFrom (pow_le_31 hk) hD h
  exact ⟨h2, h1⟩

/-- The witness reaches such a state: after the push of the witness trace (first 7 events) the
    machine is quiescent with `high = 0`, `low = 2^64 - 1` and the item 1 in the buffer; by
    `asIs_dead_after_wrap` that item is never popped. -/
theorem asIs_witness_is_dead (es : List Ev) (w : St) :
    ∃ w0, (sys false (2 ^ 1) m1).run (wrapDemo.take 7) = some w0 ∧ w0.pushed = [1] ∧
      w0.popped = [] ∧
      ((sys false (2 ^ 1) m1).runFrom w0 es = some w → w.popped = [] ∧ w.low = m1) := by
  have hf : ((sys false (2 ^ 1) m1).run (wrapDemo.take 7)).map
      (fun w => (w.size, w.high, w.low)) = some (2, 0, m1) := by decide
  have hf' : ((sys false (2 ^ 1) m1).run (wrapDemo.take 7)).map
      (fun w => (w.pushed, w.popped, w.pc 0)) = some ([1], [], .idle) := by decide
  obtain ⟨w0, h0, hw⟩ := Option.map_eq_some_iff.mp hf
  rw [h0] at hf'
  simp only [Option.map_some, Option.some.injEq, Prod.mk.injEq] at hw hf'
  obtain ⟨f1, f2, f3⟩ := hw
  obtain ⟨f4, f5, f6⟩ := hf'
  have hq : ∀ t, w0.pc t = .idle := by
    intro t
    by_cases ht : t = 0
    · subst ht; exact f6
    · exact runFrom_pc_idle (fx := false) (size := 2 ^ 1) (c := m1) (t0 := 0) (by decide) h0 t ht
  refine ⟨w0, h0, f4, f5, fun h => ?_⟩
  have := asIs_dead_after_wrap 1 m1 (by decide) w0 (by rw [f1]) hq (by rw [f2]; decide)
    (by rw [f3]; decide) (by rw [f3]; decide) es w h
  rw [f5, f3] at this; exact this

/-! ### non-vacuity of the refinement hypotheses

A run of the repaired machine that takes both counters across 2^64 (start 2^64 - 1, capacity
2, two pushes and two pops interleaved over two threads) satisfies `AllGood`, so `wrap_refines`
applies to it; a run of the code as it is that takes the counters across 2^63 does too. -/

/-- 2^63 - 1 -/
abbrev h1 : Nat := 9223372036854775807

def crossDemo (a b d : Nat) : List Ev := [
  .callPush 0 1, .ldLow 0 a, .ldHigh 0 a, .rdBuf 0 1 0, .casHigh 0 a a b true,
  .callPush 1 2, .ldLow 1 a, .ldHigh 1 b, .rdBuf 1 0 0, .casHigh 1 b b d true, .wrBuf 1 0 2,
  .wrBuf 0 1 1, .retPush 0 1, .retPush 1 1,
  .callPop 0, .ldHigh 0 d, .ldLow 0 a, .rdBuf 0 1 1, .casLow 0 a a b true, .wrBuf 0 1 0,
  .retPop 0 1,
  .callSize 1, .wLdHigh 1 d, .wLdLow 1 b, .retSize 1 1,
  .callBPop 1, .ldHigh 1 d, .ldLow 1 b, .rdBuf 1 0 2, .casLow 1 b b d true, .wrBuf 1 0 0,
  .retBPop 1 2]

example : ((sys true (2 ^ 1) m1).run (crossDemo m1 0 1)).map
    (fun w => (w.high, w.low, w.pushed, w.popped)) = some (1, 1, [1, 2], [1, 2]) := by decide

example : ∃ w, (sys true (2 ^ 1) m1).run (crossDemo m1 0 1) = some w ∧
    AllGood true 1 m1 (crossDemo m1 0 1) :=
  allGood_of_eval (n := 2) (m := 2) (by decide) (by decide) (by decide) (fun hfx => by cases hfx)

example : ∃ w, (sys false (2 ^ 1) h1).run (crossDemo h1 (h1 + 1) (h1 + 2)) = some w ∧
    AllGood false 1 h1 (crossDemo h1 (h1 + 1) (h1 + 2)) :=
  allGood_of_eval (n := 2) (m := 2) (by decide) (by decide) (by decide) (fun _ => by decide)

/-- the code as it is rejects nothing of the crossing run up to the first pop … and then
    refuses the pop's CAS (it returns NULL instead): the same script on which the real code
    loses its items -/
example : (((sys false (2 ^ 1) m1).run ((crossDemo m1 0 1).take 18)).bind
    (fun w => (sys false (2 ^ 1) m1).step w (.casLow 0 m1 m1 0 true))).isSome = false := by decide

example : (((sys false (2 ^ 1) m1).run ((crossDemo m1 0 1).take 18)).bind
    (fun w => (sys false (2 ^ 1) m1).step w (.retPop 0 0))).isSome = true := by decide

end LibfiberVerif.RingW
