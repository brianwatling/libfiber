/-
  Props/C03.lean — property C03 (src/fiber_mutex.c on fiber_manager_wait_in_mpsc_queue /
  fiber_manager_wake_from_mpsc_queue and include/mpsc_fifo.h), theorems only.

  "While one fiber holds a fiber mutex no other fiber's lock or trylock succeeds, and writes
   made in the critical section are seen by the next owner.  Unlocking a contended mutex
   passes ownership to exactly one waiter: no waiter stays blocked on a mutex nobody holds
   and one unlock never releases two waiters."

  Every theorem is for every event list `es` accepted by the model (`run es = some s`): any
  number of fibers (`Nat → Pc`) on any number of kernel threads, any number of
  lock / trylock / unlock calls, every interleaving of their individual shared accesses —
  in particular a locker that has decremented `counter` and has not yet done its
  `xchg(&tail)` / its `prev->next` write while the unlock's `fetch_add` and wake loop run
  (those are just states with `pc ∈ lockDec … pushCleared / pushXchgd`).

  Vocabulary (definitions in `Proof/MutexStep.lean` and `Proof/Mutex.lean`, ghost fields in
  `Model/Mutex.lean`):
  * `s.owner`   ghost owner: set at an acquire point (uncontended `fetch_sub`, successful
                trylock CAS, the waker's `head := next` on behalf of the popped waiter),
                cleared by the release `fetch_add`.
  * `Holds s f` `pc f ∈ {acquired, held, tryDone true, unlockCalled}`, or `f` is `parked`
                with `owner = some f` (handed off, not yet resumed).
  * `Ann s f`   `f` is an announced waiter: it has done the contended `fetch_sub` and has not
                been handed the mutex (`pc f ∈ lockDec … pushCleared` = before `xchg(&tail)`,
                `pushXchgd` = before the `prev->next` write, or `parked` and not the owner).
  * `Pc.isWake` in the wake loop before the pop takes effect (`wakeLoop/popGotHead/popGotNext`);
    `Pc.isPost` after `head := next`, still finishing the pop / waking the fiber;
    `Pc.isPop = isWake ∨ isPost`: the consumer side of the waiter queue.
  * `s.order`, `s.hd`, `s.linked`: the waiter queue kept abstractly (C15 is the theorem that
                this is what mpsc_fifo.h implements); `order[hd]` is the oldest waiter not popped.
  * `s.inCs`, `s.data`, `s.seen`: the harness's critical section (`cs enter` reads the plain
                cell `shared` into `seen f`, yields, `cs exit` writes `seen f + 1`).

  Model guards that are assumptions (validated on every trace by tools/check.py, listed in
  tools/specs_c03.py): unlock is called by the owner after its critical section ended; a
  handed-off waiter returns from `lock` only after its waker finished waking it (a parked
  fiber runs only after it was scheduled — C01).
-/
import LibfiberVerif.Proof.MutexData

namespace LibfiberVerif.Mutex

/-! ### mutual exclusion -/

/-- At most one holder, and it is the ghost owner: `Holds s f ↔ owner = some f`; hence two
    holders are equal.  A handed-off waiter that has not resumed counts as the holder. -/
theorem excl (stub : Nat) (nodeOf : Nat → Nat) (es : List Ev) (s : St)
    (h : (sys stub nodeOf).run es = some s) :
    (∀ f, Holds s f ↔ s.owner = some f) ∧ (∀ f g, Holds s f → Holds s g → f = g) := by
  have hi := inv_of_run h
  refine ⟨hi.holds_iff, fun f g hf hg => ?_⟩
  have h1 := (hi.holds_iff f).1 hf
  have h2 := (hi.holds_iff g).1 hg
  rw [h1] at h2; cases h2; rfl

/-- Occupancy of the harness's critical section: at most one fiber, and it is the owner. -/
theorem inCs_le_one (stub : Nat) (nodeOf : Nat → Nat) (es : List Ev) (s : St)
    (h : (sys stub nodeOf).run es = some s) :
    s.inCs.length ≤ 1 ∧ ∀ f, f ∈ s.inCs → s.owner = some f ∧ s.pc f = .held := by
  rcases (inv_of_run h).inCs_cases with h0 | ⟨f, h1, h2, h3⟩
  · simp [h0]
  · rw [h1]; refine ⟨by simp, fun g hg => ?_⟩
    simp at hg; subst hg; exact ⟨h2, h3⟩

/-! ### the counting identity -/

/-- `counter = 1 − [owner ≠ none] − #announced`, where the announced fibers are those that
    have done the contended `fetch_sub` and have not yet been handed the mutex.  (An unlocker
    in its wake loop has already given the mutex up: `owner = none` there, and the waiter it
    is going to pop is still counted as announced until the pop.)  `Card P n` = "exactly `n`
    fibers satisfy `P`" (there is a duplicate-free list of length `n` enumerating them). -/
theorem counter_eq (stub : Nat) (nodeOf : Nat → Nat) (es : List Ev) (s : St)
    (h : (sys stub nodeOf).run es = some s) :
    ∃ n : Nat, Card (Ann s) n ∧ s.counter = 1 - (if s.owner = none then 0 else 1) - (n : Int) :=
  (inv_of_run h).cnt

/-- The same for any enumeration of the announced fibers. -/
theorem counter_eq_list (stub : Nat) (nodeOf : Nat → Nat) (es : List Ev) (s : St)
    (h : (sys stub nodeOf).run es = some s) (l : List Nat) (hnd : l.Nodup)
    (hl : ∀ f, f ∈ l ↔ Ann s f) :
    s.counter = 1 - (if s.owner = none then 0 else 1) - (l.length : Int) := by
  obtain ⟨n, hc, hn⟩ := (inv_of_run h).cnt
  have : Card (Ann s) l.length := ⟨l, hnd, hl, rfl⟩
  rw [← hc.unique this]; exact hn

/-- Consequences: `counter ≤ 1`, and `counter = 1` exactly when the mutex is free and nobody is
    announced.  So `fetch_sub` seeing 1 / a successful CAS ⇒ nobody owns, and a `fetch_add`
    with `old + 1 ≠ 1` ⇒ some announced waiter exists (see `unlock_step`). -/
theorem counter_one_iff (stub : Nat) (nodeOf : Nat → Nat) (es : List Ev) (s : St)
    (h : (sys stub nodeOf).run es = some s) :
    s.counter ≤ 1 ∧ (s.counter = 1 ↔ (s.owner = none ∧ ∀ g, ¬ Ann s g)) := by
  have hi := inv_of_run h
  refine ⟨hi.counter_le, hi.free_of_one, fun ⟨ho, hf⟩ => ?_⟩
  obtain ⟨n, hc, hn⟩ := hi.cnt
  have : n = 0 := hc.unique (Card.zero_iff.2 hf)
  subst this; simp [ho] at hn; exact hn

/-! ### acquiring -/

/-- A trylock CAS succeeds only in a state with no owner, no announced waiter and nobody in
    the wake loop / popping; it makes the caller the owner. -/
theorem try_only_free (stub : Nat) (nodeOf : Nat → Nat) (es : List Ev) (s s' : St)
    (h : (sys stub nodeOf).run es = some s) (f : Nat) (found : Int)
    (hs : (sys stub nodeOf).step s (.casCounter f found true) = some s') :
    found = 1 ∧ s.owner = none ∧ (∀ g, ¬ Ann s g) ∧ (∀ g, (s.pc g).isPop = false) ∧
    s'.owner = some f := by
  obtain ⟨-, h2, h3, h4, -⟩ := cas_step hs
  have h1 : found = 1 := h3.1 rfl
  obtain ⟨a, b, c⟩ := (inv_of_run h).acquire_free (by rw [← h2]; exact h1)
  exact ⟨h1, a, b, c, (h4 rfl).1⟩

/-- A trylock CAS that fails leaves owner and counter alone. -/
theorem try_fail_no_effect (stub : Nat) (nodeOf : Nat → Nat) (s s' : St) (f : Nat) (found : Int)
    (hs : (sys stub nodeOf).step s (.casCounter f found false) = some s') :
    found ≠ 1 ∧ s'.owner = s.owner ∧ s'.counter = s.counter := by
  obtain ⟨-, -, h3, -, h5⟩ := cas_step hs
  exact ⟨fun h => by simpa using h3.2 h, h5 rfl⟩

/-- `lock`'s `fetch_sub` acquires (saw 1) only in a state with no owner, no announced waiter
    and nobody in the wake loop; otherwise the caller becomes an announced waiter and the
    owner is unchanged. -/
theorem lock_fast_only_free (stub : Nat) (nodeOf : Nat → Nat) (es : List Ev) (s s' : St)
    (h : (sys stub nodeOf).run es = some s) (f : Nat) (old : Int)
    (hs : (sys stub nodeOf).step s (.fsub f old) = some s') :
    if old = 1 then
      s.owner = none ∧ (∀ g, ¬ Ann s g) ∧ (∀ g, (s.pc g).isPop = false) ∧ s'.owner = some f
    else s'.owner = s.owner ∧ ¬ Ann s f ∧ Ann s' f := by
  obtain ⟨h1, h2, -, h4⟩ := fsub_step hs
  split
  · next ho =>
    rw [if_pos ho] at h4
    obtain ⟨a, b, c⟩ := (inv_of_run h).acquire_free (by rw [← h2]; exact ho)
    exact ⟨a, b, c, h4.1⟩
  · next ho =>
    rw [if_neg ho] at h4
    refine ⟨h4.1, ?_, ?_⟩
    · rw [ann_iff, h1]; simp [Pc.isPre]
    · rw [ann_iff, h4.2]; simp [Pc.isPre]

/-! ### hand-off -/

/-- The release `fetch_add` is done by the owner and frees the mutex.  If it saw no waiter
    (`old + 1 = 1`) nobody is announced and the unlock is done; if it saw waiters
    (`old + 1 ≠ 1`) an announced waiter exists and the unlocker enters its wake loop. -/
theorem unlock_step (stub : Nat) (nodeOf : Nat → Nat) (es : List Ev) (s s' : St)
    (h : (sys stub nodeOf).run es = some s) (f : Nat) (old : Int)
    (hs : (sys stub nodeOf).step s (.fadd f old) = some s') :
    s.owner = some f ∧ s'.owner = none ∧
    (if old + 1 = 1 then s'.pc f = .unlockDone ∧ ∀ g, ¬ Ann s g
     else s'.pc f = .wakeLoop ∧ ∃ g, Ann s g) := by
  obtain ⟨-, -, h3, h4, h5⟩ := (inv_of_run h).fadd_step hs
  exact ⟨h3, h4, h5⟩

/-- A fiber in its wake loop stays there under every step of every fiber except its own
    `head := next` (the pop).  That step pops `order[hd]` — the OLDEST waiter not yet popped —,
    which is an announced waiter, already parked; the mutex had no owner, and the popped
    fiber becomes the owner (exactly one: `owner` is a single cell). -/
theorem handoff_one (stub : Nat) (nodeOf : Nat → Nat) (es : List Ev) (s s' : St)
    (h : (sys stub nodeOf).run es = some s) (e : Ev)
    (hs : (sys stub nodeOf).step s e = some s') (w : Nat) (hw : (s.pc w).isWake = true) :
    (s'.pc w).isWake = true ∨
    ∃ x n g, e = .wHead w x ∧ s.order[s.hd]? = some (n, g) ∧ Ann s g ∧ s.pc g = .parked ∧
      s.owner = none ∧ s'.owner = some g ∧ s'.hd = s.hd + 1 ∧ (s'.pc w).isPost = true :=
  (inv_of_run h).wake_exit hs hw

/-- Control flow of an unlock (holds for every step, no invariant needed): the wake loop is
    entered only by the caller's own `fetch_add` that saw waiters; the post-pop pcs only by
    its own `head := next`; and `unlockDone` (from which `ret unlock` is taken) only from the
    `fetch_add` that saw NO waiter or from the post-pop pcs.  So an unlock that saw waiters
    returns only after it popped. -/
theorem unlock_flow (stub : Nat) (nodeOf : Nat → Nat) (s s' : St) (e : Ev)
    (hs : (sys stub nodeOf).step s e = some s') (w : Nat) :
    ((s'.pc w).isWake = true → (s.pc w).isWake = true ∨ ∃ old, e = .fadd w old ∧ old + 1 ≠ 1) ∧
    ((s'.pc w).isPost = true → (s.pc w).isPost = true ∨ ∃ x, e = .wHead w x) ∧
    (s'.pc w = .unlockDone → s.pc w = .unlockDone ∨ (∃ old, e = .fadd w old ∧ old + 1 = 1) ∨
      (s.pc w).isPost = true) ∧
    (∀ s'', (sys stub nodeOf).step s (.retUnlock w) = some s'' → s.pc w = .unlockDone) := by
  obtain ⟨h1, h2, h3⟩ := (Step.of_step hs).unlock_flow w
  exact ⟨h1, h2, h3, fun s'' h => by cases Step.of_step (s := s) (e := .retUnlock w) h; assumption⟩

/-- Counting form, for every fiber `w` and every accepted trace: the number of `w`'s unlocks
    that saw waiters equals the number of pops by `w`, plus one if `w` is in its wake loop
    right now.  So one unlock never releases two waiters, every contended unlock that has left
    its loop (in particular: has returned) released exactly one, and `hd` is the total
    number of pops. -/
theorem handoff_count_eq (stub : Nat) (nodeOf : Nat → Nat) (es : List Ev) (s : St)
    (h : (sys stub nodeOf).run es = some s) (w : Nat) :
    es.countP (isContFadd w) = es.countP (isPopBy w) + (if (s.pc w).isWake then 1 else 0) ∧
    s.hd = es.countP isPopEv := by
  refine ⟨?_, (counts h).1⟩
  have := Sys.runFrom_rel (fun _ => True)
    (fun s es s' => es.countP (isContFadd w) + (if (s.pc w).isWake then 1 else 0) =
      es.countP (isPopBy w) + (if (s'.pc w).isWake then 1 else 0))
    (fun _ _ _ _ _ => trivial) (fun _ => rfl)
    (fun s e s1 es s' _ hs ih => by
      have := (Step.of_step (s := s) hs).wake_cnt w
      simp only [List.countP_cons]; omega) es (init stub nodeOf) s trivial h
  simpa [init, Pc.isWake] using this

/-- No step makes a second fiber the owner while one exists: a step from a state with owner
    `g` keeps `g`, or is `g`'s own release `fetch_add`. -/
theorem no_second_owner (stub : Nat) (nodeOf : Nat → Nat) (es : List Ev) (s s' : St)
    (h : (sys stub nodeOf).run es = some s) (e : Ev)
    (hs : (sys stub nodeOf).step s e = some s') (g : Nat) (ho : s.owner = some g) :
    s'.owner = some g ∨ (s'.owner = none ∧ ∃ old, e = .fadd g old) := by
  have := owner_step (inv_of_run h) hs
  rw [ho] at this
  cases ha : absEv s e with
  | none => rw [ha] at this; exact Or.inl this
  | some a =>
    rw [ha] at this
    cases a with
    | acq f => simp [lockStep] at this
    | rel f =>
      simp [lockStep] at this
      obtain ⟨rfl, h2⟩ := this
      right; refine ⟨h2.symm, ?_⟩
      cases e <;> simp [absEv] at ha
      case fadd f old => subst ha; exact ⟨_, rfl⟩
      case wHead f n => split at ha <;> simp at ha

/-! ### no stranded waiter -/

/-- If some fiber is an announced waiter (including one that has decremented `counter` and
    not yet enqueued itself) then the mutex has an owner (who will see `old + 1 ≠ 1` at its
    `fetch_add`) or some unlocker is in its wake loop. -/
theorem no_stranded (stub : Nat) (nodeOf : Nat → Nat) (es : List Ev) (s : St)
    (h : (sys stub nodeOf).run es = some s) (g : Nat) (hg : Ann s g) :
    s.owner ≠ none ∨ ∃ w, (s.pc w).isWake = true := by
  rcases (inv_of_run h).free g hg with h1 | ⟨w, hw⟩
  · exact Or.inl h1
  · exact Or.inr ⟨w, (k_isWake _).1 hw⟩

/-- The partner: a fiber in the wake loop always has somebody to find — an entry of the queue
    not yet popped, or a locker between its `fetch_sub` and its `xchg(&tail)`. -/
theorem wake_loop_has_waiter (stub : Nat) (nodeOf : Nat → Nat) (es : List Ev) (s : St)
    (h : (sys stub nodeOf).run es = some s) (w : Nat) (hw : (s.pc w).isWake = true) :
    (∃ g, Ann s g) ∧ (s.hd < s.order.length ∨ ∃ g, (s.pc g).isPre = true) :=
  ⟨(inv_of_run h).wake_ann w ((k_isWake _).2 hw), (inv_of_run h).wake_has_waiter hw⟩

/-- A `trypop` in the wake loop fails (reads `next = NULL`, then yields and retries) only
    while some locker is inside the window between its `fetch_sub` and its `prev->next`
    write. -/
theorem wake_retry_justified (stub : Nat) (nodeOf : Nat → Nat) (es : List Ev) (s s' : St)
    (h : (sys stub nodeOf).run es = some s) (w hnode : Nat)
    (hs : (sys stub nodeOf).step s (.rNext w hnode 0) = some s') :
    s'.pc w = .wakeLoop ∧
    ∃ g, (s.pc g).isPre = true ∨ ∃ m p i, s.pc g = .pushXchgd m p i :=
  (inv_of_run h).retry_justified (nz_of_run h) hs

/-! ### the woken fiber is the new owner -/

/-- Data path of the hand-off, for every initial node assignment in which the fibers' nodes
    are distinct and differ from the queue's stub (`NodesOk`; the harness's assignment
    satisfies it: `nodesOk_harness`).  The fiber `g` a waker reads from the popped node — the
    one whose `mpsc_fifo_node` it sets, whose `state` it reads/writes and which it passes to
    `fiber_manager_schedule` — is exactly the fiber that was handed the mutex by the pop, and
    it is parked.  (Between `head := next` and the read of `next->data`, that cell already
    holds the owner.)  So the waiter that is woken is the one that now owns the mutex: no
    waiter is woken without owning, and the new owner is not left asleep. -/
theorem wakes_the_owner (stub : Nat) (nodeOf : Nat → Nat) (hn : NodesOk stub nodeOf)
    (es : List Ev) (s : St) (h : (sys stub nodeOf).run es = some s) :
    (∀ w g, (s.pc w).woken = some g → s.owner = some g ∧ s.pc g = .parked) ∧
    (∀ w hnode x, s.pc w = .popMoved hnode x → ∃ g, s.owner = some g ∧ s.ndata x = g) := by
  have hd := dp_of_run hn h
  have hi := inv_of_run h
  refine ⟨fun w g hw => ?_, fun w hnode x hw => ((hd.loc w).moved x (by rw [hw]; rfl)).2⟩
  have ho := (hd.loc w).woke g hw
  obtain ⟨g', h1, h2⟩ := hi.waking_owner (hi.post_waking w (by
    cases hp : s.pc w <;> simp_all [Pc.woken, Pc.k]))
  rw [ho] at h1; cases h1
  exact ⟨ho, (k_parked _).1 h2⟩

/-- Exclusive node ownership (the client side of mpsc_fifo.h's "the FIFO owns new_node after
    pushing, the caller owns the node after popping"): at any time a non-NULL node is claimed
    by at most one of: a fiber (its `mpsc_fifo_node` / the node it is enqueueing), a queue
    entry not yet popped, the queue's stub, a popper that has not yet handed it on. -/
theorem node_ownership_exclusive (stub : Nat) (nodeOf : Nat → Nat) (hn : NodesOk stub nodeOf)
    (es : List Ev) (s : St) (h : (sys stub nodeOf).run es = some s) :
    ∀ c c', claim s c ≠ 0 → claim s c = claim s c' → c = c' :=
  (dp_of_run hn h).inj

/-! ### single consumer of the waiter queue -/

/-- At most one fiber is inside `mpsc_fifo_trypop` / the wake loop (before or after the pop
    took effect) at any time — the client obligation of mpsc_fifo.h.  Before its pop the
    mutex is free; after it, the popped fiber is the owner and is still parked. -/
theorem single_consumer (stub : Nat) (nodeOf : Nat → Nat) (es : List Ev) (s : St)
    (h : (sys stub nodeOf).run es = some s) :
    (∀ f g, (s.pc f).isPop = true → (s.pc g).isPop = true → f = g) ∧
    (∀ f, (s.pc f).isWake = true → s.owner = none) ∧
    (∀ f, (s.pc f).isPost = true → ∃ g, s.owner = some g ∧ s.pc g = .parked) := by
  have hi := inv_of_run h
  refine ⟨fun f g hf hg => hi.pop_one f g ((k_isPop _).2 hf) ((k_isPop _).2 hg),
    fun f hf => (hi.wake_free f ((k_isWake _).2 hf)).1, fun f hf => ?_⟩
  obtain ⟨g, h1, h2⟩ := hi.waking_owner (hi.post_waking f ((k_post _).2 hf))
  exact ⟨g, h1, (k_parked _).1 h2⟩

/-! ### visibility of critical-section writes -/

/-- Critical sections are totally ordered: the `cs enter` / `cs exit` notes of every accepted
    trace strictly alternate (`csTrack` accepts `enter f` only when nobody is inside and
    `exit f` only when exactly `f` is), and the harness's occupancy monitor never fires.
    In the sequentially consistent model this is the visibility claim; on hardware it rests
    on the release `fetch_add` / acquiring `fetch_sub`, `CAS` on `counter` being seq_cst
    (`mo5` in the logs) and on the queue's release `xchg` (`mo3`) for the hand-off path. -/
theorem cs_total_order (stub : Nat) (nodeOf : Nat → Nat) (es : List Ev) (s : St)
    (h : (sys stub nodeOf).run es = some s) :
    es.foldlM csTrack [] = some s.inCs ∧ monitor es = none := by
  have ha : es.foldlM csTrack [] = some s.inCs :=
    Sys.runFrom_rel Inv (fun s es s' => es.foldlM csTrack s.inCs = some s'.inCs)
      (fun _ _ _ => inv_step) (fun _ => rfl)
      (fun s e s1 es s' hi hs ih => by
        simp [List.foldlM_cons, cs_flow hi (Step.of_step (s := s) hs), ih])
      es _ s (inv_init stub nodeOf) h
  exact ⟨ha, monitor_go_none es [] _ ha⟩

/-- The protected plain cell: a fiber inside its critical section still sees the value it read
    on entry (nobody wrote in between), so its `shared = v + 1` loses no update: `data` equals
    the number of completed critical sections. -/
theorem cs_visibility (stub : Nat) (nodeOf : Nat → Nat) (es : List Ev) (s : St)
    (h : (sys stub nodeOf).run es = some s) :
    (∀ f, f ∈ s.inCs → s.seen f = s.data) ∧ s.data = es.countP isCsExit :=
  ⟨(inv_of_run h).cs_seen, (counts h).2⟩

/-! ### refinement of the atomic lock (composition assumption of C05 / C11) -/

/-- Projecting an accepted trace to its linearisation points (`absEv`: uncontended
    `fetch_sub`, successful CAS, the waker's `head := next` for the popped fiber ↦ `acq`;
    `fetch_add` ↦ `rel`) gives a run of the atomic lock `Lock` (`acq f` only when free,
    `rel f` only by the owner `f`), and the lock's state is the ghost owner. -/
theorem refines_lock (stub : Nat) (nodeOf : Nat → Nat) (es : List Ev) (s : St)
    (h : (sys stub nodeOf).run es = some s) :
    Lock.run (absRun (init stub nodeOf) es) = some s.owner :=
  refines h

/-- Step form: the owner changes only at a linearisation point, as the atomic lock allows. -/
theorem refines_lock_step (stub : Nat) (nodeOf : Nat → Nat) (es : List Ev) (s s' : St)
    (h : (sys stub nodeOf).run es = some s) (e : Ev)
    (hs : (sys stub nodeOf).step s e = some s') :
    match absEv s e with
    | none => s'.owner = s.owner
    | some a => lockStep s.owner a = some s'.owner :=
  owner_step (inv_of_run h) hs

/-! ### non-vacuity -/

/-- Fibers 16 and 17 (nodes 18, 19; stub 1).  16 locks; 17 announces itself (`fsub` sees 0);
    16 unlocks: its `fetch_add` sees a waiter while 17 has NOT yet done its `xchg(&tail)`, so
    the wake loop finds the queue empty and retries; 17 enqueues but has not linked yet:
    second retry; 17 links and parks; third `trypop` succeeds, 17 is handed the mutex, woken,
    runs its critical section and unlocks uncontended. -/
def contendedTrace : List Ev :=
  [.callLock 16, .fsub 16 1, .retLock 16, .csEnter 16,
   .callLock 17, .fsub 17 0,
   .csExit 16 1, .callUnlock 16, .fadd 16 (-1),
   .rHead 16 1, .rNext 16 1 0,
   .wState 17 17 5, .rNode 17 17 19, .wData 17 19 17, .wNode 17 17 0, .wNext 17 19 0,
   .xchgTail 17 1 19,
   .rHead 16 1, .rNext 16 1 0,
   .wNext 17 1 19,
   .rHead 16 1, .rNext 16 1 19, .wHead 16 19, .rData 16 19 17, .wData 16 1 17, .rData 16 1 17,
   .wNode 16 17 1, .rState 16 17 3, .wState 16 17 2,
   .retLock 17, .csEnter 17, .retUnlock 16, .csExit 17 2, .callUnlock 17, .fadd 17 0,
   .retUnlock 17]

example : ((sys 1 (· + 2)).run contendedTrace).map
    (fun s => (s.counter, s.owner, s.hd, s.order, s.data, s.inCs, s.pc 16, s.pc 17)) =
    some (1, none, 1, [(19, 17)], 2, [], .idle, .idle) := by rfl

/-- in the window: 16 is in its wake loop, 17 is announced but not enqueued, nobody owns -/
example : ((sys 1 (· + 2)).run (contendedTrace.take 11)).map
    (fun s => (s.counter, s.owner, s.order, s.pc 16, s.pc 17)) =
    some (0, none, [], .wakeLoop, .lockDec 0) := by rfl

/-- the hypotheses of `handoff_one` (pop case) and `wake_retry_justified` are satisfiable -/
example : ∃ es s s', (sys 1 (· + 2)).run es = some s ∧ (s.pc 16).isWake = true ∧
    (sys 1 (· + 2)).step s (.wHead 16 19) = some s' ∧ s'.owner = some 17 :=
  ⟨contendedTrace.take 22, _, _, rfl, rfl, rfl, rfl⟩

example : ∃ es s s', (sys 1 (· + 2)).run es = some s ∧
    (sys 1 (· + 2)).step s (.rNext 16 1 0) = some s' :=
  ⟨contendedTrace.take 18, _, _, rfl, rfl⟩

/-- `wakes_the_owner` is not vacuous: after the waker read fiber 17 from the popped node -/
example : NodesOk 1 (· + 2) ∧ ((sys 1 (· + 2)).run (contendedTrace.take 24)).map
    (fun s => ((s.pc 16).woken, s.owner, s.pc 17)) = some (some 17, some 17, .parked) :=
  ⟨nodesOk_harness, rfl⟩

end LibfiberVerif.Mutex
